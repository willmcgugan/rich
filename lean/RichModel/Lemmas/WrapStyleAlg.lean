import RichModel.Lemmas.WrapFold
import RichModel.Lemmas.Style
/-!
The normal form in which the headline theorem of C02 compares effective styles, and its soundness.

`Text.wrap` itself relies on two laws of rich's style algebra: the null style `""` is neutral and applying the same style
twice in a row is applying it once (`Text.expand_tabs` re-applies the base style, `Text("").join` puts the null style in
front).  `normStyle` erases the null style and merges adjacent repetitions.

* `StyleLaws S`: the laws used — `+` is associative, has a two-sided identity and is **idempotent** (`a + a ≈ a`),
  all up to an equivalence `≈` that `+` respects.  Nothing else (no commutativity: "later styles win").
* `normStyle_sound`: in every such algebra, combining the names of a style list and combining the names of its normal
  form give equivalent styles.
* `realStyles`: rich's real `Style` algebra (the C06 model: `Style.__add__`, `Style.__eq__`, every constructible
  style, once an empty link is stored as `None` — C06's repair) satisfies the laws.  Idempotence holds also for
  styles with links: `__eq__` compares `_link`, not the random `_link_id`, and `a + a` keeps `a`'s link.
-/
namespace RichModel
namespace Wrap
open Text
variable {σ : Type}

/-- remove adjacent repetitions -/
def squash [BEq σ] : List σ → List σ
  | [] => []
  | [x] => [x]
  | x :: y :: rest => if x == y then squash (y :: rest) else x :: squash (y :: rest)

/-- a style list without null styles and without adjacent repetitions -/
def normStyle [BEq σ] (A : StyleAlg σ) (l : List σ) : List σ := squash (l.filter (fun s => !(s == A.null)))

/-- a styled string with every effective style in that normal form -/
def normView [BEq σ] (A : StyleAlg σ) (v : List (Char × List σ)) : List (Char × List σ) :=
  v.map (fun p => (p.1, normStyle A p.2))

theorem normView_map_fst [BEq σ] (A : StyleAlg σ) (v : List (Char × List σ)) : (normView A v).map (·.1) = v.map (·.1) := by
  simp only [normView, List.map_map, Function.comp_def]

theorem normView_append [BEq σ] (A : StyleAlg σ) (a b : List (Char × List σ)) :
    normView A (a ++ b) = normView A a ++ normView A b := by simp [normView]

theorem normView_of_dropNull [BEq σ] (A : StyleAlg σ) (a b : List (Char × List σ)) (h : dropNull A a = dropNull A b) :
    normView A a = normView A b := by
  have : ∀ v, normView A v = (dropNull A v).map (fun p => (p.1, squash p.2)) := by
    intro v; simp [normView, dropNull, normStyle]
  rw [this, this, h]

/-- applying the base style once more in front changes nothing -/
theorem normView_cons_base [BEq σ] [LawfulBEq σ] (A : StyleAlg σ) (base : σ) (v : List (Char × List σ))
    (hv : ∀ p ∈ v, ∃ l, p.2 = base :: l) :
    normView A (v.map (fun p => (p.1, base :: p.2))) = normView A v := by
  simp only [normView, List.map_map]
  apply List.map_congr_left
  intro p hp
  obtain ⟨l, hl⟩ := hv p hp
  simp only [Function.comp, normStyle, hl, List.filter_cons]
  by_cases hb : (base == A.null) = true
  · simp [hb]
  · simp [hb, squash]

theorem nsv_styles_start_with_base (t : Text σ) : ∀ p ∈ nsv t.view, ∃ l, p.2 = t.style :: l := by
  intro p hp
  have hp := (List.mem_filter.mp hp).1
  unfold Text.view at hp
  obtain ⟨q, _, rfl⟩ := List.mem_map.mp hp
  exact ⟨_, rfl⟩

/-! ### soundness in every idempotent monoid -/

/-- the algebraic laws of a style algebra that the normal form relies on -/
structure StyleLaws (S : Type) where
  add : S → S → S
  one : S
  eqv : S → S → Prop
  refl : ∀ a, eqv a a
  symm : ∀ {a b}, eqv a b → eqv b a
  trans : ∀ {a b c}, eqv a b → eqv b c → eqv a c
  congr : ∀ {a a' b b'}, eqv a a' → eqv b b' → eqv (add a b) (add a' b')
  assoc : ∀ a b c, eqv (add (add a b) c) (add a (add b c))
  one_left : ∀ a, eqv (add one a) a
  one_right : ∀ a, eqv (add a one) a
  idem : ∀ a, eqv (add a a) a

namespace StyleLaws
variable {S : Type} (M : StyleLaws S)

/-- `Style.combine`: the names applied from left to right, starting from the null style -/
def combine (interp : σ → S) (l : List σ) : S := l.foldl (fun acc x => M.add acc (interp x)) M.one

/-- the same, associated to the right -/
def combineR (interp : σ → S) : List σ → S
  | [] => M.one
  | x :: rest => M.add (interp x) (combineR interp rest)

theorem foldl_eqv (interp : σ → S) : ∀ (l : List σ) (acc : S),
    M.eqv (l.foldl (fun acc x => M.add acc (interp x)) acc) (M.add acc (M.combineR interp l))
  | [], acc => M.symm (M.one_right acc)
  | x :: rest, acc => by
    simp only [List.foldl_cons, combineR]
    exact M.trans (foldl_eqv interp rest _) (M.assoc _ _ _)

theorem combine_eqv (interp : σ → S) (l : List σ) : M.eqv (M.combine interp l) (M.combineR interp l) :=
  M.trans (M.foldl_eqv interp l M.one) (M.one_left _)

theorem combineR_filter [BEq σ] (interp : σ → S) (null : σ) (hnull : M.eqv (interp null) M.one) [LawfulBEq σ] :
    ∀ l : List σ, M.eqv (M.combineR interp (l.filter (fun s => !(s == null)))) (M.combineR interp l)
  | [] => M.refl _
  | x :: rest => by
    have ih := combineR_filter interp null hnull rest
    simp only [List.filter_cons]
    by_cases hx : (x == null) = true
    · have : x = null := by simpa using hx
      subst this
      simp only [hx, Bool.not_true, Bool.false_eq_true, if_false, combineR]
      exact M.trans ih (M.symm (M.trans (M.congr hnull (M.refl _)) (M.one_left _)))
    · simp only [hx, Bool.not_false, if_true, combineR]
      exact M.congr (M.refl _) ih

theorem combineR_squash [BEq σ] [LawfulBEq σ] (interp : σ → S) :
    ∀ l : List σ, M.eqv (M.combineR interp (squash l)) (M.combineR interp l)
  | [] => M.refl _
  | [_] => M.refl _
  | x :: y :: rest => by
    have ih := combineR_squash interp (y :: rest)
    simp only [squash]
    split
    · rename_i hxy
      have : x = y := by simpa using hxy
      subst this
      -- x + (x + r) ≈ (x + x) + r ≈ x + r
      refine M.trans ih ?_
      simp only [combineR]
      exact M.symm (M.trans (M.symm (M.assoc _ _ _)) (M.congr (M.idem _) (M.refl _)))
    · simp only [combineR] at ih ⊢
      exact M.congr (M.refl _) ih

/-- **the normal form is sound**: in every algebra with these laws, a style list and its normal form combine to
equivalent styles -/
theorem normStyle_sound [BEq σ] [LawfulBEq σ] (A : StyleAlg σ) (interp : σ → S) (hnull : M.eqv (interp A.null) M.one)
    (l : List σ) : M.eqv (M.combine interp (normStyle A l)) (M.combine interp l) := by
  refine M.trans (M.combine_eqv interp _) (M.trans ?_ (M.symm (M.combine_eqv interp l)))
  exact M.trans (M.combineR_squash interp _) (M.combineR_filter interp A.null hnull l)

end StyleLaws

/-- comparing normal forms is comparing any invariant of the combined style -/
theorem normView_sound [BEq σ] {κ : Type} (A : StyleAlg σ) (K : List σ → κ) (hK : ∀ l, K (normStyle A l) = K l)
    (a b : List (Char × List σ)) (h : normView A a = normView A b) :
    a.map (fun p => (p.1, K p.2)) = b.map (fun p => (p.1, K p.2)) := by
  have key : ∀ v : List (Char × List σ), v.map (fun p => (p.1, K p.2)) = (normView A v).map (fun p => (p.1, K p.2)) := by
    intro v; simp [normView, hK]
  rw [key a, key b, h]

/-! ### rich's real styles -/

open Style

/-- the constructible styles of variant `v` -/
abbrev RStyle (v : StyleVariant) := { s : Style // Reachable v s }

/-- **rich's real style algebra satisfies the laws** (every constructible style of the C06 model, `Style.__add__`,
`Style.__eq__`), once an empty link is stored as `None` (C06's repair, `v.emptyLink = false`). -/
def realStyles (v : StyleVariant) (hv : v.emptyLink = false) : StyleLaws (RStyle v) where
  add a b := ⟨add v a.1 b.1, Reachable.add a.2 b.2⟩
  one := ⟨Style.null, Reachable.null⟩
  eqv a b := Style.eq a.1 b.1 = true
  refl a := Style.eq_refl a.1
  symm h := Style.eq_symm h
  trans h h' := Style.eq_trans h h'
  congr {a a' b b'} h h' := add_congr v a.2.inv a'.2.inv b.2.inv b'.2.inv (a.2.linkOk hv) (a'.2.linkOk hv)
    (b.2.linkOk hv) (b'.2.linkOk hv) h h'
  assoc a b c := by show Style.eq (add v (add v a.1 b.1) c.1) (add v a.1 (add v b.1 c.1)) = true
                    rw [Style.add_assoc]; exact Style.eq_refl _
  one_left a := Style.null_add_eq v a.2.inv (a.2.linkOk hv)
  one_right a := by show Style.eq (add v a.1 Style.null) a.1 = true
                    rw [Style.add_null_right]; exact Style.eq_refl _
  idem a := Style.add_self_eq v hv a.2

/-- the compared fields of the style obtained by combining a list of style names -/
def realKey {σ : Type} (v : StyleVariant) (hv : v.emptyLink = false) (interp : σ → RStyle v) (l : List σ) : HashKey :=
  ((realStyles v hv).combine interp l).1.fieldsKey

theorem realKey_normStyle {σ : Type} [BEq σ] [LawfulBEq σ] (v : StyleVariant) (hv : v.emptyLink = false) (A : StyleAlg σ)
    (interp : σ → RStyle v) (hnull : Style.eq (interp A.null).1 Style.null = true) (l : List σ) :
    realKey v hv interp (normStyle A l) = realKey v hv interp l :=
  fieldsKey_eq_of_eq ((realStyles v hv).normStyle_sound A interp hnull l)

end Wrap
end RichModel
