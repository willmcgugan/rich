import RichModel.Model.Ansi
/-!
`_ansi_tokenize`, `re_csi` and the carriage-return handling of `decode_line` (property C19) on the forms of input the
theorems speak of: text without escapes, the two kinds of sequences the encoder writes, CRs at the end of a line and before
its last piece.
-/
namespace RichModel
namespace Ansi

theorem ESC_ne_bracket : ESC ≠ '[' := by decide
theorem bracket_ne_close : ('[' : Char) ≠ ']' := by decide

theorem removeCsi_text (t rest : List Char) (h : ∀ c ∈ t, c ≠ ESC) : removeCsi (t ++ rest) = t ++ removeCsi rest := by
  unfold removeCsi
  induction t with
  | nil => rfl
  | cons c r ih =>
    have hc : c ≠ ESC := h c (by simp)
    simp only [List.cons_append, removeCsiAux, hc, if_false]
    rw [ih (fun x hx => h x (by simp [hx]))]

theorem removeCsi_noEsc (t : List Char) (h : ∀ c ∈ t, c ≠ ESC) : removeCsi t = t := by
  simpa [removeCsi, removeCsiAux] using removeCsi_text t [] h

theorem tokAux_skip (lazy bel : Bool) (p rest acc : List Char) : tokAux lazy bel (p ++ rest) p.length acc = tokAux lazy bel rest 0 acc := by
  induction p with
  | nil => rfl
  | cons c r ih => simpa [tokAux] using ih

theorem tokAux_plain (lazy bel : Bool) (p rest acc : List Char) (h : ∀ c ∈ p, c ≠ ESC) :
    tokAux lazy bel (p ++ rest) 0 acc = tokAux lazy bel rest 0 (acc ++ p) := by
  induction p generalizing acc with
  | nil => simp
  | cons c r ih =>
    have hc : c ≠ ESC := h c (by simp)
    simp only [List.cons_append, tokAux, hc, if_false]
    rw [ih _ (fun x hx => h x (by simp [hx]))]
    simp

theorem findM_body (lazy : Bool) (body rest : List Char) (h : ∀ c ∈ body, isSgrParam c = true) :
    findM lazy (body ++ 'm' :: rest) = some body := by
  unfold findM
  induction body with
  | nil => cases lazy <;> simp [findLazyM, findSgrM]
  | cons c r ih =>
    have hc := h c (by simp)
    have hne : c ≠ 'm' ∧ c ≠ '\n' := by constructor <;> (rintro rfl; revert hc; decide)
    have ih := ih (fun x hx => h x (by simp [hx]))
    cases lazy <;> simp_all [findLazyM, findSgrM]

/-- how an OSC string ends: `ESC \`, or — repaired (F33), `bel` — BEL -/
def OscEnd (bel : Bool) (term : List Char) : Prop := term = [ESC, '\\'] ∨ (bel = true ∧ term = [BEL])

theorem findST_body (bel : Bool) (body term rest : List Char) (ht : OscEnd bel term)
    (h : ∀ c ∈ body, c ≠ ESC ∧ c ≠ '\n' ∧ c ≠ BEL) :
    findST bel (body ++ (term ++ rest)) = some (body, term.length) := by
  induction body with
  | nil =>
    rcases ht with rfl | ⟨rfl, rfl⟩
    · simp [findST]
    · have : ¬ (BEL = ESC ∧ rest.head? = some '\\') := by intro ⟨h, _⟩; revert h; decide
      simp [findST, this]
  | cons c r ih =>
    obtain ⟨h1, h2, h3⟩ := h c (by simp)
    simp only [List.cons_append, findST, h1, h2, h3, false_and, and_false, if_false]
    rw [ih (fun x hx => h x (by simp [hx]))]
    rfl

theorem tokAux_sgr (lazy bel : Bool) (body rest acc : List Char) (h : ∀ c ∈ body, isSgrParam c = true) :
    tokAux lazy bel (ESC :: '[' :: (body ++ 'm' :: rest)) 0 acc = flushPlain acc ++ .sgr body :: tokAux lazy bel rest 0 [] := by
  have hs := tokAux_skip lazy bel (body ++ ['m']) rest []
  simp only [List.append_assoc, List.singleton_append, List.length_append, List.length_cons,
    List.length_nil, Nat.zero_add] at hs
  simp only [tokAux, if_true, findM_body lazy body rest h]
  rw [hs]

theorem tokAux_osc (lazy bel : Bool) (body term rest acc : List Char) (ht : OscEnd bel term)
    (h : ∀ c ∈ body, c ≠ ESC ∧ c ≠ '\n' ∧ c ≠ BEL) :
    tokAux lazy bel (ESC :: ']' :: (body ++ (term ++ rest))) 0 acc =
      flushPlain acc ++ .osc body :: tokAux lazy bel rest 0 [] := by
  have hs := tokAux_skip lazy bel (']' :: (body ++ term)) rest []
  have hlen : (']' :: (body ++ term)).length = body.length + 1 + term.length := by
    simp only [List.length_cons, List.length_append]; omega
  rw [hlen] at hs
  simp only [List.cons_append, List.append_assoc] at hs
  simp only [tokAux, if_true, bracket_ne_close.symm, if_false, findST_body bel body term rest ht h]
  rw [hs]

theorem partitionAt_sep {sep : Char} {w : List Char} (hw : ∀ c ∈ w, c ≠ sep) (rest : List Char) :
    partitionAt sep (w ++ sep :: rest) = (w, true, rest) := by
  induction w with
  | nil => simp [partitionAt]
  | cons c r ih =>
    simp only [List.cons_append, partitionAt, hw c (by simp), if_false]
    rw [ih (fun x hx => hw x (by simp [hx]))]

theorem afterLastCR_foldl (s acc : List Char) (h : ∀ c ∈ s, c ≠ '\r') :
    s.foldl (fun acc c => if c = '\r' then [] else acc ++ [c]) acc = acc ++ s := by
  induction s generalizing acc with
  | nil => simp
  | cons c r ih =>
    have hc : c ≠ '\r' := h c (by simp)
    simp only [List.foldl_cons, hc, if_false]
    rw [ih _ (fun x hx => h x (by simp [hx]))]
    simp

theorem afterLastCRAsFound_noCR (s : List Char) (h : ∀ c ∈ s, c ≠ '\r') : afterLastCRAsFound s = s := by
  simpa [afterLastCRAsFound] using afterLastCR_foldl s [] h

theorem rstripCR_noCR (s : List Char) (h : ∀ c ∈ s, c ≠ '\r') : rstripCR s = s := by
  unfold rstripCR
  have : s.reverse.dropWhile (· = '\r') = s.reverse := by
    cases hr : s.reverse with
    | nil => rfl
    | cons c r =>
      have hc : c ≠ '\r' := h c (by rw [← List.mem_reverse, hr]; simp)
      simp [List.dropWhile, hc]
  rw [this, List.reverse_reverse]

theorem afterLastCR_noCR (b : Bool) (s : List Char) (h : ∀ c ∈ s, c ≠ '\r') : afterLastCR b s = s := by
  unfold afterLastCR
  split
  · exact afterLastCRAsFound_noCR s h
  · rw [rstripCR_noCR s h]; exact afterLastCRAsFound_noCR s h

theorem rstripCR_append_CRs (x : List Char) (k : Nat) : rstripCR (x ++ List.replicate k '\r') = rstripCR x := by
  unfold rstripCR
  rw [List.reverse_append, List.reverse_replicate]
  congr 1
  induction k with
  | zero => rfl
  | succ n ih => simp [List.replicate_succ, ih]

theorem rstripCR_last (y : List Char) (c : Char) (hc : c ≠ '\r') : rstripCR (y ++ [c]) = y ++ [c] := by
  unfold rstripCR
  simp [List.reverse_append, hc]

theorem afterLastCR_after_CR (b : Bool) (pre seg : List Char) (hs : ∀ c ∈ seg, c ≠ '\r') (hne : seg ≠ []) :
    afterLastCR b (pre ++ '\r' :: seg) = seg := by
  have hfound : afterLastCRAsFound (pre ++ '\r' :: seg) = seg := by
    simpa [afterLastCRAsFound] using afterLastCR_foldl seg [] hs
  have hstrip : rstripCR (pre ++ '\r' :: seg) = pre ++ '\r' :: seg := by
    have e : pre ++ '\r' :: seg = (pre ++ '\r' :: seg.dropLast) ++ [seg.getLast hne] := by
      simp [List.dropLast_concat_getLast]
    rw [e, rstripCR_last _ _ (hs _ (List.getLast_mem hne))]
  simp only [afterLastCR, hstrip, hfound, ite_self]

theorem decodeLine_trailing_CRs (cfg : Cfg) (hc : cfg.crErases = false) (st : Style) (x : List Char) (k : Nat) :
    decodeLine cfg st (x ++ List.replicate k '\r') = decodeLine cfg st x := by
  simp only [decodeLine, afterLastCR, hc, Bool.false_eq_true, if_false, rstripCR_append_CRs]

theorem decodeLine_after_CR (cfg : Cfg) (st : Style) (pre seg : List Char) (hs : ∀ c ∈ seg, c ≠ '\r') (hne : seg ≠ []) :
    decodeLine cfg st (pre ++ '\r' :: seg) = decodeLine cfg st seg := by
  simp only [decodeLine, afterLastCR_after_CR _ pre seg hs hne, afterLastCR_noCR _ seg hs]

end Ansi
end RichModel
