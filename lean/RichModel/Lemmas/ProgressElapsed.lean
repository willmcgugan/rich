import RichModel.Lemmas.ProgressInv
/-!
Elapsed time and the recorded finish time: on a monotone clock both are non-negative **unless a task
is reset while it is stopped** (`Progress.reset` leaves `stop_time` as it is, so the old stop time
then precedes the new start time).  `TimesOK` is the invariant of the (start, stop) pair, `TimesAndFinishOK` adds the
finish time, `NoResetWhileStopped` is the hypothesis on the history.
-/
namespace RichModel.Progress

/-- the start time is a reading of the past, start ≤ stop, and a stopped task is started -/
structure TimesOK (clock : Clock) (K : Nat) (p : Option Int × Option Int) : Prop where
  start_le : ∀ s, p.1 = some s → s ≤ clock K
  start_le_stop : ∀ s e, p.1 = some s → p.2 = some e → s ≤ e
  unstarted_unstopped : p.1 = none → p.2 = none

theorem TimesOK.mono {clock : Clock} (hm : Mono clock) {K K' : Nat} {p : Option Int × Option Int}
    (h : TimesOK clock K p) (hk : K ≤ K') : TimesOK clock K' p :=
  ⟨fun s h1 => Int.le_trans (h.start_le s h1) (hm K K' hk), h.start_le_stop, h.unstarted_unstopped⟩

theorem timesEffect_ok {clock : Clock} {k : Nat} (op : Op) {p : Option Int × Option Int}
    (hno : ∀ i r, op = .reset i r → p.2 = none) (h : TimesOK clock k p) :
    TimesOK clock k (timesEffect op (clock k) p) := by
  -- the start time is kept, or is the reading taken now
  have hs : p.1.getD (clock k) ≤ clock k := by
    cases hst : p.1 with
    | none => exact Int.le_refl _
    | some s => exact h.start_le s hst
  cases op with
  | startTask i =>
    refine ⟨fun s h1 => by cases h1; exact hs, fun s e h1 h2 => ?_, nofun⟩
    cases h1
    cases hst : p.1 with
    | none => cases (h.unstarted_unstopped hst).symm.trans h2
    | some s => exact h.start_le_stop s e hst h2
  | stopTask i =>
    exact ⟨fun s h1 => by cases h1; exact hs, fun s e h1 h2 => by cases h1; cases h2; exact hs, nofun⟩
  | reset i r =>
    have hst : p.2 = none := hno i r rfl
    refine ⟨fun s h1 => ?_, fun s e _ he => (by cases hst.symm.trans he), fun _ => hst⟩
    dsimp only [timesEffect] at h1
    split at h1
    · cases h1; exact Int.le_refl _
    · cases h1
  | _ => exact h

theorem elapsedC_nonneg {clock : Clock} (hm : Mono clock) {K k : Nat} {t : Task}
    (h : TimesOK clock K (t.startTime, t.stopTime)) (hk : K ≤ k) : ∀ e, (t.elapsedC clock k).1 = some e → 0 ≤ e := by
  intro e he
  unfold Task.elapsedC at he
  cases hs : t.startTime with
  | none => simp [hs] at he
  | some s =>
    cases hst : t.stopTime with
    | some x =>
      simp only [hs, hst, Option.some.injEq] at he
      have := h.start_le_stop s x hs hst; omega
    | none =>
      simp only [hs, hst, Option.some.injEq] at he
      have := h.start_le s hs; have := hm K k hk; omega

/-- the times are in order and a recorded finish time is non-negative -/
structure TimesAndFinishOK (clock : Clock) (K : Nat) (t : Task) : Prop where
  times : TimesOK clock K (t.startTime, t.stopTime)
  finish_nonneg : ∀ f, t.finishedTime = some f → 0 ≤ f

theorem taskEffect_timesAndFinishOK (cfg : Cfg) (clock : Clock) (hm : Mono clock) (op : Op) (o : Nat) (t : Task) (k : Nat) (id : Nat)
    (htg : op.target = some id) (hno : ∀ i r, op = .reset i r → t.stopTime = none) (h : TimesAndFinishOK clock k t) :
    TimesAndFinishOK clock (taskEffect cfg clock op none o t k).2 (taskEffect cfg clock op none o t k).1 := by
  have ht := taskEffect_times cfg clock op o t k
  refine ⟨ht ▸ (timesEffect_ok op hno h.times).mono hm (taskEffect_clk_ge ..), fun f hf => ?_⟩
  obtain ⟨kf, hkf, he⟩ := taskEffect_finishedTime cfg clock op o t k id htg rfl
  rw [he] at hf
  split at hf
  · next hc =>
    -- recorded now: the elapsed time of a task whose start and stop time the operation did not touch
    rw [timesEffect_of_progresses hc.1] at ht
    exact elapsedC_nonneg hm (ht ▸ h.times) hkf f hf
  · unfold keptFinish at hf
    split at hf
    · cases hf
    · exact h.finish_nonneg f hf

/-- along the history no task is reset while it is stopped -/
def NoResetWhileStopped (cfg : Cfg) (clock : Clock) : List Op → State → Prop
  | [], _ => True
  | op :: ops, st =>
    (∀ i r t, op = .reset i r → lookup st.tasks i = some t → t.stopTime = none) ∧
    NoResetWhileStopped cfg clock ops (step cfg clock op st).st

/-- executable check of `NoResetWhileStopped` -/
def noResetWhileStoppedB (cfg : Cfg) (clock : Clock) : List Op → State → Bool
  | [], _ => true
  | op :: ops, st =>
    (match op with
     | .reset i _ =>
       match lookup st.tasks i with
       | none => true
       | some t => t.stopTime.isNone
     | _ => true) &&
    noResetWhileStoppedB cfg clock ops (step cfg clock op st).st

theorem noResetWhileStopped_of_check (cfg : Cfg) (clock : Clock) (ops : List Op) (st : State)
    (h : noResetWhileStoppedB cfg clock ops st = true) : NoResetWhileStopped cfg clock ops st := by
  induction ops generalizing st with
  | nil => trivial
  | cons op ops ih =>
    simp only [noResetWhileStoppedB, Bool.and_eq_true] at h
    refine ⟨?_, ih _ h.2⟩
    intro i r t hop hl
    have h1 := h.1
    subst hop
    simp only [hl, Option.isNone_iff_eq_none] at h1
    exact h1

theorem run_timesAndFinishOK (cfg : Cfg) (clock : Clock) (hm : Mono clock) (ops : List Op) :
    ∀ st, NoResetWhileStopped cfg clock ops st → (∀ t ∈ st.tasks, TimesAndFinishOK clock st.clk t) →
      ∀ t ∈ (run cfg clock ops st).tasks, TimesAndFinishOK clock (run cfg clock ops st).clk t := by
  refine run_forall cfg clock (fun hk h => ⟨h.times.mono hm hk, h.finish_nonneg⟩) And.right (fun a K st hK => ?_)
    (fun i x o hH htg hl hx => taskEffect_timesAndFinishOK cfg clock hm _ o x _ i htg (fun j r hop => ?_) hx) ops
  · refine ⟨⟨fun s hs => ?_, nofun, fun _ => rfl⟩, nofun⟩
    dsimp only [newTask] at hs
    split at hs
    · cases hs; exact hm _ _ hK
    · cases hs
  · subst hop; cases htg
    exact hH.1 _ r x rfl hl

end RichModel.Progress
