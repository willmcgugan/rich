import RichModel.Lemmas.TextSplitStr
import RichModel.Lemmas.TextTabs
/-!
`with_indent_guides`: it keeps the invariant, and at full strength the result's styled string is a list function
(`guideLines`) of the lines of the tab-expanded styled string, joined with unstyled newlines.  At the end the gcd facts
under `detect_indentation`.
-/
namespace RichModel
namespace Text
variable {σ : Type}

/-- the new indentation of a line with `indent` leading spaces: one guide per `size` columns, then the remainder -/
def newIndent (size : Nat) (indentLine : List Char) (indent : Nat) : List Char :=
  (List.replicate (indent / size) indentLine).flatten ++ List.replicate (indent % size) ' '

/-- a non-blank line once the guides are drawn: the characters are `ni` followed by the line from position `|ni|` on;
every position keeps the styles it had (a position past the old end: the base style `b`), and the first `|ni|`
positions get `style` on top -/
def restyle (b : σ) (ni : List Char) (style : σ) (lv : List (Char × List σ)) : List (Char × List σ) :=
  annot (ni ++ (lv.map (·.1)).drop ni.length)
    (fun i => ((lv[i]?).map (·.2)).getD [b] ++ (if i < ni.length then [style] else [])) 0

/-- `with_indent_guides` on the list of styled lines: a blank line (only U+0020 spaces) is held back and comes out as
the indentation of the NEXT non-blank line in the bare guide style; trailing blank lines come out empty -/
def guideLines (b : σ) (size : Nat) (indentLine : List Char) (style : σ) :
    List (List (Char × List σ)) → Nat → List (List (Char × List σ))
  | [], blank => List.replicate blank []
  | l :: rest, blank =>
    if ((l.map (·.1)).drop (leadingSpaces (l.map (·.1)))).isEmpty then guideLines b size indentLine style rest (blank + 1)
    else
      List.replicate blank ((newIndent size indentLine (leadingSpaces (l.map (·.1)))).map (fun c => (c, [style])))
        ++ [restyle b (newIndent size indentLine (leadingSpaces (l.map (·.1)))) style l]
        ++ guideLines b size indentLine style rest 0

/-- the same on texts (what the loop of `with_indent_guides` builds, trailing blanks included) -/
def guideTexts (size : Nat) (indentLine : List Char) (style : σ) : List (Text σ) → Nat → List (Text σ)
  | [], blank => List.replicate blank (new Variant.repaired [] style)
  | line :: rest, blank =>
    if (line.plain.drop (leadingSpaces line.plain)).isEmpty then guideTexts size indentLine style rest (blank + 1)
    else
      List.replicate blank (new Variant.repaired (newIndent size indentLine (leadingSpaces line.plain)) style)
        ++ [(line.setPlain (newIndent size indentLine (leadingSpaces line.plain) ++
              line.plain.drop (newIndent size indentLine (leadingSpaces line.plain)).length)).stylize Variant.repaired style 0
              (some ((newIndent size indentLine (leadingSpaces line.plain)).length : Int))]
        ++ guideTexts size indentLine style rest 0

/-- the loop of `with_indent_guides` builds `guideTexts` (it raises only for indent size 0) -/
theorem indentFold_eq (size : Nat) (indentLine : List Char) (style : σ) (lines : List (Text σ)) (nl : List (Text σ))
    (b : Nat) :
    (lines.foldl (indentStep Variant.repaired size indentLine style) (.ok (nl, b))).Post
      (fun p => p.1 ++ List.replicate p.2 (new Variant.repaired [] style) = nl ++ guideTexts size indentLine style lines b)
      (fun _ => size = 0) := by
  induction lines generalizing nl b with
  | nil => rfl
  | cons line rest ih =>
    simp only [List.foldl_cons, guideTexts, indentStep]
    by_cases hb : (line.plain.drop (leadingSpaces line.plain)).isEmpty = true
    · simp only [hb, if_true]
      exact ih nl (b + 1)
    · simp only [hb, Bool.false_eq_true, if_false]
      by_cases hs0 : (size == 0) = true
      · simp only [hs0, if_true]
        have : ∀ (ls : List (Text σ)) e, ls.foldl (indentStep Variant.repaired size indentLine style) (.error e) = .error e := by
          intro ls e; induction ls with
          | nil => rfl
          | cons _ _ ih => exact ih
        rw [this]
        show size = 0
        simpa using hs0
      · simp only [hs0, Bool.false_eq_true, if_false]
        have := ih
          (nl ++ List.replicate b (new Variant.repaired (newIndent size indentLine (leadingSpaces line.plain)) style)
            ++ [(line.setPlain (newIndent size indentLine (leadingSpaces line.plain) ++
              line.plain.drop (newIndent size indentLine (leadingSpaces line.plain)).length)).stylize Variant.repaired style 0
              (some ((newIndent size indentLine (leadingSpaces line.plain)).length : Int))]) 0
        simpa only [newIndent, List.append_assoc] using this

theorem noCtl_newIndent (size : Nat) (indentLine : List Char) (indent : Nat) (h : NoCtl indentLine) :
    NoCtl (newIndent size indentLine indent) :=
  NoCtl.append (noCtl_flatten_replicate _ _ h) (NoCtl.replicate _ _ noCtl_space)

/-- one non-blank line: the text the loop builds shows `restyle` of the line's styled string -/
theorem shows_guideLine (line : Text σ) (ni : List Char) (style : σ) (h : Inv line) (hni : NoCtl ni) :
    Shows ((line.setPlain (ni ++ line.plain.drop ni.length)).stylize Variant.repaired style 0 (some (ni.length : Int)))
      line.style (restyle line.style ni style line.view) := by
  have hs : NoCtl (ni ++ line.plain.drop ni.length) := NoCtl.append hni (NoCtl.drop _ h.2.1)
  have h1 := inv_setPlain line _ h hs
  refine ⟨inv_stylize _ _ _ _ h1, (stylize_plain _ _ _ _ _).2.2.trans (setPlain_style _ _), ?_⟩
  rw [show (0 : Int) = ((0 : Nat) : Int) from rfl, view_stylize_nat _ _ 0 ni.length h1, setPlain_plain]
  unfold restyle
  rw [view_map_fst]
  refine annot_congr _ _ _ _ fun i _ hi => ?_
  rw [← effStyle_eq_view line h i]
  simp only [effStyle, setPlain_style, Nat.zero_le, true_and]
  rw [spanIds_setPlain line _ h i (by omega)]

theorem guideTexts_shows (b : σ) (size : Nat) (indentLine : List Char) (style : σ) (hil : NoCtl indentLine)
    (lines : List (Text σ)) (blank : Nat) (hl : ∀ l ∈ lines, Inv l ∧ l.style = b) :
    (∀ x ∈ guideTexts size indentLine style lines blank, Inv x) ∧
    (guideTexts size indentLine style lines blank).map view = guideLines b size indentLine style (lines.map view) blank := by
  induction lines generalizing blank with
  | nil =>
    have h0 := shows_new [] style (fun c hc => nomatch hc)
    exact ⟨fun x hx => (List.mem_replicate.1 hx).2 ▸ h0.inv, by simp only [guideTexts, List.map_replicate, h0.view]; rfl⟩
  | cons line rest ih =>
    obtain ⟨hinv, hst⟩ := hl line (by simp)
    have hrest : ∀ l ∈ rest, Inv l ∧ l.style = b := fun l hm => hl l (by simp [hm])
    simp only [guideTexts, guideLines, List.map_cons, view_map_fst]
    by_cases hb : (line.plain.drop (leadingSpaces line.plain)).isEmpty = true
    · simp only [hb, if_true]
      exact ih (blank + 1) hrest
    · obtain ⟨i1, i2⟩ := ih 0 hrest
      have hn := shows_new _ style (noCtl_newIndent size indentLine (leadingSpaces line.plain) hil)
      have hg := shows_guideLine line _ style hinv (noCtl_newIndent size indentLine (leadingSpaces line.plain) hil)
      simp only [hb, Bool.false_eq_true, if_false, List.map_append, List.map_replicate, List.map_cons, List.map_nil]
      refine ⟨fun x hx => ?_, by rw [i2, hn.view, hg.view, hst]⟩
      simp only [List.mem_append, List.mem_replicate, List.mem_singleton] at hx
      rcases hx with (⟨_, rfl⟩ | rfl) | hx
      · exact hn.inv
      · exact hg.inv
      · exact i1 x hx

theorem joinSeq_flatMap {β : Type} (sep : Text σ) (hsep : sep.plain.isEmpty = false) (f : Text σ → List β) :
    ∀ (lines : List (Text σ)), (joinSeq sep lines).flatMap f = List.intercalate (f sep) (lines.map f)
  | [] => by simp [joinSeq, List.intercalate]
  | [x] => by simp [joinSeq, List.intercalate]
  | x :: y :: rest => by
    have ih := joinSeq_flatMap sep hsep f (y :: rest)
    have e : joinSeq sep (x :: y :: rest) = x :: sep :: joinSeq sep (y :: rest) := by simp [joinSeq, hsep]
    rw [e, List.flatMap_cons, List.flatMap_cons, ih]
    show _ = List.intercalate (f sep) (f x :: (y :: rest).map f)
    rw [intercalate_cons_of_ne_nil (f sep) (f x) ((y :: rest).map f) (by simp), List.append_assoc]

/-- **The loop and the final join of `with_indent_guides`**, for any guide string without strip-control characters, on
consistent lines under one base style `b`: the loop raises only for indent size 0; otherwise its lines joined by newlines in
the null style form a consistent text whose styled string is `guideLines` of the lines' styled strings. -/
theorem guideFold_shows (null b : σ) (size : Nat) (indentLine : List Char) (style : σ)
    (hil : NoCtl indentLine) (lines : List (Text σ)) (hl : ∀ l ∈ lines, Inv l ∧ l.style = b) :
    (lines.foldl (indentStep Variant.repaired size indentLine style) (.ok ([], 0))).Post
      (fun r => Shows ((new Variant.repaired ['\n'] null).join Variant.repaired
          (r.1 ++ List.replicate r.2 (new Variant.repaired [] style))) null
        (List.intercalate [('\n', [null, null])]
          ((guideLines b size indentLine style (lines.map view) 0).map (fun l => l.map (fun p => (p.1, null :: p.2))))))
      (fun _ => size = 0) := by
  refine (indentFold_eq size indentLine style lines [] 0).imp (fun r hr => ?_) fun _ h => h
  · rw [show _ = guideTexts size indentLine style lines 0 from hr]
    obtain ⟨hall, hview⟩ := guideTexts_shows b size indentLine style hil lines 0 hl
    have hsep := shows_new ['\n'] null (by intro c hc; rw [List.mem_singleton.1 hc]; decide)
    have := hsep.join _ hall
    rw [joinSeq_flatMap _ (by rfl), hsep.view] at this
    rw [← hview, List.map_map]
    exact this

/-- **`with_indent_guides`**, for any guide string without strip-control characters and indent size `size` (the argument,
else `detect_indentation()`): it raises what `expand_tabs` raises, or for `size = 0`; otherwise, with `text` the tab-expanded
copy, the result is a consistent text under the null style whose styled string is `guideLines` of the lines of `text`
(string-level split at newlines, a blank last line dropped) joined by newlines in the null style. -/
theorem withIndentGuides_post [BEq σ] (null : σ) (t : Text σ) (indentSize : Option Nat) (character : List Char)
    (style : σ) (h : Inv t) (hch : NoCtl character) {size : Nat} (hsize : indentSize.getD t.detectIndentation = size) :
    (t.withIndentGuides Variant.repaired null indentSize character style).Post
      (fun r => ∃ text, t.expandTabs Variant.repaired none = .ok text ∧
        Shows r null (List.intercalate [('\n', [null, null])]
          ((guideLines t.style size (character ++ List.replicate (size - 1) ' ') style
              (strSplit ['\n'] false false text.plain text.view) 0).map (fun l => l.map (fun p => (p.1, null :: p.2))))))
      (fun e => t.expandTabs Variant.repaired none = .error e ∨ size = 0) := by
  subst hsize
  unfold withIndentGuides
  rw [copy_eq_self t h]
  cases hexp : t.expandTabs Variant.repaired none with
  | error e => exact Or.inl rfl
  | ok text =>
    obtain ⟨htext, hstyle⟩ := expandTabs_ok t text none h hexp
    obtain ⟨lines, hsp, hv, hall⟩ := split_lines_str text htext
    have hg := guideFold_shows null t.style (indentSize.getD t.detectIndentation)
      (character ++ List.replicate (indentSize.getD t.detectIndentation - 1) ' ') style
      (NoCtl.append hch (NoCtl.replicate _ _ noCtl_space)) lines (fun l hl => ⟨(hall l hl).1, (hall l hl).2.trans hstyle⟩)
    simp only [bind, Except.bind, hsp]
    cases hf : lines.foldl (indentStep Variant.repaired (indentSize.getD t.detectIndentation)
        (character ++ List.replicate (indentSize.getD t.detectIndentation - 1) ' ') style) (.ok ([], 0)) with
    | error e => exact Or.inr (hg.of_error hf)
    | ok r => exact ⟨text, rfl, hv ▸ hg.of_ok hf⟩

theorem inv_withIndentGuides [BEq σ] (null : σ) (t r : Text σ) (indentSize : Option Nat) (character : List Char)
    (style : σ) (h : Inv t) (hch : NoCtl character)
    (hs : t.withIndentGuides Variant.repaired null indentSize character style = .ok r) : Inv r :=
  let ⟨_, _, hr⟩ := (withIndentGuides_post null t indentSize character style h hch rfl).of_ok hs
  hr.inv

/-! the gcd of a list, for `detect_indentation` (`C05.detect_indentation_spec`) -/

theorem dvd_foldl_gcd_iff (d : Nat) (xs : List Nat) (x : Nat) :
    d ∣ xs.foldl Nat.gcd x ↔ d ∣ x ∧ ∀ y ∈ xs, d ∣ y := by
  induction xs generalizing x with
  | nil => simp
  | cons a rest ih => simp [ih, Nat.dvd_gcd_iff, and_assoc]

/-- `detect_indentation()` is the gcd of the even indentations, or 1 where that is 0 -/
theorem detectIndentation_eq (t : Text σ) :
    t.detectIndentation =
      if (evenIndents t.plain).foldl Nat.gcd 0 = 0 then 1 else (evenIndents t.plain).foldl Nat.gcd 0 := by
  unfold detectIndentation
  show (match evenIndents t.plain with | [] => 1 | x :: xs => _) = _
  cases evenIndents t.plain with
  | nil => rfl
  | cons x xs => simp [Nat.gcd_zero_left]

end Text
end RichModel
