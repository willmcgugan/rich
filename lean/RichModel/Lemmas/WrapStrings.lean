import RichModel.Model.Wrap
import RichModel.Lemmas.Cells
import RichModel.Lemmas.TextTruncate
/-!
String-level facts for property C02: `truncate` branch by branch, `wrap` as the paragraph loop over the split text
(`wrap_ok_iff`) and the rule for that loop (`wrapParagraphs_post`; every line `wrap` produces is a `truncate` result and fits), the non-whitespace part `nsv` of a
styled string, and what `set_cell_size` keeps of a text.  What `str.rstrip` leaves of a string (`pyRstrip`, `rstripLen`)
is in Lemmas/TextTruncate.
-/
namespace RichModel
namespace Wrap
open Text
variable {σ : Type}

theorem truncate_some (cw : Char → Nat) (t : Text σ) (w : Int) (ov : Overflow) (pad : Bool) :
    t.truncate cw w (some ov) pad =
      if ov != Overflow.ignore then
        let length : Int := cellLen cw t.plain
        let t1 :=
          if length > w then
            if ov == Overflow.ellipsis then t.setPlain (setCellSizeI cw t.plain (w - 1) ++ ['…'])
            else t.setPlain (setCellSizeI cw t.plain w)
          else t
        if pad && length < w then
          let p := t1.plain ++ List.replicate (w - length).toNat ' '
          { t1 with plain := p, length := (p.length : Int) }
        else t1
      else t := by
  rfl

theorem overflow_beq (a b : Overflow) : (a == b) = decide (a = b) := by cases a <;> cases b <;> rfl

theorem truncate_cases (cw : Char → Nat) (t : Text σ) (w : Nat) (ov : Overflow) (hov : ov ≠ Overflow.ignore) (pad : Bool) :
    (w < cellLen cw t.plain ∧ t.truncate cw (w : Int) (some ov) pad =
      t.setPlain (if ov = Overflow.ellipsis then setCellSizeI cw t.plain ((w : Int) - 1) ++ ['…']
        else setCellSize cw t.plain w)) ∨
    (cellLen cw t.plain < w ∧ pad = true ∧ t.truncate cw (w : Int) (some ov) pad =
      { t with plain := t.plain ++ List.replicate (w - cellLen cw t.plain) ' ',
               length := ((t.plain ++ List.replicate (w - cellLen cw t.plain) ' ').length : Int) }) ∨
    (cellLen cw t.plain ≤ w ∧ t.truncate cw (w : Int) (some ov) pad = t) := by
  rw [truncate_some, if_pos (by simpa [bne, overflow_beq] using hov)]
  by_cases hlong : (cellLen cw t.plain : Int) > (w : Int)
  · have hnp : ¬ ((cellLen cw t.plain : Int) < (w : Int)) := Int.not_lt.mpr (Int.le_of_lt hlong)
    refine Or.inl ⟨Int.ofNat_lt.mp hlong, ?_⟩
    simp only [hlong, if_true, hnp, decide_false, Bool.and_false, Bool.false_eq_true, if_false, overflow_beq,
      decide_eq_true_eq, setCellSizeI_nat]
    split <;> rfl
  · simp only [hlong, if_false]
    by_cases hp : pad = true ∧ cellLen cw t.plain < w
    · have e : ((w : Int) - (cellLen cw t.plain : Int)).toNat = w - cellLen cw t.plain := by omega
      refine Or.inr (Or.inl ⟨hp.2, hp.1, ?_⟩)
      rw [if_pos (by rw [hp.1, Bool.true_and, decide_eq_true_eq]; omega)]
      simp only [e]
    · refine Or.inr (Or.inr ⟨Int.ofNat_le.mp (Int.not_lt.mp hlong), ?_⟩)
      rw [if_neg (by rw [Bool.and_eq_true, decide_eq_true_eq]; exact fun ⟨h1, h2⟩ => hp ⟨h1, by omega⟩)]

theorem truncate_le (cw : Char → Nat) (hsp : cw ' ' = 1) (h2 : ∀ c, cw c ≤ 2) (t : Text σ) (w : Nat) (ov : Overflow)
    (hov : ov ≠ Overflow.ignore) (hel : ov = Overflow.ellipsis → 1 ≤ w ∧ cw '…' = 1) (pad : Bool) :
    cellLen cw (t.truncate cw (w : Int) (some ov) pad).plain ≤ w := by
  rcases truncate_cases cw t w ov hov pad with ⟨_, he⟩ | ⟨hlt, _, he⟩ | ⟨hle, he⟩
  · rw [he, setPlain_plain]
    split
    · rename_i hell
      obtain ⟨hw, hel⟩ := hel hell
      have : ((w : Int) - 1) = ((w - 1 : Nat) : Int) := by omega
      rw [this, setCellSizeI_nat, cellLen_append, cellLen_setCellSize cw hsp h2]
      simp only [cellLen, List.map_cons, List.map_nil, List.sum_cons, List.sum_nil, hel]; omega
    · rw [cellLen_setCellSize cw hsp h2]; exact Nat.le_refl _
  · rw [he]
    show cellLen cw (t.plain ++ List.replicate (w - cellLen cw t.plain) ' ') ≤ w
    rw [cellLen_append, cellLen_replicate, hsp, Nat.mul_one, Nat.add_sub_cancel' (Nat.le_of_lt hlt)]
    exact Nat.le_refl _
  · rw [he]; exact hle

theorem truncate_fits (cw : Char → Nat) (hsp : cw ' ' = 1) (h2 : ∀ c, cw c ≤ 2) (hel : cw '…' = 1)
    (t : Text σ) (w : Nat) (hw : 1 ≤ w) (ov : Overflow) (hov : ov ≠ Overflow.ignore) (pad : Bool) :
    cellLen cw (t.truncate cw (w : Int) (some ov) pad).plain ≤ w :=
  truncate_le cw hsp h2 t w ov hov (fun _ => ⟨hw, hel⟩) pad

theorem wrapLine_all_truncated [BEq σ] (wv : WVariant) (cw : Char → Nat) (A : StyleAlg σ) (line : Text σ) (w : Nat)
    (j : Justify) (o : Overflow) (nw : Bool) (ls : List (Text σ))
    (h : wrapLine wv cw A line w j o nw = .ok ls) : ∀ l ∈ ls, ∃ l0 : Text σ, l = l0.truncate cw w (some o) := by
  unfold wrapLine at h
  obtain ⟨nl, _, h⟩ := bind_ok.mp h
  obtain ⟨jl, _, h⟩ := bind_ok.mp h
  cases h
  intro l hl
  obtain ⟨l0, _, rfl⟩ := List.mem_map.mp hl
  exact ⟨l0, rfl⟩

theorem wrapParagraphs_post [BEq σ] (wv : WVariant) (cw : Char → Nat) (A : StyleAlg σ) (w : Nat) (j : Justify)
    (o : Overflow) (nw : Bool) (ts : Option Nat) (Q : Text σ → Prop) (E : PyErr → Prop) (ps : List (Text σ))
    (h : ∀ P ∈ ps, ((if P.plain.contains '\t' then P.expandTabs wv.text ts else .ok P).bind
        fun P' => wrapLine wv cw A P' w j o nw).Post (fun ls => ∀ l ∈ ls, Q l) E) :
    (wrapParagraphs wv cw A w j o nw ts ps).Post (fun out => ∀ l ∈ out, Q l) E := by
  induction ps with
  | nil => exact fun _ hl => nomatch hl
  | cons P ps ih =>
    have hP := h P (List.mem_cons_self ..)
    have ih' := ih fun P' hP' => h P' (List.mem_cons_of_mem _ hP')
    rw [wrapParagraphs]
    generalize (if P.plain.contains '\t' then P.expandTabs wv.text ts else .ok P) = x at hP ⊢
    cases x with
    | error e => exact hP
    | ok P' =>
      exact Except.Post.bind (x := wrapLine wv cw A P' w j o nw) hP fun ls hls =>
        ih'.bind fun more hmore => List.forall_mem_append.mpr ⟨hls, hmore⟩

theorem wrap_ok_iff [BEq σ] {wv : WVariant} {cw : Char → Nat} {A : StyleAlg σ} {t : Text σ} {w : Nat}
    {justify : Option Justify} {overflow : Option Overflow} {tabSize : Option Nat} {noWrap : Option Bool}
    {out : List (Text σ)} :
    wrap wv cw A t w justify overflow tabSize noWrap = .ok out ↔ ∃ ps, t.split wv.text ['\n'] false true = .ok ps ∧
      wrapParagraphs wv cw A w (wrapJustifyOf t justify) (wrapOverflowOf t overflow) (noWrapOf t overflow noWrap)
        tabSize ps = .ok out :=
  bind_ok

theorem wrap_lines_fit [BEq σ] (wv : WVariant) (cw : Char → Nat) (hsp : cw ' ' = 1) (h2 : ∀ c, cw c ≤ 2) (hel : cw '…' = 1)
    (A : StyleAlg σ) (t : Text σ) (w : Nat) (hw : 1 ≤ w) (justify : Option Justify) (overflow : Option Overflow)
    (tabSize : Option Nat) (noWrap : Option Bool) (out : List (Text σ))
    (h : wrap wv cw A t w justify overflow tabSize noWrap = .ok out)
    (hov : wrapOverflowOf t overflow ≠ Overflow.ignore) : ∀ l ∈ out, cellLen cw l.plain ≤ w := by
  obtain ⟨ps, _, h⟩ := wrap_ok_iff.mp h
  -- every line of every paragraph is a `truncate` result
  exact (wrapParagraphs_post wv cw A w _ _ _ _ (fun l => cellLen cw l.plain ≤ w) _ ps fun P _ =>
    .of_forall fun ls hls l hl => by
      obtain ⟨P', _, h'⟩ := bind_ok.mp hls
      obtain ⟨l0, rfl⟩ := wrapLine_all_truncated wv cw A P' w _ _ _ ls h' l hl
      exact truncate_fits cw hsp h2 hel l0 w hw _ hov false).of_ok h

theorem cellLen_pyRstrip_le (cw : Char → Nat) (s : List Char) : cellLen cw (pyRstrip s) ≤ cellLen cw s := by
  have := cellLen_append cw (pyRstrip s) (s.drop (rstripLen s))
  rw [pyRstrip_append_drop] at this
  exact this ▸ Nat.le_add_right _ _

/-- the (character, style) pairs of the non-whitespace characters -/
def nsv {β : Type} (v : List (Char × β)) : List (Char × β) := v.filter (fun p => !pyIsSpace p.1)

theorem nsv_append {β : Type} (a b : List (Char × β)) : nsv (a ++ b) = nsv a ++ nsv b := by
  simp [nsv]

theorem nsv_flatten {β : Type} (ls : List (List (Char × β))) : nsv ls.flatten = (ls.map nsv).flatten :=
  List.filter_flatten

theorem nsv_flatMap {α β : Type} (f : α → List (Char × β)) (ls : List α) :
    nsv (ls.flatMap f) = ls.flatMap (fun l => nsv (f l)) := by
  rw [List.flatMap_def, nsv_flatten, List.map_map, List.flatMap_def]; rfl

theorem flatMap_congr_of_hom {α β γ : Type} (N : List β → List γ) (hN : ∀ a b, N (a ++ b) = N a ++ N b)
    (f g : α → List β) : ∀ l : List α, (∀ x ∈ l, N (f x) = N (g x)) → N (l.flatMap f) = N (l.flatMap g)
  | [], _ => rfl
  | x :: l, h => by
    rw [List.flatMap_cons, List.flatMap_cons, hN, hN, h x (List.mem_cons_self ..),
      flatMap_congr_of_hom N hN f g l fun y hy => h y (List.mem_cons_of_mem _ hy)]

theorem nsv_space {β : Type} (v : List (Char × β)) (h : ∀ p ∈ v, pyIsSpace p.1 = true) : nsv v = [] := by
  simp only [nsv, List.filter_eq_nil_iff]
  intro p hp; simp [h p hp]

theorem nsv_take {β : Type} (v : List (Char × β)) (k : Nat) (h : ∀ p ∈ v.drop k, pyIsSpace p.1 = true) :
    nsv (v.take k) = nsv v := by
  conv => rhs; rw [← List.take_append_drop k v]
  rw [nsv_append, nsv_space _ h, List.append_nil]

theorem annot_all {β : Type} (P : Char → Prop) (s : List Char) (f : Nat → β) (k : Nat) (h : ∀ c ∈ s, P c) :
    ∀ p ∈ annot s f k, P p.1 :=
  fun p hp => h _ (annot_mem_fst s f k p hp)

theorem nsv_annot_space {β : Type} (s : List Char) (f : Nat → β) (k : Nat) (h : ∀ c ∈ s, pyIsSpace c = true) :
    nsv (annot s f k) = [] :=
  nsv_space _ (annot_all (pyIsSpace · = true) s f k h)

theorem view_drop_space (t : Text σ) (k : Nat) (hk : rstripLen t.plain ≤ k) :
    ∀ p ∈ t.view.drop k, pyIsSpace p.1 = true := by
  rw [view_eq_annot, ← annot_drop]
  exact annot_all (pyIsSpace · = true) _ _ _ (drop_space _ k hk)

theorem nsv_map_snd {β γ : Type} (g : β → γ) (v : List (Char × β)) :
    nsv (v.map (fun p => (p.1, g p.2))) = (nsv v).map (fun p => (p.1, g p.2)) :=
  List.filter_map

theorem plain_of_ink (N : List (Char × List σ) → List (Char × List σ)) (hN : ∀ v, (N v).map (·.1) = v.map (·.1))
    (out : List (Text σ)) (t : Text σ) (h : N (nsv (out.flatMap Text.view)) = N (nsv t.view)) :
    (out.flatMap (·.plain)).filter (fun c => !pyIsSpace c) = t.plain.filter (fun c => !pyIsSpace c) := by
  replace h := congrArg (List.map (·.1)) h
  rw [hN, hN] at h
  have key : ∀ v : List (Char × List σ), (nsv v).map (·.1) = (v.map (·.1)).filter (fun c => !pyIsSpace c) := by
    intro v; simp only [nsv, List.filter_map]; rfl
  rw [key, key, view_map_fst, List.map_flatMap] at h
  rw [← h]
  congr 2
  funext l
  rw [view_map_fst]

theorem popLoop_append (B : List Nat) : ∀ (A : List Nat) (e : Int), e ≤ (A.sum : Int) →
    popLoop (A ++ B) e = ((popLoop A e).1 ++ B, (popLoop A e).2)
  | [], e, h => by
    simp only [List.sum_nil, Int.natCast_zero] at h
    rw [popLoop_nonpos _ _ h, popLoop_nonpos _ _ h]
  | a :: A, e, h => by
    simp only [List.cons_append]
    unfold popLoop
    split
    · apply popLoop_append B A
      simp only [List.sum_cons] at h; push_cast at h; omega
    · rfl

theorem setCellSizeI_shape (cw : Char → Nat) (s : List Char) (n : Int) :
    ∃ k m, setCellSizeI cw s n = s.take k ++ List.replicate m ' ' ∧
      ∀ r tl, s = r ++ tl → (cellLen cw r : Int) ≤ n → r.length ≤ k := by
  have all : ∀ m, ∃ k m', s ++ List.replicate m ' ' = s.take k ++ List.replicate m' ' ' ∧
      ∀ r tl, s = r ++ tl → (cellLen cw r : Int) ≤ n → r.length ≤ k :=
    fun m => ⟨s.length, m, by rw [List.take_length], fun r tl h _ => h ▸ List.length_append ▸ Nat.le_add_right _ _⟩
  unfold setCellSizeI
  simp only
  split
  · obtain ⟨k, m, h, hk⟩ := all 0
    exact ⟨k, m, (List.append_nil s).symm.trans h, hk⟩
  · split
    · exact all _
    · refine ⟨(popLoop (s.map cw).reverse ((cellLen cw s : Int) - n)).1.length,
        if (popLoop (s.map cw).reverse ((cellLen cw s : Int) - n)).2 == -1 then 1 else 0, ?_, ?_⟩
      · split
        · rfl
        · exact (List.append_nil _).symm
      · -- the excess is used up before the loop reaches `r`
        rintro r tl rfl hr
        have hle : ((cellLen cw (r ++ tl) : Int) - n) ≤ (((tl.map cw).reverse.sum : Nat) : Int) := by
          rw [cellLen_append, List.sum_reverse, Int.natCast_add]
          show _ ≤ ((cellLen cw tl : Nat) : Int)
          omega
        rw [List.map_append, List.reverse_append, popLoop_append _ _ _ hle, List.length_append, List.length_reverse,
          List.length_map]
        exact Nat.le_add_left _ _

/-! ### `set_cell_size` below the width of the first character

The only way a character can be wider than a line of width ≥ 1 is width 1 and a 2-cell character.
`set_cell_size(text, 1)` pops characters from the end until the excess is used up; since the first character alone is
2 cells it is popped too, the excess becomes -1 and one blank is appended; `set_cell_size(text, 0)` leaves nothing. -/

theorem popLoop_through (x : Nat) : ∀ (A : List Nat) (e : Int), (A.sum : Int) < e →
    popLoop (A ++ [x]) e = popLoop [x] (e - A.sum)
  | [], e, _ => by simp
  | a :: A, e, h => by
    simp only [List.sum_cons] at h
    have hpos : e > 0 := by push_cast at h; omega
    simp only [List.cons_append]
    rw [popLoop]
    simp only [hpos, if_true]
    rw [popLoop_through x A (e - a) (by push_cast at h ⊢; omega)]
    simp only [List.sum_cons]; push_cast
    congr 1; omega

theorem setCellSize_wide_first (cw : Char → Nat) (c : Char) (rest : List Char) (hc : cw c = 2) (n : Nat) (hn : n ≤ 1) :
    setCellSize cw (c :: rest) n = List.replicate n ' ' := by
  have hlen : cellLen cw (c :: rest) = 2 + cellLen cw rest := by simp [cellLen, hc]
  rw [setCellSize_crop cw (c :: rest) n (by omega)]
  have hrev : ((c :: rest).map cw).reverse = (rest.map cw).reverse ++ [2] := by simp [hc]
  rw [hrev, popLoop_through 2 _ _ (by simp only [List.sum_reverse]; rw [hlen]; unfold cellLen; push_cast; omega)]
  have he : ((cellLen cw (c :: rest) : Int) - (n : Int)) - (((rest.map cw).reverse.sum : Nat) : Int) = 2 - (n : Int) := by
    simp only [List.sum_reverse]; rw [hlen]; unfold cellLen; push_cast; omega
  rw [he]
  rcases Nat.le_one_iff_eq_zero_or_eq_one.mp hn with rfl | rfl <;> simp [popLoop]

end Wrap
end RichModel
