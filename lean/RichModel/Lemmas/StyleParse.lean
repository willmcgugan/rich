import RichModel.Lemmas.StyleText
/-!
Every style `Style.parse` returns is well-formed (`Style.wf`), so the round trip of
`Lemmas/StyleText.lean` applies to it.  Then: `render` and `wf` respect `==`; a successful `__init__` / `parse`
does not depend on the code variant.
-/
namespace RichModel
open AsciiStr
namespace Style
variable {T : StrTables} [hT : T.Lawful]

/-- What the loop of `parse` keeps true of its local variables. -/
structure StOk (T : StrTables) (v : StyleVariant) (st : ParseState) : Prop where
  color : ∀ w, st.color = some w → (∀ c ∈ w, T.isSpace c = false) ∧ T.lower w = w ∧ ∃ c, Color.parseT T v w = .ok c
  bgcolor : ∀ w, st.bgcolor = some w → (∀ c ∈ w, T.isSpace c = false) ∧ ∃ c, Color.parseT T v w = .ok c
  link : ∀ l, st.link = some l → l ≠ [] ∧ ∀ c ∈ l, T.isSpace c = false

omit hT in
theorem stOk_init (v : StyleVariant) : StOk T v {} := ⟨by simp, by simp, by simp⟩

theorem Reads.stOk {v : StyleVariant} {ws st st'} (h : Reads T v ws st st')
    (hws : ∀ w ∈ ws, w ≠ [] ∧ ∀ c ∈ w, T.isSpace c = false) (hst : StOk T v st) : StOk T v st' := by
  induction h with
  | nil st => exact hst
  | cons hs _ ih =>
    refine ih (fun w hw => hws w (List.mem_append_right _ hw)) ?_
    cases hs with
    | attr | notAttr => exact ⟨hst.color, hst.bgcolor, hst.link⟩
    | @fg ow c hc =>
      refine ⟨fun w hw => ?_, hst.bgcolor, hst.link⟩
      cases hw
      exact ⟨T.lower_noSpace (hws ow (by simp)).2, T.lower_idem ow, c, hc⟩
    | @bg ow w c _ hc =>
      refine ⟨hst.color, fun w' hw' => ?_, hst.link⟩
      cases hw'
      exact ⟨(hws w (by simp)).2, c, hc⟩
    | @link ow w _ =>
      refine ⟨hst.color, hst.bgcolor, fun l hl => ?_⟩
      cases hl
      exact hws w (by simp)

theorem wfColor_of_parse {v : StyleVariant} {w : List Char} {y : Color} (hns : ∀ c ∈ w, T.isSpace c = false)
    (hy : Color.parseT T v w = .ok y) : wfColorT T v y = true := by
  have hname : y.name = T.lower w := by
    rw [Color.parseT_name T hy, T.strip_noSpace (T.lower_noSpace hns)]
  rw [wfColor_iff, hname, Color.parseT_lower T]
  exact ⟨T.lower_noSpace hns, hy⟩

theorem parse_wf {v : StyleVariant} {d : List Char} {s : Style} (h : parseT T v d = .ok s) :
    wfT T v s = true ∧ str s = render s := by
  rcases parse_ok h with rfl | ⟨st, hloop, hinit⟩
  · exact ⟨by simp [wfT, Style.null, wfLinkT], by decide⟩
  · have hst := (reads_of_parseLoop hloop).stOk (T.split_words d) (stOk_init v)
    have hinv := inv_init hinit
    obtain ⟨c', b', hc, hb, rfl⟩ := init_ok_iff.mp hinit
    -- a colour of the object is what `Color.parse` made of the word the loop kept
    have hcol : ∀ {o : Option (List Char)} {r : Option Color}, (∀ w, o = some w → ∀ c ∈ w, T.isSpace c = false) →
        argColorT T v (o.map .str) = .ok r → ∀ y, r = some y → wfColorT T v y = true := by
      intro o r ho hr y hy
      cases o with
      | none => cases hr; cases hy
      | some w =>
        obtain ⟨y', hy', rfl⟩ := argColor_some.mp hr
        cases hy
        exact wfColor_of_parse (ho w rfl) hy'
    refine ⟨wf_iff.mpr ⟨hinv.attrs_sub, hinv.set_lt, hcol (fun w hw => (hst.color w hw).1) hc,
      hcol (fun w hw => (hst.bgcolor w hw).1) hb, ?_⟩, rfl⟩
    · simp only
      rw [storedLink_of_ne (fun e => (hst.link [] e).1 rfl) v]
      cases hl : st.link with
      | none => rfl
      | some l => simp [wfLinkT, (hst.link l hl).1, T.mem_noSpace.mpr (hst.link l hl).2]

theorem render_eq_of_eq {a b : Style} (h : eq a b = true) : render a = render b := by
  obtain ⟨h1, h2, h3, h4, h5⟩ := eq_iff.mp h
  exact render_congr h1 h2 h4 h3 h5

omit hT in
theorem normalize_of_parse {v : StyleVariant} {d : List Char} {s : Style} (h : parseT T v d = .ok s) :
    normalizeT T v d = .ok (str s) := by
  simp [normalizeT, h]

theorem normalize_render {v : StyleVariant} {s : Style} (hwf : Wf T v s) : normalizeT T v (render s) = .ok (render s) := by
  obtain ⟨s', h1, h2⟩ := parse_render hwf
  rw [normalize_of_parse h1, (parse_wf h1).2, render_eq_of_eq h2]

omit hT in
theorem wf_congr {v : StyleVariant} {a b : Style} (h : eq a b = true) : wfT T v a = wfT T v b := by
  obtain ⟨h1, h2, h3, h4, h5⟩ := eq_iff.mp h
  simp [wfT, h1, h2, h3, h4, h5]

omit hT in
/-- `__init__` on a link that is not the empty string gives the same object in every code variant
(the variants differ in error kinds, stored hashes, the `update_link` cache and the empty link only). -/
theorem init_ok_indep {v v' : StyleVariant} {c b kw l s} (hl : l ≠ some [])
    (h : initT T v c b kw l = .ok s) : initT T v' c b kw l = .ok s := by
  have harg : ∀ {a r}, argColorT T v a = .ok r → argColorT T v' a = .ok r := by
    intro a r ha
    match a with
    | some (.str w) =>
      obtain ⟨y, hy, rfl⟩ := argColor_some.mp ha
      exact argColor_some.mpr ⟨y, Color.parseT_ok_indep T hy, rfl⟩
    | some (.color _) | none => exact ha
  obtain ⟨c', b', hc, hb, rfl⟩ := init_ok_iff.mp h
  exact init_ok_iff.mpr ⟨c', b', harg hc, harg hb, by rw [storedLink_of_ne hl v, storedLink_of_ne hl v']⟩

theorem parse_ok_indep {v v' : StyleVariant} {d : List Char} {s : Style} (h : parseT T v d = .ok s) :
    parseT T v' d = .ok s := by
  unfold parseT at h ⊢
  split at h
  · rename_i hc; simp only [hc, if_true]; exact h
  · rename_i hc
    simp only [hc, if_false, Bool.false_eq_true]
    split at h
    · cases h
    · rename_i st hst
      have hr := reads_of_parseLoop hst
      rw [parseLoop_ok_iff.mpr hr.indep]
      exact init_ok_indep (fun hl => ((hr.stOk (T.split_words d) (stOk_init v)).link [] hl).1 rfl) h

end Style
end RichModel
