import RichModel.Model.ThemeThreads
import RichModel.Lemmas.Theme
/-!
Flat steps on the theme stack, on one stack and on those of several threads, and `get_style` with the
identity of its result (Model/ThemeThreads.lean).
-/
namespace RichModel.Theme

variable {σ : Type}

theorem runF_append (f : Bool) (a b : List (FStep σ)) (st : Stack σ) :
    runF f (a ++ b) st = runF f b (runF f a st) := by
  induction a generalizing st with
  | nil => rfl
  | cons s r ih => exact ih _

/-- Opening steps (each pushes an entry), a word that acts as `g`, as many closing steps (each pops the
entry a push left): the whole acts as `g`, when `g` does the same to a stack under one more entry. -/
theorem runF_nest (f : Bool) {as mid bs : List (FStep σ)} {g : Stack σ → Stack σ}
    (ha : ∀ a ∈ as, ∀ st : Stack σ, st.WF → ∃ d, (applyF f a st).1 = st.pushed d)
    (hm : ∀ st : Stack σ, st.WF → runF f mid st = g st)
    (hg : ∀ (st : Stack σ) d, st.WF → (g st).WF ∧ g (st.pushed d) = (g st).pushed d)
    (hb : ∀ b ∈ bs, ∀ (st : Stack σ) d, st.WF → (applyF f b (st.pushed d)).1 = st)
    (hl : bs.length = as.length) {st : Stack σ} (hwf : st.WF) : runF f (as ++ (mid ++ bs)) st = g st := by
  induction as generalizing bs st with
  | nil =>
    cases List.length_eq_zero_iff.1 hl
    rw [List.nil_append, List.append_nil]
    exact hm st hwf
  | cons a as ih =>
    -- the first opening step is undone by the last closing step; in between the induction hypothesis applies
    have hne : bs ≠ [] := by intro e; rw [e] at hl; cases hl
    obtain ⟨bs', b, rfl⟩ : ∃ bs' b, bs = bs' ++ [b] :=
      ⟨bs.dropLast, bs.getLast hne, (List.dropLast_concat_getLast hne).symm⟩
    obtain ⟨d, hd⟩ := ha a List.mem_cons_self st hwf
    rw [List.cons_append, ← List.append_assoc mid, ← List.append_assoc as, runF, runF_append, hd,
      ih (fun x hx => ha x (List.mem_cons_of_mem _ hx)) (fun x hx => hb x (List.mem_append_left _ hx))
        (by simpa using hl) (pushed_wf ..), (hg st d hwf).2]
    exact hb b (List.mem_append_right _ List.mem_cons_self) _ d (hg st d hwf).1

theorem mutBase_pushed (k : Name) (v : σ) {st : Stack σ} (hwf : st.WF) (d : Dict σ) :
    mutBase k v (st.pushed d) = (mutBase k v st).pushed d := by
  cases hs : st.entries with
  | nil => exact absurd hs hwf.ne_nil
  | cons b rest => simp [mutBase, Stack.pushed, hs]

theorem mutBase_wf (k : Name) (v : σ) (st : Stack σ) (hwf : st.WF) : (mutBase k v st).WF := by
  have hg : st.entries.getLast? = some st.bound := hwf
  fun_cases mutBase k v st
  · exact hwf
  · next b rest hs =>
    rw [hs] at hg
    -- the bound dict is the base, and changes with it, exactly when nothing is pushed
    cases rest with
    | nil => cases hg; rfl
    | cons c r => exact hg

/-- the steps that matter to thread `tid` when every thread has its own stack: its own steps and
everybody's mutations of the (shared) base theme dict. -/
def relevant (tid : Nat) (p : Nat × FStep σ) : Bool := p.1 = tid || p.2.isSetBase

/-- What a scheduled step of thread `u` does to the stack in slot `j`, with one stack for all threads (`shared`, the code)
or one per thread: it acts on it when `u` works on that slot, or when it assigns to the base dict, which every stack
has at its bottom. -/
theorem stepMT_slot (shared f : Bool) (S : Nat → Stack σ) (u j : Nat) (s : FStep σ) :
    (stepMT shared f S u s).1 j =
      if (decide (slotOf shared u = j) || s.isSetBase) = true then (applyF f s (S j)).1 else S j := by
  cases hb : s.isSetBase with
  | true =>
    rw [Bool.or_true, if_pos rfl]
    cases s <;> first | rfl | cases hb
  | false =>
    have hown : (stepMT shared f S u s).1 = setSlot S (slotOf shared u) (applyF f s (S (slotOf shared u))).1 := by
      cases s <;> first | rfl | cases hb
    rw [hown, Bool.or_false, setSlot]
    by_cases hu : slotOf shared u = j
    · rw [if_pos hu.symm, if_pos (decide_eq_true hu), hu]
    · rw [if_neg (Ne.symm hu), if_neg (by rw [decide_eq_false hu]; decide)]

/-- Every interleaving, either arrangement of stacks: the stack in slot `j` is what the steps that act on it produce when
run alone, in schedule order.  With one stack per thread those are `relevant j`; with the one shared stack, all of them. -/
theorem runMT_slot (shared f : Bool) (j : Nat) (sch : List (Nat × FStep σ)) (S : Nat → Stack σ) :
    runMT shared f sch S j =
      runF f ((sch.filter fun p => decide (slotOf shared p.1 = j) || p.2.isSetBase).map (·.2)) (S j) := by
  induction sch generalizing S with
  | nil => rfl
  | cons p rest ih =>
    obtain ⟨u, s⟩ := p
    rw [runMT, ih, stepMT_slot, List.filter_cons]
    by_cases hr : (decide (slotOf shared u = j) || s.isSetBase) = true
    · rw [if_pos hr, if_pos hr]; rfl
    · rw [if_neg hr, if_neg hr]

theorem getStyle_bound_only (parse : Parse σ) (st st' : Stack σ) (h : st.bound = st'.bound)
    (name : NS σ) (default : Option (NS σ)) :
    getStyle parse st name default = getStyle parse st' name default := by
  obtain ⟨e, b⟩ := st
  obtain ⟨e', b'⟩ := st'
  cases h
  cases name <;> rfl

theorem getStyleObj1_val (parse : Parse σ) (linked : σ → Bool) (st : Stack σ) (x : NS σ) :
    (getStyleObj1 parse linked st x).map Got.val = getStyle1 parse st x := by
  cases x with
  | style s => rfl
  | str n =>
    rw [getStyleObj1, getStyle1]
    cases resolve parse st n with
    | ok s => simp only [copyIfLink]; cases linked s <;> rfl
    | error e => cases e <;> rfl

theorem getStyleObj_val (parse : Parse σ) (linked : σ → Bool) (st : Stack σ) (name : NS σ)
    (default : Option (NS σ)) :
    (getStyleObj parse linked st name default).map Got.val = getStyle parse st name default := by
  cases name with
  | style s => rfl
  | str n =>
    simp only [getStyleObj, getStyle]
    cases resolve parse st n with
    | ok s => simp only [copyIfLink]; cases linked s <;> rfl
    | error e =>
      cases e with
      | other => rfl
      | syntaxError =>
        cases default with
        | none => rfl
        | some d => exact getStyleObj1_val parse linked st d

end RichModel.Theme
