import RichModel.Lemmas.MarkupRun
import RichModel.Lemmas.MarkupEscape
import RichModel.Lemmas.Except
/-! The chunker on concatenations and on escaped text: escaped text yields text chunks only, which spell
it; hence what `render (escape s)` is, chunk by chunk, for any emoji setting, and how the chunks of
`A ++ escape s ++ B` fall. -/
namespace RichModel.Markup

theorem chunkSt_append (l1 : List Lx) : ∀ (acc : List Char) (l2 : List Lx),
    chunkSt acc (l1 ++ l2) =
      ((chunkSt acc l1).1 ++ (chunkSt (chunkSt acc l1).2 l2).1, (chunkSt (chunkSt acc l1).2 l2).2) := by
  induction l1 with
  | nil => intro acc l2; simp [chunkSt]
  | cons x xs ih =>
    intro acc l2
    cases x with
    | ch c => simp only [List.cons_append, chunkSt]; exact ih _ _
    | tag k b =>
      simp only [List.cons_append, chunkSt]
      rw [ih [] l2]
      simp

theorem chunkGo_append (l1 l2 : List Lx) (acc : List Char) :
    chunkGo acc (l1 ++ l2) = (chunkSt acc l1).1 ++ chunkGo (chunkSt acc l1).2 l2 := by
  simp [chunkGo, chunkSt_append]

theorem tagChunks_bump (k : Nat) (b : List Char) :
    (∀ c ∈ tagChunks (2 * k + 1) b, c.isTxt = true) ∧
    (tagChunks (2 * k + 1) b).flatMap CEv.text = bsl k ++ '[' :: b ++ [']'] := by
  rw [tagChunks, if_neg (Nat.succ_ne_zero _), bump_div, bump_mod, if_pos rfl]
  by_cases hk : k = 0 <;> simp [hk, CEv.isTxt, CEv.text, bsl]

theorem flushC_txt (acc : List Char) : (∀ c ∈ flushC acc, c.isTxt = true) ∧ (flushC acc).flatMap CEv.text = acc := by
  by_cases ha : acc = [] <;> simp [flushC, ha, CEv.isTxt, CEv.text]

theorem chunkSt_bump (l : List Lx) : ∀ acc,
    (∀ c ∈ (chunkSt acc (l.map Lx.bump)).1, c.isTxt = true) ∧
    (chunkSt acc (l.map Lx.bump)).1.flatMap CEv.text ++ (chunkSt acc (l.map Lx.bump)).2 = acc ++ flatten l := by
  induction l with
  | nil => intro acc; simp [chunkSt, flatten]
  | cons x xs ih =>
    intro acc
    cases x with
    | ch c =>
      obtain ⟨h1, h2⟩ := ih (acc ++ [c])
      rw [flatten_cons, Lx.flat, ← List.append_assoc]
      exact ⟨h1, h2⟩
    | tag k b =>
      obtain ⟨h1, h2⟩ := ih []
      obtain ⟨f1, f2⟩ := flushC_txt acc
      obtain ⟨t1, t2⟩ := tagChunks_bump k b
      simp only [List.map_cons, Lx.bump, chunkSt]
      constructor
      · simp only [List.forall_mem_append]
        exact ⟨⟨f1, t1⟩, h1⟩
      · rw [List.flatMap_append, List.flatMap_append, List.append_assoc, h2, f2, t2, flatten_cons]
        simp [Lx.flat]

theorem runC_txts (cfg : Cfg) (cs : List CEv) (h : ∀ c ∈ cs, c.isTxt = true) : ∀ st,
    runC cfg st cs = some { st with text := st.text ++ cs.flatMap (fun c => chunkText cfg c.text) } := by
  induction cs with
  | nil => intro st; simp [runC]
  | cons c cs ih =>
    intro st
    cases c with
    | tag t => have := h (.tag t) (by simp); simp [CEv.isTxt] at this
    | txt s =>
      simp only [runC, stepC]
      rw [ih (fun c hc => h c (by simp [hc]))]
      simp [CEv.text]

/-- **render_escape, exact, any emoji setting**: the escaped text is rendered chunk by chunk —
every chunk is text — and there is never a span or an error. -/
theorem render_escape_chunks (cfg : Cfg) (s : List Char) :
    (∀ c ∈ chunks (escape s), c.isTxt = true) ∧
    (chunks (escape s)).flatMap CEv.text = s ∧
    render cfg (escape s) = .ok ((chunks (escape s)).flatMap (fun c => chunkText cfg c.text), []) := by
  have hb := chunkSt_bump (lex s) []
  have hl : chunks (escape s) = chunkGo [] ((lex s).map Lx.bump) := by rw [chunks, lex_escape]
  obtain ⟨f1, f2⟩ := flushC_txt (chunkSt [] ((lex s).map Lx.bump)).2
  have hall : ∀ c ∈ chunks (escape s), c.isTxt = true := by
    rw [hl, chunkGo, List.forall_mem_append]
    exact ⟨hb.1, f1⟩
  refine ⟨hall, ?_, ?_⟩
  · rw [hl, chunkGo, List.flatMap_append, f2, hb.2, flatten_lex]; rfl
  · have hr := render_eq_runC cfg (escape s)
    rw [runC_txts cfg _ hall] at hr
    simp only [Option.map_some, St.init, List.nil_append] at hr
    rw [finish_plain] at hr
    exact eq_ok_of_toOption hr

/-- the chunks of `A ++ escape(s) ++ B`: the chunks `A` completes, then the chunks of the bumped
items of `s` starting from `A`'s pending text, then the chunks of `B` with what is then pending in
front of its first chunk. -/
theorem chunks_embedded (A s B : List Char) (hA : SelfContained A) (hs : SelfContained s) :
    chunks (A ++ escape s ++ B) =
      (chunkSt [] (lex A)).1 ++ (chunkSt (chunkSt [] (lex A)).2 ((lex s).map Lx.bump)).1 ++
        chunkGo (chunkSt (chunkSt [] (lex A)).2 ((lex s).map Lx.bump)).2 (lex B) := by
  rw [chunks, List.append_assoc, lex_append _ hA, lex_append _ (selfContained_escape hs), lex_escape,
    chunkGo_append, chunkGo_append, List.append_assoc]

end RichModel.Markup
