import RichModel.Lemmas.Frames
/-!
The rectangle lemmas for `Padding`, `Panel` and `Align`: the output as lines (`Emits`), hence what `Segment.split_lines`
makes of it, line by line, for every width function `cw`, and the widths of the lines for a `cw` with `cw ' ' = 1`,
`cw c ≤ 2`.  The line structure is proved once for any style of the added cells; the frames of `Model/Frames.lean` are the
unstyled case, `Lemmas/FramesStyled.lean` has the styled ones.
-/
namespace RichModel.Frames
open RichModel
variable {σ : Type}

/-! ## Padding -/

/-- `width` of `Padding.__rich_console__` -/
def paddingWidth (v : Variant) (p : PadDims) (expand : Bool) (c : Child σ) (w : Int) : Int :=
  if expand then w else min (fitWidth v (c.measureAt w).maximum + p.left + p.right) w

/-- the width the child is rendered at -/
def paddingChildWidth (v : Variant) (p : PadDims) (expand : Bool) (c : Child σ) (w : Int) : Int :=
  paddingWidth v p expand c w - p.left - p.right

/-- repaired (fix a9def3a): a non-expanding frame gives its child at least one cell -/
theorem fitWidth_of_repaired {v : Variant} (hv : v.zeroWidthChild = false) (m : Int) : fitWidth v m = max 1 m := by
  unfold fitWidth
  rw [hv]
  rfl

theorem paddingWidth_le (v : Variant) (p : PadDims) (expand : Bool) (c : Child σ) (w : Int) :
    paddingWidth v p expand c w ≤ w := by
  unfold paddingWidth; split <;> omega

theorem paddingWidth_expand (v : Variant) (p : PadDims) (c : Child σ) (w : Int) : paddingWidth v p true c w = w := rfl

/-- the pad left / right of a body line: one segment of blanks, nothing for a pad of 0 -/
def padLeftSegs (p : PadDims) : List (Segment σ) := if p.left != 0 then [seg (rep p.left ' ')] else []
def padRightSegs (p : PadDims) : List (Segment σ) := if p.right != 0 then [seg (rep p.right ' ')] else []

/-- a blank line of `n` cells as `split_lines` sees it -/
def blankLine (n : Int) : List (Segment σ) := if (rep n ' ').isEmpty then [] else [seg (rep n ' ')]

/-- the same with the style of the cells the frame adds -/
def blankLineS (st : Option σ) (n : Int) : List (Segment σ) := if (rep n ' ').isEmpty then [] else [segS st (rep n ' ')]

/-- the left or right padding of a line, plain (`padLeftSegs`, `padRightSegs`) or styled (`padLeftSegsS`, `padRightSegsS`) -/
def padSegs (st : Option σ) (n : Nat) : List (Segment σ) := if n != 0 then [segS st (rep n ' ')] else []

/-- the lines `Padding` draws: `top` blank lines, the child's lines (rendered alone at the inner width,
each then brought to exactly the inner width) between the left and right padding, `bottom` blank lines -/
def paddingLines (cw : Char → Nat) (v : Variant) (p : PadDims) (expand : Bool) (c : Child σ) (w : Int) :
    List (List (Segment σ)) :=
  let childW := paddingChildWidth v p expand c w
  List.replicate p.top (blankLine (paddingWidth v p expand c w))
    ++ (c.linesAt cw childW false).map (fun l => padLeftSegs p ++ adjustLineLength cw l childW.toNat none ++ padRightSegs p)
    ++ List.replicate p.bottom (blankLine (paddingWidth v p expand c w))

theorem rep_no_nl (n : Int) : ∀ c ∈ rep n ' ', c ≠ '\n' := by
  intro c hc
  simp only [rep, List.mem_replicate] at hc
  rw [hc.2]; decide

theorem nlFree_optBlank (st : Option σ) (n : Int) (p : Prop) [Decidable p] :
    NlFree (if p then [segS st (rep n ' ')] else [] : List (Segment σ)) :=
  ite_ind NlFree (nlFree_segS _ _ (rep_no_nl _)) NlFree.nil

theorem mem_optBlank {st : Option σ} {n : Int} {p : Prop} [Decidable p] {g : Segment σ}
    (h : g ∈ (if p then [segS st (rep n ' ')] else [])) : g.style = st ∧ ∀ ch ∈ g.text, ch = ' ' := by
  split at h
  · exact List.mem_singleton.mp h ▸ ⟨rfl, fun ch hch => (List.mem_replicate.mp hch).2⟩
  · cases h

theorem lineLength_optBlank (cw : Char → Nat) (hsp : cw ' ' = 1) (st : Option σ) (n : Int) {p : Prop} [Decidable p]
    (h : ¬ p → n ≤ 0) : lineLength cw (if p then [segS st (rep n ' ')] else []) = n.toNat := by
  split
  · rw [lineLength_segS, cellLen_rep cw n ' ' hsp]
  · rename_i hp
    rw [Int.toNat_eq_zero.mpr (h hp)]; rfl

theorem linesAt_nlFree (cw : Char → Nat) (c : Child σ) (w : Int) (pad : Bool) :
    ∀ l ∈ c.linesAt cw w pad, NlFree l :=
  renderLines_nlFree cw _ w pad

theorem emits_padded (cw : Char → Nat) (st : Option σ) (top bottom : Nat)
    (width : Int) (a z : List (Segment σ)) (L : List (List (Segment σ))) (n : Nat) (ha : NlFree a) (hz : NlFree z)
    (hL : ∀ l ∈ L, NlFree l) :
    Emits (List.replicate top (segS st (rep width ' ' ++ ['\n']))
        ++ (L.map (fun l => adjustLineLength cw l n st)).flatMap (fun l => a ++ l ++ z ++ [nl])
        ++ List.replicate bottom (segS st (rep width ' ' ++ ['\n'])))
      (List.replicate top (blankLineS st width) ++ L.map (fun l => a ++ adjustLineLength cw l n st ++ z)
        ++ List.replicate bottom (blankLineS st width)) := by
  have hblank : ∀ k, Emits (List.replicate k (segS st (rep width ' ' ++ ['\n']))) (List.replicate k (blankLineS st width)) := by
    intro k
    rw [← List.flatten_replicate_singleton]
    exact (Emits.textNl st (rep_no_nl width)).replicate k
  rw [List.flatMap_map]
  exact ((hblank top).append (Emits.lines fun l hl =>
    (ha.append (adjust_nlFree cw _ _ _ _ (hL l hl))).append hz)).append (hblank bottom)

theorem paddingConsole_emits (cw : Char → Nat) (v : Variant) (p : PadDims)
    (expand : Bool) (c : Child σ) (w : Int) :
    Emits (paddingConsole cw v p expand c w) (paddingLines cw v p expand c w) := by
  simp only [paddingConsole, setShape_fit cw _ _ none _ (Nat.le_refl _)]
  exact emits_padded cw none _ _ _ _ _ _ _ (nlFree_optBlank none p.left _) (nlFree_optBlank none p.right _)
    (linesAt_nlFree cw c _ false)

theorem paddingConsole_lines (cw : Char → Nat) (_hsp : cw ' ' = 1) (_h2 : ∀ c, cw c ≤ 2) (v : Variant) (p : PadDims)
    (expand : Bool) (c : Child σ) (w : Int) :
    splitLines (paddingConsole cw v p expand c w) = paddingLines cw v p expand c w :=
  (paddingConsole_emits cw v p expand c w).splitLines

theorem blankLineS_eq (st : Option σ) (n : Int) :
    blankLineS st n = if 0 < n then [segS st (rep n ' ')] else [] := by
  unfold blankLineS
  by_cases h : 0 < n
  · rw [if_pos h, if_neg]
    intro he
    have := congrArg List.length (List.isEmpty_iff.mp he)
    rw [rep_length, List.length_nil] at this
    omega
  · rw [if_neg h, if_pos]
    rw [List.isEmpty_iff, rep, show n.toNat = 0 by omega]; rfl

theorem lineLength_blankLineS (cw : Char → Nat) (hsp : cw ' ' = 1) (st : Option σ) (n : Int) :
    lineLength cw (blankLineS st n) = n.toNat := by
  rw [blankLineS_eq]
  exact lineLength_optBlank cw hsp st n fun h => Int.not_lt.mp h

theorem lineLength_padSegs (cw : Char → Nat) (hsp : cw ' ' = 1) (st : Option σ) (n : Nat) :
    lineLength cw (padSegs st n) = n :=
  lineLength_optBlank cw hsp st n fun h => by simpa using h

theorem lineLength_padded (cw : Char → Nat) (hsp : cw ' ' = 1) (h2 : ∀ c, cw c ≤ 2) (st st' : Option σ) (l r : Nat)
    (width : Int) (hfit : (l : Int) + r ≤ width) (l0 : List (Segment σ)) :
    lineLength cw (padSegs st l ++ adjustLineLength cw l0 (width - l - r).toNat st' ++ padSegs st r) = width.toNat := by
  rw [lineLength_append, lineLength_append, lineLength_padSegs cw hsp, lineLength_padSegs cw hsp,
    adjust_exact cw hsp h2 l0 _ st' true (Or.inl rfl), Int.toNat_sub', Int.toNat_sub']
  have h' : ((l + r : Nat) : Int) ≤ width := by rw [Int.natCast_add]; exact hfit
  have := (Int.le_toNat (Int.le_trans (Int.natCast_nonneg _) h')).mpr h'
  omega

theorem linesAt_of_lt_one (cw : Char → Nat) (c : Child σ) (w : Int) (pad : Bool) (h : w < 1) : c.linesAt cw w pad = [] := by
  simp [Child.linesAt, Child.renderAt, h, renderLines, splitAndCropLines]

/-- No room is asked for the pads: a child line exists only at a child width of at least one cell (`hL`), and then they fit
(`left + right ≤ width`). -/
theorem padded_width (cw : Char → Nat) (hsp : cw ' ' = 1) (h2 : ∀ c, cw c ≤ 2) (st st' : Option σ) (top bottom l r : Nat)
    (width : Int) (L : List (List (Segment σ))) (hL : width - l - r < 1 → L = []) :
    ∀ x ∈ List.replicate top (blankLineS st width)
        ++ L.map (fun l0 => padSegs st l ++ adjustLineLength cw l0 (width - l - r).toNat st' ++ padSegs st r)
        ++ List.replicate bottom (blankLineS st width),
      lineLength cw x = width.toNat := by
  intro x hx
  simp only [List.mem_append, List.mem_replicate, List.mem_map] at hx
  rcases hx with (⟨_, rfl⟩ | ⟨l0, hl0, rfl⟩) | ⟨_, rfl⟩
  · exact lineLength_blankLineS cw hsp st width
  · refine lineLength_padded cw hsp h2 st st' l r width (Int.not_lt.mp fun hlt => ?_) l0
    rw [hL (by omega)] at hl0
    cases hl0
  · exact lineLength_blankLineS cw hsp st width

/-- `padLeftSegs p`, `padRightSegs p` are `padSegs none p.left`, `padSegs none p.right` by definition -/
theorem paddingLines_width_any (cw : Char → Nat) (hsp : cw ' ' = 1) (h2 : ∀ c, cw c ≤ 2) (v : Variant) (p : PadDims)
    (expand : Bool) (c : Child σ) (w : Int) :
    ∀ l ∈ paddingLines cw v p expand c w, lineLength cw l = (paddingWidth v p expand c w).toNat :=
  padded_width cw hsp h2 none none _ _ _ _ _ _ (linesAt_of_lt_one cw c _ false)

theorem paddingLines_width (cw : Char → Nat) (hsp : cw ' ' = 1) (h2 : ∀ c, cw c ≤ 2) (v : Variant) (p : PadDims)
    (expand : Bool) (c : Child σ) (w : Int) (_hfit : (p.left : Int) + p.right ≤ paddingWidth v p expand c w) :
    ∀ l ∈ paddingLines cw v p expand c w, lineLength cw l = (paddingWidth v p expand c w).toNat :=
  paddingLines_width_any cw hsp h2 v p expand c w

/-! ## Panel -/

/-- the top border line as `split_lines` sees it (`cwid` = the child width, the panel is `cwid + 2` wide) -/
def panelTopLine (cw : Char → Nat) (env : Env) (v : Variant) (o : PanelOpts) (box : Box) (cwid : Int) : Option (List (Segment σ)) :=
  match panelTitle o.title with
  | none => some [seg (boxTop box cwid)]
  | some t =>
    match textConsoleSimple cw v (textAlign cw t o.titleAlign (cwid - 2) box.top) [] (env.consoleWidth : Int) with
    | none => none
    | some ts => some ([seg [box.topLeft, box.top]] ++ ts ++ [seg [box.top, box.topRight]])

/-- box characters never are a line feed -/
def Box.NoNl (b : Box) : Prop :=
  b.topLeft ≠ '\n' ∧ b.top ≠ '\n' ∧ b.topRight ≠ '\n' ∧ b.midLeft ≠ '\n' ∧ b.midRight ≠ '\n' ∧
  b.bottomLeft ≠ '\n' ∧ b.bottom ≠ '\n' ∧ b.bottomRight ≠ '\n'

/-- box characters are one cell wide -/
def Box.Narrow (cw : Char → Nat) (b : Box) : Prop :=
  cw b.topLeft = 1 ∧ cw b.top = 1 ∧ cw b.topRight = 1 ∧ cw b.midLeft = 1 ∧ cw b.midRight = 1 ∧
  cw b.bottomLeft = 1 ∧ cw b.bottom = 1 ∧ cw b.bottomRight = 1

theorem Box.of_all (cw : Char → Nat) {b : Box}
    (h : [b.topLeft, b.top, b.topRight, b.midLeft, b.midRight, b.bottomLeft, b.bottom, b.bottomRight].all
      (fun c => c != '\n' && cw c == 1) = true) : b.NoNl ∧ b.Narrow cw := by
  simp only [List.all_cons, List.all_nil, Bool.and_true, Bool.and_eq_true, bne_iff_ne, ne_eq, beq_iff_eq] at h
  obtain ⟨⟨a1, a2⟩, ⟨b1, b2⟩, ⟨c1, c2⟩, ⟨d1, d2⟩, ⟨e1, e2⟩, ⟨f1, f2⟩, ⟨g1, g2⟩, ⟨h1, h2⟩⟩ := h
  exact ⟨⟨a1, b1, c1, d1, e1, f1, g1, h1⟩, ⟨a2, b2, c2, d2, e2, f2, g2, h2⟩⟩

theorem boxAt_lt {i : Nat} {b : Box} (h : boxAt i = some b) : i < Gen.boxes.length := by
  unfold boxAt at h
  cases hb : Gen.boxes[i]? with
  | none => simp [hb] at h
  | some x => exact (List.getElem?_eq_some_iff.mp hb).1

theorem nlFree_boxRow (bs : Option σ) (n : Int) {x y z : Char} (hx : x ≠ '\n') (hy : y ≠ '\n') (hz : z ≠ '\n') :
    NlFree ([segS bs ([x] ++ rep n y ++ [z])] : List (Segment σ)) := by
  refine nlFree_segS _ _ fun c hc => ?_
  simp only [rep, List.mem_append, List.mem_singleton, List.mem_replicate] at hc
  rcases hc with (rfl | ⟨_, rfl⟩) | rfl <;> assumption

theorem Box.NoNl.top {b : Box} (h : b.NoNl) (bs : Option σ) (n : Int) : NlFree ([segS bs (boxTop b n)] : List (Segment σ)) :=
  nlFree_boxRow bs n h.1 h.2.1 h.2.2.1

theorem Box.NoNl.bottom {b : Box} (h : b.NoNl) (bs : Option σ) (n : Int) : NlFree ([segS bs (boxBottom b n)] : List (Segment σ)) :=
  nlFree_boxRow bs n h.2.2.2.2.2.1 h.2.2.2.2.2.2.1 h.2.2.2.2.2.2.2

theorem Box.NoNl.titled {b : Box} (h : b.NoNl) (bs : Option σ) {ts : List (Segment σ)} (hts : NlFree ts) :
    NlFree ([segS bs [b.topLeft, b.top]] ++ ts ++ [segS bs [b.top, b.topRight]]) := by
  have pair : ∀ x y : Char, x ≠ '\n' → y ≠ '\n' → NlFree ([segS bs [x, y]] : List (Segment σ)) := fun x y hx hy =>
    nlFree_segS _ _ fun c hc => by
      simp only [List.mem_cons, List.not_mem_nil, or_false] at hc
      rcases hc with rfl | rfl <;> assumption
  exact ((pair _ _ h.1 h.2.1).append hts).append (pair _ _ h.2.1 h.2.2.1)

theorem Box.NoNl.row {b : Box} (h : b.NoNl) (bs : Option σ) {l : List (Segment σ)} (hl : NlFree l) :
    NlFree ([segS bs [b.midLeft]] ++ l ++ [segS bs [b.midRight]]) :=
  ((nlFree_segS _ _ fun _ hc => List.mem_singleton.mp hc ▸ h.2.2.2.1).append hl).append
    (nlFree_segS _ _ fun _ hc => List.mem_singleton.mp hc ▸ h.2.2.2.2.1)

theorem simpleChar_ne_nl (c : Char) (h : simpleChar c = true) : c ≠ '\n' := by
  intro heq; subst heq; revert h; decide

/-- `rstrip_end` leaves a text alone that is short enough as it counts (`tl`: characters as found, cells repaired) or has no
trailing blank; else it cuts blanks off the end -/
theorem rstripEnd_eq (cw : Char → Nat) (v : Variant) (plain : List Char) (w : Int) {tl : Int}
    (htl : tl = if v.rstripCountsChars = true then (plain.length : Int) else (cellLen cw plain : Int)) :
    rstripEnd cw v plain w = if tl ≤ w ∨ trailingSpaces plain = 0 then plain
      else plain.take (plain.length - (min (trailingSpaces plain : Int) (tl - w)).toNat) := by
  unfold rstripEnd
  simp only [← htl]
  by_cases h1 : tl ≤ w <;> by_cases h2 : trailingSpaces plain = 0 <;> simp [h1, h2, Int.not_lt.mpr, Int.not_le.mp]

theorem rstripEnd_prefix (cw : Char → Nat) (v : Variant) (plain : List Char) (w : Int) :
    ∃ k, rstripEnd cw v plain w = plain.take k := by
  rw [rstripEnd_eq cw v plain w rfl]
  exact ite_ind (fun r => ∃ k, r = plain.take k) ⟨plain.length, List.take_length.symm⟩ ⟨_, rfl⟩

theorem rstripEnd_id (cw : Char → Nat) (v : Variant) (plain : List Char) (w : Int)
    (h : (if v.rstripCountsChars = true then (plain.length : Int) else (cellLen cw plain : Int)) ≤ w ∨ trailingSpaces plain = 0) :
    rstripEnd cw v plain w = plain := by
  rw [rstripEnd_eq cw v plain w rfl]
  exact if_pos h

theorem textConsoleSimple_eq_some {cw : Char → Nat} {v : Variant} {plain e : List Char} {w : Int} {out : List (Segment σ)} :
    textConsoleSimple cw v plain e w = some out ↔
      (plain.all simpleChar = true ∧ (cellLen cw plain : Int) ≤ w) ∧
      out = (if (rstripEnd cw v plain w).isEmpty then [] else [seg (rstripEnd cw v plain w)])
        ++ (if e.isEmpty then [] else [seg e]) := by
  unfold textConsoleSimple
  simp only [Bool.and_eq_true, decide_eq_true_eq]
  split
  · rename_i hc
    simp only [Option.some.injEq, hc, and_self, true_and]
    exact eq_comm
  · rename_i hc
    simp only [reduceCtorEq, false_iff]
    exact fun h => hc h.1

theorem lineLength_optSeg (cw : Char → Nat) (t : List Char) :
    lineLength cw (if t.isEmpty then [] else [seg t] : List (Segment σ)) = cellLen cw t := by
  split
  · rename_i he
    rw [List.isEmpty_iff.mp he]; rfl
  · exact lineLength_seg cw t

theorem textConsoleSimple_nlFree (cw : Char → Nat) (v : Variant) (plain : List Char) (w : Int) (ts : List (Segment σ))
    (h : textConsoleSimple cw v plain [] w = some ts) : NlFree ts := by
  obtain ⟨⟨hs, _⟩, rfl⟩ := textConsoleSimple_eq_some.mp h
  obtain ⟨k, hk⟩ := rstripEnd_prefix cw v plain w
  refine (ite_ind NlFree NlFree.nil (nlFree_seg _ fun c hc => ?_)).append NlFree.nil
  exact simpleChar_ne_nl c (List.all_eq_true.mp hs c (List.mem_of_mem_take (hk ▸ hc)))

theorem textConsoleSimple_le (cw : Char → Nat) (v : Variant) (plain : List Char) (w : Int) (ts : List (Segment σ))
    (h : textConsoleSimple cw v plain [] w = some ts) : lineLength cw ts ≤ cellLen cw plain := by
  obtain ⟨_, rfl⟩ := textConsoleSimple_eq_some.mp h
  obtain ⟨k, hk⟩ := rstripEnd_prefix cw v plain w
  rw [lineLength_append, lineLength_optSeg, hk]
  exact cellLen_le_of_infix cw (List.take_prefix k plain).isInfix

/-- `rstrip_end` strips nothing: the repaired one (fix f5f2be9) never does inside the domain, where the text fits; the one of
rich 9.10.0 as found counts characters, so the text must have no more characters than cells available, or no trailing blank -/
theorem textConsoleSimple_unstripped {cw : Char → Nat} {v : Variant} {plain e : List Char} {w : Int} {out : List (Segment σ)}
    (h : textConsoleSimple cw v plain e w = some out)
    (hns : v.rstripCountsChars = true → (plain.length : Int) ≤ w ∨ trailingSpaces plain = 0) :
    out = (if plain.isEmpty then [] else [seg plain]) ++ (if e.isEmpty then [] else [seg e]) := by
  obtain ⟨⟨_, hfit⟩, rfl⟩ := textConsoleSimple_eq_some.mp h
  rw [rstripEnd_id]
  cases hv : v.rstripCountsChars
  · exact Or.inl hfit
  · exact hns hv

theorem textConsoleSimple_of_fits (cw : Char → Nat) (v : Variant) (plain : List Char) (w : Int) (ts : List (Segment σ))
    (h : textConsoleSimple cw v plain [] w = some ts) (hlen : v.rstripCountsChars = true → (plain.length : Int) ≤ w) :
    lineLength cw ts = cellLen cw plain := by
  rw [textConsoleSimple_unstripped h fun hv => Or.inl (hlen hv), lineLength_append, lineLength_optSeg]
  rfl

theorem emits_panelBody (bs : Option σ) {box : Box} (hnn : box.NoNl) (cwid : Int) (L : List (List (Segment σ)))
    (hL : ∀ l ∈ L, NlFree l) :
    Emits (L.flatMap (fun l => [segS bs [box.midLeft]] ++ l ++ [segS bs [box.midRight]] ++ [nl])
        ++ [segS bs (boxBottom box cwid), nl])
      (L.map (fun l => [segS bs [box.midLeft]] ++ l ++ [segS bs [box.midRight]]) ++ [[segS bs (boxBottom box cwid)]]) :=
  (Emits.lines fun l hl => hnn.row bs (hL l hl)).append (Emits.line (hnn.bottom bs cwid))

/-- `h` is the last step of `Panel.__rich_console__` as the model writes it (nothing if the title could not be rendered), so
that a caller can hand over the unfolded `panelConsole` equation -/
theorem emits_panel (bs : Option σ) {box : Box} (hnn : box.NoNl) (cwid : Int) (L : List (List (Segment σ)))
    (hL : ∀ l ∈ L, NlFree l) (top? : Option (List (Segment σ))) (htop : ∀ t, top? = some t → NlFree t)
    (out : List (Segment σ))
    (h : (match top? with
      | none => (.ok none : Except PyErr (Option (List (Segment σ))))
      | some top => .ok (some (top ++ [nl]
          ++ L.flatMap (fun l => [segS bs [box.midLeft]] ++ l ++ [segS bs [box.midRight]] ++ [nl])
          ++ [segS bs (boxBottom box cwid), nl]))) = .ok (some out)) :
    ∃ top, top? = some top ∧
      Emits out ([top] ++ L.map (fun l => [segS bs [box.midLeft]] ++ l ++ [segS bs [box.midRight]])
        ++ [[segS bs (boxBottom box cwid)]]) := by
  cases top? with
  | none => cases h
  | some top =>
    refine ⟨top, rfl, ?_⟩
    rw [← Option.some.inj (Except.ok.inj h), List.append_assoc, List.append_assoc ([top])]
    exact (Emits.line (htop _ rfl)).append (emits_panelBody bs hnn cwid L hL)

theorem panelTopLine_eq_some {cw : Char → Nat} {env : Env} {v : Variant} {o : PanelOpts} {box : Box} {cwid : Int}
    {top : List (Segment σ)} (h : panelTopLine cw env v o box cwid = some top) :
    (o.title = [] ∧ top = [seg (boxTop box cwid)]) ∨
    ∃ t ts, o.title ≠ [] ∧ panelTitle o.title = some t ∧
      textConsoleSimple cw v (textAlign cw t o.titleAlign (cwid - 2) box.top) [] (env.consoleWidth : Int) = some ts ∧
      top = [seg [box.topLeft, box.top]] ++ ts ++ [seg [box.top, box.topRight]] := by
  unfold panelTopLine at h
  cases hT : panelTitle o.title with
  | none =>
    rw [hT] at h
    refine Or.inl ⟨?_, (Option.some.inj h).symm⟩
    cases ht : o.title with
    | nil => rfl
    | cons a b => simp [panelTitle, ht] at hT
  | some t =>
    simp only [hT] at h
    have hne : o.title ≠ [] := by intro he; simp [panelTitle, he] at hT
    cases hts : textConsoleSimple (σ := σ) cw v (textAlign cw t o.titleAlign (cwid - 2) box.top) [] (env.consoleWidth : Int) with
    | none => simp [hts] at h
    | some ts =>
      simp only [hts, Option.some.injEq] at h
      exact Or.inr ⟨t, ts, hne, rfl, hts, h.symm⟩

theorem panelTopLine_nlFree (cw : Char → Nat) (env : Env) (v : Variant) (o : PanelOpts) {box : Box} (hnn : box.NoNl)
    (cwid : Int) (top : List (Segment σ)) (h : panelTopLine cw env v o box cwid = some top) : NlFree top := by
  rcases panelTopLine_eq_some h with ⟨_, rfl⟩ | ⟨t, ts, _, _, hts, rfl⟩
  · exact hnn.top none cwid
  · exact hnn.titled none (textConsoleSimple_nlFree cw v _ _ ts hts)

theorem panelConsole_emits (cw : Char → Nat) (env : Env) (v : Variant)
    (o : PanelOpts) (c : Child σ) (w : Int) (p : PadDims) (box : Box) (out : List (Segment σ))
    (hp : unpackPad o.padding = .ok p)
    (hb : boxAt (substituteBox env (o.safeBox.getD env.safeBox) o.box) = some box) (hnn : box.NoNl)
    (h : panelConsole cw env v o c w = .ok (some out)) :
    ∃ top, panelTopLine cw env v o box (panelChildWidth cw v o (panelInner cw v p c) w) = some top ∧
      Emits out ([top]
        ++ ((panelInner cw v p c).linesAt cw (panelChildWidth cw v o (panelInner cw v p c) w) true).map
            (fun l => [seg [box.midLeft]] ++ l ++ [seg [box.midRight]])
        ++ [[seg (boxBottom box (panelChildWidth cw v o (panelInner cw v p c) w))]]) := by
  unfold panelConsole at h
  simp only [hp, hb] at h
  generalize panelChildWidth cw v o (panelInner cw v p c) w = cwid at h ⊢
  simp only [show cwid + 2 - 2 = cwid by omega, show cwid + 2 - 4 = cwid - 2 by omega] at h
  exact emits_panel none hnn cwid _ (linesAt_nlFree cw _ cwid true)
    (panelTopLine cw env v o box cwid) (panelTopLine_nlFree cw env v o hnn cwid) out h

theorem panelConsole_lines (cw : Char → Nat) (env : Env) (v : Variant)
    (o : PanelOpts) (c : Child σ) (w : Int) (p : PadDims) (box : Box) (out : List (Segment σ))
    (hp : unpackPad o.padding = .ok p)
    (hb : boxAt (substituteBox env (o.safeBox.getD env.safeBox) o.box) = some box) (hnn : box.NoNl)
    (h : panelConsole cw env v o c w = .ok (some out)) :
    ∃ top, panelTopLine cw env v o box (panelChildWidth cw v o (panelInner cw v p c) w) = some top ∧
      splitLines out = [top]
        ++ ((panelInner cw v p c).linesAt cw (panelChildWidth cw v o (panelInner cw v p c) w) true).map
            (fun l => [seg [box.midLeft]] ++ l ++ [seg [box.midRight]])
        ++ [[seg (boxBottom box (panelChildWidth cw v o (panelInner cw v p c) w))]] :=
  (panelConsole_emits cw env v o c w p box out hp hb hnn h).imp fun _ h => ⟨h.1, h.2.splitLines⟩

theorem setCellSizeI_cellLen (cw : Char → Nat) (hsp : cw ' ' = 1) (h2 : ∀ c, cw c ≤ 2) (t : List Char) (n : Int)
    (hn : 0 ≤ n) : cellLen cw (setCellSizeI cw t n) = n.toNat := by
  unfold setCellSizeI
  rw [if_neg (by omega)]
  exact (setCellSize_exact cw hsp h2 t n.toNat).1

theorem textTruncate_fold_le (cw : Char → Nat) (hsp : cw ' ' = 1) (h2 : ∀ c, cw c ≤ 2) (plain : List Char) (w : Int)
    (hw : 0 ≤ w) : (cellLen cw (textTruncate cw plain w .fold) : Int) ≤ w := by
  unfold textTruncate
  rw [if_neg (by decide)]
  split
  · rw [if_neg (by decide), setCellSizeI_cellLen cw hsp h2 plain w hw]; omega
  · omega

theorem textAlign_neg (cw : Char → Nat) (plain : List Char) (a : AlignM) (width : Int) (ch : Char) (hw : width < 0) :
    textAlign cw plain a width ch = [] := by
  unfold textAlign textTruncate
  simp only [show (Overflow.fold == Overflow.ignore) = false from rfl, show (Overflow.fold == Overflow.ellipsis) = false from rfl,
    Bool.false_eq_true, if_false]
  have hgt : (cellLen cw plain : Int) > width := by omega
  have hs : setCellSizeI cw plain width = [] := by unfold setCellSizeI; rw [if_pos hw]
  simp only [hgt, if_true, hs, cellLen_nil]
  have hr : ∀ n : Int, n ≤ 0 → rep n ch = [] := by
    intro n hn
    unfold rep
    rw [show n.toNat = 0 by omega]; rfl
  split
  · cases a <;> simp only
    · rw [hr _ (by omega)]; rfl
    · rw [hr _ (by omega), hr _ (by omega)]; rfl
    · rw [hr _ (by omega)]; rfl
  · rfl

theorem textAlign_cellLen (cw : Char → Nat) (hsp : cw ' ' = 1) (h2 : ∀ c, cw c ≤ 2) (plain : List Char) (a : AlignM)
    (width : Int) (ch : Char) (hch : cw ch = 1) :
    cellLen cw (textAlign cw plain a width ch) = width.toNat := by
  by_cases hw : 0 ≤ width
  case neg => rw [textAlign_neg cw plain a width ch (by omega), cellLen_nil]; omega
  have hp := textTruncate_fold_le cw hsp h2 plain width hw
  unfold textAlign
  generalize textTruncate cw plain width .fold = p at hp ⊢
  dsimp only
  generalize he : width - (cellLen cw p : Int) = e
  have he0 : 0 ≤ e := by omega
  -- compare as integers: every count below is non-negative
  apply Int.natCast_inj.mp
  rw [Int.toNat_of_nonneg hw]
  split
  · cases a <;>
      simp only [cellLen_append, cellLen_rep cw _ ch hch, Int.natCast_add, Int.toNat_of_nonneg he0,
        Int.toNat_of_nonneg (Int.ediv_nonneg he0 (by decide : (0 : Int) ≤ 2)),
        Int.toNat_of_nonneg (show 0 ≤ e - e / 2 by omega)] <;> omega
  · rename_i h0
    simp only [bne_iff_ne, ne_eq, Decidable.not_not] at h0
    omega

theorem cellLen_boxRow (cw : Char → Nat) (a b z : Char) (ha : cw a = 1) (hb : cw b = 1) (hz : cw z = 1) (n : Int) :
    cellLen cw ([a] ++ rep n b ++ [z]) = n.toNat + 2 := by
  rw [cellLen_append, cellLen_append, cellLen_rep cw n b hb]
  simp [cellLen, ha, hz]; omega

theorem lineLength_boxRow (cw : Char → Nat) (a b z : Char) (ha : cw a = 1) (hb : cw b = 1) (hz : cw z = 1) (n : Int) :
    lineLength cw ([seg ([a] ++ rep n b ++ [z])] : List (Segment σ)) = n.toNat + 2 := by
  rw [lineLength_seg, cellLen_boxRow cw a b z ha hb hz]

theorem Box.Narrow.cellLen_boxTop {cw : Char → Nat} {b : Box} (h : b.Narrow cw) (n : Int) :
    cellLen cw (boxTop b n) = n.toNat + 2 :=
  cellLen_boxRow cw _ _ _ h.1 h.2.1 h.2.2.1 n

theorem Box.Narrow.cellLen_boxBottom {cw : Char → Nat} {b : Box} (h : b.Narrow cw) (n : Int) :
    cellLen cw (boxBottom b n) = n.toNat + 2 :=
  cellLen_boxRow cw _ _ _ h.2.2.2.2.2.1 h.2.2.2.2.2.2.1 h.2.2.2.2.2.2.2 n

theorem Box.Narrow.lineLength_titled {cw : Char → Nat} {b : Box} (h : b.Narrow cw) (bs : Option σ) (ts : List (Segment σ)) :
    lineLength cw ([segS bs [b.topLeft, b.top]] ++ ts ++ [segS bs [b.top, b.topRight]]) = lineLength cw ts + 4 := by
  rw [lineLength_append, lineLength_append]
  simp only [lineLength_segS, cellLen_cons, cellLen_nil, h.1, h.2.1, h.2.2.1]
  omega

/-- cells of a panel's top line for child width `cwid`: the border, or the title part of `cwid − 2` cells between two
corner pieces of two cells -/
def panelTopCells (o : PanelOpts) (cwid : Int) : Nat :=
  if o.title = [] then cwid.toNat + 2 else (cwid - 2).toNat + 4

theorem panelTopCells_eq (o : PanelOpts) (cwid : Int) (hmin : 0 ≤ cwid) (hmint : o.title ≠ [] → 2 ≤ cwid) :
    panelTopCells o cwid = (cwid + 2).toNat := by
  unfold panelTopCells
  split
  · omega
  · rename_i hne
    have := hmint hne
    omega

theorem panelBody_width (cw : Char → Nat) {box : Box} (hnar : box.Narrow cw) (bs : Option σ) (cwid : Int)
    (rows : List (List (Segment σ))) (hrows : ∀ l ∈ rows, lineLength cw l = cwid.toNat) :
    ∀ l ∈ rows.map (fun l => [segS bs [box.midLeft]] ++ l ++ [segS bs [box.midRight]]) ++ [[segS bs (boxBottom box cwid)]],
      lineLength cw l = cwid.toNat + 2 := by
  intro l hl
  rcases List.mem_append.mp hl with hl | hl
  · obtain ⟨l0, hl0, rfl⟩ := List.mem_map.mp hl
    rw [lineLength_append, lineLength_append, hrows l0 hl0]
    simp only [lineLength_segS, cellLen_cons, cellLen_nil, hnar.2.2.2.1, hnar.2.2.2.2.1]
    omega
  · rw [List.mem_singleton.mp hl, lineLength_segS, hnar.cellLen_boxBottom]

/-- the top line is exactly `panelTopCells` when `rstrip_end` strips nothing from the aligned title (never in the repaired
code; as found it needs the title to have no more characters than the console is wide) -/
theorem panelLines_width (cw : Char → Nat) (hsp : cw ' ' = 1) (h2 : ∀ c, cw c ≤ 2) (env : Env) (v : Variant) (o : PanelOpts)
    {box : Box} (hnar : box.Narrow cw) (cwid : Int) (top : List (Segment σ)) (rows : List (List (Segment σ)))
    (htop : panelTopLine cw env v o box cwid = some top) (hrows : ∀ l ∈ rows, lineLength cw l = cwid.toNat) :
    (∀ l ∈ rows.map (fun l => [seg [box.midLeft]] ++ l ++ [seg [box.midRight]]) ++ [[seg (boxBottom box cwid)]],
      lineLength cw l = cwid.toNat + 2) ∧
    lineLength cw top ≤ panelTopCells o cwid ∧
    ((v.rstripCountsChars = true → ∀ t, panelTitle o.title = some t →
        ((textAlign cw t o.titleAlign (cwid - 2) box.top).length : Int) ≤ env.consoleWidth) →
      lineLength cw top = panelTopCells o cwid) := by
  refine ⟨panelBody_width cw hnar none cwid rows hrows, ?_⟩
  · unfold panelTopCells
    rcases panelTopLine_eq_some htop with ⟨ht, rfl⟩ | ⟨t, ts, hne, hT, hts, rfl⟩
    · rw [if_pos ht, lineLength_seg, hnar.cellLen_boxTop]
      exact ⟨Nat.le_refl _, fun _ => rfl⟩
    · have hle := textConsoleSimple_le cw v _ _ ts hts
      rw [textAlign_cellLen cw hsp h2 t _ _ _ hnar.2.1] at hle
      rw [if_neg hne, show lineLength cw ([seg [box.topLeft, box.top]] ++ ts ++ [seg [box.top, box.topRight]]) = _ from
        hnar.lineLength_titled none ts]
      refine ⟨by omega, fun htl => ?_⟩
      rw [textConsoleSimple_of_fits cw v _ _ ts hts (fun hv => htl hv t hT), textAlign_cellLen cw hsp h2 t _ _ _ hnar.2.1]

/-- the 3: `fitWidth` gives at least one cell to a panel that does not expand -/
theorem panelChildW0_le (v : Variant) (expand : Bool) (inner : Child σ) (w width : Int) (hw : width ≤ w)
    (hm : ∀ k : Int, (inner.measureAt k).maximum ≤ max k 0) :
    (if expand then width - 2 else fitWidth v (inner.measureAt (width - 2)).maximum) + 2 ≤ max w 3 := by
  split
  · omega
  · have := hm (width - 2)
    unfold fitWidth; split <;> omega

theorem panelChildWidth_le (cw : Char → Nat) (v : Variant) (o : PanelOpts) (inner : Child σ) (w : Int) (hw : 3 ≤ w)
    (hm : ∀ k : Int, (inner.measureAt k).maximum ≤ max k 0) :
    panelChildWidth cw v o inner w + 2 ≤ w := by
  unfold panelChildWidth
  cases o.width with
  | none =>
    have := panelChildW0_le v o.expand inner w w (Int.le_refl _) hm
    cases panelTitle o.title <;> simp only <;> omega
  | some pw =>
    have := panelChildW0_le v o.expand inner w (min w pw) (Int.min_le_left _ _) hm
    cases panelTitle o.title <;> simp only <;> omega

/-! ## Align -/

theorem le_shapeWidth (cw : Char → Nat) (lines : List (List (Segment σ))) (l : List (Segment σ)) (h : l ∈ lines) :
    lineLength cw l ≤ shapeWidth cw lines :=
  (getShape_spec cw lines).2 l h

theorem shape_foldl_max_le (l : List Nat) (a b : Nat) (ha : a ≤ b) (h : ∀ x ∈ l, x ≤ b) : l.foldl max a ≤ b := by
  induction l generalizing a with
  | nil => exact ha
  | cons y l ih =>
    simp only [List.foldl_cons]
    apply ih
    · have := h y (by simp); omega
    · intro x hx; exact h x (by simp [hx])

theorem shapeWidth_le (cw : Char → Nat) (lines : List (List (Segment σ))) (b : Nat)
    (h : ∀ l ∈ lines, lineLength cw l ≤ b) : shapeWidth cw lines ≤ b := by
  apply shape_foldl_max_le _ 0 b (Nat.zero_le _)
  intro x hx
  simp only [List.mem_map] at hx
  obtain ⟨l, hl, rfl⟩ := hx
  exact h l hl

/-- the width `Align` renders its child at: `min(measured, self.width)` clipped to `options.max_width` -/
def alignInnerWidth (env : Env) (v : Variant) (o : AlignOpts) (c : Child σ) (w : Int) : Int :=
  let measured : Int := fitWidth v (c.measureAt env.consoleWidth).maximum
  min (match o.width with | none => measured | some aw => min measured aw) w

/-- the child's own lines at that width (`split_lines` of its rendering, nothing cropped or padded) -/
def alignChildLines (env : Env) (v : Variant) (o : AlignOpts) (c : Child σ) (w : Int) : List (List (Segment σ)) :=
  splitLines (c.renderAt (alignInnerWidth env v o c w))

/-- the padding segments put left and right of every line -/
def alignPads (o : AlignOpts) (excess : Int) : List (Segment σ) × List (Segment σ) :=
  if excess ≤ 0 then ([], [])
  else match o.align with
    | .left => ([], if o.pad then [seg (rep excess ' ')] else [])
    | .center => (if excess / 2 != 0 then [seg (rep (excess / 2) ' ')] else [],
                  if o.pad then [seg (rep (excess - excess / 2) ' ')] else [])
    | .right => ([seg (rep excess ' ')], [])

/-- the lines `Align` draws: the child's own lines, each brought to the common width, between the pads -/
def alignLines (cw : Char → Nat) (env : Env) (v : Variant) (o : AlignOpts) (c : Child σ) (w : Int) :
    List (List (Segment σ)) :=
  let L := alignChildLines env v o c w
  let sw := shapeWidth cw L
  let pads : List (Segment σ) × List (Segment σ) := alignPads o (w - sw)
  (L.map (fun l => adjustLineLength cw l sw none)).map (fun l => pads.1 ++ l ++ pads.2)

/-- the same with the style of the cells `Align` adds -/
def alignPadsS (o : AlignOpts) (style : Option σ) (excess : Int) : List (Segment σ) × List (Segment σ) :=
  if excess ≤ 0 then ([], [])
  else match o.align with
    | .left => ([], if o.pad then [segS style (rep excess ' ')] else [])
    | .center => (if excess / 2 != 0 then [segS style (rep (excess / 2) ' ')] else [],
                  if o.pad then [segS style (rep (excess - excess / 2) ' ')] else [])
    | .right => ([segS style (rep excess ' ')], [])

/-- the four branches of `Align.__rich_console__` put the same two pads around every line (`alignPads` is the case
`st = none`) -/
theorem emits_aligned (cw : Char → Nat) (o : AlignOpts) (st : Option σ) (e : Int)
    (L : List (List (Segment σ))) (n : Nat) (hL : ∀ l ∈ L, NlFree l) :
    let L' := L.map (fun l => adjustLineLength cw l n none)
    Emits (if e ≤ 0 then L'.flatMap (fun l => l ++ [nl])
     else match o.align with
       | .left => L'.flatMap (fun l => l ++ (if o.pad then [segS st (rep e ' ')] else []) ++ [nl])
       | .center => L'.flatMap (fun l => (if e / 2 != 0 then [segS st (rep (e / 2) ' ')] else []) ++ l
            ++ (if o.pad then [segS st (rep (e - e / 2) ' ')] else []) ++ [nl])
       | .right => L'.flatMap (fun l => [segS st (rep e ' ')] ++ l ++ [nl]))
      (L'.map (fun l => (alignPadsS o st e).1 ++ l ++ (alignPadsS o st e).2)) := by
  intro L'
  have hL' : ∀ l ∈ L', NlFree l := fun l hl => by
    obtain ⟨l0, hl0, rfl⟩ := List.mem_map.mp hl
    exact adjust_nlFree cw _ _ _ _ (hL l0 hl0)
  have hopt := fun (k : Int) (p : Prop) [Decidable p] => nlFree_optBlank st k p
  unfold alignPadsS
  by_cases he : e ≤ 0
  · simp only [he, if_true, List.nil_append, List.append_nil]
    exact Emits.lines hL'
  · simp only [he, if_false]
    cases o.align <;> simp only [List.nil_append, List.append_nil]
    · exact Emits.lines fun l hl => (hL' l hl).append (hopt _ _)
    · exact Emits.lines fun l hl => ((hopt _ _).append (hL' l hl)).append (hopt _ _)
    · exact Emits.lines fun l hl => (nlFree_segS st _ (rep_no_nl e)).append (hL' l hl)

theorem alignConsole_emits (cw : Char → Nat) (env : Env) (v : Variant)
    (o : AlignOpts) (c : Child σ) (w : Int) :
    Emits (alignConsole cw env v o c w) (alignLines cw env v o c w) := by
  simp only [alignConsole, setShape_fit cw _ _ (some _) none (Nat.le_refl _)]
  exact emits_aligned cw o none _ _ _ (splitLines_nlFree _)

theorem alignConsole_lines (cw : Char → Nat) (env : Env) (v : Variant)
    (o : AlignOpts) (c : Child σ) (w : Int) :
    splitLines (alignConsole cw env v o c w) = alignLines cw env v o c w :=
  (alignConsole_emits cw env v o c w).splitLines

/-- cells added by the pads: the whole excess when padding (or right-aligning), the left half when
centring without padding, nothing when left-aligning without padding -/
def alignPadCells (o : AlignOpts) (e : Int) : Int :=
  if e ≤ 0 then 0
  else match o.align with
    | .left => if o.pad then e else 0
    | .center => if o.pad then e else e / 2
    | .right => e

theorem alignPadCells_le (o : AlignOpts) (e : Int) : alignPadCells o e ≤ max e 0 := by
  unfold alignPadCells
  split
  · omega
  · cases o.align <;> cases o.pad <;> simp only [Bool.false_eq_true, if_false, if_true] <;> omega

theorem alignPadCells_full (o : AlignOpts) (e : Int) (h : o.pad = true ∨ o.align = .right) (he : 0 ≤ e) :
    alignPadCells o e = e := by
  unfold alignPadCells
  split
  · omega
  · rcases h with hp | hr
    · cases o.align <;> simp only [hp, if_true]
    · simp only [hr]

theorem lineLength_alignPads (cw : Char → Nat) (hsp : cw ' ' = 1) (o : AlignOpts) (e : Int) :
    (lineLength cw (alignPads o e : List (Segment σ) × List (Segment σ)).1 : Int) +
      lineLength cw (alignPads o e : List (Segment σ) × List (Segment σ)).2 = alignPadCells o e := by
  have hopt : ∀ n : Int, lineLength cw (if (n != 0) = true then [(seg (rep n ' ') : Segment σ)] else []) = n.toNat :=
    fun n => lineLength_optBlank cw hsp none n fun h => Int.le_of_eq (by simpa using h)
  unfold alignPads alignPadCells
  split
  · rfl
  · rename_i he
    have h1 := Int.toNat_of_nonneg (show 0 ≤ e by omega)
    have h2 := Int.toNat_of_nonneg (show 0 ≤ e / 2 by omega)
    have h3 := Int.toNat_of_nonneg (show 0 ≤ e - e / 2 by omega)
    cases o.align <;> cases o.pad <;>
      simp only [hopt, lineLength_seg, cellLen_rep cw _ ' ' hsp, lineLength_nil, Bool.false_eq_true, if_true, if_false,
        h1, h2, h3] <;>
      omega

theorem alignConsole_rect (cw : Char → Nat) (hsp : cw ' ' = 1) (h2 : ∀ c, cw c ≤ 2) (env : Env) (v : Variant) (o : AlignOpts)
    (c : Child σ) (w : Int) :
    let L := alignChildLines env v o c w
    let sw := shapeWidth cw L
    splitLines (alignConsole cw env v o c w) = alignLines cw env v o c w ∧
    (alignLines cw env v o c w).length = L.length ∧
    (∀ l ∈ alignLines cw env v o c w, (lineLength cw l : Int) = sw + alignPadCells o (w - sw)) ∧
    ((o.pad = true ∨ o.align = .right) → (sw : Int) ≤ w →
      ∀ l ∈ alignLines cw env v o c w, (lineLength cw l : Int) = w) ∧
    (∀ l ∈ L, stream (adjustLineLength cw l sw none) = stream l ++ List.replicate (sw - lineLength cw l) (' ', none, false)) := by
  dsimp only
  have hw : ∀ l ∈ alignLines cw env v o c w, (lineLength cw l : Int) =
      shapeWidth cw (alignChildLines env v o c w) + alignPadCells o (w - shapeWidth cw (alignChildLines env v o c w)) := by
    intro l hl
    simp only [alignLines, List.mem_map] at hl
    obtain ⟨l1, ⟨l0, _, rfl⟩, rfl⟩ := hl
    rw [lineLength_append, lineLength_append, adjust_exact cw hsp h2 l0 _ none true (Or.inl rfl)]
    have := lineLength_alignPads (σ := σ) cw hsp o (w - shapeWidth cw (alignChildLines env v o c w))
    omega
  refine ⟨alignConsole_lines cw env v o c w, by simp [alignLines], hw, ?_, ?_⟩
  · intro hpad hle l hl
    rw [hw l hl, alignPadCells_full o _ hpad (by omega)]
    omega
  · intro l hl
    exact adjust_pad_stream cw l _ none (le_shapeWidth cw _ l hl)

end RichModel.Frames
