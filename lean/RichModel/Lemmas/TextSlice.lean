import RichModel.Lemmas.TextDivide
/-!
Indexing and slicing: `text[i]` from the constructor, `text[a:b]` and `text[a:b:step]` on top of `divide_view`
(`Lemmas/TextDivide.lean`).
-/
namespace RichModel
namespace Text
variable {σ : Type}

/-- the spans `text[idx]` keeps are those that cover `idx`, each as `(0, 1)`, which covers position 0 -/
theorem spanIds_getItem (spans : List (Span σ)) (idx : Nat) :
    spanIds ((spans.filter (fun sp => decide (sp.stop > (idx : Int)) && decide ((idx : Int) ≥ sp.start))).map
      (fun sp => (⟨0, 1, sp.style⟩ : Span σ))) 0 = spanIds spans idx := by
  unfold spanIds
  rw [List.filter_map, List.map_map, List.filter_filter]
  refine congrArg (List.map _) (List.filter_congr fun sp _ => ?_)
  simp only [Function.comp_apply, Span.covers]
  rw [Bool.eq_iff_iff]; simp only [Bool.and_eq_true, decide_eq_true_eq]; omega

/-- `text[i]` for every `int` inside the range, `text[k]` and `text[k - len]` alike: the character at `k` with the effective
style it had -/
theorem view_getItem (null : σ) (t : Text σ) (i : Int) (k : Nat) (hk : k < t.plain.length)
    (hi : i = (k : Int) ∨ i = (k : Int) - (t.plain.length : Int)) (h : Inv t) :
    ∃ u, t.getItem Variant.repaired null i = .ok u ∧ Inv u ∧ u.view = [(t.plain.getD k ' ', t.effStyle k)] := by
  have hc : isStripCode (t.plain.getD k ' ') = false := by
    have : t.plain.getD k ' ' = t.plain[k] := by simp [List.getD, hk]
    rw [this]; exact h.2.1 _ (List.getElem_mem hk)
  have hidx : (if i < 0 then i + (t.plain.length : Int) else i) = (k : Int) := by
    rcases hi with rfl | rfl
    · rw [if_neg (by omega)]
    · rw [if_pos (by omega)]; omega
  unfold getItem
  simp only [Variant.repaired, Bool.false_eq_true, if_false]
  rw [if_neg (by simp; omega), hidx]
  simp only [Int.toNat_natCast]
  have hs : stripControl [t.plain.getD k ' '] = [t.plain.getD k ' '] :=
    stripControl_id _ (fun c hcm => List.mem_singleton.1 hcm ▸ hc)
  refine ⟨_, rfl, ?_, ?_⟩
  · apply inv_new
    rw [hs]
    intro sp hsp
    obtain ⟨s0, _, rfl⟩ := List.mem_map.1 hsp
    simp
  · rw [view_new, hs]
    simp only [annot, effStyle]
    rw [spanIds_getItem]

theorem sliceIndices_le (n : Nat) (a b : Option Int) :
    (Py.sliceIndices n a b).1 ≤ n ∧ (Py.sliceIndices n a b).2 ≤ n := by
  have hc : ∀ i : Int, Py.clampIdx n i ≤ n := fun i => by unfold Py.clampIdx; split <;> omega
  unfold Py.sliceIndices
  constructor
  · cases a with
    | none => simp
    | some x => simpa using hc x
  · cases b with
    | none => simp
    | some x => simpa using hc x

/-- a line `[s, e)` with `e ≤ s` gets no span: every entry of the stack at its beginning starts at or after `s` -/
theorem lineSpans_reversed (spans : List (Span σ)) (s : Nat) (e : Int) (todo : List (Nat × Span σ))
    (hT : TodoInv spans s todo) (hes : e ≤ (s : Int)) : lineSpans (s : Int) e todo = [] := by
  cases todo with
  | nil => rfl
  | cons p ps =>
    obtain ⟨o, _, _, _, hstart, _⟩ := hT.entry p (by simp)
    have : ¬ (p.2.start < e) := by omega
    simp [lineSpans, this, Py.sortByKey]

/-- `divide([s, e])` with `e < s` (what `text[a:b]` asks for when the bounds normalise to `stop < start`):
the middle line is the empty text, with no spans -/
theorem divide_reversed_middle [BEq σ] (t : Text σ) (s e : Nat) (h : Inv t) (hes : e < s) :
    ∃ l0 l2 rest, t.divide Variant.repaired [s, e] =
      .ok (l0 :: { lineOf t ((s : Int), (e : Int)) with spans := [] } :: l2 :: rest) := by
  rw [divide_repaired]
  simp only [rangesFrom, List.map_cons, List.map_nil]
  rw [divLines_cons _ _ _ _ _ (lineOf_spans t _), divLines_cons _ _ _ _ _ (lineOf_spans t _),
    divLines_cons _ _ _ _ _ (lineOf_spans t _)]
  have hT1 := todoInv_next t.spans 0 s (Nat.zero_le _) _ (todoInv_init t h)
  rw [lineSpans_reversed t.spans s (e : Int) _ hT1 (by omega)]
  exact ⟨_, _, _, rfl⟩

/-- **`text[a:b]` is the slice of the styled string**, for every pair of bounds — `None`, negative, beyond
either end, and bounds that normalise to `stop < start` (empty result), exactly as for `str`. -/
theorem getSlice_view_all [BEq σ] (t : Text σ) (a b : Option Int) (h : Inv t) :
    ∃ u, t.getSlice Variant.repaired a b = .ok u ∧ Inv u ∧ u.style = t.style ∧
      u.view = (t.view.drop (Py.sliceIndices t.plain.length a b).1).take
        ((Py.sliceIndices t.plain.length a b).2 - (Py.sliceIndices t.plain.length a b).1) := by
  obtain ⟨h1, h2⟩ := sliceIndices_le t.plain.length a b
  unfold getSlice
  generalize Py.sliceIndices t.plain.length a b = se at h1 h2 ⊢
  obtain ⟨s, e⟩ := se
  simp only [] at h1 h2 ⊢
  by_cases hse : s ≤ e
  · -- bounds in order: the middle one of the three lines of `divide([s, e])`
    obtain ⟨lines, hdiv, hview, _, hall⟩ := divide_view t [s, e] h ⟨Nat.zero_le _, hse, trivial⟩
      (fun o ho => by simp only [List.mem_cons, List.not_mem_nil, or_false] at ho; rcases ho with rfl | rfl <;> assumption)
    rw [hdiv]
    obtain ⟨l0, r0, rfl, -, hr0⟩ := List.map_eq_cons_iff.1 hview
    obtain ⟨l1, r1, rfl, hv1, -⟩ := List.map_eq_cons_iff.1 hr0
    have hl1 := hall l1 (List.mem_cons_of_mem _ List.mem_cons_self)
    exact ⟨l1, rfl, hl1.1, hl1.2.1, hv1⟩
  · obtain ⟨l0, l2, rest, hdiv⟩ := divide_reversed_middle t s e h (by omega)
    rw [hdiv]
    have hz : e - s = 0 := by omega
    refine ⟨_, rfl, inv_new _ _ _ _ _ _ _ _ (SpansIn.nil _), rfl, ?_⟩
    show (lineOf t ((s : Int), (e : Int))).view = _
    rw [view_eq_annot, lineOf_plain t h, hz]
    rfl

theorem getSliceStep_spec [BEq σ] (t : Text σ) (a b step : Option Int) :
    t.getSliceStep Variant.repaired a b step =
      (if step = some 0 then .error .valueError
       else if step = none ∨ step = some 1 then t.getSlice Variant.repaired a b
       else .error .typeError) := by
  unfold getSliceStep
  cases step with
  | none => simp
  | some k =>
    by_cases h0 : k = 0
    · subst h0; simp
    · by_cases h1 : k = 1
      · subst h1; simp
      · simp [h0, h1]

end Text
end RichModel
