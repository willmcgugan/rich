import RichModel.Lemmas.MarkupSem
/-! What the render loop keeps true: the relation `Describes st abs ann`.  The loop's state (`style_stack` with offsets, span slots) is
described by one list `abs`: every tag opened so far, in opening order, with the text offset at which
it was closed, if it was.  The stack is the open entries, the slots are the spans of the closed ones,
and the tags open at a character are the entries covering its offset. -/
namespace RichModel.Markup

/-- an entry of `abs`: the `style_stack` entry of an opening tag, and the offset at which it was closed, if it was -/
abbrev OpenedTag := Ent × Option Nat

/-- not closed yet -/
def isOpen (a : OpenedTag) : Bool := a.2.isNone

/-- `style_stack`, top first: the entries still open, the one opened last in front -/
def openStack (abs : List OpenedTag) : List Ent := ((abs.filter isOpen).map (·.1)).reverse

/-- the span of a closed entry, `none` while it is open -/
def toSlot (a : OpenedTag) : Option Span := a.2.map (fun s => { start := a.1.start, stop := s, style := a.1.tag.str })

/-- the span slots: one per opening tag, filled with its span once it is closed -/
def slotsOf (abs : List OpenedTag) : List (Option Span) := abs.map toSlot

/-- an entry sits at the position its `idx` names -/
def IdxOk (abs : List OpenedTag) : Prop := ∀ (i : Nat) (e : Ent) (s : Option Nat), abs[i]? = some (e, s) → e.idx = i

theorem openStack_snoc (abs : List OpenedTag) (x : OpenedTag) :
    openStack (abs ++ [x]) = if isOpen x then x.1 :: openStack abs else openStack abs := by
  unfold openStack
  by_cases h : isOpen x = true <;> simp [List.filter_append, h]

theorem IdxOk_snoc {abs : List OpenedTag} {x : OpenedTag} : IdxOk (abs ++ [x]) ↔ IdxOk abs ∧ x.1.idx = abs.length := by
  constructor
  · intro h
    refine ⟨fun i e s hi => h i e s ?_, h abs.length x.1 x.2 List.getElem?_concat_length⟩
    rw [List.getElem?_append_left (List.getElem?_eq_some_iff.mp hi).1]; exact hi
  · rintro ⟨h, hx⟩ i e s hi
    have hlt := (List.getElem?_eq_some_iff.mp hi).1
    rw [List.length_append, List.length_singleton] at hlt
    rcases Nat.lt_or_eq_of_le (Nat.le_of_lt_succ hlt) with hlt | rfl
    · rw [List.getElem?_append_left hlt] at hi; exact h i e s hi
    · rw [List.getElem?_concat_length] at hi; cases hi; exact hx

theorem IdxOk_set {abs : List OpenedTag} {e : Ent} (hok : IdxOk abs) (v : Option Nat) : IdxOk (abs.set e.idx (e, v)) := by
  intro i e' s h
  rw [List.getElem?_set] at h
  split at h
  · rename_i hi
    split at h
    · cases h; exact hi
    · cases h
  · exact hok i e' s h

/-- closing an open entry found anywhere in the stack: it is the entry at its `idx`, and the other
open entries stay as they are.  By induction on `abs` from its end, where the top of the stack is. -/
theorem openStack_remove (stop : Nat) (abs : List OpenedTag) (pre post : List Ent) (e : Ent)
    (hok : IdxOk abs) (hst : openStack abs = pre ++ e :: post) :
    abs[e.idx]? = some (e, none) ∧ openStack (abs.set e.idx (e, some stop)) = pre ++ post := by
  rw [← abs.reverse_reverse] at hok hst ⊢
  generalize abs.reverse = r at hok hst ⊢
  induction r generalizing pre with
  | nil => simp [openStack] at hst
  | cons x r ih =>
    rw [List.reverse_cons] at hok hst ⊢
    obtain ⟨hok0, hx⟩ := IdxOk_snoc.mp hok
    rw [openStack_snoc] at hst
    -- `e` is found below `x`: the entry set lies in `r.reverse`
    have below : ∀ pre', openStack r.reverse = pre' ++ e :: post →
        (r.reverse ++ [x])[e.idx]? = some (e, none) ∧
          openStack ((r.reverse ++ [x]).set e.idx (e, some stop)) =
            if isOpen x then x.1 :: (pre' ++ post) else pre' ++ post := by
      intro pre' hrest
      obtain ⟨h1, h2⟩ := ih pre' hok0 hrest
      have hlt : e.idx < r.reverse.length := (List.getElem?_eq_some_iff.mp h1).1
      rw [List.getElem?_append_left hlt, List.set_append_left _ _ hlt, openStack_snoc, h2]
      exact ⟨h1, rfl⟩
    by_cases hopen : isOpen x = true
    · rw [if_pos hopen] at hst
      cases pre with
      | nil =>
        obtain ⟨rfl, hpost⟩ := List.cons.inj hst
        obtain ⟨e, s⟩ := x
        cases s with
        | some s => cases hopen
        | none =>
          dsimp only at hx ⊢
          rw [hx, List.set_append_right _ _ (Nat.le_refl _), Nat.sub_self, List.set_cons_zero, openStack_snoc]
          exact ⟨List.getElem?_concat_length, hpost⟩
      | cons y pre' =>
        obtain ⟨rfl, hrest⟩ := List.cons.inj hst
        have := below pre' hrest
        rwa [if_pos hopen] at this
    · rw [if_neg hopen] at hst
      have := below pre hst
      rwa [if_neg hopen] at this

theorem slotsOf_set (abs : List OpenedTag) (i : Nat) (a : OpenedTag) :
    slotsOf (abs.set i a) = (slotsOf abs).set i (toSlot a) := by
  simp [slotsOf, List.map_set]

theorem popByName_spec {n : List Char} {stk : List Ent} {e : Ent} {stk' : List Ent}
    (h : popByName n stk = some (e, stk')) : ∃ pre post, stk = pre ++ e :: post ∧ stk' = pre ++ post := by
  fun_induction popByName n stk generalizing stk' with
  | case1 => cases h
  | case2 x xs hx => cases h; exact ⟨[], _, rfl, rfl⟩
  | case3 x xs hx y ys hp ih =>
    cases h
    obtain ⟨pre, post, h1, h2⟩ := ih hp
    exact ⟨x :: pre, post, by rw [h1]; rfl, by rw [h2]; rfl⟩
  | case4 => cases h

/-- an entry of `style_stack` as the reference semantics sees it -/
def Ent.toOTag (e : Ent) : OTag := { name := e.tag.name, style := e.tag.str }

theorem closeRecent_map (n : List Char) (stk : List Ent) :
    closeRecent n (stk.map Ent.toOTag) = (popByName n stk).map (fun p => p.2.map Ent.toOTag) := by
  induction stk with
  | nil => rfl
  | cons x xs ih =>
    simp only [List.map_cons, closeRecent, popByName, Ent.toOTag] at ih ⊢
    by_cases h : x.tag.name = n
    · simp [h]
    · rw [if_neg h, if_neg h, ih]
      cases popByName n xs <;> rfl

/-- entry `a` covers offset `p`: opened at or before `p` and not closed there yet -/
def coversAt (p : Nat) (a : OpenedTag) : Bool :=
  decide (a.1.start ≤ p) && (match a.2 with | none => true | some s => decide (p < s))

/-- styles of the tags covering offset `p`, in opening order -/
def stylesAt (abs : List OpenedTag) (p : Nat) : List (List Char) :=
  (abs.filter (coversAt p)).map (·.1.tag.str)

/-- the characters rendered so far, each with the styles in force there -/
abbrev Annotated := List (Char × List (List Char))

/-- `abs` describes the state `st`, and `ann` is the text rendered so far, each character with the
styles of the entries that cover its offset; `Text.append` has stripped it of BS, VT, FF, CR -/
structure Describes (st : St) (abs : List OpenedTag) (ann : Annotated) : Prop where
  stack : st.stack = openStack abs
  slots : st.slots = slotsOf abs
  idx : IdxOk abs
  bound : ∀ a ∈ abs, a.1.start ≤ st.text.length ∧ ∀ s, a.2 = some s → s ≤ st.text.length
  text : ann.map Prod.fst = st.text
  ann : ∀ p (h : p < ann.length), (ann[p]).2 = stylesAt abs p
  clean : stripControl st.text = st.text

theorem Describes.len {st : St} {abs : List OpenedTag} {ann : Annotated} (h : Describes st abs ann) :
    ann.length = st.text.length := by
  rw [← h.text, List.length_map]

theorem describes_init : Describes St.init [] [] :=
  ⟨rfl, rfl, by intro i e s h; simp at h, by intro a ha; simp at ha, rfl, by intro p hp; simp at hp, rfl⟩

theorem stylesAt_end (abs : List OpenedTag) (p : Nat)
    (hb : ∀ a ∈ abs, a.1.start ≤ p ∧ ∀ s, a.2 = some s → s ≤ p) :
    stylesAt abs p = (abs.filter isOpen).map (·.1.tag.str) := by
  unfold stylesAt
  congr 1
  apply List.filter_congr
  intro a ha
  obtain ⟨h1, h2⟩ := hb a ha
  obtain ⟨e, s⟩ := a
  cases s with
  | none => simp [coversAt, isOpen, h1]
  | some s =>
    have := h2 s rfl
    simp [coversAt, isOpen]; omega

theorem describes_text {st : St} {abs : List OpenedTag} {ann : Annotated} (h : Describes st abs ann) {s : List Char}
    (hs : stripControl s = s) :
    Describes { st with text := st.text ++ s } abs
      (ann ++ s.map (fun c => (c, (st.stack.map Ent.toOTag).reverse.map (·.style)))) := by
  refine ⟨h.stack, h.slots, h.idx, ?_, by simp [h.text, Function.comp_def], ?_,
    by rw [stripControl_append, h.clean, hs]⟩
  · intro a ha
    obtain ⟨h1, h2⟩ := h.bound a ha
    rw [List.length_append]
    exact ⟨Nat.le_trans h1 (Nat.le_add_right _ _), fun s hs => Nat.le_trans (h2 s hs) (Nat.le_add_right _ _)⟩
  · intro p hp
    by_cases hlt : p < ann.length
    · rw [List.getElem_append_left hlt]; exact h.ann p hlt
    · have hge : st.text.length ≤ p := h.len ▸ Nat.le_of_not_lt hlt
      rw [List.getElem_append_right (Nat.le_of_not_lt hlt), List.getElem_map,
        stylesAt_end abs p (fun a ha => ⟨Nat.le_trans (h.bound a ha).1 hge,
          fun s hs => Nat.le_trans ((h.bound a ha).2 s hs) hge⟩)]
      simp [h.stack, openStack, Ent.toOTag]

theorem describes_open {st : St} {abs : List OpenedTag} {ann : Annotated} (h : Describes st abs ann) (tag : Tag) :
    Describes { st with stack := { idx := st.slots.length, start := st.text.length, tag := tag } :: st.stack,
                        slots := st.slots ++ [none] }
      (abs ++ [({ idx := st.slots.length, start := st.text.length, tag := tag }, none)]) ann := by
  have hlen : st.slots.length = abs.length := by rw [h.slots, slotsOf, List.length_map]
  refine ⟨?_, ?_, ?_, ?_, h.text, ?_, h.clean⟩
  · rw [openStack_snoc, ← h.stack]; rfl
  · rw [h.slots, slotsOf, slotsOf, List.map_append]; rfl
  · exact IdxOk_snoc.mpr ⟨h.idx, hlen⟩
  · intro a ha
    rcases List.mem_append.mp ha with ha | ha
    · exact h.bound a ha
    · cases List.mem_singleton.mp ha
      exact ⟨Nat.le_refl _, fun s hs => nomatch hs⟩
  · intro p hp
    have hnew : coversAt p ({ idx := st.slots.length, start := st.text.length, tag := tag }, none) = false := by
      simp only [coversAt, Bool.and_true, decide_eq_false_iff_not, Nat.not_le]
      exact h.len ▸ hp
    rw [h.ann p hp, stylesAt, stylesAt, List.filter_append, List.filter_cons_of_neg (by rw [hnew]; exact Bool.false_ne_true),
      List.filter_nil, List.append_nil]

theorem filter_map_set {α β : Type} (q : α → Bool) (f : α → β) (l : List α) (i : Nat) (a b : α)
    (hi : l[i]? = some a) (hq : q a = q b) (hf : f a = f b) :
    ((l.set i b).filter q).map f = (l.filter q).map f := by
  obtain ⟨hlt, rfl⟩ := List.getElem?_eq_some_iff.mp hi
  rw [List.set_eq_take_append_cons_drop, if_pos hlt]
  conv => rhs; rw [← List.take_append_drop i l, List.drop_eq_getElem_cons hlt]
  simp only [List.filter_append, List.filter_cons, hq, List.map_append]
  split <;> simp [hf]

theorem describes_close {st : St} {abs : List OpenedTag} {ann : Annotated} (h : Describes st abs ann) (e : Ent)
    (pre post : List Ent)
    (hs : st.stack = pre ++ e :: post) :
    Describes (st.close e (pre ++ post)) (abs.set e.idx (e, some st.text.length)) ann := by
  obtain ⟨hget, hstk⟩ := openStack_remove st.text.length abs pre post e h.idx (by rw [← h.stack]; exact hs)
  have hmem : (e, (none : Option Nat)) ∈ abs := List.mem_of_getElem? hget
  refine ⟨?_, ?_, IdxOk_set h.idx _, ?_, h.text, ?_, h.clean⟩
  · simp [St.close, hstk]
  · simp [St.close, slotsOf_set, h.slots, toSlot]
  · intro a ha
    rcases List.mem_or_eq_of_mem_set ha with ha | ha
    · exact h.bound a ha
    · subst ha
      exact ⟨(h.bound _ hmem).1, fun s hs => by cases hs; exact Nat.le_refl _⟩
  · intro p hp
    have hlt : p < st.text.length := by rw [← h.len]; exact hp
    rw [h.ann p hp]
    -- the entry closed now still covers every offset of the text so far
    unfold stylesAt
    exact (filter_map_set (coversAt p) _ abs e.idx (e, none) (e, some st.text.length) hget
      (by simp [coversAt, hlt]) rfl).symm

theorem classify_opening {cfg : Cfg} {t : Tag} {o : OTag} (h : classify cfg t = .opening o) :
    o = { name := cfg.norm t.name, style := ({ name := cfg.norm t.name, params := t.params } : Tag).str } := by
  revert h
  fun_cases classify cfg t with
  | case1 => intro h; cases h
  | case2 => intro h; cases h
  | case3 => intro h; cases h; rfl

theorem stepC_tag_stack (cfg : Cfg) (st : St) (t : Tag) :
    (stepC cfg st (.tag t)).map (·.stack.map Ent.toOTag) = stepO cfg (st.stack.map Ent.toOTag) t := by
  rw [stepC, step_tag, stepO]
  cases hk : classify cfg t with
  | opening o => cases classify_opening hk; rfl
  | closeName n =>
    dsimp only
    rw [closeRecent_map]
    cases popByName n st.stack <;> rfl
  | closeTop => cases st.stack <;> rfl

theorem stepC_tag_describes (cfg : Cfg) {st st' : St} {abs : List OpenedTag} {ann : Annotated} (h : Describes st abs ann)
    {t : Tag}
    (hs : stepC cfg st (.tag t) = some st') : ∃ abs', Describes st' abs' ann := by
  rw [stepC, step_tag] at hs
  cases hk : classify cfg t with
  | opening o =>
    rw [hk] at hs; cases hs
    exact ⟨_, describes_open h _⟩
  | closeName n =>
    rw [hk] at hs; dsimp only at hs
    cases hp : popByName n st.stack with
    | none => rw [hp] at hs; cases hs
    | some p =>
      rw [hp] at hs; cases hs
      obtain ⟨pre, post, h1, h2⟩ := popByName_spec hp
      exact ⟨_, h2 ▸ describes_close h p.1 pre post h1⟩
  | closeTop =>
    rw [hk] at hs; dsimp only at hs
    cases hst : st.stack with
    | nil => rw [hst] at hs; cases hs
    | cons e stk' =>
      rw [hst] at hs; cases hs
      exact ⟨_, describes_close h e [] stk' hst⟩

end RichModel.Markup
