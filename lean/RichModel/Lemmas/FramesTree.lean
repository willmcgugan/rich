import RichModel.Model.FramesTree
/-
`Tree.__rich_console__`: the explicit stack walk `treeConsole` (the model of the Python loop) equals
the structurally recursive reference walk `specTree`, for every tree (no bound on size or depth).

Route: the exact number of loop iterations a subtree takes (`stepsNode` / `stepsList`), a "run" lemma
by mutual structural induction (`run_node` / `run_list`) generalised over the rest of the stack, the
enclosing levels, the style stack, the accumulated output and the remaining fuel, then the root.
-/
namespace RichModel.Frames
open RichModel

variable {σ : Type}

/-! ### guide texts -/

/-- `make_guide` picks entry `idx` of one of the four guide sets, each of which has four entries -/
theorem guideText_mem_set (env : Env) (g : Guide) (h : g.idx < 4) :
    ∃ t ∈ asciiGuides :: treeGuides, guideText env g ∈ t := by
  have hget : ∀ t ∈ asciiGuides :: treeGuides, t.getD g.idx [] ∈ t := by
    intro t ht
    have hlen : t.length = 4 := (by decide +kernel : ∀ t ∈ asciiGuides :: treeGuides, t.length = 4) t ht
    rw [List.getD_eq_getElem?_getD, List.getElem?_eq_getElem (by omega)]
    exact List.getElem_mem _
  have hset : ∀ k, k < 3 → treeGuides.getD k [] ∈ asciiGuides :: treeGuides := by
    intro k hk
    rw [List.getD_eq_getElem?_getD, List.getElem?_eq_getElem (show k < treeGuides.length from hk)]
    exact List.mem_cons_of_mem _ (List.getElem_mem _)
  unfold guideText
  split
  · exact ⟨_, List.mem_cons_self, hget _ List.mem_cons_self⟩
  · refine ⟨_, hset _ ?kind, hget _ (hset _ ?kind)⟩
    repeat' split
    all_goals decide

theorem guideText_length (env : Env) (g : Guide) (h : g.idx < 4) : (guideText env g).length = 4 := by
  obtain ⟨t, ht, hm⟩ := guideText_mem_set env g h
  exact (by decide +kernel : ∀ t ∈ asciiGuides :: treeGuides, ∀ s ∈ t, s.length = 4) t ht _ hm

/-! ### the loop -/

theorem treeLoop_step (cw : Char → Nat) (env : Env) (w : Int) (fuel : Nat) {s s' : TState σ}
    (h : treeStep cw env w s = some s') :
    treeLoop cw env w (fuel + 1) s = treeLoop cw env w fuel s' := by
  simp [treeLoop, h]

theorem treeLoop_done (cw : Char → Nat) (env : Env) (w : Int) (fuel : Nat) {s : TState σ}
    (h : s.stack = []) : treeLoop cw env w fuel s = s := by
  cases fuel with
  | zero => rfl
  | succ n => simp [treeLoop, treeStep, h]

/-! ### exact iteration counts -/

mutual
/-- iterations of `while stack:` from visiting the node until its subtree is finished
(the visit, and for a pushed child list its nodes and the `StopIteration` iteration) -/
def stepsNode : TreeN σ → Nat
  | .node _ _ e cs => if e && !cs.isEmpty then 2 + stepsList cs else 1
/-- iterations spent on the nodes of a sibling list (without the final `StopIteration`) -/
def stepsList : List (TreeN σ) → Nat
  | [] => 0
  | t :: ts => stepsNode t + stepsList ts
end

mutual
theorem stepsNode_le : ∀ t : TreeN σ, stepsNode t ≤ 2 * t.size
  | .node _ _ e cs => by
    have := stepsList_le cs
    simp only [stepsNode, TreeN.size]
    split <;> omega
theorem stepsList_le : ∀ ts : List (TreeN σ), stepsList ts ≤ 2 * sizeList ts
  | [] => by simp [stepsList, sizeList]
  | t :: ts => by
    have := stepsNode_le t
    have := stepsList_le ts
    simp only [stepsList, sizeList]
    omega
end

/-! ### single iterations -/

/-- `StopIteration` with an enclosing level. -/
theorem step_pop (cw : Char → Nat) (env : Env) (w : Int) (rest : List (List (TreeN σ)))
    (top g : Guide) (gs : List Guide) (gst : List GStyle) (out : List (Segment σ)) :
    treeStep cw env w { stack := [] :: rest, levels := top :: g :: gs, gstack := gst, out := out }
      = some { stack := rest, levels := ⟨2, g.st⟩ :: gs, gstack := gst.tail, out := out } := by
  simp [treeStep]

/-- `StopIteration` of the outermost iterator. -/
theorem step_pop_last (cw : Char → Nat) (env : Env) (w : Int) (rest : List (List (TreeN σ)))
    (top : Guide) (gst : List GStyle) (out : List (Segment σ)) :
    treeStep cw env w { stack := [] :: rest, levels := [top], gstack := gst, out := out }
      = some { stack := rest, levels := [], gstack := gst, out := out } := by
  simp [treeStep]

/-- `levels[1:]` for a non-root node. -/
theorem pfx_eq (top g : Guide) (gs : List Guide) :
    (top :: g :: gs).reverse.tail = (g :: gs).reverse.tail ++ [top] := by
  have h : (g :: gs).reverse ≠ [] := by simp
  rw [List.reverse_cons (a := top), List.tail_append_of_ne_nil h]

/-- the index `levels[-1]` has once the subtree of a node is finished -/
def idxAfter (t : TreeN σ) (last : Bool) : Nat :=
  if t.expanded && !t.children.isEmpty then 2 else if last then 3 else 2

/-- the lines one node contributes, as both walks compute them -/
def hereOf (cw : Char → Nat) (env : Env) (w : Int) (pfx : List Guide) (cont : Guide) (l : Child σ) :
    List (Segment σ) :=
  emitNode env pfx cont
    (l.linesAt cw (w - (((pfx.map (fun g => cellLen cw (guideText env g))).sum : Nat) : Int)) true)

theorem specNode_some (cw : Char → Nat) (env : Env) (w : Int) (anc : List Guide) (st : GStyle) (last : Bool)
    (cur : GStyle) (l : Child σ) (ngs : GStyle) (e : Bool) (cs : List (TreeN σ)) :
    specNode cw env w anc (some st) last cur (.node l ngs e cs)
      = hereOf cw env w (anc ++ [⟨if last then 3 else 2, st⟩]) ⟨if last then 0 else 1, st⟩ l
        ++ (if e then specNodes cw env w (anc ++ [⟨if last then 0 else 1, st⟩]) (cur.add ngs) (cur.add ngs) cs
            else []) := by
  rw [specNode]
  cases e <;> simp [hereOf]

/-- a node that is collapsed or has no children contributes no lines below its own -/
theorem specNodes_closed (cw : Char → Nat) (env : Env) (w : Int) (anc : List Guide) (st cur : GStyle) {e : Bool}
    {cs : List (TreeN σ)} (h : ¬ (e && !cs.isEmpty) = true) :
    (if e then specNodes cw env w anc st cur cs else []) = [] := by
  cases e
  · rfl
  · cases cs
    · simp [specNodes]
    · simp at h

/-- visiting a node (`k` is FORK unless the node is the last sibling); `lv` are the enclosing levels, none for the root,
whose prefix `levels[1:]` is therefore empty. -/
theorem step_visit (cw : Char → Nat) (env : Env) (w : Int) (l : Child σ) (ngs : GStyle) (e : Bool)
    (cs more : List (TreeN σ)) (rest : List (List (TreeN σ))) (k : Nat) (st : GStyle) (lv : List Guide)
    (cur : GStyle) (gsRest : List GStyle) (out : List (Segment σ))
    (hk : more ≠ [] → k = 2) :
    treeStep cw env w { stack := (.node l ngs e cs :: more) :: rest, levels := ⟨k, st⟩ :: lv,
                        gstack := cur :: gsRest, out := out }
      = some (
        let here := hereOf cw env w (⟨if more.isEmpty then 3 else 2, st⟩ :: lv).reverse.tail
          ⟨if more.isEmpty then 0 else 1, st⟩ l
        if e && !cs.isEmpty then
          { stack := cs :: more :: rest,
            levels := ⟨if cs.length == 1 then 3 else 2, cur.add ngs⟩ :: ⟨if more.isEmpty then 0 else 1, st⟩ :: lv,
            gstack := cur.add ngs :: cur :: gsRest, out := out ++ here }
        else
          { stack := more :: rest, levels := ⟨if more.isEmpty then 3 else 2, st⟩ :: lv,
            gstack := cur :: gsRest, out := out ++ here }) := by
  -- `levels[-1]` becomes END for a last sibling and is FORK already otherwise; the rest is `treeStep` read on this state
  cases more with
  | nil => cases e <;> cases cs <;> rfl
  | cons m ms => rw [hk (by simp)]; cases e <;> cases cs <;> rfl

/-! ### the run lemma -/

mutual
/-- From the visit of a non-root node `t` (siblings `more` still to come) the loop reaches, after exactly
`stepsNode t` iterations, the state where the whole subtree of `t` has been emitted as `specNode` says. -/
theorem run_node (cw : Char → Nat) (env : Env) (w : Int) :
    ∀ (t : TreeN σ) (more : List (TreeN σ)) (rest : List (List (TreeN σ))) (k : Nat) (st : GStyle)
      (g : Guide) (gs : List Guide) (cur : GStyle) (gsRest : List GStyle) (out : List (Segment σ))
      (fuel : Nat), (more ≠ [] → k = 2) →
      treeLoop cw env w (fuel + stepsNode t)
          { stack := (t :: more) :: rest, levels := ⟨k, st⟩ :: g :: gs, gstack := cur :: gsRest, out := out }
        = treeLoop cw env w fuel
          { stack := more :: rest, levels := ⟨idxAfter t more.isEmpty, st⟩ :: g :: gs,
            gstack := cur :: gsRest,
            out := out ++ specNode cw env w (g :: gs).reverse.tail (some st) more.isEmpty cur t }
  | .node l ngs e cs, more, rest, k, st, g, gs, cur, gsRest, out, fuel, hk => by
    have hstep := step_visit cw env w l ngs e cs more rest k st (g :: gs) cur gsRest out hk
    rw [pfx_eq] at hstep
    rw [specNode_some]
    by_cases hp : (e && !cs.isEmpty) = true
    · have he : e = true := by simp at hp; exact hp.1
      simp only [hp, if_true] at hstep
      rw [stepsNode, if_pos hp, show fuel + (2 + stepsList cs) = (fuel + (stepsList cs + 1)) + 1 by omega,
        treeLoop_step cw env w _ hstep,
        run_list cw env w cs (more :: rest) _ (cur.add ngs) ⟨if more.isEmpty then 0 else 1, st⟩ (g :: gs) (cur.add ngs)
          (cur :: gsRest) _ fuel (by intro h; have : cs.length ≠ 1 := by omega
                                     simp [this])]
      have hcs : cs ≠ [] := by simp at hp; exact hp.2
      rw [pfx_eq]
      simp [idxAfter, TreeN.expanded, TreeN.children, he, hcs, List.append_assoc]
    · simp only [hp] at hstep
      rw [stepsNode, if_neg hp, treeLoop_step cw env w _ hstep]
      rw [specNodes_closed cw env w _ _ _ hp]
      simp [idxAfter, TreeN.expanded, TreeN.children, hp]
/-- From the state whose top iterator is the sibling list `ts` (guide style `st`, enclosing levels
`g :: gs`) the loop reaches, after `stepsList ts + 1` iterations, the state where the iterator has been
popped, `specNodes` has been emitted and the enclosing level is reset to FORK. -/
theorem run_list (cw : Char → Nat) (env : Env) (w : Int) :
    ∀ (ts : List (TreeN σ)) (rest : List (List (TreeN σ))) (k : Nat) (st : GStyle)
      (g : Guide) (gs : List Guide) (cur : GStyle) (gsRest : List GStyle) (out : List (Segment σ))
      (fuel : Nat), (2 ≤ ts.length → k = 2) →
      treeLoop cw env w (fuel + (stepsList ts + 1))
          { stack := ts :: rest, levels := ⟨k, st⟩ :: g :: gs, gstack := cur :: gsRest, out := out }
        = treeLoop cw env w fuel
          { stack := rest, levels := ⟨2, g.st⟩ :: gs, gstack := gsRest,
            out := out ++ specNodes cw env w (g :: gs).reverse.tail st cur ts }
  | [], rest, k, st, g, gs, cur, gsRest, out, fuel, _ => by
    rw [stepsList, Nat.zero_add, treeLoop_step cw env w _ (step_pop cw env w rest _ g gs _ out)]
    simp [specNodes]
  | t :: ts, rest, k, st, g, gs, cur, gsRest, out, fuel, hk => by
    have hk1 : ts ≠ [] → k = 2 := by
      intro h; apply hk
      cases ts with
      | nil => exact absurd rfl h
      | cons a b => simp
    rw [stepsList, show fuel + (stepsNode t + stepsList ts + 1) = (fuel + (stepsList ts + 1)) + stepsNode t by omega,
      run_node cw env w t ts rest k st g gs cur gsRest out _ hk1,
      run_list cw env w ts rest _ st g gs cur gsRest _ fuel (by
        intro h
        have : ts.isEmpty = false := by cases ts <;> simp at h ⊢
        simp [idxAfter, this])]
    simp [specNodes, List.append_assoc]
end

/-! ### the root -/

theorem specNode_none (cw : Char → Nat) (env : Env) (w : Int) (anc : List Guide) (last : Bool)
    (cur : GStyle) (l : Child σ) (ngs : GStyle) (e : Bool) (cs : List (TreeN σ)) :
    specNode cw env w anc none last cur (.node l ngs e cs)
      = hereOf cw env w [] ⟨if last then 0 else 1, cur⟩ l
        ++ (if e then specNodes cw env w [] (cur.add ngs) (cur.add ngs) cs else []) := by
  rw [specNode]
  cases e <;> simp [hereOf]

/-- The whole run: after `stepsNode root + 1` iterations the stack is empty and the output is `specTree`. -/
theorem run_root (cw : Char → Nat) (env : Env) (w : Int) (root : TreeN σ) (fuel : Nat) :
    (treeLoop cw env w (fuel + (stepsNode root + 1))
        { stack := [[root]], levels := [⟨1, root.gs⟩], gstack := [root.gs], out := [] }).out
      = specTree cw env root w := by
  obtain ⟨l, ngs, e, cs⟩ := root
  have hstep := step_visit cw env w l ngs e cs [] [] 1 ngs [] ngs [] [] (fun h => absurd rfl h)
  simp only [List.isEmpty_nil, if_true, List.nil_append, List.reverse_singleton, List.tail_cons] at hstep
  simp only [specTree, TreeN.gs, specNode_none]
  by_cases hp : (e && !cs.isEmpty) = true
  · have he : e = true := by simp at hp; exact hp.1
    simp only [hp, if_true] at hstep
    rw [stepsNode, if_pos hp, show fuel + (2 + stepsList cs + 1) = ((fuel + 1) + (stepsList cs + 1)) + 1 by omega,
      treeLoop_step cw env w _ hstep,
      run_list cw env w cs [[]] _ (ngs.add ngs) ⟨0, ngs⟩ [] (ngs.add ngs) [ngs] _ (fuel + 1)
        (by intro h; have : cs.length ≠ 1 := by omega
            simp [this]),
      treeLoop_step cw env w _ (step_pop_last cw env w [] _ _ _),
      treeLoop_done cw env w _ rfl]
    simp [he]
  · rw [if_neg hp] at hstep
    rw [specNodes_closed cw env w _ _ _ hp, stepsNode, if_neg hp, show fuel + (1 + 1) = (fuel + 1) + 1 by omega,
      treeLoop_step cw env w _ hstep,
      treeLoop_step cw env w _ (step_pop_last cw env w [] _ _ _),
      treeLoop_done cw env w _ rfl]
    simp

/-- `Tree.__rich_console__` (the explicit stack walk with fuel `2 * size + 2`) is the reference walk. -/
theorem treeConsole_eq_spec (cw : Char → Nat) (env : Env) (root : TreeN σ) (w : Int) :
    treeConsole cw env root w = specTree cw env root w := by
  have h := stepsNode_le root
  unfold treeConsole
  rw [show 2 * root.size + 2 = (2 * root.size + 1 - stepsNode root) + (stepsNode root + 1) by omega]
  exact run_root cw env w root _

end RichModel.Frames
