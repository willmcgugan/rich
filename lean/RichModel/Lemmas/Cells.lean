import RichModel.Model.Cells
import RichModel.Gen.CellWidths
/-! `Model/Cells`: on a sorted table the binary search is the linear scan; the cache in front of `cell_len` is
transparent; the table generated from `rich/_cell_widths.py` meets the side conditions; the basic facts about `cellLen`;
`set_cell_size` is exact. -/
namespace RichModel

/-- Executable side condition on a width table: every row is `start ≤ end`, and each row ends
before the next one starts.  Checked on the generated table by `decide +kernel`. -/
def adjSorted : List WidthRow → Bool
  | [] => true
  | [r] => decide (r.1 ≤ r.2.1)
  | r :: s :: rest => decide (r.1 ≤ r.2.1) && decide (r.2.1 < s.1) && adjSorted (s :: rest)

def rowContains (r : WidthRow) (cp : Nat) : Prop := r.1 ≤ cp ∧ cp ≤ r.2.1

instance (r : WidthRow) (cp : Nat) : Decidable (rowContains r cp) := by
  unfold rowContains; exact inferInstance

theorem adjSorted_spec : ∀ (l : List WidthRow), adjSorted l = true →
    (∀ r ∈ l, r.1 ≤ r.2.1) ∧ l.Pairwise (fun a b => a.2.1 < b.1)
  | [], _ => ⟨fun _ hr => (nomatch hr), List.Pairwise.nil⟩
  | [a], h => ⟨by simpa [adjSorted] using h, List.pairwise_singleton ..⟩
  | a :: b :: rest, h => by
      simp only [adjSorted, Bool.and_eq_true, decide_eq_true_eq] at h
      obtain ⟨wf, pw⟩ := adjSorted_spec (b :: rest) h.2
      refine ⟨fun r hr => ?_, List.pairwise_cons.2 ⟨fun r hr => ?_, pw⟩⟩
      · rcases List.mem_cons.1 hr with rfl | hr
        · exact h.1.1
        · exact wf r hr
      · rcases List.mem_cons.1 hr with rfl | hr
        · exact h.1.2
        · have := (List.pairwise_cons.1 pw).1 r hr
          have := wf b List.mem_cons_self
          omega

theorem linearScan_of_contains : ∀ (l : List WidthRow), l.Pairwise (fun a b => a.2.1 < b.1) →
    ∀ r ∈ l, rowContains r cp → linearScan l cp = normWidth r.2.2
  | [], _, r, hr, _ => nomatch hr
  | a :: rest, h, r, hr, hc => by
      unfold linearScan
      rw [List.pairwise_cons] at h
      rcases List.mem_cons.mp hr with rfl | h1
      · exact if_pos hc
      · have hlt := h.1 r h1
        rw [if_neg (fun ha => by have := hc.1; omega)]
        exact linearScan_of_contains rest h.2 r h1 hc

theorem linearScan_of_none : ∀ (l : List WidthRow), (∀ r ∈ l, ¬ rowContains r cp) → linearScan l cp = 1
  | [], _ => rfl
  | a :: rest, h => by
      unfold linearScan
      have ha : ¬ (a.1 ≤ cp ∧ cp ≤ a.2.1) := h a (by simp)
      simp only [ha, if_false]
      exact linearScan_of_none rest (fun r hr => h r (List.mem_cons_of_mem _ hr))

theorem rows_mono (t : WidthTable) (hs : adjSorted t.toList = true) {i j : Nat} (hi : i < t.size) (hj : j < t.size)
    (hij : i ≤ j) : t[i].1 ≤ t[j].1 ∧ t[i].2.1 ≤ t[j].2.1 := by
  obtain ⟨wf, pw⟩ := adjSorted_spec _ hs
  rcases Nat.lt_or_eq_of_le hij with h | rfl
  · have h1 := List.pairwise_iff_getElem.mp pw i j (by simpa using hi) (by simpa using hj) h
    simp only [Array.getElem_toList] at h1
    have h2 : t[i].1 ≤ t[i].2.1 := wf t[i] (by simp)
    have h3 : t[j].1 ≤ t[j].2.1 := wf t[j] (by simp)
    omega
  · exact ⟨Nat.le_refl _, Nat.le_refl _⟩

/-- The search keeps every row that contains `cp` inside `[lo, hiX)`, so when it stops the answer is the scan's. -/
theorem bsearchLoop_correct (t : WidthTable) (hs : adjSorted t.toList = true) (cp : Nat) :
    ∀ (fuel lo hiX : Nat), hiX ≤ t.size → hiX - lo < fuel →
      (∀ i (hi : i < t.size), rowContains t[i] cp → lo ≤ i ∧ i < hiX) →
      bsearchLoop t cp fuel lo hiX = linearScan t.toList cp := by
  intro fuel
  induction fuel with
  | zero => intro lo hiX _ h; exact absurd h (Nat.not_lt_zero _)
  | succ fuel ih =>
    intro lo hiX hsz hfuel hinv
    rw [bsearchLoop]
    split
    · next hlo =>
      have hm : lo ≤ (lo + (hiX - 1)) / 2 ∧ (lo + (hiX - 1)) / 2 < hiX := by omega
      generalize (lo + (hiX - 1)) / 2 = idx at hm ⊢
      have hidx : idx < t.size := Nat.lt_of_lt_of_le hm.2 hsz
      simp only [hidx, dite_true]
      split
      · next h1 =>
        refine ih lo idx (Nat.le_of_lt hidx) (by omega) fun i hi hc => ⟨(hinv i hi hc).1, ?_⟩
        refine Nat.lt_of_not_le fun hge => ?_
        have := (rows_mono t hs hidx hi hge).1
        have := hc.1
        omega
      · split
        · next h2 =>
          refine ih (idx + 1) hiX hsz (by omega) fun i hi hc => ⟨?_, (hinv i hi hc).2⟩
          refine Nat.lt_of_not_le fun hge => ?_
          have := (rows_mono t hs hi hidx hge).2
          have := hc.2
          omega
        · next h1 h2 =>
          exact (linearScan_of_contains _ (adjSorted_spec _ hs).2 t[idx] (by simp)
            ⟨Nat.le_of_not_lt h1, Nat.le_of_not_lt h2⟩).symm
    · next hlo =>
      refine (linearScan_of_none _ fun r hr hc => ?_).symm
      obtain ⟨i, hi, rfl⟩ := List.getElem_of_mem hr
      have := hinv i (by simpa using hi) (by simpa using hc)
      omega

theorem codepointWidth_eq_linear (t : WidthTable) (hs : adjSorted t.toList = true) (cp : Nat) :
    codepointWidth t cp = linearScan t.toList cp := by
  unfold codepointWidth
  apply bsearchLoop_correct t hs cp (t.size + 1) 0 t.size (Nat.le_refl _) (by omega)
  intro i hi _; exact ⟨Nat.zero_le _, hi⟩

/-- Every width in the table is in {-1,0,1,2} (executable check). -/
def widthsSmall (l : List WidthRow) : Bool := l.all (fun r => r.2.2 == -1 || r.2.2 == 0 || r.2.2 == 1 || r.2.2 == 2)

theorem normWidth_le_two (w : Int) (h : (w == -1 || w == 0 || w == 1 || w == 2) = true) : normWidth w ≤ 2 := by
  simp at h
  unfold normWidth
  rcases h with ((h | h) | h) | h <;> subst h <;> decide

theorem linearScan_le_two : ∀ (l : List WidthRow), widthsSmall l = true → ∀ cp, linearScan l cp ≤ 2
  | [], _, _ => by simp [linearScan]
  | a :: rest, h, cp => by
      unfold linearScan
      simp only [widthsSmall, List.all_cons, Bool.and_eq_true] at h
      split
      · exact normWidth_le_two _ h.1
      · exact linearScan_le_two rest h.2 cp

theorem charWidthT_le_two (t : WidthTable) (hs : adjSorted t.toList = true) (hw : widthsSmall t.toList = true) (c : Char) :
    charWidthT t c ≤ 2 := by
  unfold charWidthT
  simp only
  split
  · omega
  · rw [codepointWidth_eq_linear t hs]; exact linearScan_le_two _ hw _

theorem cellWidths_adjSorted : adjSorted Gen.cellWidths.toList = true := by decide +kernel

theorem cellWidths_widthsSmall : widthsSmall Gen.cellWidths.toList = true := by decide +kernel

theorem charWidthT_cellWidths_le_two (c : Char) : charWidthT Gen.cellWidths c ≤ 2 :=
  charWidthT_le_two _ cellWidths_adjSorted cellWidths_widthsSmall c

/-- every stored value is the cell length of its key -/
def Cache.Inv (cw : Char → Nat) (c : Cache) : Prop := ∀ p ∈ c.items, p.2 = cellLen cw p.1

theorem Cache.get_sound (cw : Char → Nat) (c : Cache) (h : c.Inv cw) (k : List Char) (v : Nat)
    (hg : c.get k = some v) : v = cellLen cw k := by
  -- the entry found has the key asked for, and the invariant speaks of every entry
  obtain ⟨p, hf, rfl⟩ := Option.map_eq_some_iff.mp hg
  have hk : p.1 = k := by simpa using List.find?_some hf
  rw [h p (List.mem_of_find?_eq_some hf), hk]

theorem Cache.mem_set {c : Cache} {k : List Char} {v : Nat} {p : List Char × Nat} (hp : p ∈ (c.set k v).items) :
    p ∈ c.items ∨ p = (k, v) := by
  unfold Cache.set at hp
  split at hp
  · obtain ⟨q, hq, rfl⟩ := List.mem_map.mp hp
    split
    · exact .inr rfl
    · exact .inl hq
  · split at hp
    · exact (List.mem_append.mp hp).imp List.mem_of_mem_tail List.eq_of_mem_singleton
    · exact (List.mem_append.mp hp).imp_right List.eq_of_mem_singleton

theorem Cache.set_inv (cw : Char → Nat) (c : Cache) (h : c.Inv cw) (k : List Char) :
    (c.set k (cellLen cw k)).Inv cw := by
  intro p hp
  rcases Cache.mem_set hp with h' | rfl
  · exact h p h'
  · rfl

theorem cellLenC_sound (cw : Char → Nat) (c : Cache) (h : c.Inv cw) (s : List Char) :
    (cellLenC cw c s).1 = cellLen cw s ∧ (cellLenC cw c s).2.Inv cw := by
  unfold cellLenC
  cases hg : c.get s with
  | some v => exact ⟨Cache.get_sound cw c h s v hg, h⟩
  | none =>
    simp only
    split
    · exact ⟨rfl, Cache.set_inv cw c h s⟩
    · exact ⟨rfl, h⟩

theorem cellLenHistory_eq (cw : Char → Nat) : ∀ (calls : List (List Char)) (c : Cache), c.Inv cw →
    cellLenHistory cw c calls = calls.map (cellLen cw)
  | [], _, _ => rfl
  | s :: rest, c, h => by
      have := cellLenC_sound cw c h s
      simp only [cellLenHistory, List.map_cons]
      rw [this.1, cellLenHistory_eq cw rest _ this.2]

theorem cellLen_append (cw : Char → Nat) (a b : List Char) : cellLen cw (a ++ b) = cellLen cw a + cellLen cw b := by
  simp [cellLen, List.map_append, List.sum_append]

theorem cellLen_nil (cw : Char → Nat) : cellLen cw [] = 0 := rfl

theorem cellLen_reverse (cw : Char → Nat) (s : List Char) : cellLen cw s.reverse = cellLen cw s := by
  simp [cellLen, List.sum_reverse]

theorem cellLen_cons (cw : Char → Nat) (c : Char) (s : List Char) : cellLen cw (c :: s) = cw c + cellLen cw s := by
  simp [cellLen]

theorem cellLen_replicate (cw : Char → Nat) (n : Nat) (c : Char) : cellLen cw (List.replicate n c) = n * cw c := by
  induction n with
  | zero => exact (Nat.zero_mul _).symm
  | succ n ih => rw [List.replicate_succ, cellLen_cons, ih, Nat.succ_mul, Nat.add_comm]

theorem cellLen_replicate_space (cw : Char → Nat) (hsp : cw ' ' = 1) (n : Nat) :
    cellLen cw (List.replicate n ' ') = n := by
  rw [cellLen_replicate, hsp, Nat.mul_one]

theorem cellLen_eq_length (cw : Char → Nat) (s : List Char) (h : ∀ c ∈ s, cw c = 1) : cellLen cw s = s.length := by
  induction s with
  | nil => rfl
  | cons c s ih =>
    rw [cellLen_cons, h c List.mem_cons_self, ih fun d hd => h d (List.mem_cons_of_mem _ hd), List.length_cons,
      Nat.add_comm]

theorem cellLen_le_of_infix (cw : Char → Nat) {x s : List Char} (h : x <:+: s) : cellLen cw x ≤ cellLen cw s := by
  obtain ⟨a, b, rfl⟩ := h
  rw [cellLen_append, cellLen_append]
  omega

theorem cellLen_filter_le (cw : Char → Nat) (f : Char → Bool) (s : List Char) : cellLen cw (s.filter f) ≤ cellLen cw s := by
  induction s with
  | nil => exact Nat.le_refl _
  | cons c s ih =>
    rw [List.filter_cons]
    split
    · rw [cellLen_cons, cellLen_cons]; omega
    · rw [cellLen_cons]; omega

theorem popLoop_nonpos (l : List Nat) (e : Int) (h : e ≤ 0) : popLoop l e = (l, e) := by
  cases l with
  | nil => rfl
  | cons a r => unfold popLoop; have : ¬ e > 0 := by omega
                simp [this]

/-- What is left is an end piece of the list; the excess has gone down by exactly what was popped; the loop stops only when
the excess is used up or nothing is left. -/
theorem popLoop_inv (l : List Nat) (e : Int) :
    (popLoop l e).1 <:+ l ∧ ((popLoop l e).1.sum : Int) - (popLoop l e).2 = (l.sum : Int) - e ∧
      ((popLoop l e).2 ≤ 0 ∨ (popLoop l e).1 = []) := by
  induction l generalizing e with
  | nil => exact ⟨List.suffix_refl _, rfl, .inr rfl⟩
  | cons sz rest ih =>
    unfold popLoop
    split
    · obtain ⟨h1, h2, h3⟩ := ih (e - sz)
      exact ⟨h1.trans (List.suffix_cons sz rest), by rw [h2, List.sum_cons]; push_cast; omega, h3⟩
    · next h => exact ⟨List.suffix_refl _, rfl, .inl (Int.not_lt.mp h)⟩

/-- the last entry popped may take the excess below zero, by less than its size -/
theorem popLoop_overshoot (l : List Nat) (e : Int) (b : Nat) (hb : ∀ x ∈ l, x ≤ b) (he : 0 < e) :
    -(b : Int) < (popLoop l e).2 := by
  induction l generalizing e with
  | nil => show -(b : Int) < e; omega
  | cons sz rest ih =>
    have := hb sz List.mem_cons_self
    unfold popLoop
    rw [if_pos he]
    by_cases hpos : 0 < e - (sz : Int)
    · exact ih _ (fun x hx => hb x (List.mem_cons_of_mem _ hx)) hpos
    · rw [popLoop_nonpos rest _ (by omega)]
      show -(b : Int) < e - sz
      omega

/-- popping sizes of at most two cells, and not more than there are: the excess ends at 0, or at -1 when half of a
double-width entry was popped too much -/
theorem popLoop_spec (rev : List Nat) (e : Int) (h2 : ∀ x ∈ rev, x ≤ 2) (h0 : 0 < e) (hle : e ≤ (rev.sum : Int)) :
    (popLoop rev e).2 = 0 ∨ (popLoop rev e).2 = -1 := by
  obtain ⟨_, hsum, hstop⟩ := popLoop_inv rev e
  have hover := popLoop_overshoot rev e 2 h2 h0
  rcases hstop with h | h
  · omega
  · rw [h, List.sum_nil, Int.natCast_zero] at hsum; omega

theorem setCellSize_pad (cw : Char → Nat) (s : List Char) (n : Nat) (h : cellLen cw s ≤ n) :
    setCellSize cw s n = s ++ List.replicate (n - cellLen cw s) ' ' := by
  unfold setCellSize
  simp only
  by_cases heq : cellLen cw s = n
  · simp [heq]
  · have hlt : cellLen cw s < n := by omega
    simp [heq, hlt]

/-- `set_cell_size` of a text that is too long: sizes are popped off its end until the excess is used up; where that took
half of a double-width character too much, a blank stands in. -/
theorem setCellSize_crop (cw : Char → Nat) (s : List Char) (n : Nat) (h : n < cellLen cw s) :
    setCellSize cw s n =
      s.take (popLoop (s.map cw).reverse ((cellLen cw s : Int) - n)).1.length ++
        if (popLoop (s.map cw).reverse ((cellLen cw s : Int) - n)).2 = -1 then [' '] else [] := by
  unfold setCellSize
  simp only
  rw [if_neg (by simpa using Nat.ne_of_gt h), if_neg (Nat.lt_asymm h)]
  generalize popLoop (s.map cw).reverse ((cellLen cw s : Int) - n) = pr
  obtain ⟨rem, e⟩ := pr
  by_cases he : e = -1 <;> simp [he]

theorem setCellSize_shape (cw : Char → Nat) (s : List Char) (n : Nat) :
    ∃ k m, setCellSize cw s n = s.take k ++ List.replicate m ' ' := by
  rcases Nat.lt_or_ge n (cellLen cw s) with hgt | hle
  · rw [setCellSize_crop cw s n hgt]
    split
    · exact ⟨_, 1, rfl⟩
    · exact ⟨_, 0, rfl⟩
  · exact ⟨s.length, _, by rw [setCellSize_pad cw s n hle, List.take_length]⟩

theorem setCellSize_chars (cw : Char → Nat) (text : List Char) (n : Nat) :
    ∀ c ∈ setCellSize cw text n, c ∈ text ∨ c = ' ' := by
  obtain ⟨k, m, e⟩ := setCellSize_shape cw text n
  rw [e]
  exact fun c hc => (List.mem_append.mp hc).imp List.mem_of_mem_take List.eq_of_mem_replicate

theorem cellLen_setCellSize (cw : Char → Nat) (hsp : cw ' ' = 1) (h2 : ∀ c, cw c ≤ 2) (s : List Char) (n : Nat) :
    cellLen cw (setCellSize cw s n) = n := by
  rcases Nat.lt_or_ge n (cellLen cw s) with hgt | hle
  · rw [setCellSize_crop cw s n hgt]
    have hsum : ((s.map cw).reverse.sum : Int) = cellLen cw s := by rw [List.sum_reverse]; rfl
    have h2' := popLoop_spec (s.map cw).reverse ((cellLen cw s : Int) - n)
      (fun x hx => by obtain ⟨c, _, rfl⟩ := List.mem_map.1 (List.mem_reverse.1 hx); exact h2 c)
      (by omega) (by rw [hsum]; omega)
    obtain ⟨h1, h3, _⟩ := popLoop_inv (s.map cw).reverse ((cellLen cw s : Int) - n)
    generalize popLoop (s.map cw).reverse ((cellLen cw s : Int) - n) = pr at h1 h2' h3 ⊢
    obtain ⟨rem, e⟩ := pr
    simp only at h1 h2' h3 ⊢
    -- what is left, read backwards, is the sizes of a prefix of the text
    have htake : cellLen cw (s.take rem.length) = rem.sum := by
      have := List.prefix_iff_eq_take.mp (List.reverse_reverse _ ▸ List.reverse_prefix.mpr h1)
      rw [cellLen, List.map_take, ← List.length_reverse, ← this, List.sum_reverse]
    rw [hsum] at h3
    rcases h2' with rfl | rfl
    · rw [if_neg (by decide), List.append_nil, htake]; omega
    · rw [if_pos rfl, cellLen_append, htake]; simp [cellLen, hsp]; omega
  · rw [setCellSize_pad cw s n hle, cellLen_append, cellLen_replicate_space cw hsp]
    omega

theorem setCellSize_exact (cw : Char → Nat) (hsp : cw ' ' = 1) (h2 : ∀ c, cw c ≤ 2)
    (s : List Char) (n : Nat) :
    cellLen cw (setCellSize cw s n) = n ∧
    ∃ k m, setCellSize cw s n = s.take k ++ List.replicate m ' ' :=
  ⟨cellLen_setCellSize cw hsp h2 s n, setCellSize_shape cw s n⟩

theorem setCellSize_id (cw : Char → Nat) (s : List Char) (w : Nat) (h : cellLen cw s = w) : setCellSize cw s w = s := by
  rw [setCellSize_pad cw s w (Nat.le_of_eq h), h, Nat.sub_self, List.replicate_zero, List.append_nil]

end RichModel
