import RichModel.Model.Live
/-!
What the redirected streams print (the part of C19's `proxy_lines` / `proxy_two_streams` that C10 needs).
`Op.write e lines tail` is one `write()` on stream `e` whose text is already cut at its newlines.  The
lines handed to the console over any sequence of writes are exactly the complete lines of the flattened
character stream, and what stays in the proxy is the unterminated rest — however the text was chunked
into writes, and separately for the two streams (each has its own buffer in `St`).
-/
namespace RichModel.Live
open RichModel

/-- One write: the lines printed and the new buffer (`FileProxy.write`). -/
def pw (buf : Line) (w : List Line × Line) : List Line × Line :=
  match w.1 with
  | [] => ([], buf ++ w.2)
  | l :: rest => ((buf ++ l) :: rest, w.2)

/-- A sequence of writes: all the lines printed, and what is pending at the end. -/
def pws (buf : Line) : List (List Line × Line) → List Line × Line
  | [] => ([], buf)
  | w :: ws => ((pw buf w).1 ++ (pws (pw buf w).2 ws).1, (pws (pw buf w).2 ws).2)

/-- The characters of one write. -/
def flatW (w : List Line × Line) : List Char := (w.1.map (· ++ ['\n'])).flatten ++ w.2

/-- A character stream cut at its newlines, starting with `cur` already pending. -/
def cutNL : Line → List Char → List Line × Line
  | cur, [] => ([], cur)
  | cur, c :: cs => if c = '\n' then (cur :: (cutNL [] cs).1, (cutNL [] cs).2) else cutNL (cur ++ [c]) cs

theorem cutNL_noNL (cur t : Line) (rest : List Char) (h : '\n' ∉ t) :
    cutNL cur (t ++ rest) = cutNL (cur ++ t) rest := by
  induction t generalizing cur with
  | nil => simp
  | cons c t ih =>
    have hc : c ≠ '\n' := fun e => h (by simp [e])
    have ht : '\n' ∉ t := fun e => h (by simp [e])
    simp only [List.cons_append, cutNL, hc, if_false]
    rw [ih _ ht]; simp

theorem cutNL_lines (cur : Line) (ls : List Line) (rest : List Char) (h : ∀ l ∈ ls, '\n' ∉ l) :
    cutNL cur ((ls.map (· ++ ['\n'])).flatten ++ rest) =
      match ls with
      | [] => cutNL cur rest
      | l :: ls' => ((cur ++ l) :: ls' ++ (cutNL [] rest).1, (cutNL [] rest).2) := by
  induction ls generalizing cur with
  | nil => simp
  | cons l ls ih =>
    have hl : '\n' ∉ l := h l (by simp)
    have hls : ∀ l' ∈ ls, '\n' ∉ l' := fun l' hl' => h l' (by simp [hl'])
    simp only [List.map_cons, List.flatten_cons, List.append_assoc]
    rw [cutNL_noNL _ _ _ hl]
    simp only [List.singleton_append, cutNL, if_true]
    rw [ih [] hls]
    cases ls with
    | nil => simp
    | cons l2 ls2 => simp

theorem cutNL_append (cur : Line) (x y : List Char) :
    cutNL cur (x ++ y) = ((cutNL cur x).1 ++ (cutNL (cutNL cur x).2 y).1, (cutNL (cutNL cur x).2 y).2) := by
  induction x generalizing cur with
  | nil => rfl
  | cons c x ih =>
    by_cases hc : c = '\n'
    · simp only [List.cons_append, cutNL, hc, if_true, ih, List.cons_append]
    · simp only [List.cons_append, cutNL, hc, if_false, ih]

theorem pw_eq_cut (buf : Line) (w : List Line × Line) (h : (∀ l ∈ w.1, '\n' ∉ l) ∧ '\n' ∉ w.2) :
    pw buf w = cutNL buf (flatW w) := by
  obtain ⟨ls, t⟩ := w
  rw [flatW, cutNL_lines _ _ _ h.1]
  have ht (cur : Line) : cutNL cur t = ([], cur ++ t) := by
    have := cutNL_noNL cur t [] h.2
    rwa [List.append_nil] at this
  cases ls with
  | nil => simp only [pw, ht]
  | cons l ls' => simp only [pw, ht, List.append_nil, List.nil_append]

theorem pws_eq_cut (buf : Line) (ws : List (List Line × Line))
    (h : ∀ w ∈ ws, (∀ l ∈ w.1, '\n' ∉ l) ∧ '\n' ∉ w.2) :
    pws buf ws = cutNL buf (ws.map flatW).flatten := by
  induction ws generalizing buf with
  | nil => rfl
  | cons w ws ih =>
    rw [pws, List.map_cons, List.flatten_cons, cutNL_append, ← pw_eq_cut buf w (h w (by simp)),
      ih _ fun w' hw' => h w' (by simp [hw'])]

theorem doWrite_pw (cfg : Cfg) (fails : Nat → Bool) (st : St) (e : Bool) (lines : List Line) (tail : Line)
    (hp : proxied st e = true) :
    doWrite cfg fails st e lines tail =
      (match (pw (getBuf st e) (lines, tail)).1 with
       | [] => { st := setBuf st e (pw (getBuf st e) (lines, tail)).2 }
       | ls => doPrint cfg fails (setBuf st e (pw (getBuf st e) (lines, tail)).2) ls) := by
  cases lines <;> simp [doWrite, hp, pw]

end RichModel.Live
