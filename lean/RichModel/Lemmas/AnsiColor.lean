import RichModel.Lemmas.AnsiSgr
import RichModel.Lemmas.Color
/-!
The colour parameters of the round trip (property C19): `get_ansi_codes` of a colour, read back by
the decoder's table (30-37, 90-97, 40-47, 100-107, 39, 49) and its 38 / 48 sub-parsers; then `_make_ansi_codes` as a
whole: the parameter list written for a style, and what reading it sets in the decoder's style (`Sets`).
-/
namespace RichModel
namespace Ansi
open AsciiStr Style

/-- Colours as `Color.parse`, `Color.from_ansi`, `Color.from_rgb` build them: the type says which of
number / triplet is there, and in which range. -/
def canon (c : Color) : Bool :=
  match c.type with
  | .default => c.number.isNone && c.triplet.isNone
  | .standard => (match c.number with | some n => decide (n < 16) | none => false) && c.triplet.isNone
  | .eightBit => (match c.number with | some n => decide (16 ≤ n ∧ n ≤ 255) | none => false) && c.triplet.isNone
  | .truecolor =>
    c.number.isNone &&
      (match c.triplet with | some t => decide (t.red ≤ 255 ∧ t.green ≤ 255 ∧ t.blue ≤ 255) | none => false)
  | .windows => false

/-- What `canon` admits, form by form. -/
inductive Canon : Color → Prop
  | default (name : List Char) : Canon ⟨name, .default, none, none⟩
  | standard (name : List Char) {n : Nat} (h : n < 16) : Canon ⟨name, .standard, some n, none⟩
  | eightBit (name : List Char) {n : Nat} (h : 16 ≤ n ∧ n ≤ 255) : Canon ⟨name, .eightBit, some n, none⟩
  | truecolor (name : List Char) {t : Triplet} (h : t.red ≤ 255 ∧ t.green ≤ 255 ∧ t.blue ≤ 255) :
    Canon ⟨name, .truecolor, none, some t⟩

theorem Canon.of_canon {c : Color} (h : canon c = true) : Canon c := by
  obtain ⟨name, ty, num, trip⟩ := c
  cases ty <;> simp only [canon, Bool.and_eq_true, Option.isNone_iff_eq_none] at h
  · obtain ⟨rfl, rfl⟩ := h; exact .default name
  · obtain ⟨h1, rfl⟩ := h
    cases num with
    | none => cases h1
    | some n => exact .standard name (by simpa using h1)
  · obtain ⟨h1, rfl⟩ := h
    cases num with
    | none => cases h1
    | some n => exact .eightBit name (by simpa using h1)
  · obtain ⟨rfl, h2⟩ := h
    cases trip with
    | none => cases h2
    | some t => exact .truecolor name (by simpa using h2)
  · cases h

/-- What is compared of a colour: everything but the name. -/
def colorKey (c : Color) : ColorType × Option Nat × Option Triplet := (c.type, c.number, c.triplet)

/-- The colour object the decoder builds for the parameters of `c`. -/
def decColor (c : Color) : Color :=
  match c.type with
  | .default => defaultColor
  | .truecolor =>
    match c.triplet with
    | some t => fromRgb t.red t.green t.blue
    | none => defaultColor
  | _ => fromAnsi (c.number.getD 0)

theorem colorKey_decColor {c : Color} (h : canon c = true) : colorKey (decColor c) = colorKey c := by
  cases Canon.of_canon h with
  | default => rfl
  | standard _ hn => simp [decColor, colorKey, fromAnsi, numberType, hn]
  | @eightBit _ n hn =>
    have : ¬ n < 16 := by omega
    simp [decColor, colorKey, fromAnsi, numberType, this]
  | truecolor => rfl

theorem canon_fromAnsi {n : Nat} (hn : n < 256) : canon (fromAnsi n) = true ∧ decColor (fromAnsi n) = fromAnsi n := by
  by_cases h : n < 16 <;> simp [canon, decColor, fromAnsi, numberType, h] <;> omega

theorem canon_fromRgb {r g b : Nat} (hr : r < 256) (hg : g < 256) (hb : b < 256) : canon (fromRgb r g b) = true := by
  simp [canon, fromRgb]
  omega

/-- the fields of a style that sets colour `c` on one side and nothing else: what the decoder adds for a colour parameter -/
def colorFields (fg : Bool) (c : Color) : Fields :=
  if fg then ⟨some c, none, 0, 0, none, false⟩ else ⟨none, some c, 0, 0, none, false⟩

theorem fieldsOf_fromColor (v : StyleVariant) (fg : Bool) (c : Color) :
    fieldsOf (if fg then fromColor v (some c) none else fromColor v none (some c)) = colorFields fg c := by
  cases fg <;> rfl

theorem colorRows :
    (∀ n, n < 8 → ∀ fg,
      parsedFields StyleVariant.fixed ((if fg then 30 else 40) + n) = some (colorFields fg (fromAnsi n)) ∧
      parsedFields StyleVariant.fixed ((if fg then 90 else 100) + n) = some (colorFields fg (fromAnsi (n + 8)))) ∧
    (∀ fg, parsedFields StyleVariant.fixed (if fg then 39 else 49) = some (colorFields fg defaultColor)) := by
  have ht := tablesOk_unpack.colorRows
  simp only [colorRowsOk, Bool.and_eq_true, List.all_eq_true, List.mem_range, beq_iff_eq] at ht
  obtain ⟨⟨hrows, h39⟩, h49⟩ := ht
  refine ⟨fun n hn fg => ?_, fun fg => ?_⟩
  · obtain ⟨⟨⟨a, b⟩, c⟩, d⟩ := hrows n hn
    cases fg
    · exact ⟨c, d⟩
    · exact ⟨a, b⟩
  · cases fg
    · exact h49
    · exact h39

/-- `st'` is `st` with its foreground (`fg`) or background colour replaced by `c`. -/
def SetColor (fg : Bool) (c : Color) (st st' : Style) : Prop :=
  Inv st' ∧ (∀ j, st'.attr j = st.attr j) ∧ st'.color = (if fg then some c else st.color) ∧
    st'.bgcolor = (if fg then st.bgcolor else some c) ∧ linkVal st'.link = linkVal st.link ∧ st'.isNull = false

theorem colorFields_unpack {fg : Bool} {c : Color} {b : Style} (hb : fieldsOf b = colorFields fg c) :
    b.color = (if fg then some c else none) ∧ b.bgcolor = (if fg then none else some c) ∧ b.attributes = 0 ∧
      b.setAttributes = 0 ∧ b.link = none ∧ b.isNull = false := by
  cases fg <;> simpa [fieldsOf, colorFields] using hb

theorem addend_of_colorFields {fg : Bool} {c : Color} {b : Style} (hb : fieldsOf b = colorFields fg c) : Addend b := by
  obtain ⟨_, _, ha, hs, hl, hn⟩ := colorFields_unpack hb
  exact ⟨⟨by rw [ha, hs]; rfl, by rw [hs]; decide, by intro h; rw [hn] at h; cases h⟩, hn, hl⟩

theorem setColor_add (v : StyleVariant) {fg : Bool} {c : Color} {st b : Style} (hinv : Inv st)
    (hb : fieldsOf b = colorFields fg c) : SetColor fg c st (add v st b) := by
  have hadd := addend_of_colorFields hb
  obtain ⟨hc, hg, _, hs, _, _⟩ := colorFields_unpack hb
  have o := Over.add v hinv hadd
  refine ⟨o.inv, fun j => ?_, ?_, ?_, o.link, add_isNull_false v st b hadd.notNull⟩
  · rw [o.attr]
    simp [attr, hs]
  · rw [o.color, hc]; cases fg <;> simp
  · rw [o.bgcolor, hg]; cases fg <;> simp

theorem applyCodes_ext (cfg : Cfg) (fg : Bool) (st : Style) (r : List Nat) :
    applyCodes cfg st ((if fg then 38 else 48) :: r) 0 =
      match extColor r with
      | none => (st, none)
      | some (some c, n) =>
        applyCodes cfg (add cfg.sv st (if fg then fromColor cfg.sv (some c) none else fromColor cfg.sv none (some c))) r n
      | some (none, n) => applyCodes cfg st r n := by
  have hv : sgrLookupV cfg (if fg then 38 else 48) = none := by
    cases fg <;> simp [sgrLookupV, tablesOk_unpack.no38, tablesOk_unpack.no48]
  cases fg <;> simp only [applyCodes, hv] <;> rcases extColor r with _ | ⟨_ | c, n⟩ <;> rfl

/-- Reading the parameters `codes` (at least one, each below 256), whatever follows them, makes the decoder's loop add a
style that sets the colour `col` on the side `fg` and nothing else. -/
structure AddsColor (cfg : Cfg) (fg : Bool) (codes : List Nat) (col : Color) : Prop where
  lt : ∀ n ∈ codes, n < 256
  ne : codes ≠ []
  adds : ∃ b : Style, fieldsOf b = colorFields fg col ∧ Adds cfg codes b

theorem AddsColor.row (cfg : Cfg) {fg : Bool} {k : Nat} {col : Color} (hk : 30 ≤ k ∧ k ≤ 107)
    (hrow : parsedFields cfg.sv k = some (colorFields fg col)) : AddsColor cfg fg [k] col := by
  obtain ⟨b, hb, happ⟩ := applyCodes_row cfg (k := k) (by omega) hrow
  exact ⟨fun m hm => by rw [List.mem_singleton.mp hm]; omega, by simp, b, hb, happ⟩

/-- 38 / 48 followed by parameters `p` that the sub-parser reads, all of them, as the colour `col` -/
theorem AddsColor.ext (cfg : Cfg) (fg : Bool) {p : List Nat} {col : Color} (hlt : ∀ n ∈ p, n < 256)
    (hp : ∀ r, extColor (p ++ r) = some (some col, p.length)) : AddsColor cfg fg ((if fg then 38 else 48) :: p) col := by
  refine ⟨fun n hn => ?_, by simp, _, fieldsOf_fromColor cfg.sv fg col, fun st r => ?_⟩
  · rcases List.mem_cons.mp hn with rfl | hn
    · cases fg <;> decide
    · exact hlt n hn
  · rw [List.cons_append, applyCodes_ext, hp]
    exact applyCodes_skip cfg _ p r

theorem AddsColor.setColor {cfg : Cfg} {fg : Bool} {codes : List Nat} {col : Color} (h : AddsColor cfg fg codes col)
    {st : Style} (hs : Inv st) :
    sgrCodes cfg (joinWith ';' (codes.map natStr)) = .ok codes ∧
      ∃ st', applyCodes cfg st codes 0 = (st', none) ∧ SetColor fg col st st' := by
  obtain ⟨b, hb, happ⟩ := h.adds
  exact ⟨sgrCodes_natStr cfg _ h.lt h.ne, _, happ.run st, setColor_add cfg.sv hs hb⟩

theorem AddsColor.sets {cfg : Cfg} {fg : Bool} {codes : List Nat} {col : Color} (h : AddsColor cfg fg codes col) :
    Sets cfg codes (fun _ => none) (if fg then some col else none) (if fg then none else some col) := by
  obtain ⟨b, hb, happ⟩ := h.adds
  obtain ⟨hc, hg, _, hs, _, _⟩ := colorFields_unpack hb
  have := Sets.of_add (addend_of_colorFields hb) happ
  rwa [show b.attr = fun _ => none from funext (attr_of_set_zero hs), hc, hg] at this

theorem wf_of_canon {c : Color} (h : canon c = true) : c.WF := by
  cases Canon.of_canon h with
  | default => exact ⟨rfl, rfl⟩
  | standard _ hn => exact ⟨⟨_, rfl, hn⟩, rfl⟩
  | eightBit _ hn => exact ⟨⟨_, rfl, by omega⟩, rfl⟩
  | truecolor _ ht => exact ⟨rfl, _, rfl, ht⟩

/-- The encoder writes the standard SGR parameters of the colour (C18's `getAnsiCodes_spec`). -/
theorem colorCodes_eq {c : Color} (hc : canon c = true) (fg : Bool) :
    colorCodes c fg = .ok ((sgrSpec c fg).map natStr) := by
  simp [colorCodes, downgrade_truecolor, getAnsiCodes_spec c fg (wf_of_canon hc)]

theorem colorCodes_spec (cfg : Cfg) (c : Color) (hc : canon c = true) (fg : Bool) :
    AddsColor cfg fg (sgrSpec c fg) (decColor c) := by
  obtain ⟨hrows, hdef⟩ := colorRows
  cases Canon.of_canon hc with
  | default => exact .row cfg (k := if fg then 39 else 49) (by split <;> omega) (hdef fg)
  | @standard _ n h1 =>
    show AddsColor cfg fg [if n < 8 then (if fg then 30 else 40) + n else (if fg then 90 else 100) + (n - 8)] (fromAnsi n)
    split
    · exact .row cfg (by split <;> omega) (hrows n ‹_› fg).1
    · have hrow := (hrows (n - 8) (by omega) fg).2
      rw [Nat.sub_add_cancel (by omega)] at hrow
      exact .row cfg (by split <;> omega) hrow
  | @eightBit _ n h1 => exact .ext cfg fg (p := [5, n]) (by simp; omega) fun _ => rfl
  | @truecolor _ t h2 => exact .ext cfg fg (p := [2, t.red, t.green, t.blue]) (by simp; omega) fun _ => rfl

/-- The colours of the style are in the form the public constructors build. -/
def canonStyle (s : Style) : Bool :=
  (match s.color with | some c => canon c | none => true) &&
  (match s.bgcolor with | some c => canon c | none => true)

theorem Sets.color (cfg : Cfg) (oc : Option Color) (hc : (match oc with | some c => canon c | none => true) = true)
    (fg : Bool) :
    ∃ ps : List (List Char × Nat), optColorCodes oc fg = .ok (ps.map (·.1)) ∧ ParamTexts ps ∧
      Sets cfg (ps.map (·.2)) (fun _ => none) (if fg then oc.map decColor else none)
        (if fg then none else oc.map decColor) := by
  cases oc with
  | none => exact ⟨[], rfl, nofun, by simpa using Sets.nil⟩
  | some c =>
    have hspec := colorCodes_spec cfg c hc fg
    exact ⟨(sgrSpec c fg).map fun n => (natStr n, n),
      by simpa [optColorCodes, List.map_map, Function.comp_def] using colorCodes_eq hc fg, paramTexts_of_lt _ hspec.lt,
      by cases fg <;> simpa [List.map_map, Function.comp_def] using hspec.sets⟩

/-- What `_make_ansi_codes` writes for `s`, read back: the attributes of `s` that are on and its colours (as the decoder
builds them) are put over whatever the decoder's style was. -/
theorem makeAnsiCodes_spec (cfg : Cfg) (s : Style) (hs : Inv s) (hcan : canonStyle s = true) :
    ∃ ps : List (List Char × Nat), makeAnsiCodes s = .ok (joinWith ';' (ps.map (·.1))) ∧ ParamTexts ps ∧
      Sets cfg (ps.map (·.2)) (fun j => if (s.attributes &&& s.setAttributes).testBit j then some true else none)
        (s.color.map decColor) (s.bgcolor.map decColor) := by
  simp only [canonStyle, Bool.and_eq_true] at hcan
  obtain ⟨pa, ha1, ha2, ha3⟩ := Sets.attrs cfg (Nat.lt_of_le_of_lt Nat.and_le_right hs.set_lt)
  obtain ⟨pf, hf1, hf2, hf3⟩ := Sets.color cfg s.color hcan.1 true
  obtain ⟨pg, hg1, hg2, hg3⟩ := Sets.color cfg s.bgcolor hcan.2 false
  refine ⟨pa ++ pf ++ pg, ?_, ?_, ?_⟩
  · unfold makeAnsiCodes
    rw [ha1]
    simp only
    rw [hf1]
    simp only
    rw [hg1]
    simp
  · exact List.forall_mem_append.mpr ⟨List.forall_mem_append.mpr ⟨ha2, hf2⟩, hg2⟩
  · simpa using (ha3.append hf3 (fun _ => rfl) rfl rfl).append hg3 (fun _ => rfl) rfl rfl

end Ansi
end RichModel
