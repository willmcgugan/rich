import RichModel.Lemmas.Pretty
/-!
Lemmas for `Pretty.__rich_measure__` (property C16 / the Pretty clause of C09): texts without line boundaries, the
maximum, the measurement computed on the specification, and the fact that makes the measurement sound.  With
`expand_all` the lines do not depend on the width.  Without it, rendering again at a width `m` that bounds the
container lines kept on one line at width `W` produces only lines that were produced at `W` or need at most `m` cells.
The pieces `str.splitlines` finds in a line are found again in the joined text and are no wider than the line, so the
measurement bounds every piece; re-rendering at the measured width preserves any property that holds of the lines
rendered before and of every line that fits (`renderLines_rebound`).
-/
namespace RichModel.Pretty
open RichModel

instance instDecidableEqExcept {ε α} [DecidableEq ε] [DecidableEq α] : DecidableEq (Except ε α)
  | .ok a, .ok b => if h : a = b then isTrue (h ▸ rfl) else isFalse fun e => h (Except.ok.inj e)
  | .error a, .error b => if h : a = b then isTrue (h ▸ rfl) else isFalse fun e => h (Except.error.inj e)
  | .ok _, .error _ => isFalse nofun
  | .error _, .ok _ => isFalse nofun

/-- `str.splitlines` finds no line boundary in `s` -/
def noBreak (s : Str) : Prop := ∀ c ∈ s, isLineBreak c = false

theorem splitLoop_noBreak (l r cur : Str) (h : noBreak l) :
    splitLoop (l ++ r) cur false = splitLoop r (l.reverse ++ cur) false := by
  induction l generalizing cur with
  | nil => rfl
  | cons c cs ih =>
    have hc : isLineBreak c = false := h c List.mem_cons_self
    rw [List.cons_append, splitLoop, if_neg (by simp), if_neg (by simp [hc]), ih _ fun x hx => h x (List.mem_cons_of_mem _ hx),
      List.reverse_cons, List.append_assoc, List.singleton_append]

theorem splitlines_noBreak {s : Str} (h : noBreak s) (hne : s ≠ []) : splitlines s = [s] := by
  have := splitLoop_noBreak s [] [] h
  rw [List.append_nil, List.append_nil] at this
  rw [splitlines, this, splitLoop, if_neg (by simpa using hne), List.reverse_reverse]

theorem cellLen_le_of_noBreak (cw : Char → Nat) {s : Str} {m : Nat} (h : noBreak s)
    (hp : ∀ p ∈ splitlines s, cellLen cw p ≤ m) : cellLen cw s ≤ m := by
  cases s with
  | nil => exact Nat.zero_le _
  | cons c t => exact hp _ (by rw [splitlines_noBreak h (List.cons_ne_nil _ _)]; exact List.mem_singleton_self _)

theorem pyMax_ge (xs : List Nat) (m : Nat) (h : pyMax xs = .ok m) : ∀ y ∈ xs, y ≤ m := by
  cases xs with
  | nil => cases h
  | cons x t =>
    cases h
    exact (List.max?_le_iff List.max?_cons').mp (Nat.le_refl _)

theorem Line.cells_eq_str (cw : Char → Nat) (hs : cw ' ' = 1) (l : Line) (k : Nat)
    (hw : l.whitespace = List.replicate k ' ') : cellLen cw l.str = l.cells cw := by
  rw [Line.str, Line.cells, cellLen_append, cellLen_append, cellLen_append, hw, cellLen_replicate_space cw hs,
    List.length_replicate]
  cases l.node <;> exact Nat.add_right_comm _ _ _

/-- the measurement, computed on the specification of the render loop (which the kernel can evaluate). -/
theorem prettyMeasure_eq_spec (cw : Char → Nat) (v : Variant) (n : Node) (W ind : Int) (ea : Bool) :
    prettyMeasure cw v n W ind ea = pyMax ((splitlines (joinLines ((specLine
      ⟨cw, v, W, ind, if v.measureNoExpandAll then false else ea⟩ (rootLine n) n).map Line.str))).map (cellLen cw)) := by
  rw [prettyMeasure, render, renderLines_eq_spec]

/-- Let `m` bound the cells of every container line kept on one line at width `c.w`.  Then a line rendered at width `m`
either is a line rendered at width `c.w` or needs at most `m` cells: a line kept at `m` fits `m`, and a line expanded
at `m` was expanded at `c.w` too (kept there it would need at most `m` cells and be kept at `m`). -/
theorem specLine_rebound (c : Cfg) (m : Nat) (hea : c.ea = false) (n : Node) :
    ∀ l : Line, l.node = some n →
      (∀ l' ∈ specLine c l n, l'.expandable = true → l'.cells c.cw ≤ m) →
      ∀ l' ∈ specLine { c with w := (m : Int) } l n, l' ∈ specLine c l n ∨ l'.cells c.cw ≤ m := by
  induction n using Node.induct with | _ n ih =>
  intro l hn hK l' hl'
  have hea : ¬ c.ea = true := hea ▸ Bool.false_ne_true
  rcases mem_specLine.mp hl' with ⟨hm, rfl⟩ | ⟨hm, hl'⟩
  · -- kept at `m`
    cases hw : expands c l' n with
    | false => exact Or.inl (mem_specLine.mpr (Or.inl ⟨hw, rfl⟩))
    | true =>
      obtain ⟨he, hx, _⟩ := (expands_iff c hn).mp hw
      have : ¬ (m : Int) < l'.cells c.cw := fun h =>
        Bool.false_ne_true (hm.symm.trans ((expands_iff _ hn).mpr ⟨he, hx, Or.inr h⟩))
      exact Or.inr (by omega)
  · -- expanded at `m`, hence at `c.w`
    obtain ⟨he, _, hlt⟩ := (expands_iff _ hn).mp hm
    have hlt : (m : Int) < l.cells c.cw := hlt.resolve_left hea
    have hw : expands c l n = true := Bool.of_not_eq_false fun hw => by
      have := hK l (mem_specLine.mpr (Or.inl ⟨hw, rfl⟩)) (Line.expandable_iff.mpr ⟨n, hn, he⟩)
      omega
    have hmem := fun y hy => (mem_specLine (c := c) (l := l) (n := n) (l' := y)).mpr (Or.inr ⟨hw, hy⟩)
    rcases hl' with rfl | ⟨x, hx, hl'⟩ | rfl
    · exact Or.inl (hmem _ (Or.inl rfl))
    · exact (ih x hx _ rfl (fun y hy => hK y (hmem y (Or.inr (Or.inl ⟨x, hx, hy⟩)))) l' hl').imp_left
        fun h => hmem l' (Or.inr (Or.inl ⟨x, hx, h⟩))
    · exact Or.inl (hmem _ (Or.inr (Or.inr rfl)))

theorem specLine_bound (c : Cfg) (m : Nat) (hea : c.ea = false) :
    ∀ (n : Node) (l : Line), l.node = some n →
      (∀ l' ∈ specLine c l n, l'.cells c.cw ≤ m) →
      ∀ l' ∈ specLine { c with w := (m : Int) } l n, l'.cells c.cw ≤ m :=
  fun n l hn hW l' hl' => (specLine_rebound c m hea n l hn (fun y hy _ => hW y hy) l' hl').elim (hW l') id

theorem specKids_bound (c : Cfg) (m : Nat) (hea : c.ea = false) :
    ∀ (ch : List Node) (ws : Str) (one : Bool),
      (∀ l' ∈ specKids c ws one ch, l'.cells c.cw ≤ m) →
      ∀ l' ∈ specKids { c with w := (m : Int) } ws one ch, l'.cells c.cw ≤ m := by
  intro ch ws one hW l' hl'
  obtain ⟨x, hx, hl'⟩ := mem_specKids.mp hl'
  exact specLine_bound c m hea x _ rfl (fun y hy => hW y (mem_specKids.mpr ⟨x, hx, hy⟩)) l' hl'

theorem specLine_ea_width (c : Cfg) (w' : Int) (hea : c.ea = true) :
    ∀ (n : Node) (l : Line), specLine { c with w := w' } l n = specLine c l n :=
  specLine_congr (c := { c with w := w' }) (c' := c) rfl rfl fun l n => by simp [expands, mustExpand, hea]

theorem specKids_ea_width (c : Cfg) (w' : Int) (hea : c.ea = true) :
    ∀ (ch : List Node) (ws : Str) (one : Bool), specKids { c with w := w' } ws one ch = specKids c ws one ch :=
  fun _ _ _ => specKids_congr fun x _ => specLine_ea_width c w' hea x _

theorem specLine_setLast_str (c : Cfg) (hv : c.v.dropSuffix = false) (n : Node) (l : Line) (b : Bool) :
    (specLine c { l with node := some (n.setLast b) } (n.setLast b)).map Line.str
      = (specLine c { l with node := some n } n).map Line.str := by
  cases n with
  | mk k vr o cl e la t ic ch =>
    -- `check_length` reads the tokens, which do not mention `last`
    have hm : mustExpand c.cw c.w c.ea { l with node := some (.mk k vr o cl e b t ic ch) } (.mk k vr o cl e b t ic ch)
        = mustExpand c.cw c.w c.ea { l with node := some (.mk k vr o cl e la t ic ch) } (.mk k vr o cl e la t ic ch) := rfl
    rw [Node.setLast, specLine, specLine, hm]
    split
    · simp only [Line.expandClose, hv]; rfl
    · rfl

theorem splitLoop_piece_le (cw : Char → Nat) (s cur : Str) (aft : Bool) :
    ∀ p ∈ splitLoop s cur aft, cellLen cw p ≤ cellLen cw cur + cellLen cw s := by
  fun_induction splitLoop s cur aft with
  | case1 => exact nofun
  | case2 cur =>
    intro p hp
    cases List.mem_singleton.mp hp
    rw [cellLen_reverse]; exact Nat.le_add_right _ _
  | case3 c rest cur _ _ ih =>
    intro p hp
    rw [cellLen_cons]
    exact Nat.le_trans (ih p hp) (Nat.add_le_add_left (Nat.le_add_left _ _) _)
  | case4 c rest cur _ _ _ ih =>
    intro p hp
    rw [cellLen_cons]
    rcases List.mem_cons.mp hp with rfl | hp
    · rw [cellLen_reverse]; exact Nat.le_add_right _ _
    · exact Nat.le_trans (ih p hp) (by rw [cellLen_nil]; omega)
  | case5 c rest cur _ _ _ ih =>
    intro p hp
    refine Nat.le_trans (ih p hp) (Nat.le_of_eq ?_)
    rw [cellLen_cons, cellLen_cons, Nat.add_comm (cw c), Nat.add_assoc]

theorem splitlines_piece_le (cw : Char → Nat) (s : Str) : ∀ p ∈ splitlines s, cellLen cw p ≤ cellLen cw s :=
  fun p hp => Nat.le_trans (splitLoop_piece_le cw s [] false p hp) (Nat.le_of_eq (Nat.zero_add _))

theorem joinLines_singleton (a : Str) : joinLines [a] = a := by
  simp [joinLines, List.intercalate]

theorem joinLines_cons_cons (a b : Str) (r : List Str) :
    joinLines (a :: b :: r) = a ++ '\n' :: joinLines (b :: r) := by
  simp [joinLines, List.intercalate]

/-- `splitlines` of `a ++ "\n" ++ r`: every piece of `a` is found, then the pieces of `r`.  (Invariant of the loop:
right after a `\r` boundary nothing is pending.) -/
theorem splitLoop_append_nl (r a cur : Str) (aft : Bool) : (aft = true → cur = []) →
    ∃ X, splitLoop (a ++ '\n' :: r) cur aft = X ++ splitLoop r [] false ∧ ∀ p ∈ splitLoop a cur aft, p ∈ X := by
  fun_induction splitLoop a cur aft with
  | case1 cur aft _ =>
    intro hinv
    cases aft with
    | true => exact ⟨[], by rw [hinv rfl]; rfl, nofun⟩
    | false => exact ⟨[cur.reverse], rfl, nofun⟩
  | case2 cur aft hcur =>
    intro hinv
    cases aft with
    | true => exact absurd (hinv rfl ▸ rfl) hcur
    | false => exact ⟨[cur.reverse], rfl, fun _ hp => hp⟩
  | case3 c rest cur aft h1 ih =>
    -- `\r\n` counted once
    intro _
    rw [List.cons_append, splitLoop, if_pos h1]
    exact ih nofun
  | case4 c rest cur aft h1 h2 ih =>
    intro _
    rw [List.cons_append, splitLoop, if_neg h1, if_pos h2]
    obtain ⟨X, e, hX⟩ := ih fun _ => rfl
    exact ⟨cur.reverse :: X, by rw [e]; rfl, List.forall_mem_cons.mpr
      ⟨List.mem_cons_self, fun p hp => List.mem_cons_of_mem _ (hX p hp)⟩⟩
  | case5 c rest cur aft h1 h2 ih =>
    intro _
    rw [List.cons_append, splitLoop, if_neg h1, if_neg h2]
    exact ih nofun
theorem pieces_mem_join (ls : List Str) : ∀ l ∈ ls, ∀ p ∈ splitlines l, p ∈ splitlines (joinLines ls) := by
  induction ls with
  | nil => exact nofun
  | cons a t ih =>
    intro l hl p hp
    cases t with
    | nil =>
      cases List.mem_singleton.mp hl
      rw [joinLines_singleton]; exact hp
    | cons b r =>
      rw [joinLines_cons_cons, splitlines]
      obtain ⟨X, h1, h2⟩ := splitLoop_append_nl (joinLines (b :: r)) a [] false nofun
      rw [h1, List.mem_append]
      rcases List.mem_cons.mp hl with rfl | hl
      · exact Or.inl (h2 p hp)
      · exact Or.inr (ih l hl p hp)

theorem prettyMeasure_ge_pieces (cw : Char → Nat) (v : Variant) (hv : v.measureNoExpandAll = false) (n : Node)
    (W ind : Int) (ea : Bool) (m : Nat) (hm : prettyMeasure cw v n W ind ea = .ok m) :
    ∀ l ∈ renderLines cw v n W ind ea, ∀ p ∈ splitlines l.str, cellLen cw p ≤ m := by
  intro l hl p hp
  rw [prettyMeasure, hv, if_neg Bool.false_ne_true, render] at hm
  exact pyMax_ge _ m hm _ (List.mem_map_of_mem (pieces_mem_join _ _ (List.mem_map_of_mem hl) p hp))

/-- `specLine_rebound` for a predicate: what holds of the lines rendered at `c.w`, and of every blank-indented line of at
most `m` cells, holds of the lines rendered at width `m`. -/
theorem specLine_boundP (c : Cfg) (m : Nat) (hea : c.ea = false) (P : Line → Prop)
    (hP : ∀ l : Line, (∃ k, l.whitespace = List.replicate k ' ') → l.cells c.cw ≤ m → P l) :
    ∀ (n : Node) (l : Line), l.node = some n → (∃ k, l.whitespace = List.replicate k ' ') →
      (∀ l' ∈ specLine c l n, P l') →
      (∀ l' ∈ specLine c l n, l'.expandable = true → l'.cells c.cw ≤ m) →
      ∀ l' ∈ specLine { c with w := (m : Int) } l n, P l' := by
  intro n l hn ⟨k, hk⟩ hW hK l' hl'
  rcases specLine_rebound c m hea n l hn hK l' hl' with h | h
  · exact hW l' h
  · obtain ⟨d, hd⟩ := specLine_indent _ n l l' hl'
    exact hP l' ⟨k + d * c.ind.toNat, by rw [hd, hk, List.replicate_append_replicate]⟩ h

theorem specKids_boundP (c : Cfg) (m : Nat) (hea : c.ea = false) (P : Line → Prop)
    (hP : ∀ l : Line, (∃ k, l.whitespace = List.replicate k ' ') → l.cells c.cw ≤ m → P l) :
    ∀ (ch : List Node) (ws : Str) (one : Bool), (∃ k, ws = List.replicate k ' ') →
      (∀ l' ∈ specKids c ws one ch, P l') →
      (∀ l' ∈ specKids c ws one ch, l'.expandable = true → l'.cells c.cw ≤ m) →
      ∀ l' ∈ specKids { c with w := (m : Int) } ws one ch, P l' := by
  intro ch ws one hws hW hK l' hl'
  obtain ⟨x, hx, hl'⟩ := mem_specKids.mp hl'
  exact specLine_boundP c m hea P hP x _ rfl hws (fun y hy => hW y (mem_specKids.mpr ⟨x, hx, hy⟩))
    (fun y hy => hK y (mem_specKids.mpr ⟨x, hx, hy⟩)) l' hl'

theorem renderLines_rebound (cw : Char → Nat) (hs : cw ' ' = 1) (v : Variant) (n : Node) (W ind : Int) (ea : Bool)
    (m : Nat) (P : Line → Prop) (hP : ∀ l : Line, cellLen cw l.str ≤ m → P l)
    (hW : ∀ l ∈ renderLines cw v n W ind ea, P l)
    (hK : ∀ l ∈ renderLines cw v n W ind ea, l.expandable = true → cellLen cw l.str ≤ m) :
    ∀ l ∈ renderLines cw v n (m : Int) ind ea, P l := by
  intro l hl
  rw [renderLines_eq_spec] at hl hW hK
  cases ea with
  | true => exact hW l (specLine_ea_width ⟨cw, v, W, ind, true⟩ m rfl n (rootLine n) ▸ hl)
  | false =>
    refine specLine_boundP ⟨cw, v, W, ind, false⟩ m rfl P (fun l ⟨k, hk⟩ hc => hP l ?_) n (rootLine n) rfl ⟨0, rfl⟩ hW
      (fun l' hl' he => ?_) l hl
    · rw [Line.cells_eq_str cw hs l k hk]; exact hc
    · obtain ⟨d, hd⟩ := specLine_indent _ n _ l' hl'
      rw [← Line.cells_eq_str cw hs l' _ hd]; exact hK l' hl' he

end RichModel.Pretty
