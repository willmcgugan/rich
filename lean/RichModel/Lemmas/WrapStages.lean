import RichModel.Lemmas.WrapStrings
import RichModel.Lemmas.TextPad
/-!
What each per-line stage of `Text.wrap` (`rstrip_end`, `rstrip`, `pad_left`, `pad_right`, `truncate`, and their
composition in `Lines.justify` and `wrapLine`) makes of a line (repaired Text model): one relation, `Stage`, one lemma
per stage, composed by `Stage.trans`.  Its first half, `Kept` (filler, a prefix of the line's styled string, filler), holds
in every overflow mode and is what C02 states; its second half says when nothing but whitespace goes.
Last section, every variant: a line that fits goes through the stages as one line that fits (`finishLine_fits`).
-/
namespace RichModel
namespace Wrap
open Text
variable {σ : Type}
variable {chars : Bool}

/-- `rstrip_end(size)`, either form: a prefix of the line that keeps all its ink, every character as it was -/
theorem rstripEnd_spec (cw : Char → Nat) (t : Text σ) (h : Inv t) (size : Nat) :
    ∃ k, rstripLen t.plain ≤ k ∧ Shows (Text.rstripEndW chars cw Variant.repaired t (size : Int)) t.style (t.view.take k) := by
  have hn : (if chars then t.length else (cellLen cw t.plain : Int)) =
      ((if chars then t.plain.length else cellLen cw t.plain : Nat) : Int) := by
    cases chars
    · rfl
    · exact h.1
  rcases rstripEndW_crop chars cw t size _ hn with he | ⟨_, he⟩ <;> rw [he]
  · refine ⟨_, ?_, h.shows.rightCrop _⟩
    have := trailing_add_rstripLen t.plain
    have := Nat.min_le_left (trailingSpaceCount t.plain)
      (((if chars then t.plain.length else cellLen cw t.plain : Nat) : Int) - (size : Int)).toNat
    omega
  · exact ⟨t.plain.length, rstripLen_le _, by rw [List.take_of_length_le (Nat.le_of_eq (view_length t))]; exact h.shows⟩

theorem cellLen_space_ge (cw : Char → Nat) (hws : ∀ c, pyIsSpace c = true → 1 ≤ cw c) :
    ∀ s : List Char, (∀ c ∈ s, pyIsSpace c = true) → s.length ≤ cellLen cw s
  | [], _ => Nat.zero_le _
  | c :: s, h => by
    have h1 := hws c (h c (by simp))
    have h2 := cellLen_space_ge cw hws s (fun x hx => h x (List.mem_cons_of_mem _ hx))
    simp only [cellLen, List.map_cons, List.sum_cons, List.length_cons] at h2 ⊢
    omega

/-- the text of the line fits the width once its trailing whitespace is removed -/
def FitsStripped (cw : Char → Nat) (w : Nat) (t : Text σ) : Prop := cellLen cw (pyRstrip t.plain) ≤ w

theorem FitsStripped.of_take_append {cw : Char → Nat} {w : Nat} {L M : Text σ} {k : Nat} {post : List Char}
    (h : FitsStripped cw w L) (hp : M.plain = L.plain.take k ++ post) (hk : rstripLen L.plain ≤ k)
    (hsp : ∀ c ∈ post, pyIsSpace c = true) : FitsStripped cw w M := by
  unfold FitsStripped
  rw [hp, pyRstrip_append_space _ _ hsp, pyRstrip_take _ _ hk]; exact h

theorem rstripEndW_plain (cw : Char → Nat) (t : Text σ) (size : Int) :
    (Text.rstripEndW false cw Variant.repaired t size).plain =
      t.plain.take (t.plain.length - rstripEndAmount cw t.plain size) := by
  rcases rstripEndW_eq cw t size with he | ⟨h0, he⟩ <;> rw [he]
  · rw [rightCrop_nat]
  · rw [h0, Nat.sub_zero, List.take_length]

/-- `rstrip_end` counting cells (fix f5f2be9): a line whose text fits without its trailing whitespace fits as a whole
afterwards, provided no whitespace character is zero cells wide -/
theorem rstripEnd_cells_fits (cw : Char → Nat) (hws : ∀ c, pyIsSpace c = true → 1 ≤ cw c) (t : Text σ) (w : Nat)
    (hfit : FitsStripped cw w t) :
    cellLen cw (Text.rstripEndW false cw Variant.repaired t (w : Int)).plain ≤ w := by
  have hfit : cellLen cw (pyRstrip t.plain) ≤ w := hfit
  have htr := trailing_add_rstripLen t.plain
  rw [rstripEndW_plain, rstripEndAmount_eq, show ((cellLen cw t.plain : Int) - (w : Int)).toNat = cellLen cw t.plain - w by omega]
  by_cases hall : trailingSpaceCount t.plain ≤ cellLen cw t.plain - w
  · -- all the trailing whitespace goes: what is left is the stripped text
    rw [Nat.min_eq_left hall, Nat.sub_eq_of_eq_add (by rw [Nat.add_comm]; exact htr.symm), ← pyRstrip_eq_take]
    exact hfit
  · -- the characters cut off (none, if the line fits) are whitespace, at least one cell each
    rw [Nat.min_eq_right (Nat.le_of_not_le hall)]
    generalize hd : cellLen cw t.plain - w = d at hall
    have hk : rstripLen t.plain ≤ t.plain.length - d := by omega
    have hge := cellLen_space_ge cw hws _ (drop_space t.plain (t.plain.length - d) hk)
    have hlen := cellLen_append cw (t.plain.take (t.plain.length - d)) (t.plain.drop (t.plain.length - d))
    rw [List.take_append_drop] at hlen
    rw [List.length_drop] at hge
    omega

theorem padLeft_plain (t : Text σ) (n : Nat) (ch : Char) : (t.padLeft (n : Int) ch).plain = List.replicate n ch ++ t.plain :=
  Text.padLeft_plain t n ch

theorem padRight_plain (t : Text σ) (n : Nat) (ch : Char) : (t.padRight (n : Int) ch).plain = t.plain ++ List.replicate n ch :=
  Text.padRight_plain t n ch

theorem nsv_replicate_space {β : Type} (n : Nat) (b : β) : nsv (List.replicate n (' ', b)) = [] := by
  apply nsv_space
  intro p hp
  rw [List.eq_of_mem_replicate hp]; exact space_isSpace

theorem padLeft_style (t : Text σ) (n : Int) (ch : Char) : (t.padLeft n ch).style = t.style := Text.padLeft_style t n ch

theorem padRight_style (t : Text σ) (n : Int) (ch : Char) : (t.padRight n ch).style = t.style := Text.padRight_style t n ch

theorem truncate_noop (cw : Char → Nat) (t : Text σ) (w : Nat) (ov : Overflow) (h : cellLen cw t.plain ≤ w) :
    t.truncate cw (w : Int) (some ov) false = t := by
  rw [truncate_some]
  have : ¬ ((cellLen cw t.plain : Int) > (w : Int)) := Int.not_lt.mpr (Int.ofNat_le.mpr h)
  simp only [this, if_false, Bool.false_and, Bool.false_eq_true]
  split <;> rfl

theorem truncate_ignore (cw : Char → Nat) (t : Text σ) (w : Int) (pad : Bool) :
    t.truncate cw w (some Overflow.ignore) pad = t := by
  rw [truncate_some]; rfl

theorem setPlain_self (t : Text σ) : t.setPlain t.plain = t := by
  rw [setPlain_eq]; simp

/-- made of blanks and ellipsis characters only (whatever their styles) -/
def Filler (v : List (Char × List σ)) : Prop := ∀ p ∈ v, p.1 = ' ' ∨ p.1 = '…'

theorem Filler.nil : Filler ([] : List (Char × List σ)) := by intro p hp; cases hp

theorem Filler.append {a b : List (Char × List σ)} (ha : Filler a) (hb : Filler b) : Filler (a ++ b) := by
  intro p hp
  rcases List.mem_append.mp hp with h | h
  · exact ha p h
  · exact hb p h

theorem Filler.take {a : List (Char × List σ)} (ha : Filler a) (n : Nat) : Filler (a.take n) :=
  fun p hp => ha p (List.mem_of_mem_take hp)

theorem Filler.replicate (n : Nat) (s : List σ) : Filler (List.replicate n (' ', s)) := by
  intro p hp; rw [List.eq_of_mem_replicate hp]; exact Or.inl rfl

/-- `M` is filler, a prefix of `L`'s styled string, filler -/
structure Kept (L M : Text σ) : Prop where
  inv : Inv M
  style : M.style = L.style
  shape : ∃ (pre : List (Char × List σ)) (k : Nat) (post : List (Char × List σ)),
    M.view = pre ++ (L.view.take k ++ post) ∧ Filler pre ∧ Filler post

theorem Kept.refl (L : Text σ) (h : Inv L) : Kept L L :=
  ⟨h, rfl, [], L.view.length, [], by simp, Filler.nil, Filler.nil⟩

theorem Kept.trans {L M N : Text σ} (h1 : Kept L M) (h2 : Kept M N) : Kept L N := by
  refine ⟨h2.inv, h2.style.trans h1.style, ?_⟩
  obtain ⟨pre, k, post, hM, hpre, hpost⟩ := h1.shape
  obtain ⟨pre', k', post', hN, hpre', hpost'⟩ := h2.shape
  -- `N.view = pre' ++ (M.view.take k' ++ post')`, and `take k'` goes through the three parts `pre`, prefix, `post` of `M.view`
  refine ⟨pre' ++ pre.take k', min (k' - pre.length) k, (post.take (k' - pre.length - (L.view.take k).length)) ++ post', ?_,
    hpre'.append (hpre.take _), (hpost.take _).append hpost'⟩
  rw [hN, hM]
  simp only [List.take_append, List.take_take, List.append_assoc]

/-- What a stage of `Text.wrap` at width `w` makes of a line `L`.  In every overflow mode: filler, a prefix of `L`'s
styled string — every character with exactly the effective style it has in `L` — filler (`Kept`).  Unless the mode is
"ellipsis" (and given that a blank is one cell wide), a line that fits once stripped loses nothing but whitespace: `M`
shows exactly the non-whitespace characters of `L` with their styles, and still fits once stripped. -/
structure Stage (cw : Char → Nat) (w : Nat) (o : Overflow) (L M : Text σ) : Prop where
  kept : Kept L M
  ink : cw ' ' = 1 → o ≠ Overflow.ellipsis → FitsStripped cw w L → nsv M.view = nsv L.view ∧ FitsStripped cw w M

theorem Stage.refl (cw : Char → Nat) (w : Nat) (o : Overflow) (L : Text σ) (h : Inv L) : Stage cw w o L L :=
  ⟨Kept.refl L h, fun _ _ hf => ⟨rfl, hf⟩⟩

theorem Stage.trans {cw : Char → Nat} {w : Nat} {o : Overflow} {L M N : Text σ} (h1 : Stage cw w o L M)
    (h2 : Stage cw w o M N) : Stage cw w o L N :=
  ⟨h1.kept.trans h2.kept, fun hsp ho hf =>
    ⟨((h2.ink hsp ho (h1.ink hsp ho hf).2).1).trans (h1.ink hsp ho hf).1, (h2.ink hsp ho (h1.ink hsp ho hf).2).2⟩⟩

theorem Stage.of_view (cw : Char → Nat) (w : Nat) (o : Overflow) {L M : Text σ} {k : Nat} {post : List (Char × List σ)}
    (hM : Shows M L.style (L.view.take k ++ post)) (hpost : Filler post)
    (hink : o ≠ Overflow.ellipsis → FitsStripped cw w L → rstripLen L.plain ≤ k ∧ ∀ p ∈ post, pyIsSpace p.1 = true) :
    Stage cw w o L M := by
  have hp : M.plain = L.plain.take k ++ post.map (·.1) := by
    have := congrArg (List.map (·.1)) hM.view
    rwa [view_map_fst, List.map_append, List.map_take, view_map_fst] at this
  refine ⟨⟨hM.inv, hM.style, [], k, post, hM.view, Filler.nil, hpost⟩, fun _ ho hf => ?_⟩
  obtain ⟨hk, hsp⟩ := hink ho hf
  refine ⟨?_, hf.of_take_append hp hk (List.forall_mem_map.mpr hsp)⟩
  rw [hM.view, nsv_append, nsv_space _ hsp, List.append_nil]
  exact nsv_take _ _ (view_drop_space L k hk)

theorem Stage.of_take (cw : Char → Nat) (w : Nat) (o : Overflow) {L M : Text σ} {k : Nat}
    (hM : Shows M L.style (L.view.take k)) (hk : rstripLen L.plain ≤ k) : Stage cw w o L M :=
  .of_view cw w o (post := []) (by rwa [List.append_nil]) Filler.nil fun _ _ => ⟨hk, fun _ h => nomatch h⟩

theorem Stage.of_plain (cw : Char → Nat) (w : Nat) (o : Overflow) {L M : Text σ} {k : Nat} {post : List Char}
    (hi : Inv M) (hs : M.style = L.style) (hv : M.view = annot M.plain L.effStyle 0)
    (hp : M.plain = L.plain.take k ++ post) (hpost : ∀ c ∈ post, c = ' ' ∨ c = '…')
    (hink : o ≠ Overflow.ellipsis → FitsStripped cw w L → rstripLen L.plain ≤ k ∧ ∀ c ∈ post, pyIsSpace c = true) :
    Stage cw w o L M := by
  have hview : M.view = L.view.take k ++ annot post L.effStyle (0 + (L.plain.take k).length) := by
    rw [hv, hp, annot_append, annot_take, ← view_eq_annot]
  exact .of_view cw w o ⟨hi, hs, hview⟩ (annot_all (fun c => c = ' ' ∨ c = '…') _ _ _ hpost) fun ho hf =>
    ⟨(hink ho hf).1, annot_all (pyIsSpace · = true) _ _ _ (hink ho hf).2⟩

theorem rstripEnd_stage (cw : Char → Nat) (w : Nat) (o : Overflow) (t : Text σ) (h : Inv t) (size : Nat) :
    Stage cw w o t (Text.rstripEndW chars cw Variant.repaired t (size : Int)) := by
  obtain ⟨k, hk, hs⟩ := rstripEnd_spec (chars := chars) cw t h size
  exact .of_take cw w o hs hk

theorem rstrip_stage (cw : Char → Nat) (w : Nat) (o : Overflow) (t : Text σ) (h : Inv t) : Stage cw w o t t.rstrip :=
  .of_take cw w o ⟨inv_rstrip t h, setPlain_style _ _, view_rstrip t h⟩ (Nat.le_refl _)

theorem padLeft_stage (cw : Char → Nat) (w : Nat) (o : Overflow) (t : Text σ) (h : Inv t) (n : Nat)
    (hn : n ≤ w - cellLen cw t.plain) : Stage cw w o t (t.padLeft (n : Int) ' ') := by
  have hs := h.shows.padLeft n ' ' noCtl_space
  refine ⟨⟨hs.inv, hs.style, List.replicate n (' ', [t.style]), t.view.length, [], by rw [hs.view]; simp,
    Filler.replicate _ _, Filler.nil⟩, fun hsp _ hf => ⟨?_, ?_⟩⟩
  · rw [hs.view, nsv_append, nsv_replicate_space, List.nil_append]
  · unfold FitsStripped at hf ⊢
    rw [padLeft_plain]
    by_cases h0 : n = 0
    · rw [h0]; exact hf
    · refine Nat.le_trans (cellLen_pyRstrip_le _ _) ?_
      rw [cellLen_append, cellLen_replicate_space cw hsp]; omega

theorem padRight_stage (cw : Char → Nat) (w : Nat) (o : Overflow) (t : Text σ) (h : Inv t) (x : Int) :
    Stage cw w o t (t.padRight x ' ') := by
  by_cases hx : 0 ≤ x
  · obtain ⟨n, rfl⟩ := Int.eq_ofNat_of_zero_le hx
    refine .of_view cw w o (k := t.view.length) (by rw [List.take_length]; exact h.shows.padRight n ' ' noCtl_space)
      (Filler.replicate _ _) fun _ _ => ⟨view_length t ▸ rstripLen_le _, fun p hp => ?_⟩
    rw [List.eq_of_mem_replicate hp]; exact space_isSpace
  · rw [padRight_eq, show x.toNat = 0 by omega, List.replicate_zero, List.append_nil, setPlain_self]
    split <;> exact .refl cw w o t h

/-- `truncate`: `Text.truncate_spec` for the text, `setCellSizeI_shape` for its characters -/
theorem truncate_stage (cw : Char → Nat) (t : Text σ) (h : Inv t) (w : Nat) (o : Overflow) (pad : Bool) :
    Stage cw w o t (t.truncate cw (w : Int) (some o) pad) := by
  by_cases hig : o = Overflow.ignore
  · rw [hig, truncate_ignore]; exact .refl cw w _ t h
  obtain ⟨hi, _, hs, hv⟩ := truncate_spec cw t w (some o) pad h
  rcases truncate_cases cw t w o hig pad with ⟨_, he⟩ | ⟨_, _, he⟩ | ⟨_, he⟩
  · -- cut down: what `set_cell_size` leaves is a prefix of the text and blanks; the ellipsis may follow
    have hp := congrArg Text.plain he
    rw [setPlain_plain] at hp
    split at hp
    · rename_i hell
      obtain ⟨k, m, hkm, _⟩ := setCellSizeI_shape cw t.plain ((w : Int) - 1)
      refine .of_plain cw w o hi hs hv (post := List.replicate m ' ' ++ ['…']) (by rw [hp, hkm, List.append_assoc])
        (fun c hc => ?_) (fun ho => absurd hell ho)
      exact (List.mem_append.mp hc).imp List.eq_of_mem_replicate List.mem_singleton.mp
    · obtain ⟨k, m, hkm, hk⟩ := setCellSizeI_shape cw t.plain (w : Int)
      exact .of_plain cw w o hi hs hv (by rw [hp, ← setCellSizeI_nat, hkm]) (fun c hc => Or.inl (List.eq_of_mem_replicate hc))
        (fun _ hf => ⟨hk _ _ (pyRstrip_append_drop t.plain).symm (Int.ofNat_le.mpr hf), replicate_isSpace m⟩)
  · refine .of_plain cw w o hi hs hv (k := t.plain.length) (by rw [he, List.take_length])
      (fun c hc => Or.inl (List.eq_of_mem_replicate hc)) (fun _ _ => ⟨rstripLen_le _, replicate_isSpace _⟩)
  · rw [he]; exact .refl cw w o t h

/-! ### one line through `rstrip_end`, `Lines.justify` (left / center / right / default) and `truncate` -/

/-- what `Lines.justify` does to each line in the four modes that treat lines separately; "full" is here too, as the
identity: that is what it does to the last line of a paragraph (`justifyLines_one`) -/
def justifyOne (wv : WVariant) (cw : Char → Nat) (width : Nat) (j : Justify) (o : Overflow) (l : Text σ) : Text σ :=
  match j with
  | .left => l.truncate cw width (some o) true
  | .center =>
      let l1 := (l.rstrip).truncate cw width (some o)
      let l2 := l1.padLeft (padCount wv (((width : Int) - (cellLen cw l1.plain : Int)) / 2))
      l2.padRight ((width : Int) - (cellLen cw l2.plain : Int))
  | .right =>
      let l1 := (l.rstrip).truncate cw width (some o)
      l1.padLeft (padCount wv ((width : Int) - (cellLen cw l1.plain : Int)))
  | _ => l

theorem justifyLines_map [BEq σ] (wv : WVariant) (cw : Char → Nat) (A : StyleAlg σ) (lines : List (Text σ)) (w : Nat)
    (j : Justify) (o : Overflow) (hj : j ≠ Justify.full) :
    justifyLines wv cw A lines w j o = .ok (lines.map (justifyOne wv cw w j o)) := by
  cases j with
  | full => exact absurd rfl hj
  | default =>
    unfold justifyLines
    simp only
    rw [show (justifyOne wv cw w Justify.default o : Text σ → Text σ) = id from rfl, List.map_id]
  | left => rfl
  | center => rfl
  | right => rfl

/-- the line `Text.wrap` finally produces from a divided line `l` that `Lines.justify` treats by itself: every line in the
modes other than "full", the last line of a paragraph in "full" -/
def finishLine (wv : WVariant) (cw : Char → Nat) (width : Nat) (j : Justify) (o : Overflow) (l : Text σ) : Text σ :=
  (justifyOne wv cw width j o (Text.rstripEndW wv.rstripChars cw wv.text l width)).truncate cw width (some o)

theorem padCount_repaired (x : Int) : padCount (WVariant.fixed chars) x = ((x.toNat : Nat) : Int) := by
  show (if false = true then x else max 0 x) = _
  simp only [Bool.false_eq_true, if_false]; omega

theorem justifyOne_stage (cw : Char → Nat) (w : Nat) (j : Justify) (o : Overflow)
    (l : Text σ) (h : Inv l) :
    Stage cw w o l (justifyOne (WVariant.fixed chars) cw w j o l) := by
  have h1 := (rstrip_stage cw w o l h).trans (truncate_stage cw _ (rstrip_stage cw w o l h).kept.inv w o false)
  cases j with
  | default => exact .refl cw w o l h
  | full => exact .refl cw w o l h
  | left => exact truncate_stage cw l h w o true
  | right =>
    simp only [justifyOne, padCount_repaired]
    exact h1.trans (padLeft_stage cw w o _ h1.kept.inv _ (by omega))
  | center =>
    simp only [justifyOne, padCount_repaired]
    have h3 := h1.trans (padLeft_stage cw w o _ h1.kept.inv
      ((((w : Int) - (cellLen cw (l.rstrip.truncate cw (w : Int) (some o) false).plain : Int)) / 2).toNat) (by omega))
    exact h3.trans (padRight_stage cw w o _ h3.kept.inv _)

theorem finishLine_stage (cw : Char → Nat) (w : Nat) (j : Justify) (o : Overflow)
    (L : Text σ) (h : Inv L) :
    Stage cw w o L (finishLine (WVariant.fixed chars) cw w j o L) := by
  have h0 := rstripEnd_stage (chars := chars) cw w o L h w
  have h1 := h0.trans (justifyOne_stage (chars := chars) cw w j o _ h0.kept.inv)
  exact h1.trans (truncate_stage cw _ h1.kept.inv w o false)

theorem padCount_nat (wv : WVariant) (n : Nat) : padCount wv (n : Int) = (n : Int) := by
  unfold padCount
  split
  · rfl
  · omega

/-- a single line is its paragraph's last line: `Lines.justify` treats it by itself in every mode -/
theorem justifyLines_one [BEq σ] (wv : WVariant) (cw : Char → Nat) (A : StyleAlg σ) (l : Text σ) (w : Nat) (j : Justify)
    (o : Overflow) : justifyLines wv cw A [l] w j o = .ok [justifyOne wv cw w j o l] := by
  cases j <;> rfl

theorem wrapLine_one [BEq σ] (wv : WVariant) (cw : Char → Nat) (A : StyleAlg σ) (l : Text σ) (w : Nat) (j : Justify)
    (o : Overflow) (nw : Bool)
    (h : (if nw then .ok [l] else l.divide wv.text (divideLine cw l.plain w (o == Overflow.fold))) = .ok [l]) :
    wrapLine wv cw A l w j o nw = .ok [finishLine wv cw w j o l] := by
  unfold wrapLine
  rw [h]
  simp only [bind, Except.bind, List.map_cons, List.map_nil, justifyLines_one]
  rfl

/-- `truncate` of a line that fits: the line, or with `pad` the line filled up to the width -/
theorem truncate_fits_plain (cw : Char → Nat) (hsp : cw ' ' = 1) (t : Text σ) (w : Nat) (o : Overflow) (pad : Bool)
    (h : cellLen cw t.plain ≤ w) :
    ∃ n, (t.truncate cw (w : Int) (some o) pad).plain = t.plain ++ List.replicate n ' ' ∧
      (n = 0 ∨ cellLen cw (t.truncate cw (w : Int) (some o) pad).plain = w) := by
  by_cases hig : o = Overflow.ignore
  · rw [hig, truncate_ignore]; exact ⟨0, (List.append_nil _).symm, Or.inl rfl⟩
  rcases truncate_cases cw t w o hig pad with ⟨hlt, _⟩ | ⟨hlt, _, he⟩ | ⟨_, he⟩
  · omega
  · rw [he]
    refine ⟨_, rfl, Or.inr ?_⟩
    show cellLen cw (t.plain ++ _) = w
    rw [cellLen_append, cellLen_replicate_space cw hsp]; omega
  · rw [he]; exact ⟨0, (List.append_nil _).symm, Or.inl rfl⟩

/-- **A line that fits, through `Lines.justify`** (every variant, every mode, every overflow): what comes back is the
line itself or exactly `w` cells wide, and made of characters of the line and blanks. -/
theorem justifyOne_fits (wv : WVariant) (cw : Char → Nat) (hsp : cw ' ' = 1) (w : Nat) (j : Justify) (o : Overflow)
    (l : Text σ) (hl : cellLen cw l.plain ≤ w) :
    ((justifyOne wv cw w j o l).plain = l.plain ∨ cellLen cw (justifyOne wv cw w j o l).plain = w) ∧
    ∀ c ∈ (justifyOne wv cw w j o l).plain, c ∈ l.plain ∨ c = ' ' := by
  have blank : ∀ (n : Nat) (c : Char), c ∈ List.replicate n ' ' → c = ' ' := fun n c hc => List.eq_of_mem_replicate hc
  have hrp : l.rstrip.plain = pyRstrip l.plain := setPlain_plain _ _
  have hc : cellLen cw l.rstrip.plain ≤ w := by rw [hrp]; exact Nat.le_trans (cellLen_pyRstrip_le cw _) hl
  have hmem : ∀ c ∈ l.rstrip.plain, c ∈ l.plain := fun c h => by
    obtain ⟨tl, htl⟩ := pyRstrip_prefix l.plain
    rw [htl]; exact List.mem_append_left _ (hrp ▸ h)
  cases j with
  | default => exact ⟨Or.inl rfl, fun c h => Or.inl h⟩
  | full => exact ⟨Or.inl rfl, fun c h => Or.inl h⟩
  | left =>
    obtain ⟨n, hn, hw⟩ := truncate_fits_plain cw hsp l w o true hl
    refine ⟨hw.imp (fun h0 => by rw [show (justifyOne wv cw w Justify.left o l).plain = _ from hn, h0]; simp) id, fun c h => ?_⟩
    rw [show (justifyOne wv cw w Justify.left o l).plain = _ from hn] at h
    exact (List.mem_append.mp h).imp id (blank n c)
  | right =>
    generalize hcdef : cellLen cw l.rstrip.plain = c at hc
    have h1 : (w : Int) - (c : Int) = ((w - c : Nat) : Int) := by omega
    have e : (justifyOne wv cw w Justify.right o l).plain = List.replicate (w - c) ' ' ++ l.rstrip.plain := by
      simp only [justifyOne]
      rw [truncate_noop cw l.rstrip w o (by omega), hcdef, h1, padCount_nat, padLeft_plain]
    rw [e]
    refine ⟨Or.inr ?_, fun x hx => ?_⟩
    · rw [cellLen_append, cellLen_replicate_space cw hsp, hcdef]; omega
    · exact (List.mem_append.mp hx).elim (fun h => Or.inr (blank _ x h)) (fun h => Or.inl (hmem x h))
  | center =>
    generalize hcdef : cellLen cw l.rstrip.plain = c at hc
    have h1 : ((w : Int) - (c : Int)) / 2 = (((w - c) / 2 : Nat) : Int) := by omega
    have h2 : (w : Int) - (((w - c) / 2 + c : Nat) : Int) = ((w - ((w - c) / 2 + c) : Nat) : Int) := by omega
    have hpl : cellLen cw (l.rstrip.padLeft (((w - c) / 2 : Nat) : Int)).plain = (w - c) / 2 + c := by
      rw [padLeft_plain, cellLen_append, cellLen_replicate_space cw hsp, hcdef]
    have e : (justifyOne wv cw w Justify.center o l).plain =
        List.replicate ((w - c) / 2) ' ' ++ l.rstrip.plain ++ List.replicate (w - ((w - c) / 2 + c)) ' ' := by
      simp only [justifyOne]
      rw [truncate_noop cw l.rstrip w o (by omega), hcdef, h1, padCount_nat, hpl, h2, padRight_plain, padLeft_plain]
    rw [e]
    refine ⟨Or.inr ?_, fun x hx => ?_⟩
    · rw [cellLen_append, cellLen_append, cellLen_replicate_space cw hsp, cellLen_replicate_space cw hsp, hcdef]; omega
    · rcases List.mem_append.mp hx with hx | hx
      · exact (List.mem_append.mp hx).elim (fun h => Or.inr (blank _ x h)) (fun h => Or.inl (hmem x h))
      · exact Or.inr (blank _ x hx)

theorem rstripEndW_take (chars : Bool) (cw : Char → Nat) (v : Variant) (t : Text σ) (size : Int) :
    ∃ k, (rstripEndW chars cw v t size).plain = t.plain.take k := by
  have same : ∃ k, t.plain = t.plain.take k := ⟨_, List.take_length.symm⟩
  have crop : ∀ a : Int, ∃ k, (t.rightCrop v a).plain = t.plain.take k := fun a => by
    unfold rightCrop; split <;> exact ⟨_, rfl⟩
  unfold rstripEndW
  simp only
  generalize (if chars = true then t.length else (cellLen cw t.plain : Int)) = n
  by_cases h1 : n > size
  · rw [if_pos h1]
    by_cases h2 : (trailingSpaceCount t.plain != 0) = true
    · rw [if_pos h2]; exact crop _
    · rw [if_neg h2]; exact same
  · rw [if_neg h1]; exact same

/-- **A line that fits, through the stages of `wrapLine`** (`rstrip_end`, `Lines.justify`, the final `truncate`), in every
variant, justify mode and overflow mode: the result fits (the final `truncate` has nothing to do) — exactly `w` cells if
the line had exactly `w` and `rstrip_end` counts cells — and is made of characters of the line and blanks. -/
theorem finishLine_fits (wv : WVariant) (cw : Char → Nat) (hsp : cw ' ' = 1) (w : Nat) (j : Justify) (o : Overflow)
    (l : Text σ) (hl : cellLen cw l.plain ≤ w) :
    cellLen cw (finishLine wv cw w j o l).plain ≤ w ∧
    (wv.rstripChars = false → cellLen cw l.plain = w → cellLen cw (finishLine wv cw w j o l).plain = w) ∧
    ∀ c ∈ (finishLine wv cw w j o l).plain, c ∈ l.plain ∨ c = ' ' := by
  obtain ⟨k, hk⟩ := rstripEndW_take wv.rstripChars cw wv.text l (w : Int)
  have hs : cellLen cw (rstripEndW wv.rstripChars cw wv.text l (w : Int)).plain ≤ cellLen cw l.plain := by
    have := cellLen_append cw (l.plain.take k) (l.plain.drop k)
    rw [List.take_append_drop] at this
    rw [hk, this]; exact Nat.le_add_right _ _
  obtain ⟨hx, hm⟩ := justifyOne_fits wv cw hsp w j o _ (Nat.le_trans hs hl)
  have hfit : cellLen cw (justifyOne wv cw w j o (rstripEndW wv.rstripChars cw wv.text l (w : Int))).plain ≤ w :=
    hx.elim (fun h => h ▸ Nat.le_trans hs hl) Nat.le_of_eq
  have e : finishLine wv cw w j o l = justifyOne wv cw w j o (rstripEndW wv.rstripChars cw wv.text l (w : Int)) :=
    truncate_noop cw _ w o hfit
  rw [e]
  refine ⟨hfit, fun hch hw => hx.elim (fun h => ?_) id, fun c hc => (hm c hc).imp_left fun h => ?_⟩
  · -- the line is exactly `w` cells wide: `rstrip_end` counting cells leaves it alone
    rw [h, hch]
    unfold rstripEndW
    rw [if_neg (by simp only [Bool.false_eq_true, if_false]; omega)]; exact hw
  · rw [hk] at h; exact List.mem_of_mem_take h

end Wrap
end RichModel
