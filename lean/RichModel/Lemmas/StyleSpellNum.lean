import RichModel.Model.StyleCtor
import RichModel.Lemmas.StyleSpell
/-!
The decimal digits of a number (Python's `str(n)`) as `Color.parse` reads them, and `color(n)` for
every n < 256.
-/
namespace RichModel
open AsciiStr
namespace Style
variable {T : StrTables} [hT : T.Lawful]

/-- Decimal digits of `n` (what Python's `str(n)` gives). -/
abbrev decDigits (n : Nat) : List Char := Nat.toDigits 10 n

omit hT in
theorem isDigit_of_mem_decDigits {n : Nat} {c : Char} (h : c ∈ decDigits n) : isDigit c = true := by
  have := Char.isDigit_iff_toNat.mp (Nat.isDigit_of_mem_toDigits (by decide) (by decide) h)
  simpa [isDigit] using this

omit hT in
theorem decimalVal_decDigits (n : Nat) : decimalVal (decDigits n) = n := Nat.ofDigitChars_ten_toDigits

omit hT in
theorem length_decDigits_le {n : Nat} (h : n < 1000) : (decDigits n).length ≤ 3 :=
  (Nat.length_toDigits_le_iff (by decide) (by decide)).mpr h

omit hT in
theorem digit_plain {c : Char} (h : isDigit c = true) : plainChar c = true :=
  plainChar_of_range (by have := isDigit_iff.mp h; omega)

theorem decimal_digit {c : Char} (h : isDigit c = true) : T.decimal c = some (c.toNat - 48) := by
  rw [hT.decimal_ascii c (by have := isDigit_iff.mp h; omega), if_pos h]

theorem pyInt_digits {w : List Char} (hd : ∀ c ∈ w, isDigit c = true) (hne : w ≠ [])
    (hlen : T.maxDigits = 0 ∨ w.length ≤ T.maxDigits) : T.pyInt w = some (decimalVal w) := by
  have hsp : ∀ c ∈ w, T.isIntSpace c = false := fun c hc => by
    have := isDigit_iff.mp (hd c hc)
    have h127 : c.toNat < 127 := by omega
    simp only [StrTables.isIntSpace, h127, if_true, AsciiStr.isIntSpace, Bool.or_eq_false_iff,
      Bool.and_eq_false_iff, decide_eq_false_iff_not, beq_eq_false_iff_ne, ne_eq]
    omega
  have hfold : ∀ (l : List Char) (acc : Nat), (∀ c ∈ l, isDigit c = true) →
      l.foldl T.intStep (some acc) = some (l.foldl (fun a d => 10 * a + (d.toNat - 48)) acc) := by
    intro l
    induction l with
    | nil => intro acc _; rfl
    | cons x r ih =>
      intro acc hx
      simp only [List.foldl_cons, StrTables.intStep, decimal_digit (hx x (by simp))]
      exact ih _ (fun c hc => hx c (by simp [hc]))
  have h1 : w.isEmpty = false := by simpa using hne
  have h2 : ¬ (T.maxDigits ≠ 0 ∧ T.maxDigits < w.length) := by omega
  simp only [StrTables.pyInt, dropWhile_eq_self hsp, dropWhile_eq_self (s := w.reverse) (by simpa using hsp),
    List.reverse_reverse, h1, h2, if_false, Bool.false_eq_true]
  exact hfold w 0 hd

theorem pyInt_decDigits {n : Nat} (h : n < 1000) : T.pyInt (decDigits n) = some n := by
  rw [pyInt_digits (fun _ => isDigit_of_mem_decDigits) Nat.toDigits_ne_nil
    (hT.digits_floor.imp_right (Nat.le_trans (length_decDigits_le h))), decimalVal_decDigits]

theorem numbered_color_wf (v : StyleVariant) {n : Nat} (hn : n < 256) : wfColorT T v (Color.fromAnsi n) = true := by
  have hd : ∀ c ∈ decDigits n, isDigit c = true := fun c => isDigit_of_mem_decDigits
  refine wfColor_of_plain (fun c hc => ?_) ?_
  · simp only [Color.fromAnsi, List.mem_append, List.mem_cons, List.not_mem_nil, or_false] at hc
    rcases hc with ((rfl | rfl | rfl | rfl | rfl | rfl) | h) | rfl
    any_goals decide
    exact digit_plain (hd c h)
  · have hl := length_decDigits_le (n := n) (by omega)
    have hp : 1 ≤ (decDigits n).length := Nat.length_toDigits_pos
    have := Color.Parsed.color8 (T := T) (n := (Color.fromAnsi n).name) (ds := decDigits n)
      ((matchRe_color8 T (decDigits n)).trans (by simp [List.all_eq_true.mpr hd, hl, hp]))
      (by rw [decimalVal_decDigits]; omega)
    rwa [decimalVal_decDigits] at this

end Style
end RichModel
