import RichModel.Lemmas.LayoutBase
import RichModel.Lemmas.Lines
/-!
The visible text `flat` of a segment stream and its `pieces` (lines); the bridge to `Segment.split_lines` (`fits_iff_lines`), read off
the tokens into which Lemmas/Segment.lean cuts the segments; closedness and concatenation of streams.

`splitOnP` is the general split of Lemmas/Lines.lean in its accumulator spelling; what is known about `pieces` is read off the facts
proved there.
-/
namespace RichModel.Layout
open RichModel RichModel.Frames

theorem flat_nil : flat ([] : List Seg) = [] := rfl

theorem flat_cons (s : Seg) (l : List Seg) : flat (s :: l) = (if s.control then [] else s.text) ++ flat l := by
  simp [flat]

theorem flat_append (a b : List Seg) : flat (a ++ b) = flat a ++ flat b := by
  simp [flat]

theorem flat_seg (t : List Char) : flat [(seg t : Seg)] = t := by
  simp [flat, seg]

theorem flat_nl : flat [(nl : Seg)] = ['\n'] := by
  simp [flat, nl, seg]

theorem cellLen_append' (cw : Char → Nat) (a b : List Char) : cellLen cw (a ++ b) = cellLen cw a + cellLen cw b :=
  cellLen_append cw a b

theorem lineLength_eq_flat (cw : Char → Nat) (l : Ln) : lineLength cw l = cellLen cw (flat l) :=
  lineLength_eq_cellLen cw l

theorem splitOnP_eq (p : Char → Bool) (s cur : List Char) : splitOnP p s cur = Lines.splitAcc p s cur := by
  fun_induction splitOnP p s cur <;> simp_all [Lines.splitAcc]

theorem splitOnP_nil (p : Char → Bool) (s : List Char) : splitOnP p s [] = Lines.split p s := by
  rw [splitOnP_eq, Lines.splitAcc_eq]; cases Lines.split p s <;> simp

theorem pieces_eq (s : List Char) : pieces s = Lines.split (fun c => c == '\n') s := splitOnP_nil _ s

/-- every line of the string `s` (its pieces between line feeds) occupies at most `w` cells; `Fits cw w segs` is this of the visible
text `flat segs` -/
def FitsStr (cw : Char → Nat) (w : Nat) (s : List Char) : Prop := ∀ p ∈ pieces s, cellLen cw p ≤ w

theorem fits_iff_str (cw : Char → Nat) (w : Nat) (segs : List Seg) : Fits cw w segs ↔ FitsStr cw w (flat segs) := Iff.rfl

theorem pieces_le (cw : Char → Nat) (s : List Char) : ∀ p ∈ pieces s, cellLen cw p ≤ cellLen cw s :=
  fun p hp => cellLen_le_of_infix cw (Lines.split_infix _ s p (pieces_eq s ▸ hp))

theorem pieces_append_nl (x y : List Char) : pieces (x ++ '\n' :: y) = pieces x ++ pieces y := by
  rw [pieces_eq, pieces_eq, pieces_eq]
  exact Lines.split_append_sep (by rfl) x y

theorem pieces_no_nl (x : List Char) (h : ∀ c ∈ x, c ≠ '\n') : pieces x = [x] :=
  (pieces_eq x).trans (Lines.split_of_free fun c hc => beq_false_of_ne (h c hc))

/-- when every `p`-separator is a `q`-separator, a `q`-piece lies inside a `p`-piece -/
theorem splitOnP_refine (cw : Char → Nat) (p q : Char → Bool) (hpq : ∀ c, p c = true → q c = true) (s : List Char) :
    ∀ x ∈ splitOnP q s [], ∃ y ∈ splitOnP p s [], cellLen cw x ≤ cellLen cw y := by
  intro x hx
  rw [splitOnP_nil] at hx
  obtain ⟨y, hy, hxy⟩ := Lines.free_infix (p := p) (fun c hc => by
    cases h : p c with
    | false => rfl
    | true => exact absurd (hpq c h) (by simp [Lines.split_free q s x hx c hc])) (Lines.split_infix q s x hx)
  exact ⟨y, splitOnP_nil p s ▸ hy, cellLen_le_of_infix cw hxy⟩

/-- lines of at most `m` cells followed by lines of at most `n` cells: only the line at the seam can be longer, and it is no longer
than both together -/
theorem pieces_append_le (cw : Char → Nat) (a b : List Char) (m n : Nat) (ha : FitsStr cw m a)
    (hb : FitsStr cw n b) : FitsStr cw (m + n) (a ++ b) := by
  obtain ⟨ia, la, h, t, e1, e2, e3⟩ := Lines.split_append (fun c => c == '\n') a b
  unfold FitsStr at *
  rw [pieces_eq, e1] at ha
  rw [pieces_eq, e2] at hb
  rw [pieces_eq, e3]
  intro z hz
  simp only [List.mem_append, List.mem_cons] at hz
  rcases hz with hz | rfl | hz
  · have := ha z (by simp [hz]); omega
  · have := ha la (by simp); have := hb h (by simp); rw [cellLen_append]; omega
  · have := hb z (by simp [hz]); omega

theorem pieces_nil : pieces [] = [[]] := rfl

theorem FitsStr.nil {cw : Char → Nat} {w : Nat} : FitsStr cw w [] := fun p hp => by
  rw [pieces_nil, List.mem_singleton] at hp
  rw [hp]
  exact Nat.zero_le _

theorem FitsStr.of_le {cw : Char → Nat} {w : Nat} {s : List Char} (h : cellLen cw s ≤ w) : FitsStr cw w s :=
  fun p hp => Nat.le_trans (pieces_le cw s p hp) h

/-- a contiguous part of a string that fits, holding no line feed, lies inside one line: it fits -/
theorem FitsStr.of_infix {cw : Char → Nat} {w : Nat} {a x b : List Char} (h : FitsStr cw w (a ++ (x ++ b)))
    (hx : ∀ c ∈ x, c ≠ '\n') : cellLen cw x ≤ w := by
  obtain ⟨q, hq, hxq⟩ := Lines.free_infix (p := fun c => c == '\n') (fun c hc => beq_false_of_ne (hx c hc))
    (s := a ++ (x ++ b)) ⟨a, b, by simp⟩
  exact Nat.le_trans (cellLen_le_of_infix cw hxq) (h q (pieces_eq _ ▸ hq))

theorem fitsStr_append_nl {cw : Char → Nat} {w : Nat} {x y : List Char} :
    FitsStr cw w (x ++ '\n' :: y) ↔ FitsStr cw w x ∧ FitsStr cw w y := by
  unfold FitsStr
  rw [pieces_append_nl]
  exact List.forall_mem_append

theorem FitsStr.append_nl {cw : Char → Nat} {w : Nat} {x y : List Char} (hx : FitsStr cw w x) (hy : FitsStr cw w y) :
    FitsStr cw w (x ++ '\n' :: y) := fitsStr_append_nl.mpr ⟨hx, hy⟩

/-! ### the bridge to `split_lines`, through the tokens of Lemmas/Segment.lean (`lineToks`, `feedLine`) -/

theorem flat_tokSeg_none : flat [(tokSeg none : Seg)] = ['\n'] := rfl

theorem tok_noNl {seg x : Seg} (h : some x ∈ lineToks seg) : ∀ c ∈ flat [x], c ≠ '\n' := by
  intro c hc
  rw [flat_cons, flat_nil, List.append_nil] at hc
  have hx := lineToks_nlFree h
  cases hctl : x.control with
  | true => rw [hctl] at hc; cases hc
  | false =>
    rw [hctl] at hc hx
    exact (contains_nl_false_iff x.text).mp (by simpa using hx) c (by simpa using hc)

theorem flat_lineToks (seg : Seg) : flat ((lineToks seg).map tokSeg) = flat [seg] := by
  have h : ∀ x ∈ (lineToks seg).map tokSeg, (if x.control then [] else x.text) = if seg.control then [] else x.text :=
    fun x hx => by rw [lineToks_control seg x hx]
  rw [flat, List.flatMap_def, List.map_congr_left h, ← List.flatMap_def, flat_cons, flat_nil, List.append_nil]
  cases seg.control
  · exact lineToks_text seg
  · simp

theorem flat_toks : ∀ segs : List Seg, flat ((segs.flatMap lineToks).map tokSeg) = flat segs
  | [] => rfl
  | seg :: segs => by
    rw [List.flatMap_cons, List.map_append, flat_append, flat_lineToks, flat_toks segs, ← flat_append]; rfl

/-- **the state of `split_lines` after a run of tokens, as visible text**: the finished lines and the line under construction are the
pieces of what the tokens show -/
theorem pieces_toks : ∀ (toks : List (Option Seg)) (st : Ln × List Ln),
    (∀ c ∈ flat st.1, c ≠ '\n') → (∀ x, some x ∈ toks → ∀ c ∈ flat [x], c ≠ '\n') →
    st.2.reverse.map flat ++ pieces (flat st.1 ++ flat (toks.map tokSeg)) =
      (toks.foldl feedLine st).2.reverse.map flat ++ [flat (toks.foldl feedLine st).1]
  | [], st, hst, _ => by
    rw [List.map_nil, flat_nil, List.append_nil, pieces_no_nl _ hst]; rfl
  | some s :: r, st, hst, ht => by
    have hs := ht s (by simp)
    rw [List.foldl_cons, show feedLine st (some s) = (st.1 ++ [s], st.2) from rfl, ← pieces_toks r (st.1 ++ [s], st.2)
      (by
        rw [flat_append]
        intro c hc
        rcases List.mem_append.mp hc with h | h
        · exact hst c h
        · exact hs c h)
      (fun x hx => ht x (by simp [hx]))]
    rw [List.map_cons, show tokSeg (some s) :: r.map tokSeg = [s] ++ r.map tokSeg from rfl, flat_append, flat_append,
      List.append_assoc]
  | none :: r, st, hst, ht => by
    rw [List.foldl_cons, show feedLine st none = ([], st.1 :: st.2) from rfl, ← pieces_toks r ([], st.1 :: st.2) (by simp [flat_nil]) (fun x hx => ht x (by simp [hx]))]
    rw [List.map_cons, show tokSeg none :: r.map tokSeg = [tokSeg none] ++ r.map tokSeg from rfl, flat_append, flat_tokSeg_none,
      List.singleton_append, pieces_append_nl, pieces_no_nl _ hst]
    simp [flat_nil]

/-- **the lines of `split_lines`, as visible text, are the pieces of the visible text**: the finished lines, then the line under
construction (empty when the stream is empty or ends its last line) -/
theorem pieces_flat (segs : List Seg) :
    pieces (flat segs) = (segs.foldl splitLinesStep ([], [])).2.reverse.map flat ++ [flat (segs.foldl splitLinesStep ([], [])).1] := by
  rw [foldl_toks splitLinesStep_eq_feed, ← pieces_toks _ ([], []) (by simp [flat_nil])
    (fun x hx => by obtain ⟨seg, _, h⟩ := List.mem_flatMap.mp hx; exact tok_noNl h), flat_toks]
  simp [flat_nil]

/-- **the bridge**: the lines `Segment.split_lines` produces are exactly (as visible text) the pieces of the flat text,
up to a possible final empty piece — so "every line fits" can be stated on either side. -/
theorem fits_iff_lines (cw : Char → Nat) (w : Nat) (segs : List Seg) :
    Fits cw w segs ↔ ∀ l ∈ splitLines segs, lineLength cw l ≤ w := by
  unfold Fits splitLines
  rw [pieces_flat]
  generalize segs.foldl splitLinesStep ([], []) = st
  obtain ⟨cur, acc⟩ := st
  -- the finished lines, then the line under construction: when that is empty `split_lines` drops it, and as a piece it is empty
  cases cur with
  | nil => simp [flat_nil, lineLength_eq_flat, or_imp, forall_and]
  | cons s cur => simp [lineLength_eq_flat, or_imp, forall_and, and_comm]

theorem fits_nil (cw : Char → Nat) (w : Nat) : Fits cw w [] := FitsStr.nil

theorem fits_mono (cw : Char → Nat) (w w' : Nat) (segs : List Seg) (h : Fits cw w segs) (hw : w ≤ w') : Fits cw w' segs :=
  fun p hp => Nat.le_trans (h p hp) hw

theorem closed_nil : Closed ([] : List Seg) := Or.inl rfl

theorem closed_append (a b : List Seg) (ha : Closed a) (hb : Closed b) : Closed (a ++ b) := by
  unfold Closed at *
  rw [flat_append]
  rcases hb with hb | hb
  · rw [hb, List.append_nil]; exact ha
  · right
    rw [List.getLast?_append, hb]; rfl

theorem closed_snoc_nl (a : List Seg) : Closed (a ++ [nl]) := by
  right
  rw [flat_append, flat_nl]
  simp

theorem feedLine_cur_nil (toks : List (Option Seg)) (st : Ln × List Ln) (h : (toks.foldl feedLine st).1 = []) :
    (toks = [] ∧ st.1 = []) ∨ toks.getLast? = some none := by
  rcases List.eq_nil_or_concat toks with rfl | ⟨r, t, rfl⟩
  · exact Or.inl ⟨rfl, h⟩
  · right
    rw [List.concat_eq_append] at h ⊢
    rw [List.foldl_append, List.foldl_cons, List.foldl_nil] at h
    cases t with
    | none => simp
    | some s => exact absurd h (by simp [feedLine])

theorem closed_of_emits {out : List Seg} {Ls : List Ln} (h : Emits out Ls) : Closed out := by
  have h0 : (out.foldl splitLinesStep ([], [])).1 = [] := by rw [h []]
  rw [foldl_toks splitLinesStep_eq_feed] at h0
  unfold Closed
  rw [← flat_toks]
  rcases feedLine_cur_nil _ _ h0 with ⟨e, _⟩ | e
  · rw [e]; exact Or.inl rfl
  · right
    obtain ⟨r, hr⟩ := List.getLast?_eq_some_iff.mp e
    rw [hr, List.map_append, flat_append]
    simp [flat_tokSeg_none]

/-- concatenation: if the first stream ends its last line, the lines of `a ++ b` are the lines of `a` and the lines of `b` -/
theorem fits_append (cw : Char → Nat) (w : Nat) (a b : List Seg) (ha : Closed a) (hfa : Fits cw w a)
    (hfb : Fits cw w b) : Fits cw w (a ++ b) := by
  rw [fits_iff_str] at hfa hfb ⊢
  rw [flat_append]
  rcases ha with ha | ha
  · rw [ha, List.nil_append]; exact hfb
  · obtain ⟨x, hx⟩ := List.getLast?_eq_some_iff.mp ha
    rw [hx] at hfa ⊢
    rw [List.append_assoc, List.singleton_append]
    exact (fitsStr_append_nl.mp hfa).1.append_nl hfb

theorem fits_of_lines_le (cw : Char → Nat) (w : Nat) (segs : List Seg)
    (h : ∀ l ∈ splitLines segs, lineLength cw l ≤ w) : Fits cw w segs := (fits_iff_lines cw w segs).mpr h

theorem fits_sandwich (cw : Char → Nat) (n : Nat) (a b : List Char) (t : List Seg) (ht : Fits cw n t) :
    Fits cw (cellLen cw a + n + cellLen cw b) ([seg a] ++ t ++ [seg b]) := by
  rw [fits_iff_str, flat_append, flat_append, flat_seg, flat_seg]
  exact pieces_append_le cw _ b _ _ (pieces_append_le cw a _ _ n (.of_le (Nat.le_refl _)) ht) (.of_le (Nat.le_refl _))

theorem fits_snoc_nl (cw : Char → Nat) (w : Nat) (a : List Seg) (h : Fits cw w a) : Fits cw w (a ++ [nl]) := by
  rw [fits_iff_str, flat_append, flat_nl]
  exact FitsStr.append_nl h .nil

theorem fits_line (cw : Char → Nat) (w : Nat) (l : Ln) (h : lineLength cw l ≤ w) : Fits cw w l :=
  (fits_iff_str cw w l).mpr (.of_le (by rw [← lineLength_eq_flat]; exact h))

end RichModel.Layout
