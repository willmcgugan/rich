import RichModel.Lemmas.Cells
/-! `chop_cells` for any width and any starting position: nothing is lost, the exact bound on the first piece, the bound
on every later piece, greedy maximality (one statement about the loop, `chopLoop_spec`), and that these determine the pieces. -/
namespace RichModel

/-- What `chop_cells` guarantees for every piece after the first: it is not empty, and it fits the width unless it
is one single character that is wider than the whole width (which can fit nowhere). -/
def PieceOK (cw : Char → Nat) (m : Nat) (q : List Char) : Prop :=
  q ≠ [] ∧ (cellLen cw q ≤ m ∨ ∃ c, q = [c] ∧ m < cw c)

/-- Greedy maximality of consecutive pieces: the first character of the next piece did not fit behind the piece
before it (`off` is the starting position for the first piece, 0 for the later ones). -/
def ChopMax (cw : Char → Nat) (m : Nat) : Nat → List (List Char) → Prop
  | _, [] => True
  | _, [_] => True
  | off, q :: q' :: rest =>
    (∃ c t, q' = c :: t ∧ m < off + cellLen cw q + cw c) ∧ ChopMax cw m 0 (q' :: rest)

theorem chopLoop_acc (cw : Char → Nat) (m : Nat) : ∀ (s : List Char) (total : Nat) (cur : List Char)
    (acc : List (List Char)),
    chopLoop cw m s total cur acc = acc.reverse ++ chopLoop cw m s total cur []
  | [], _, cur, acc => by simp [chopLoop]
  | c :: rest, total, cur, acc => by
      unfold chopLoop
      split
      · rw [chopLoop_acc cw m rest _ _ (cur.reverse :: acc), chopLoop_acc cw m rest _ _ [cur.reverse]]
        simp
      · exact chopLoop_acc cw m rest _ _ acc

theorem chopLoop_cons (cw : Char → Nat) (m : Nat) (c : Char) (rest : List Char) (total : Nat) (cur : List Char) :
    chopLoop cw m (c :: rest) total cur [] =
      if total + cw c > m then cur.reverse :: chopLoop cw m rest (cw c) [c] []
      else chopLoop cw m rest (total + cw c) (c :: cur) [] := by
  conv => lhs; unfold chopLoop
  split
  · rw [chopLoop_acc]; simp
  · rfl

/-- The loop from any state `(s, total, cur)` with `total = p + width(cur)`: the first piece extends the piece under
construction by some `a`, and if it does the whole still fits behind `p`; every later piece starts afresh, so it is
`PieceOK`; each piece was closed because the next character did not fit; and nothing of `s` is lost. -/
theorem chopLoop_spec (cw : Char → Nat) (m : Nat) : ∀ (s : List Char) (p total : Nat) (cur : List Char),
    total = p + cellLen cw cur.reverse →
    ∃ a tl, chopLoop cw m s total cur [] = (cur.reverse ++ a) :: tl ∧
      (a = [] ∨ p + cellLen cw (cur.reverse ++ a) ≤ m) ∧
      (∀ q ∈ tl, PieceOK cw m q) ∧ ChopMax cw m p ((cur.reverse ++ a) :: tl) ∧ a ++ tl.flatten = s
  | [], p, total, cur, _ => ⟨[], [], by simp [chopLoop], Or.inl rfl, by simp, trivial, rfl⟩
  | c :: rest, p, total, cur, ht => by
      rw [chopLoop_cons]
      split
      · next hov =>
        -- `c` does not fit: the piece is closed, `c` starts the next one at position 0
        obtain ⟨a, tl, h, hfit, hok, hmax, hcat⟩ := chopLoop_spec cw m rest 0 (cw c) [c] (by simp [cellLen])
        simp only [List.reverse_cons, List.reverse_nil, List.nil_append, List.singleton_append] at h hfit hmax
        refine ⟨[], (c :: a) :: tl, by rw [h, List.append_nil], Or.inl rfl, ?_, ?_, by simp [hcat]⟩
        · intro q hq
          rcases List.mem_cons.1 hq with rfl | hq
          · refine ⟨List.cons_ne_nil _ _, ?_⟩
            rcases hfit with rfl | hfit
            · rcases Nat.lt_or_ge m (cw c) with hw | hw
              · exact Or.inr ⟨c, rfl, hw⟩
              · exact Or.inl (by simpa [cellLen] using hw)
            · exact Or.inl (by omega)
          · exact hok q hq
        · exact ⟨⟨c, a, rfl, by rw [List.append_nil]; omega⟩, hmax⟩
      · next hov =>
        obtain ⟨a, tl, h, hfit, hok, hmax, hcat⟩ :=
          chopLoop_spec cw m rest p (total + cw c) (c :: cur) (by rw [cellLen_reverse, cellLen_cons, ← cellLen_reverse cw cur]; omega)
        have e : (c :: cur).reverse ++ a = cur.reverse ++ c :: a := by simp
        rw [e] at h hfit hmax
        refine ⟨c :: a, tl, h, Or.inr ?_, hok, hmax, by rw [← hcat]; rfl⟩
        rcases hfit with rfl | hfit
        · rw [← e, List.append_nil, cellLen_reverse, cellLen_cons, ← cellLen_reverse cw cur]; omega
        · exact hfit

theorem chop_first (cw : Char → Nat) (s : List Char) (m p : Nat) :
    ∃ q0 tl, chopCells cw s m p = q0 :: tl ∧ (q0 = [] ∨ p + cellLen cw q0 ≤ m) ∧
      (∀ q ∈ tl, PieceOK cw m q) ∧ ChopMax cw m p (q0 :: tl) := by
  unfold chopCells
  obtain ⟨a, tl, h, hfit, hok, hmax, _⟩ := chopLoop_spec cw m s p p [] (by simp [cellLen])
  rw [List.reverse_nil, List.nil_append] at h hfit hmax
  exact ⟨a, tl, h, hfit, hok, hmax⟩

theorem chop_concat (cw : Char → Nat) (s : List Char) (m p : Nat) : (chopCells cw s m p).flatten = s := by
  unfold chopCells
  obtain ⟨a, tl, h, _, _, _, hcat⟩ := chopLoop_spec cw m s p p [] (by simp [cellLen])
  rw [h, List.reverse_nil, List.nil_append, List.flatten_cons, hcat]

theorem chop_fits_any (cw : Char → Nat) (s : List Char) (m p : Nat) (hc : ∀ c, cw c ≤ m) :
    ∀ q ∈ chopCells cw s m p, cellLen cw q ≤ m := by
  obtain ⟨q0, tl, h, h0, htl, _⟩ := chop_first cw s m p
  rw [h]
  intro q hq
  rcases List.mem_cons.1 hq with rfl | hq
  · rcases h0 with rfl | h0
    · exact Nat.zero_le _
    · omega
  · rcases (htl q hq).2 with h1 | ⟨c, _, hw⟩
    · exact h1
    · exact absurd (hc c) (Nat.not_le.2 hw)

theorem chop_fits (cw : Char → Nat) (s : List Char) (m p : Nat) (hc : ∀ c, cw c ≤ m) (hp : p ≤ m) :
    ∀ q ∈ chopCells cw s m p, cellLen cw q ≤ m :=
  chop_fits_any cw s m p hc

/-! ### Uniqueness: concatenation + fit + maximality determine the pieces (so the three together are the
exact specification of `chop_cells`, not only consequences of it). -/

/-- The fit clauses as one predicate on a piece list (first piece relative to `off`). -/
def ChopFit (cw : Char → Nat) (m off : Nat) : List (List Char) → Prop
  | [] => False
  | q0 :: tl => (q0 = [] ∨ off + cellLen cw q0 ≤ m) ∧ ∀ q ∈ tl, PieceOK cw m q

theorem chopMax_tail (cw : Char → Nat) (m off : Nat) (q : List Char) (tl : List (List Char))
    (h : ChopMax cw m off (q :: tl)) : ChopMax cw m 0 tl := by
  cases tl with
  | nil => trivial
  | cons q' rest => exact h.2

/-- A piece cannot be extended by characters of the pieces after it and still fit: greedy maximality. -/
theorem chop_no_longer (cw : Char → Nat) (m off : Nat) (q : List Char) (tl : List (List Char)) (a rest' : List Char)
    (hok : ∀ q' ∈ tl, PieceOK cw m q') (hmax : ChopMax cw m off (q :: tl)) (hfl : tl.flatten = a ++ rest')
    (hfit : a ≠ [] → off + cellLen cw (q ++ a) ≤ m) : a = [] := by
  cases a with
  | nil => rfl
  | cons c x =>
    exfalso
    have hf := hfit (by simp)
    cases tl with
    | nil => simp at hfl
    | cons q' rest =>
      obtain ⟨⟨c', t, hq', hlt⟩, _⟩ := hmax
      subst hq'
      simp only [List.flatten_cons, List.cons_append, List.cons.injEq] at hfl
      obtain ⟨hc, _⟩ := hfl
      subst hc
      rw [cellLen_append, cellLen_cons] at hf
      omega

/-- Two greedy piece lists with the same concatenation start with the same piece, provided that whichever first
piece properly extends the other still fits behind `off`. -/
theorem head_unique (cw : Char → Nat) (m off : Nat) (q r : List Char) (tl tl' : List (List Char))
    (hfl : q ++ tl.flatten = r ++ tl'.flatten)
    (h1 : ∀ x ∈ tl, PieceOK cw m x) (m1 : ChopMax cw m off (q :: tl))
    (h2 : ∀ x ∈ tl', PieceOK cw m x) (m2 : ChopMax cw m off (r :: tl'))
    (hr : ∀ a, a ≠ [] → r = q ++ a → off + cellLen cw (q ++ a) ≤ m)
    (hq : ∀ a, a ≠ [] → q = r ++ a → off + cellLen cw (r ++ a) ≤ m) : q = r ∧ tl.flatten = tl'.flatten := by
  rcases List.append_eq_append_iff.mp hfl with ⟨a, hra, htl⟩ | ⟨a, hqa, htl'⟩
  · obtain rfl : a = [] := chop_no_longer cw m off q tl a _ h1 m1 htl (fun hne => hr a hne hra)
    rw [List.append_nil] at hra
    exact ⟨hra.symm, htl⟩
  · obtain rfl : a = [] := chop_no_longer cw m off r tl' a _ h2 m2 htl' (fun hne => hq a hne hqa)
    rw [List.append_nil] at hqa
    exact ⟨hqa, htl'.symm⟩

theorem later_eq_nil (cw : Char → Nat) (m : Nat) (L : List (List Char)) (h : ∀ q ∈ L, PieceOK cw m q)
    (hfl : L.flatten = []) : L = [] := by
  cases L with
  | nil => rfl
  | cons q tl => exact absurd (List.append_eq_nil_iff.mp hfl).1 (h q List.mem_cons_self).1

theorem later_unique (cw : Char → Nat) (m : Nat) : ∀ (L1 L2 : List (List Char)), L1.flatten = L2.flatten →
    (∀ q ∈ L1, PieceOK cw m q) → ChopMax cw m 0 L1 → (∀ q ∈ L2, PieceOK cw m q) → ChopMax cw m 0 L2 → L1 = L2
  | [], L2, hfl, _, _, h2, _ => (later_eq_nil cw m L2 h2 hfl.symm).symm
  | q :: tl, [], hfl, h1, _, _, _ => later_eq_nil cw m _ h1 hfl
  | q :: tl, r :: tl', hfl, h1, m1, h2, m2 => by
      simp only [List.flatten_cons] at hfl
      have hq := h1 q (by simp)
      have hr := h2 r (by simp)
      have h1' : ∀ x ∈ tl, PieceOK cw m x := fun x hx => h1 x (List.mem_cons_of_mem _ hx)
      have h2' : ∀ x ∈ tl', PieceOK cw m x := fun x hx => h2 x (List.mem_cons_of_mem _ hx)
      -- a piece of at least two characters fits (only a single character may be too wide)
      have fit2 : ∀ (u a : List Char), PieceOK cw m (u ++ a) → u ≠ [] → a ≠ [] → 0 + cellLen cw (u ++ a) ≤ m := by
        intro u a hp hu ha
        rcases hp.2 with h | ⟨c, hc, _⟩
        · omega
        · exfalso
          have : (u ++ a).length = 1 := by rw [hc]; rfl
          have hu' : u.length ≥ 1 := by cases u with | nil => contradiction | cons _ _ => simp
          have ha' : a.length ≥ 1 := by cases a with | nil => contradiction | cons _ _ => simp
          simp at this; omega
      obtain ⟨rfl, htl⟩ := head_unique cw m 0 q r tl tl' hfl h1' m1 h2' m2
        (fun a ha e => fit2 q a (e ▸ hr) hq.1 ha) (fun a ha e => fit2 r a (e ▸ hq) hr.1 ha)
      rw [later_unique cw m tl tl' htl h1' (chopMax_tail cw m 0 _ tl m1) h2' (chopMax_tail cw m 0 _ tl' m2)]

/-- Hence `chop_concat` and `chop_first` specify `chop_cells` completely. -/
theorem chop_unique (cw : Char → Nat) (s : List Char) (m p : Nat) (L : List (List Char))
    (hfl : L.flatten = s) (hfit : ChopFit cw m p L) (hmax : ChopMax cw m p L) : L = chopCells cw s m p := by
  obtain ⟨r0, tl', hc, hr0, htl', hmax'⟩ := chop_first cw s m p
  have hfl' := chop_concat cw s m p
  rw [hc] at hfl' ⊢
  cases L with
  | nil => exact absurd hfit (by simp [ChopFit])
  | cons q0 tl =>
    obtain ⟨hq0, htl⟩ := hfit
    -- a first piece that properly extends another one is not empty, so it fits
    have fit1 : ∀ (x : List Char), (x = [] ∨ p + cellLen cw x ≤ m) → ∀ u a, a ≠ [] → x = u ++ a →
        p + cellLen cw (u ++ a) ≤ m := by
      rintro x (rfl | h) u a ha e
      · exact absurd (List.append_eq_nil_iff.mp e.symm).2 ha
      · exact e ▸ h
    obtain ⟨rfl, h1⟩ := head_unique cw m p q0 r0 tl tl' (by simpa only [List.flatten_cons] using hfl.trans hfl'.symm)
      htl hmax htl' hmax' (fit1 r0 hr0 q0) (fit1 q0 hq0 r0)
    rw [later_unique cw m tl tl' h1 htl (chopMax_tail cw m p _ tl hmax) htl' (chopMax_tail cw m p _ tl' hmax')]

end RichModel
