import RichModel.Lemmas.Color
import RichModel.Model.ColorMore
/-!
Colour model (property C18) beside the conversion itself: what a colour is displayed as (`get_truecolor` against
`truecolorSpec`), and the small tables: the hexadecimal digits of `ColorTriplet.hex` as `int(…, 16)` reads them, the
saturation exceptions.
-/
namespace RichModel

/-- What `get_truecolor` is specified to return: the triplet itself; `EIGHT_BIT_PALETTE[n]`;
`theme.ansi_colors[n]`; `WINDOWS_PALETTE[n]`; the theme's foreground / background. -/
def truecolorSpec (P : Palettes) (theme : TerminalTheme) (c : Color) (fg : Bool) : Option Triplet :=
  match c.type with
  | .truecolor => c.triplet
  | .eightBit => c.number.bind (P.eightBit[·]?)
  | .standard => c.number.bind (theme.ansiColors[·]?)
  | .windows => c.number.bind (P.windows[·]?)
  | .default => some (if fg then theme.foregroundColor else theme.backgroundColor)

theorem paletteLookup_sound {pal : List Triplet} {number : Option Nat} {t : Triplet}
    (h : (do let n ← assertSome number; paletteGet pal n) = .ok t) : number.bind (pal[·]?) = some t := by
  cases number with
  | none => cases h
  | some n => exact paletteGet_eq_ok.1 h

theorem getTruecolorT_sound (Q : Palettes) (theme : TerminalTheme) (c : Color) (fg : Bool) (t : Triplet)
    (h : getTruecolorT Q theme c fg = .ok t) : truecolorSpec Q theme c fg = some t := by
  obtain ⟨name, type, number, triplet⟩ := c
  cases type
  case default =>
    cases number with
    | none => exact congrArg some (Except.ok.inj h)
    | some n => cases h
  case truecolor =>
    cases triplet with
    | none => cases h
    | some t' => exact congrArg some (Except.ok.inj h)
  all_goals exact paletteLookup_sound h

theorem getTruecolorT_spec (P : Palettes) (hP : P.ok = true) (theme : TerminalTheme)
    (hT : 16 ≤ theme.ansiColors.length) (c : Color) (fg : Bool) (h : c.WF) :
    ∃ t, getTruecolorT P theme c fg = .ok t ∧ truecolorSpec P theme c fg = some t := by
  suffices ht : ∃ t, getTruecolorT P theme c fg = .ok t from
    ht.elim fun t ht => ⟨t, ht, getTruecolorT_sound P theme c fg t ht⟩
  have hlen := Palettes.lengths hP
  obtain ⟨name, type, number, triplet⟩ := c
  cases type
  case default => obtain ⟨rfl, -⟩ := h; exact ⟨_, rfl⟩
  case truecolor => obtain ⟨-, t, rfl, -⟩ := h; exact ⟨t, rfl⟩
  all_goals
    obtain ⟨⟨n, rfl, hn⟩, -⟩ := h
    exact ⟨_, paletteGet_eq_ok.2 (List.getElem?_eq_getElem (by omega))⟩

/-- The palette a 16-colour result is *displayed* with by `get_truecolor`: `WINDOWS_PALETTE` for
WINDOWS colours, the theme's `ansi_colors` for STANDARD ones. -/
def displayPalette (P : Palettes) (theme : TerminalTheme) (sys : ColorSystem) : List Triplet :=
  if sys = .windows then P.windows else theme.ansiColors

theorem getTruecolorT_16 (P : Palettes) (theme : TerminalTheme) {sys : ColorSystem} (hsys : sys = .standard ∨ sys = .windows)
    {r : Color} {k : Nat} (hty : r.type = sys.type16) (hk : r.number = some k) (fg : Bool) :
    getTruecolorT P theme r fg = paletteGet (displayPalette P theme sys) k := by
  unfold getTruecolorT
  rw [hty, hk]
  rcases hsys with rfl | rfl <;> rfl

theorem hexByte_eq (c : Nat) (h : c < 256) : hexByte c = [Nat.digitChar (c / 16), Nat.digitChar (c % 16)] := by
  unfold hexByte
  split
  · next h16 => rw [Nat.toDigits_of_lt_base h16, Nat.div_eq_of_lt h16, Nat.mod_eq_of_lt h16]; rfl
  · next h16 =>
    rw [Nat.toDigits_of_base_le (by decide) (Nat.le_of_not_lt h16), Nat.toDigits_of_lt_base (by omega)]; rfl

theorem hexDigitVal_digitChar : ∀ d : Fin 16, hexDigitVal? (Nat.digitChar d) = some d.val := by decide +kernel

theorem pyIntHex2_hexByte (c : Nat) (h : c < 256) :
    pyIntHex2 (Nat.digitChar (c / 16)) (Nat.digitChar (c % 16)) = .ok (c : Int) := by
  have hx := hexDigitVal_digitChar ⟨c / 16, by omega⟩
  have hy := hexDigitVal_digitChar ⟨c % 16, by omega⟩
  simp only at hx hy
  simp only [pyIntHex2, hx, hy, Nat.div_add_mod]

/-- No listed pair may have max = min: there `rgb_to_hls` returns `s = 0.0` without dividing. -/
theorem satLow_eq_rat_iff {exc : List (Nat × Nat)} (hexc : ∀ p ∈ exc, p.1 ≠ p.2) (t : Triplet) :
    satLow exc t = satLowRat t ↔ (t.maxc, t.minc) ∉ exc := by
  unfold satLow satLowRat
  by_cases hm : t.maxc = t.minc
  · simp only [hm, if_true, decide_true, Bool.true_or, true_iff]
    exact fun hmem => hexc _ hmem rfl
  · simp only [hm, if_false, decide_false, Bool.false_or]
    rw [← List.contains_iff_mem]
    cases satLowExact t.maxc t.minc <;> cases List.contains exc (t.maxc, t.minc) <;> simp

theorem satExc_facts : ∀ p ∈ satExcDouble, p.1 ≠ p.2 ∧ satLowExact p.1 p.2 = false := by decide +kernel

theorem intTranslate_ascii (runs : List (Nat × Nat × Nat)) (spaces : List Nat) (c : Char) (h : c.toNat < 128) :
    intTranslate runs spaces c = some c := by
  simp [intTranslate, h]

theorem pyIntHex2U_ascii (a b : Char) (ha : a.toNat < 128) (hb : b.toNat < 128) : pyIntHex2U a b = pyIntHex2 a b := by
  simp [pyIntHex2U, intTranslate_ascii, ha, hb]

end RichModel
