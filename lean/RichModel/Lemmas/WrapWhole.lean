import RichModel.Lemmas.WrapSplit
import RichModel.Lemmas.WrapStyleAlg
import RichModel.Lemmas.TextTabs
/-!
`Text.wrap` as a whole, with folding.  What tab expansion does to the ink of a paragraph (`expandTabs_tabMark`); the loop
over the paragraphs produced by `split("\\n", allow_blank=True)` (`wrapParagraphs_fold_ink`); the exact statement
`wrap_fold_ink`, and `wrap_fold_ink_upto`, through which every weaker comparison of styles is read off it.
-/
namespace RichModel
namespace Wrap
open Text
variable {σ : Type}
variable {chars : Bool}

/-- the ink of the reference expansion: tabs become blanks, every other character gets the base style in front -/
theorem nsv_expRef (ts : Nat) (b : σ) : ∀ (v : List (Char × List σ)) (col : Nat),
    nsv (expRef ts b v col) = (nsv v).map (fun p => (p.1, b :: p.2))
  | [], _ => rfl
  | (c, ids) :: rest, col => by
    unfold expRef
    split
    · rename_i hc
      subst hc
      rw [← List.singleton_append, ← List.append_assoc, nsv_append, nsv_expRef ts b rest, nsv_space, List.nil_append]
      · simp [nsv, tab_isSpace]
      · intro p hp
        rcases List.mem_append.mp hp with hp | hp
        · rw [List.mem_singleton.mp hp]; exact space_isSpace
        · rw [List.eq_of_mem_replicate hp]; exact space_isSpace
    · have ih := nsv_expRef ts b rest (if c = '\n' then 0 else col + 1)
      simp only [nsv, List.filter_cons] at ih ⊢
      split <;> simp [ih]

/-- what tab expansion does to the ink of a paragraph: base style once more in front, when there is a tab -/
def tabMark (P : Text σ) : List (Char × List σ) :=
  if P.plain.contains '\t' then (nsv P.view).map (fun p => (p.1, P.style :: p.2)) else nsv P.view

/-- `expand_tabs(ts)` with `ts > 0` on a consistent text succeeds; the result is consistent, has the
same base style, is the text itself when there is no tab, and otherwise shows exactly the non-whitespace characters
of the text, in order, each with its effective style under one more application of the base style: what C05's
`expandTabs_view` says about the ink.  (Stated for a paragraph of `Text.wrap`, without newline; that is not needed.) -/
theorem expandTabs_ink [BEq σ] (P : Text σ) (h : Inv P) (_hnl : '\n' ∉ P.plain) (ts : Nat) (hts : 0 < ts) :
    ∃ Q, P.expandTabs Variant.repaired (some ts) = .ok Q ∧ Inv Q ∧ Q.style = P.style ∧
      (P.plain.contains '\t' = false → Q = P) ∧
      (P.plain.contains '\t' = true → nsv Q.view = (nsv P.view).map (fun p => (p.1, P.style :: p.2))) := by
  obtain ⟨Q, h1, h2, h3, h4, h5⟩ := expandTabs_view P h (some ts) ts hts rfl
  exact ⟨Q, h1, h2, h3, h4, fun hc => by rw [h5 hc, nsv_expRef]⟩

/-- a text made of characters of a text `t` without tabs has none -/
theorem tabMark_of_no_tab {t P : Text σ} (htab : '\t' ∉ t.plain) (hPc : ∀ c ∈ P.plain, c ∈ t.plain) :
    tabMark P = nsv P.view :=
  if_neg fun hc => htab (hPc _ (List.contains_iff_mem.mp hc))

theorem normView_tabMark [BEq σ] [LawfulBEq σ] (A : StyleAlg σ) (P : Text σ) :
    normView A (tabMark P) = normView A (nsv P.view) := by
  unfold tabMark
  split
  · exact normView_cons_base A P.style _ (nsv_styles_start_with_base P)
  · rfl

/-- Tab expansion as `Text.wrap` applies it to a paragraph (only when there is a tab, and then the tab size has to be
positive): the ink of the result is `tabMark`. -/
theorem expandTabs_tabMark [BEq σ] (P : Text σ) (h : Inv P) (tabSize : Option Nat)
    (htab : P.plain.contains '\t' = true → ∃ ts, tabSize = some ts ∧ 0 < ts) :
    ∃ Q, (if P.plain.contains '\t' then P.expandTabs Variant.repaired tabSize else .ok P) = .ok Q ∧ Inv Q ∧
      Q.style = P.style ∧ nsv Q.view = tabMark P := by
  by_cases hc : P.plain.contains '\t' = true
  · obtain ⟨ts, rfl, hts⟩ := htab hc
    obtain ⟨Q, hQ, hQi, hst, _, hyes⟩ := expandTabs_view P h (some ts) ts hts rfl
    exact ⟨Q, by rw [if_pos hc]; exact hQ, hQi, hst, by rw [hyes hc, nsv_expRef, tabMark, if_pos hc]⟩
  · exact ⟨P, by rw [if_neg hc], h, rfl, by rw [tabMark, if_neg hc]⟩

/-- the ink of one paragraph of `Text.wrap` is that of the expanded paragraph `Q` (whose own ink is `tabMark P`), through
`wrapLine`; so a comparison `N` that does not see what `wrapLine` adds does not see more than `tabMark P` -/
theorem wrapInk_upto [BEq σ] (cw : Char → Nat) (A : StyleAlg σ) (w : Nat) (j : Justify) (tabSize : Option Nat) {β : Type}
    (N : List (Char × List σ) → β) (hN : ∀ Q : Text σ, N (paraInk cw A w j Q) = N (nsv Q.view)) (P : Text σ) (hP : Inv P)
    (htab : P.plain.contains '\t' = true → ∃ ts, tabSize = some ts ∧ 0 < ts) :
    N (wrapInk cw A w j tabSize P) = N (tabMark P) := by
  obtain ⟨Q, hQ, _, _, hQv⟩ := expandTabs_tabMark P hP tabSize htab
  rw [wrapInk_of_ok cw A w j hQ, hN, hQv]

/-- **The paragraph loop with folding**: every paragraph contributes `wrapInk`. -/
theorem wrapParagraphs_fold_ink [BEq σ] (cw : Char → Nat) (hsp : cw ' ' = 1) (A : StyleAlg σ) (w : Nat) (hwc : ∀ c, cw c ≤ w)
    (j : Justify) (tabSize : Option Nat) : ∀ ps : List (Text σ),
    (∀ P ∈ ps, Inv P ∧ (P.plain.contains '\t' = true → ∃ ts, tabSize = some ts ∧ 0 < ts)) →
    ∃ out, wrapParagraphs (WVariant.fixed chars) cw A w j Overflow.fold false tabSize ps = .ok out ∧
      nsv (out.flatMap Text.view) = ps.flatMap (wrapInk cw A w j tabSize)
  | [], _ => ⟨[], rfl, rfl⟩
  | P :: ps, h => by
    obtain ⟨hP, htab⟩ := h P (List.mem_cons_self ..)
    obtain ⟨more, hmore, hmink⟩ := wrapParagraphs_fold_ink cw hsp A w hwc j tabSize ps
      (fun l hl => h l (List.mem_cons_of_mem _ hl))
    obtain ⟨Q, hQ, hQi, _, _⟩ := expandTabs_tabMark P hP tabSize htab
    obtain ⟨out, hout, hoink, _⟩ := wrapLine_fold_ink (chars := chars) cw hsp A w hwc j Q hQi
    refine ⟨out ++ more, ?_, ?_⟩
    · simp only [wrapParagraphs, show (WVariant.fixed chars).text = Variant.repaired from rfl, hQ, bind, Except.bind,
        hout, hmore]
    · rw [List.flatMap_append, nsv_append, hoink, hmink, List.flatMap_cons, wrapInk_of_ok cw A w j hQ]

/-- **The whole of `Text.wrap` with folding, exactly**: the call succeeds, and the ink of the lines is, paragraph by
paragraph of `split("\n")`, `wrapInk`.  A text with a tab needs a positive tab size. -/
theorem wrap_fold_ink [BEq σ] (cw : Char → Nat) (hsp : cw ' ' = 1) (A : StyleAlg σ) (t : Text σ) (ht : Inv t) (w : Nat)
    (hwc : ∀ c, cw c ≤ w) (justify : Option Justify) (overflow : Option Overflow) (tabSize : Option Nat)
    (noWrap : Option Bool) (htab : '\t' ∈ t.plain → ∃ ts, tabSize = some ts ∧ 0 < ts)
    (hov : wrapOverflowOf t overflow = Overflow.fold) (hnw : noWrapOf t overflow noWrap = false) :
    ∃ out ps, wrap (WVariant.fixed chars) cw A t w justify overflow tabSize noWrap = .ok out ∧
      t.split Variant.repaired ['\n'] false true = .ok ps ∧
      nsv (ps.flatMap Text.view) = nsv t.view ∧
      (∀ P ∈ ps, Inv P ∧ P.style = t.style ∧ '\n' ∉ P.plain) ∧
      nsv (out.flatMap Text.view) = ps.flatMap (wrapInk cw A w (wrapJustifyOf t justify) tabSize) ∧
      ∀ P ∈ ps, ∀ c ∈ P.plain, c ∈ t.plain := by
  obtain ⟨ps, hsplit, hink, hps, hsub⟩ := split_newline_ink t ht
  obtain ⟨out, h1, h2⟩ := wrapParagraphs_fold_ink (chars := chars) cw hsp A w hwc (wrapJustifyOf t justify) tabSize ps
    (fun P hP => ⟨(hps P hP).1, fun hc => htab (hsub P hP _ (List.contains_iff_mem.mp hc))⟩)
  exact ⟨out, ps, wrap_ok_iff.mpr ⟨ps, hsplit, by rw [hov, hnw]; exact h1⟩, hsplit, hink, hps, h2, hsub⟩

/-- **… and up to a comparison `N` of styled strings** that respects concatenation and sees neither what `wrapLine` adds
(the null style in front, justify "full") nor what tab expansion adds (the base style in front): under `N` the lines show
the ink of the text. -/
theorem wrap_fold_ink_upto [BEq σ] (cw : Char → Nat) (hsp : cw ' ' = 1) (A : StyleAlg σ) (t : Text σ) (ht : Inv t) (w : Nat)
    (hwc : ∀ c, cw c ≤ w) (justify : Option Justify) (overflow : Option Overflow) (tabSize : Option Nat)
    (noWrap : Option Bool) (htab : '\t' ∈ t.plain → ∃ ts, tabSize = some ts ∧ 0 < ts)
    (hov : wrapOverflowOf t overflow = Overflow.fold) (hnw : noWrapOf t overflow noWrap = false)
    (N : List (Char × List σ) → List (Char × List σ)) (hN : ∀ a b, N (a ++ b) = N a ++ N b)
    (hpara : ∀ Q : Text σ, N (paraInk cw A w (wrapJustifyOf t justify) Q) = N (nsv Q.view))
    (hmark : ∀ P : Text σ, (∀ c ∈ P.plain, c ∈ t.plain) → N (tabMark P) = N (nsv P.view)) :
    ∃ out, wrap (WVariant.fixed chars) cw A t w justify overflow tabSize noWrap = .ok out ∧
      N (nsv (out.flatMap Text.view)) = N (nsv t.view) := by
  obtain ⟨out, ps, h1, _, hink, hps, h2, hsub⟩ := wrap_fold_ink (chars := chars) cw hsp A t ht w hwc justify overflow tabSize
    noWrap htab hov hnw
  refine ⟨out, h1, ?_⟩
  rw [h2, ← hink, nsv_flatMap]
  refine flatMap_congr_of_hom N hN _ _ ps fun P hP => ?_
  rw [wrapInk_upto cw A w _ tabSize N hpara P (hps P hP).1 fun hc => htab (hsub P hP _ (List.contains_iff_mem.mp hc))]
  exact hmark P (hsub P hP)

/-- the whole of `Text.wrap` with folding, every justify mode, tabs: the ink in the normal form `normView`, which sees
neither the null style nor a repeated base style, and the characters (what C02's headline theorem states) -/
theorem wrap_fold_keeps_nonspace [BEq σ] [LawfulBEq σ] (cw : Char → Nat) (hsp : cw ' ' = 1) (_h2 : ∀ c, cw c ≤ 2)
    (A : StyleAlg σ) (t : Text σ) (ht : Inv t) (w : Nat) (hwc : ∀ c, cw c ≤ w) (justify : Option Justify)
    (overflow : Option Overflow) (ts : Nat) (hts : 0 < ts) (noWrap : Option Bool)
    (hov : wrapOverflowOf t overflow = Overflow.fold) (hnw : noWrapOf t overflow noWrap = false) :
    ∃ out, wrap (WVariant.fixed chars) cw A t w justify overflow (some ts) noWrap = .ok out ∧
      normView A (nsv (out.flatMap Text.view)) = normView A (nsv t.view) ∧
      (out.flatMap (·.plain)).filter (fun c => !pyIsSpace c) = t.plain.filter (fun c => !pyIsSpace c) := by
  obtain ⟨out, h1, h3⟩ := wrap_fold_ink_upto (chars := chars) cw hsp A t ht w hwc justify overflow (some ts) noWrap
    (fun _ => ⟨ts, rfl, hts⟩) hov hnw (normView A) (normView_append A)
    (fun Q => normView_of_dropNull A _ _ (paraInk_dropNull cw A w _ Q)) (fun P _ => normView_tabMark A P)
  exact ⟨out, h1, h3, plain_of_ink (normView A) (normView_map_fst A) out t h3⟩

/-- "a\tbc\t" with base style 0, a span over "a\tb" and one over the final tab -/
def exTabs : Text Nat :=
  { plain := ['a', '\t', 'b', 'c', '\t'], length := 5, style := 0, spans := [⟨0, 3, 1⟩, ⟨4, 5, 2⟩] }

example : Inv exTabs ∧ '\n' ∉ exTabs.plain ∧ exTabs.plain.contains '\t' = true := by
  refine ⟨⟨rfl, by decide, ?_⟩, by decide, by decide⟩
  intro sp hsp
  simp only [exTabs, List.mem_cons, List.not_mem_nil, or_false] at hsp
  rcases hsp with rfl | rfl <;> decide

example : (exTabs.expandTabs Variant.repaired (some 4)).toOption.map (fun q => (q.plain, nsv q.view)) =
    some (['a', ' ', ' ', ' ', 'b', 'c', ' ', ' '], [('a', [0, 0, 1]), ('b', [0, 0, 1]), ('c', [0, 0])]) := by decide +kernel

end Wrap
end RichModel
