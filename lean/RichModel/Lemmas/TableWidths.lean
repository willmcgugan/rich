import RichModel.Model.Table
import RichModel.Lemmas.Ratio
/-!
`Table._calculate_column_widths` (`Model/Table.lean`) phase by phase: the padding block, what a column measures, the first pass
without active ratio columns, the re-measure; then the result when the first pass fits, when the collapse alone reaches
`max_width`, and under any bound the shrink block keeps.  The hypotheses the width theorems are stated with are defined here
(`Column.SaneFree`, `Table.AllFree`, `Table.NoRatio`, `Table.MeasuresNonneg`, `Table.FirstPassAt`).
-/
namespace RichModel

theorem sum_zip_add : ∀ (a b : List Int), a.length = b.length →
    ((a.zip b).map (fun p => p.1 + p.2)).sum = a.sum + b.sum ∧ ((a.zip b).map (fun p => p.1 + p.2)).length = a.length
  | [], [], _ => by simp
  | [], _ :: _, h => by simp at h
  | _ :: _, [], h => by simp at h
  | x :: xs, y :: ys, h => by
    have ih := sum_zip_add xs ys (by simpa using h)
    simp only [List.zip_cons_cons, List.map_cons, List.sum_cons, List.length_cons, ih.1, ih.2]
    exact ⟨by omega, trivial⟩

theorem zip_add_ge (a b : List Int) (h : ∀ d ∈ b, 0 ≤ d) : ∀ p ∈ a.zip ((a.zip b).map (fun p => p.1 + p.2)), p.1 ≤ p.2 := by
  intro p hp
  obtain ⟨i, hi, rfl⟩ := List.getElem_of_mem hp
  simp only [List.length_zip, List.length_map] at hi
  have := h b[i] (List.getElem_mem _)
  simp only [List.getElem_zip, List.getElem_map]
  omega

theorem ratioDistribute_pos (total : Int) (ratios : List Int) (hne : ratios ≠ []) (hpos : ∀ r ∈ ratios, 1 ≤ r) :
    ∃ l, ratioDistribute total ratios none = some l ∧ l.sum = max 0 total ∧ l.length = ratios.length ∧ ∀ d ∈ l, 0 ≤ d := by
  have hsum := sum_pos_of_all_pos ratios hne hpos
  by_cases ht : 0 ≤ total
  · obtain ⟨l, h1, h2, h3, h4⟩ := ratioDistribute_none total ratios (fun r hr => by have := hpos r hr; omega) hsum ht
    exact ⟨l, h1, by omega, h3, h4⟩
  · have hz := ratioDistributeLoop_nonpos ((ratios.zip (List.replicate ratios.length 0))) total ratios.sum
      (fun it hit => ⟨hpos _ (List.of_mem_zip hit).1, (List.mem_replicate.mp (List.of_mem_zip hit).2).2⟩)
      (by rw [zip_replicate_fst]) (by omega)
    refine ⟨_, ratioDistribute_none_eq total ratios hsum, ?_, ?_, ?_⟩
    · rw [sum_zero_of_all_zero _ hz]; omega
    · rw [ratioDistributeLoop_length]; simp
    · intro d hd; have := hz d hd; omega

theorem calcWidths_ne (fl : Flags) (t : Table) (maxWidth : Int) (h : t.columns ≠ []) :
    t.calcWidths fl maxWidth =
      match t.firstWidths fl maxWidth with
      | none => none
      | some widths =>
        if widths.sum > maxWidth then
          t.padWidths fl (t.shrinkWidths widths maxWidth).1
            (if fl.staleTableWidth then (t.shrinkWidths widths maxWidth).2 else (t.shrinkWidths widths maxWidth).1.sum) maxWidth
        else t.padWidths fl widths widths.sum maxWidth := by
  unfold Table.calcWidths
  have : t.columns.isEmpty = false := by
    cases hc : t.columns with
    | nil => exact absurd hc h
    | cons _ _ => rfl
  simp only [this, Bool.and_false, Bool.false_eq_true, if_false]
  rfl

theorem firstWidths_nil (fl : Flags) (t : Table) (ht : t.columns = []) (mw : Int) : t.firstWidths fl mw = some [] := by
  simp [Table.firstWidths, Table.indexed, ht]

theorem shrinkWidths_nil (t : Table) (ht : t.columns = []) (mw : Int) : (t.shrinkWidths [] mw).1 = [] := by
  simp [Table.shrinkWidths, Table.shrinkPre, Table.remeasure, collapseWidths, Table.wrapable, ht, ratioReduce]

theorem padWidths_nil (fl : Flags) (t : Table) (tw mw : Int) (ws : List Int) (h : t.padWidths fl [] tw mw = some ws) :
    ws = [] := by
  unfold Table.padWidths at h
  split at h
  · simp [ratioDistribute] at h
  · simpa using h.symm

theorem calcWidths_nil (fl : Flags) (t : Table) (ht : t.columns = []) (mw : Int) (ws : List Int)
    (h : t.calcWidths fl mw = some ws) : ws = [] := by
  unfold Table.calcWidths at h
  split at h
  · simpa using h.symm
  · rw [firstWidths_nil fl t ht mw] at h
    simp only at h
    split at h
    · rw [shrinkWidths_nil t ht mw] at h
      exact padWidths_nil fl t _ mw ws h
    · exact padWidths_nil fl t _ mw ws h

theorem calcWidths_of_first (fl : Flags) (t : Table) (maxWidth : Int) (h : t.columns ≠ []) (ws0 : List Int)
    (h0 : t.firstWidths fl maxWidth = some ws0) :
    t.calcWidths fl maxWidth =
      if ws0.sum > maxWidth then
        t.padWidths fl (t.shrinkWidths ws0 maxWidth).1
          (if fl.staleTableWidth then (t.shrinkWidths ws0 maxWidth).2 else (t.shrinkWidths ws0 maxWidth).1.sum) maxWidth
      else t.padWidths fl ws0 ws0.sum maxWidth := by
  rw [calcWidths_ne fl t maxWidth h, h0]

theorem padTarget_le (fl : Flags) (t : Table) (maxWidth : Int) : t.padTarget fl maxWidth ≤ maxWidth := by
  unfold Table.padTarget
  split
  · omega
  · split <;> omega

theorem padTarget_expand (fl : Flags) (t : Table) (maxWidth : Int) (hexp : t.expand = true)
    (hfl : fl.minWidthCapsExpand = false ∨ t.minWidth = none) : t.padTarget fl maxWidth = maxWidth := by
  unfold Table.padTarget
  split
  · rfl
  · rename_i m hm
    rcases hfl with hfl | hfl
    · simp [hfl, hexp]
    · rw [hfl] at hm; cases hm

theorem padWidths_spec (fl : Flags) (t : Table) (ws : List Int) (tableWidth maxWidth : Int)
    (hne : ws ≠ []) (hpos : ∀ w ∈ ws, 1 ≤ w) :
    ∃ r, t.padWidths fl ws tableWidth maxWidth = some r ∧ r.length = ws.length ∧
      r.sum = ws.sum + (if t.padCond tableWidth maxWidth then max 0 (t.padTarget fl maxWidth - tableWidth) else 0) ∧
      (∀ p ∈ ws.zip r, p.1 ≤ p.2) := by
  unfold Table.padWidths
  split
  · obtain ⟨pads, h1, h2, h3, h4⟩ := ratioDistribute_pos (t.padTarget fl maxWidth - tableWidth) ws hne hpos
    rw [h1]
    have hz := sum_zip_add ws pads h3.symm
    exact ⟨_, rfl, hz.2, by rw [hz.1, h2], zip_add_ge ws pads h4⟩
  · refine ⟨ws, rfl, rfl, by omega, fun p hp => ?_⟩
    obtain ⟨i, _, rfl⟩ := List.getElem_of_mem hp
    rw [List.getElem_zip]
    exact Int.le_refl _

theorem ne_nil_of_length_eq {α β : Type} {a : List α} {b : List β} (h : a.length = b.length) (hb : b ≠ []) : a ≠ [] :=
  fun ha => hb (List.eq_nil_of_length_eq_zero (by rw [← h, ha]; rfl))

theorem ge_one_of_zip_le (a b : List Int) (hz : ∀ p ∈ a.zip b, p.1 ≤ p.2) (hlen : a.length = b.length) (ha : ∀ w ∈ a, 1 ≤ w) :
    ∀ w ∈ b, 1 ≤ w := by
  intro w hw
  obtain ⟨x, hx⟩ := exists_zip_of_mem a b hlen w hw
  have := hz _ hx
  have := ha x (List.of_mem_zip hx).1
  simp only at *; omega

theorem padWidths_sum (fl : Flags) (t : Table) (ws : List Int) (tableWidth maxWidth : Int)
    (hne : ws ≠ []) (hpos : ∀ w ∈ ws, 1 ≤ w) :
    ∃ r, t.padWidths fl ws tableWidth maxWidth = some r ∧ r.length = ws.length ∧ (∀ p ∈ ws.zip r, p.1 ≤ p.2) ∧ (∀ w ∈ r, 1 ≤ w) ∧
      ws.sum ≤ r.sum ∧ r.sum ≤ ws.sum + max 0 (maxWidth - tableWidth) ∧
      (t.expand = true → (fl.minWidthCapsExpand = false ∨ t.minWidth = none) → tableWidth ≤ maxWidth →
        r.sum = ws.sum + (maxWidth - tableWidth)) := by
  obtain ⟨r, h1, h2, h3, h4⟩ := padWidths_spec fl t ws tableWidth maxWidth hne hpos
  have hle := padTarget_le fl t maxWidth
  have hsum : ws.sum ≤ r.sum ∧ r.sum ≤ ws.sum + max 0 (maxWidth - tableWidth) := by rw [h3]; split <;> omega
  refine ⟨r, h1, h2, h4, ge_one_of_zip_le ws r h4 h2.symm hpos, hsum.1, hsum.2, fun hexp hfl htw => ?_⟩
  rw [h3, padTarget_expand fl t maxWidth hexp hfl]
  split
  · omega
  · rename_i hc
    simp only [Table.padCond, hexp, Bool.and_true, Bool.or_eq_true, decide_eq_true_eq, not_or] at hc
    omega

theorem paddingWidth_nonneg_of (t : Table) (idx : Nat) (h1 : 0 ≤ t.padding.2.1) (h2 : 0 ≤ t.padding.2.2.2) :
    0 ≤ t.paddingWidth idx := by
  unfold Table.paddingWidth
  simp only
  split <;> omega

/-- The widest of the column's cells when each is offered `w` (the whole `w` for a column without cells). -/
def Table.cellsMax (t : Table) (c : Column) (w : Int) : Int :=
  if ((t.getCells c).map (fun cell => cell.measure w.toNat)).isEmpty then w
  else listMax (((t.getCells c).map (fun cell => cell.measure w.toNat)).map (·.maximum))

theorem cellsMax_nonneg (t : Table) (c : Column) (w : Int) (hw : 0 ≤ w)
    (h : ∀ cell ∈ t.getCells c, ∀ w, 0 ≤ (cell.measure w).maximum) : 0 ≤ t.cellsMax c w := by
  unfold Table.cellsMax
  split
  · exact hw
  · refine listMax_nonneg _ (fun x hx => ?_)
    simp only [List.mem_map] at hx
    obtain ⟨m, ⟨cell, hcell, rfl⟩, rfl⟩ := hx
    exact h cell hcell _

theorem measureColumn_lt_one (t : Table) (idx : Nat) (c : Column) (w : Int) (h : w < 1) : t.measureColumn idx c w = ⟨0, 0⟩ := by
  unfold Table.measureColumn
  simp [h]

/-- The maximum a column measures when offered `w ≥ 1`: a fixed width (with its padding) cut to `w`; otherwise the widest
cell cut to `w`, raised to the `min_width` floor, cut to the `max_width` cap. -/
theorem measureColumn_maximum (t : Table) (idx : Nat) (c : Column) (w : Int) (hw : 1 ≤ w) :
    (t.measureColumn idx c w).maximum =
      match c.width with
      | some cw => min (cw + t.paddingWidth idx) w
      | none =>
        let y := match c.minWidth with
          | none => min (t.cellsMax c w) w
          | some k => max (min (t.cellsMax c w) w) (max 0 (k + t.paddingWidth idx))
        match c.maxWidth with
        | none => y
        | some m => min y (m + t.paddingWidth idx) := by
  unfold Table.measureColumn Table.cellsMax
  rw [if_neg (by omega)]
  cases c.width <;> cases c.minWidth <;> cases c.maxWidth <;> rfl

/-- A free column: no `width`, no `min_width`; the cells' measured maxima are never negative (what `Measurement.get`
guarantees) and an explicit `max_width` cap, if any, is not negative either (padding included). -/
def Column.SaneFree (t : Table) (idx : Nat) (c : Column) : Prop :=
  c.width = none ∧ c.minWidth = none ∧
  (∀ cell ∈ t.getCells c, ∀ w, 0 ≤ (cell.measure w).maximum) ∧
  (∀ m, c.maxWidth = some m → 0 ≤ m + t.paddingWidth idx)

/-- No hypothesis on `min_width`: `with_minimum` clips the floor at 0. -/
theorem measureColumn_nonneg_of (t : Table) (idx : Nat) (c : Column) (w : Int)
    (hcells : ∀ cell ∈ t.getCells c, ∀ w, 0 ≤ (cell.measure w).maximum)
    (hwid : ∀ cwid, c.width = some cwid → 0 ≤ cwid + t.paddingWidth idx)
    (hcap : ∀ m, c.maxWidth = some m → 0 ≤ m + t.paddingWidth idx) : 0 ≤ (t.measureColumn idx c w).maximum := by
  by_cases hw1 : 1 ≤ w
  · have hm0 := cellsMax_nonneg t c w (by omega) hcells
    rw [measureColumn_maximum t idx c w hw1]
    have hx : 0 ≤ min (t.cellsMax c w) w := by omega
    generalize min (t.cellsMax c w) w = x at hx ⊢
    cases hcw : c.width with
    | some cwid => have := hwid cwid hcw; simp only; omega
    | none =>
      cases c.minWidth <;> cases hmx : c.maxWidth <;> simp only
      · omega
      · have := hcap _ hmx; omega
      · omega
      · have := hcap _ hmx; omega
  · rw [measureColumn_lt_one t idx c w (by omega)]
    exact Int.le_refl 0

theorem Column.SaneFree.measure_nonneg {t : Table} {idx : Nat} {c : Column} (h : c.SaneFree t idx) (w : Int) :
    0 ≤ (t.measureColumn idx c w).maximum :=
  measureColumn_nonneg_of t idx c w h.2.2.1 (by rw [h.1]; nofun) h.2.2.2

theorem orOne_bounds (x w : Int) (h0 : 0 ≤ x) : 1 ≤ orOne x ∧ (1 ≤ w → x ≤ w → orOne x ≤ w) := by
  unfold orOne
  split
  · rename_i h; simp at h; omega
  · rename_i h; simp at h; omega

theorem orOne_pos (x : Int) (h : 0 ≤ x) : 1 ≤ orOne x := (orOne_bounds x 0 h).1

theorem indexed_length (t : Table) : t.indexed.length = t.columns.length := by simp [Table.indexed]

theorem mem_indexed (t : Table) (ci : Column × Nat) (h : ci ∈ t.indexed) : ci.1 ∈ t.columns := mem_zipIdx_fst t.columns ci h

/-- Every column is free and sane. -/
def Table.AllFree (t : Table) : Prop := ∀ ci ∈ t.indexed, ci.1.SaneFree t ci.2

theorem Table.AllFree.of_mem {t : Table} (hfree : t.AllFree) {c : Column} (hc : c ∈ t.columns) : ∃ i, c.SaneFree t i := by
  obtain ⟨i, hi, rfl⟩ := List.getElem_of_mem hc
  exact ⟨i, hfree (t.columns[i], i) (List.mem_zipIdx_iff_getElem?.2 (by simp [hi]))⟩

theorem Table.AllFree.width {t : Table} (hfree : t.AllFree) : ∀ c ∈ t.columns, c.width = none :=
  fun _ hc => let ⟨_, h⟩ := hfree.of_mem hc; h.1

theorem allFree_wrap (t : Table) (hfree : t.AllFree) (hnw : ∀ c ∈ t.columns, c.noWrap = false) :
    ∀ c ∈ t.columns, c.width = none ∧ c.noWrap = false :=
  fun c hc => ⟨hfree.width c hc, hnw c hc⟩

/-- The measured maximum is never negative — of a measuring function `m`: a cell's or a child oracle's `measure`, `measureColumn` of
a column.  It is what `Measurement.get` guarantees of every renderable. -/
def MeasNonneg {α : Type} (m : α → Measurement) : Prop := ∀ k, 0 ≤ (m k).maximum

/-- Every column measures a maximum that is never negative, at every width offered (free columns: `Table.AllFree.measures`;
sane tables: `Table.Sane.measures`).  It is all the column-width theorems need to know of the columns. -/
def Table.MeasuresNonneg (t : Table) : Prop := ∀ ci ∈ t.indexed, MeasNonneg (t.measureColumn ci.2 ci.1)

theorem remeasure_ge_one_of (t : Table) (hm : t.MeasuresNonneg) (ws : List Int) :
    ∀ w ∈ t.remeasure ws, 1 ≤ w := by
  intro w hw
  obtain ⟨wc, hwc, rfl⟩ := List.mem_map.mp hw
  exact orOne_pos _ (hm wc.2 (List.of_mem_zip hwc).2 wc.1)

theorem Table.AllFree.measures {t : Table} (h : t.AllFree) : t.MeasuresNonneg :=
  fun ci hci w => (h ci hci).measure_nonneg w

/-- No ratio column takes part: the table does not expand, or every ratio is `None`/0. -/
def Table.NoRatio (t : Table) : Prop := t.expand = false ∨ ∀ c ∈ t.columns, c.ratio.getD 0 = 0

theorem firstWidths_noRatio (fl : Flags) (t : Table) (h : t.NoRatio) (maxWidth : Int) :
    t.firstWidths fl maxWidth = some (t.indexed.map (fun ci => orOne (t.measureColumn ci.2 ci.1 maxWidth).maximum)) := by
  unfold Table.firstWidths
  simp only [List.map_map]
  rcases h with h | h
  · rw [if_neg (by rw [h]; decide)]; rfl
  · have : ((t.indexed.filter (fun ci => ci.1.flexible)).map (fun ci => ci.1.ratio.getD 0)).any (· != 0) = false := by
      rw [List.any_eq_false]
      intro x hx
      simp only [List.mem_map, List.mem_filter] at hx
      obtain ⟨ci, ⟨hci, _⟩, rfl⟩ := hx
      simp [h ci.1 (mem_indexed t ci hci)]
    simp only [this, Bool.false_eq_true, if_false, ite_self]
    rfl

/-- `ws0` is what the first pass returns: one width per column, each at least one cell.  (Reducible, so that the property
statements, which write the three parts out, meet it without a bridge; read it through `.eq`, `.length`, `.pos`.) -/
abbrev Table.FirstPassAt (fl : Flags) (t : Table) (maxWidth : Int) (ws0 : List Int) : Prop :=
  t.firstWidths fl maxWidth = some ws0 ∧ ws0.length = t.columns.length ∧ ∀ w ∈ ws0, 1 ≤ w

theorem Table.FirstPassAt.eq {fl : Flags} {t : Table} {maxWidth : Int} {ws0 : List Int} (h : t.FirstPassAt fl maxWidth ws0) :
    t.firstWidths fl maxWidth = some ws0 := h.1
theorem Table.FirstPassAt.length {fl : Flags} {t : Table} {maxWidth : Int} {ws0 : List Int} (h : t.FirstPassAt fl maxWidth ws0) :
    ws0.length = t.columns.length := h.2.1
theorem Table.FirstPassAt.pos {fl : Flags} {t : Table} {maxWidth : Int} {ws0 : List Int} (h : t.FirstPassAt fl maxWidth ws0) :
    ∀ w ∈ ws0, 1 ≤ w := h.2.2

/-- The first pass succeeds and gives every column at least one cell. -/
def Table.FirstPass (fl : Flags) (t : Table) (maxWidth : Int) : Prop := ∃ ws0, t.FirstPassAt fl maxWidth ws0

theorem firstPassAt_noRatio (fl : Flags) (t : Table) (h : t.NoRatio) (hm : t.MeasuresNonneg) (maxWidth : Int) :
    t.FirstPassAt fl maxWidth (t.indexed.map (fun ci => orOne (t.measureColumn ci.2 ci.1 maxWidth).maximum)) := by
  refine ⟨firstWidths_noRatio fl t h maxWidth, by simp [indexed_length], fun w hw => ?_⟩
  obtain ⟨ci, hci, rfl⟩ := List.mem_map.mp hw
  exact orOne_pos _ (hm ci hci maxWidth)

theorem firstWidths_free (fl : Flags) (t : Table) (h : t.NoRatio) (hfree : t.AllFree) (maxWidth : Int) :
    t.FirstPass fl maxWidth :=
  ⟨_, firstPassAt_noRatio fl t h hfree.measures maxWidth⟩

theorem wrapable_length (t : Table) : t.wrapable.length = t.columns.length := List.length_map _

theorem wrapable_all (t : Table) (hwrap : ∀ c ∈ t.columns, c.width = none ∧ c.noWrap = false) : ∀ b ∈ t.wrapable, b = true := by
  intro b hb
  simp only [Table.wrapable, List.mem_map] at hb
  obtain ⟨c, hc, rfl⟩ := hb
  simp [(hwrap c hc).1, (hwrap c hc).2]

theorem remeasure_length (t : Table) (ws : List Int) (hl : ws.length = t.columns.length) :
    (t.remeasure ws).length = t.columns.length := by
  simp [Table.remeasure, indexed_length, hl]

theorem shrinkWidths_of_fit (t : Table) (ws0 : List Int) (maxWidth : Int)
    (h : (collapseWidths ws0 t.wrapable maxWidth).sum ≤ maxWidth) :
    t.shrinkWidths ws0 maxWidth =
      (t.remeasure (collapseWidths ws0 t.wrapable maxWidth), (collapseWidths ws0 t.wrapable maxWidth).sum) := by
  unfold Table.shrinkWidths Table.shrinkPre
  simp only [show ¬ ((collapseWidths ws0 t.wrapable maxWidth).sum > maxWidth) by omega, if_false]

theorem calcWidths_fitting (fl : Flags) (t : Table) (maxWidth : Int) (hne : t.columns ≠ []) (ws0 : List Int)
    (h0 : t.firstWidths fl maxWidth = some ws0) (hne0 : ws0 ≠ []) (hp : ∀ w ∈ ws0, 1 ≤ w) (hfit : ws0.sum ≤ maxWidth) :
    ∃ ws, t.calcWidths fl maxWidth = some ws ∧ ws.sum ≤ maxWidth ∧ ws.length = ws0.length ∧ (∀ w ∈ ws, 1 ≤ w) ∧
      (∀ p ∈ ws0.zip ws, p.1 ≤ p.2) ∧ (t.expand = true → (fl.minWidthCapsExpand = false ∨ t.minWidth = none) → ws.sum = maxWidth) := by
  rw [calcWidths_of_first fl t maxWidth hne ws0 h0, if_neg (by omega)]
  obtain ⟨ws, h1, h2, hz, h3, _, h5, h6⟩ := padWidths_sum fl t ws0 ws0.sum maxWidth hne0 hp
  exact ⟨ws, h1, by omega, h2, h3, hz, fun hexp hfl => by have := h6 hexp hfl hfit; omega⟩

/-- The widths when the first pass is too wide and the collapse alone reaches `max_width` (it then stops exactly there): every
column keeps a cell, the padding block takes nothing back, the table exceeds `max_width` by no more than the re-measure added,
and an expanding table whose `table_width` is refreshed is exactly `max_width` wide when the re-measured widths fit. -/
theorem calcWidths_collapsed (fl : Flags) (t : Table) (maxWidth : Int) (hm : t.MeasuresNonneg) (hne : t.columns ≠ [])
    (ws0 : List Int) (h0 : t.firstWidths fl maxWidth = some ws0) (hl : ws0.length = t.columns.length)
    (hnn : ∀ w ∈ ws0, 0 ≤ w) (hover : maxWidth < ws0.sum)
    (hfit : (collapseWidths ws0 t.wrapable maxWidth).sum ≤ maxWidth) :
    ∃ ws, t.calcWidths fl maxWidth = some ws ∧
      ws.sum ≤ max maxWidth (t.remeasure (collapseWidths ws0 t.wrapable maxWidth)).sum ∧
      ws.length = t.columns.length ∧ (∀ w ∈ ws, 1 ≤ w) ∧
      (t.remeasure (collapseWidths ws0 t.wrapable maxWidth)).sum ≤ ws.sum ∧
      (fl.staleTableWidth = false → t.expand = true → (fl.minWidthCapsExpand = false ∨ t.minWidth = none) →
        (t.remeasure (collapseWidths ws0 t.wrapable maxWidth)).sum ≤ maxWidth → ws.sum = maxWidth) ∧
      (collapseWidths ws0 t.wrapable maxWidth).sum = maxWidth := by
  obtain ⟨hrl, _, _, _, hge⟩ := collapseWidths_post ws0 t.wrapable maxWidth (hl.trans (wrapable_length t).symm) hnn
  have hge := hge (by omega)
  rw [calcWidths_of_first fl t maxWidth hne ws0 h0, if_pos hover, shrinkWidths_of_fit t ws0 maxWidth hfit]
  generalize collapseWidths ws0 t.wrapable maxWidth = r at *
  have hml := remeasure_length t r (hrl.trans hl)
  obtain ⟨ws, h1, h2, _, h3, h4, h5, h6⟩ := padWidths_sum fl t (t.remeasure r)
    (if fl.staleTableWidth then r.sum else (t.remeasure r).sum) maxWidth (ne_nil_of_length_eq hml hne)
    (remeasure_ge_one_of t hm r)
  refine ⟨ws, h1, by split at h5 <;> omega, by omega, h3, h4, fun hst hexp hfl hfit => ?_, by omega⟩
  simp only [hst, Bool.false_eq_true, if_false] at h6
  have := h6 hexp hfl hfit
  omega

/-- **`_calculate_column_widths` after a first pass `ws0` that gives every column at least one cell**: whatever bound `B ≥ max_width`
the `if table_width > max_width` block (collapse, last-resort reduce, re-measure) keeps — for the widths it returns and for what the
`table_width` it carries on leaves the padding block to add — the result keeps.  (Also below the structural minimum, where the
last-resort reduce runs.) -/
theorem calcWidths_bound (fl : Flags) (t : Table) (maxWidth B : Int) (hne : t.columns ≠ []) (ws0 : List Int)
    (hf : t.FirstPassAt fl maxWidth ws0) (hB : maxWidth ≤ B)
    (hshrink : maxWidth < ws0.sum →
      (t.shrinkWidths ws0 maxWidth).1.length = t.columns.length ∧ (∀ w ∈ (t.shrinkWidths ws0 maxWidth).1, 1 ≤ w) ∧
      (t.shrinkWidths ws0 maxWidth).1.sum ≤ B ∧
      (t.shrinkWidths ws0 maxWidth).1.sum + (maxWidth - (t.shrinkWidths ws0 maxWidth).2) ≤ B) :
    ∃ ws, t.calcWidths fl maxWidth = some ws ∧ ws.sum ≤ B ∧ ws.length = t.columns.length ∧ ∀ w ∈ ws, 1 ≤ w := by
  by_cases hover : ws0.sum > maxWidth
  · rw [calcWidths_of_first fl t maxWidth hne ws0 hf.eq, if_pos hover]
    obtain ⟨hml, hm1, hs1, hs2⟩ := hshrink hover
    generalize t.shrinkWidths ws0 maxWidth = sw at *
    obtain ⟨r, he, hrl, _, hr1, _, hrs, _⟩ := padWidths_sum fl t sw.1 (if fl.staleTableWidth then sw.2 else sw.1.sum) maxWidth
      (ne_nil_of_length_eq hml hne) hm1
    exact ⟨r, he, by split at hrs <;> omega, by omega, hr1⟩
  · obtain ⟨r, he, hrs, hrl, hr1, _⟩ :=
      calcWidths_fitting fl t maxWidth hne ws0 hf.eq (ne_nil_of_length_eq hf.length hne) hf.pos (by omega)
    exact ⟨r, he, by omega, by have := hf.length; omega, hr1⟩

end RichModel
