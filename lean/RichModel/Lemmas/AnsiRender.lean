import RichModel.Lemmas.AnsiCodes
import RichModel.Lemmas.Except
/-!
Lemmas for property C03: one `Style.render`, with the `_ansi` cache as state, and the loop of `_render_buffer` as
`forE` of its body `renderStep` (`Lemmas/Except.lean`).  Core Lean only.

The invariant carried through histories is `HeapOK`: every object has a well-formed style and a cache
that — *for the colour system it is tagged with* — holds what `_make_ansi_codes` would compute afresh.
The repaired code (`ansiCacheUnkeyed = false`) only ever uses a cache entry for its own colour system,
so the invariant is enough; rich 9.10.0 as found (before fix c9ec5a8) does not, which is where `old_…` in Props/C03 comes from.

A call on a sound object writes `freshToks`, what a brand-new object of the same style writes
(`styleRender_eq_fresh`); `freshToks_means` says what those tokens mean to the terminal.
-/
namespace RichModel.AnsiRender
open RichModel RichModel.AnsiTerm

variable {cc : Cfg} {P : Palettes}

/-- The cache of an object is sound for the colour system it is tagged with. -/
def CacheOK (cc : Cfg) (P : Palettes) (o : StyleObj) : Prop :=
  ∀ cs codes, o.ansi = some (cs, codes) → computeCodes cc P o.style cs = .ok codes

def ObjOK (cc : Cfg) (P : Palettes) (o : StyleObj) : Prop := StyleWF o.style ∧ CacheOK cc P o

/-- The invariant of histories on shared `Style` objects. -/
def HeapOK (cc : Cfg) (P : Palettes) (heap : Heap) : Prop := ∀ o ∈ heap, ObjOK cc P o

/-- Every style reference of the segments names an object of the heap. -/
def RefsOK (heap : Heap) (segs : List Seg) : Prop := ∀ seg ∈ segs, ∀ i, seg.style = some i → i < heap.length

theorem objOK_fresh {s : Style} (h : StyleWF s) : ObjOK cc P { style := s, ansi := none } :=
  ⟨h, by intro cs codes hc; cases hc⟩

theorem makeAnsiCodes_cases (v : RVariant) (cc : Cfg) (P : Palettes) (o : StyleObj) (cs : ColorSystem) :
    (∃ cs' codes, o.ansi = some (cs', codes) ∧ (v.ansiCacheUnkeyed || cs' == cs) = true ∧
      makeAnsiCodes v cc P o cs = .ok (codes, o)) ∨
    makeAnsiCodes v cc P o cs =
      (computeCodes cc P o.style cs).map fun codes => (codes, { o with ansi := some (cs, codes) }) := by
  unfold makeAnsiCodes cacheLookup
  cases ha : o.ansi with
  | none => exact .inr (by cases computeCodes cc P o.style cs <;> rfl)
  | some p =>
    by_cases hb : (v.ansiCacheUnkeyed || p.1 == cs) = true
    · exact .inl ⟨p.1, p.2, rfl, hb, by simp [hb]⟩
    · exact .inr (by simp only [hb]; cases computeCodes cc P o.style cs <;> rfl)

theorem makeAnsiCodes_ok (v : RVariant) (hv : v.ansiCacheUnkeyed = false)
    (hP : P.ok = true) (o : StyleObj) (ho : ObjOK cc P o) (cs : ColorSystem) :
    ∃ codes o', makeAnsiCodes v cc P o cs = .ok (codes, o') ∧ computeCodes cc P o.style cs = .ok codes ∧
      o'.style = o.style ∧ ObjOK cc P o' := by
  rcases makeAnsiCodes_cases v cc P o cs with ⟨cs', codes, ha, hb, e⟩ | e
  · -- the repaired code only uses an entry computed for this colour system, which is sound
    rw [hv, Bool.false_or] at hb
    obtain rfl := ColorSystem.eq_of_beq hb
    exact ⟨codes, o, e, ho.2 _ codes ha, rfl, ho⟩
  · obtain ⟨codes, hcodes, _⟩ := computeCodes_means cc hP o.style ho.1 cs
    refine ⟨codes, { o with ansi := some (cs, codes) }, by rw [e, hcodes]; rfl, hcodes, rfl, ho.1, ?_⟩
    intro cs' codes' hc
    cases hc
    exact hcodes

theorem styleRender_plain {v : RVariant} {o : StyleObj} {text : List Char}
    {cs : Option ColorSystem} {lw : Bool} (h : cs = none ∨ text.isEmpty = true) :
    styleRender v cc P o text cs lw = .ok ([.text text], o) := by
  rcases h with rfl | h
  · rfl
  · cases cs <;> simp [styleRender, h]

theorem plain_or_coded (text : List Char) (cs : Option ColorSystem) :
    (cs = none ∨ text.isEmpty = true) ∨ ∃ c, cs = some c ∧ text.isEmpty = false := by
  cases cs with
  | none => exact .inl (.inl rfl)
  | some c => cases text.isEmpty <;> simp

/-- A non-empty text between the SGR parameters `codes` of its style and the reset. -/
def coreToks (codes : List Nat) (text : List Char) : List Tok :=
  if codes.isEmpty then [.text text] else [.sgr codes, .text text, .sgr [0]]

/-- What `Style.render` writes for a non-empty text when the SGR parameters of the style are `codes` and its link is
`link`: of the style nothing else is read. -/
def runToks (link : Option (List Char)) (codes : List Nat) (text : List Char) (lw : Bool) : List Tok :=
  if strTruthy link && !lw then [.osc8 linkIdMask (link.getD [])] ++ coreToks codes text ++ [.osc8 [] []]
  else coreToks codes text

theorem styleRender_some {v : RVariant} {o : StyleObj} {text : List Char}
    {cs : ColorSystem} {lw : Bool} (ht : text.isEmpty = false) :
    styleRender v cc P o text (some cs) lw =
      (makeAnsiCodes v cc P o cs).map fun r => (runToks o.style.link r.1 text lw, r.2) := by
  simp only [styleRender, ht, Bool.false_eq_true, if_false, runToks, coreToks]
  cases makeAnsiCodes v cc P o cs <;> rfl

theorem forall_mem_runToks (T : Tok → Prop) (link : Option (List Char)) (codes : List Nat) (text : List Char) (lw : Bool)
    (h1 : T (.text text)) (h2 : T (.sgr codes)) (h3 : T (.sgr [0])) (h4 : T (.osc8 linkIdMask (link.getD [])))
    (h5 : T (.osc8 [] [])) : ∀ t ∈ runToks link codes text lw, T t := by
  have hcore : ∀ t ∈ coreToks codes text, T t := by
    unfold coreToks
    split <;> simp [h1, h2, h3]
  unfold runToks
  split
  · simp only [List.forall_mem_append, List.forall_mem_singleton]
    exact ⟨⟨h4, hcore⟩, h5⟩
  · exact hcore

theorem interp_core (codes : List Nat) (text : List Char) (l : Option (List Char)) :
    interpFrom ⟨{}, l⟩ (coreToks codes text) =
      (⟨{}, l⟩, text.map fun c => ⟨c, sgrParams {} codes, l⟩) := by
  unfold coreToks
  cases codes with
  | nil => simp [interpFrom, stepTok, sgrParams_nil]
  | cons p ps =>
    simp only [List.isEmpty_cons, Bool.false_eq_true, if_false, interpFrom, stepTok, List.nil_append,
      List.append_nil, applySgr_reset]
    simp [applySgr]

theorem computeCodes_congr (cc : Cfg) (P : Palettes) (s s' : Style) (cs : ColorSystem)
    (h1 : s'.color = s.color) (h2 : s'.bgcolor = s.bgcolor) (h3 : s'.attributes = s.attributes)
    (h4 : s'.setAttributes = s.setAttributes) : computeCodes cc P s' cs = computeCodes cc P s cs := by
  simp [computeCodes, h1, h2, h3, h4]

/-- What `Style.render` writes for a brand-new object of this style (`[]` if it raises). -/
def freshToks (cc : Cfg) (P : Palettes) (s : Style) (text : List Char) (cs : Option ColorSystem) (lw : Bool) : List Tok :=
  match styleRender .repaired cc P { style := s, ansi := none } text cs lw with
  | .ok (t, _) => t
  | .error _ => []

theorem freshToks_plain {s : Style} {text : List Char} {cs : Option ColorSystem} {lw : Bool}
    (h : cs = none ∨ text.isEmpty = true) : freshToks cc P s text cs lw = [.text text] := by
  rw [freshToks, styleRender_plain h]

theorem freshToks_some {s : Style} {text : List Char} {cs : ColorSystem} {lw : Bool}
    (ht : text.isEmpty = false) :
    freshToks cc P s text (some cs) lw =
      match computeCodes cc P s cs with
      | .ok codes => runToks s.link codes text lw
      | .error _ => [] := by
  simp only [freshToks, styleRender_some ht, makeAnsiCodes, cacheLookup]
  cases computeCodes cc P s cs <;> rfl

theorem freshToks_congr (cc : Cfg) (P : Palettes) (s s' : Style) (text : List Char) (cs : Option ColorSystem) (lw : Bool)
    (h1 : s'.color = s.color) (h2 : s'.bgcolor = s.bgcolor) (h3 : s'.attributes = s.attributes)
    (h4 : s'.setAttributes = s.setAttributes) (h5 : s'.link = s.link) :
    freshToks cc P s' text cs lw = freshToks cc P s text cs lw := by
  rcases plain_or_coded text cs with h | ⟨c, rfl, ht⟩
  · rw [freshToks_plain h, freshToks_plain h]
  · rw [freshToks_some ht, freshToks_some ht, computeCodes_congr cc P s s' c h1 h2 h3 h4, h5]

theorem styleRender_eq_fresh (v : RVariant) (hv : v.ansiCacheUnkeyed = false)
    (hP : P.ok = true) (o : StyleObj) (ho : ObjOK cc P o) (text : List Char) (cs : Option ColorSystem) (lw : Bool) :
    ∃ o', styleRender v cc P o text cs lw = .ok (freshToks cc P o.style text cs lw, o') ∧
      o'.style = o.style ∧ ObjOK cc P o' := by
  rcases plain_or_coded text cs with h | ⟨c, rfl, ht⟩
  · exact ⟨o, by rw [freshToks_plain h, styleRender_plain h], rfl, ho⟩
  · obtain ⟨codes, o', hmk, hcodes, hst, hok⟩ := makeAnsiCodes_ok v hv hP o ho c
    exact ⟨o', by rw [styleRender_some ht, hmk, freshToks_some ht, hcodes]; rfl, hst, hok⟩

/-- A truthy link is what the OSC 8 opener written for it sets. -/
theorem link_of_truthy (l : Option (List Char)) (h : strTruthy l = true) :
    (if (l.getD []).isEmpty then none else some (l.getD [])) = l := by
  unfold strTruthy at h
  split at h
  · rfl
  · cases h

theorem interp_runToks (link : Option (List Char)) (codes : List Nat) (text : List Char) (lw : Bool) :
    interpFrom {} (runToks link codes text lw) =
      ({}, text.map fun c => ⟨c, sgrParams {} codes, if strTruthy link && !lw then link else none⟩) := by
  unfold runToks
  by_cases hl : (strTruthy link && !lw) = true
  · simp only [hl, if_true]
    rw [List.append_assoc, interpFrom_append, interpFrom_append]
    simp only [interpFrom, stepTok, List.nil_append, List.append_nil]
    rw [link_of_truthy link (Bool.and_eq_true _ _ ▸ hl).1, interp_core]
    rfl
  · simp only [hl, Bool.false_eq_true, if_false]
    exact interp_core codes text none

theorem freshToks_means (cc : Cfg) (hP : P.ok = true) (cfg : Config) (s : Style) (hs : StyleWF s)
    (text : List Char)
    (hnc : cfg.noColor = true → cfg.colorSystem ≠ none → s.color = none ∧ s.bgcolor = none) :
    interpFrom {} (freshToks cc P s text cfg.colorSystem cfg.legacyWindows) =
      ({}, text.map fun c => ⟨c, (expected cc P cfg (some s)).1, (expected cc P cfg (some s)).2⟩) := by
  cases hcs : cfg.colorSystem with
  | none => simp [freshToks_plain, expected, hcs, interpFrom_text]
  | some cs =>
    by_cases ht : text.isEmpty = true
    · have : text = [] := by simpa using ht
      subst this
      simp [freshToks_plain, interpFrom_text]
    · obtain ⟨codes, hcodes, hmean⟩ := computeCodes_means cc hP s hs cs
      have hrend : (expected cc P cfg (some s)).1 = sgrParams {} codes := by
        rw [hmean]
        simp only [expected, hcs]
        by_cases hn : cfg.noColor = true
        · obtain ⟨h1, h2⟩ := hnc hn (by rw [hcs]; simp)
          simp [hn, h1, h2, expectedColor]
        · simp [hn]
      have hlink : (expected cc P cfg (some s)).2 =
          if strTruthy s.link && !cfg.legacyWindows then s.link else none := by
        simp only [expected, hcs]
      rw [freshToks_some (by simpa using ht), hcodes, hrend, hlink]
      exact interp_runToks s.link codes text cfg.legacyWindows

theorem expected_null (cc : Cfg) (P : Palettes) (cfg : Config) (s : Style) (hs : StyleWF s) (hn : s.isNull = true) :
    expected cc P cfg (some s) = ({}, none) := by
  obtain ⟨h1, h2, h3, h4⟩ := hs.null hn
  unfold expected
  cases cfg.colorSystem with
  | none => rfl
  | some cs =>
    simp only [h1, h2, h3, h4, expectedColor, ite_self, rendOfMask_zero, Bool.false_and]
    rfl

theorem segStyle_of_get {heap : Heap} {seg : Seg} {i : Nat} {o : StyleObj} (hi : seg.style = some i)
    (ho : heap[i]? = some o) : segStyle heap seg = some o.style := by
  simp [segStyle, hi, ho]

theorem segStyle_mem {heap : Heap} {seg : Seg} {s : Style} (h : segStyle heap seg = some s) : ∃ o ∈ heap, o.style = s := by
  unfold segStyle at h
  cases hst : seg.style with
  | none => rw [hst] at h; cases h
  | some i =>
    rw [hst] at h
    simp only [Option.map_eq_some_iff] at h
    obtain ⟨o, ho, rfl⟩ := h
    exact ⟨o, List.mem_of_getElem? ho, rfl⟩

theorem segStyle_congr {heap heap' : Heap} (h : heap'.map (·.style) = heap.map (·.style)) (seg : Seg) :
    segStyle heap' seg = segStyle heap seg := by
  unfold segStyle
  cases seg.style with
  | none => rfl
  | some i => simp only [← List.getElem?_map, h]

theorem segStyle_append (heap extra : Heap) (seg : Seg) (h : ∀ i, seg.style = some i → i < heap.length) :
    segStyle (heap ++ extra) seg = segStyle heap seg := by
  unfold segStyle
  cases hs : seg.style with
  | none => rfl
  | some i => simp [List.getElem?_append_left (h i hs)]

theorem expectedCells_congr (cc : Cfg) (P : Palettes) (cfg : Config) {heap heap' : Heap}
    (h : heap'.map (·.style) = heap.map (·.style)) (segs : List Seg) :
    expectedCells cc P cfg heap' segs = expectedCells cc P cfg heap segs := by
  unfold expectedCells
  congr 1
  funext seg
  rw [segStyle_congr h]

theorem expectedCells_nil (cc : Cfg) (P : Palettes) (cfg : Config) (heap : Heap) :
    expectedCells cc P cfg heap [] = [] := rfl

theorem expectedCells_cons_visible (cc : Cfg) (P : Palettes) (cfg : Config) (heap : Heap) (seg : Seg)
    (rest : List Seg) (h : segVisible cfg seg = true) :
    expectedCells cc P cfg heap (seg :: rest) =
      (seg.text.map fun c => ⟨c, (expected cc P cfg (segStyle heap seg)).1, (expected cc P cfg (segStyle heap seg)).2⟩) ++
        expectedCells cc P cfg heap rest := by
  simp [expectedCells, h]

theorem expectedCells_cons_hidden (cc : Cfg) (P : Palettes) (cfg : Config) (heap : Heap) (seg : Seg)
    (rest : List Seg) (h : segVisible cfg seg = false) :
    expectedCells cc P cfg heap (seg :: rest) = expectedCells cc P cfg heap rest := by
  simp [expectedCells, h]

theorem expectedCells_append (cc : Cfg) (P : Palettes) (cfg : Config) (heap : Heap) (a b : List Seg) :
    expectedCells cc P cfg heap (a ++ b) = expectedCells cc P cfg heap a ++ expectedCells cc P cfg heap b := by
  simp [expectedCells, List.filter_append, List.flatMap_append]

theorem filter_visible_not_terminal {cfg : Config} (ht : cfg.isTerminal = false) (segs : List Seg) :
    (segs.filter fun s => !s.control).filter (segVisible cfg) = segs.filter (segVisible cfg) := by
  rw [List.filter_filter]
  congr 1
  funext s
  simp [segVisible, ht]

theorem expectedCells_not_terminal (cc : Cfg) (P : Palettes) {cfg : Config} (ht : cfg.isTerminal = false) (heap : Heap)
    (segs : List Seg) :
    expectedCells cc P cfg heap (segs.filter fun s => !s.control) = expectedCells cc P cfg heap segs := by
  simp only [expectedCells, filter_visible_not_terminal ht]

theorem expected_none (cc : Cfg) (P : Palettes) (cfg : Config) : expected cc P cfg none = ({}, none) := by
  unfold expected; cases cfg.colorSystem <;> rfl

theorem map_style_set {heap : Heap} {i : Nat} {o o' : StyleObj} (hi : heap[i]? = some o) (hs : o'.style = o.style) :
    (heap.set i o').map (·.style) = heap.map (·.style) := by
  obtain ⟨hlt, rfl⟩ := List.getElem?_eq_some_iff.mp hi
  have hm : (heap.map (·.style))[i]'(by simpa using hlt) = heap[i].style := List.getElem_map _
  rw [List.map_set, hs, ← hm, List.set_getElem_self]

theorem forall_mem_set {I : StyleObj → Prop} {heap : Heap} (h : ∀ x ∈ heap, I x) (i : Nat) {o : StyleObj} (ho : I o) :
    ∀ x ∈ heap.set i o, I x := by
  intro x hx
  rcases List.mem_or_eq_of_mem_set hx with hx | rfl
  · exact h x hx
  · exact ho

theorem refsOK_append {heap : Heap} {segs : List Seg} (h : RefsOK heap segs) (extra : Heap) :
    RefsOK (heap ++ extra) segs := by
  intro s hs j hj
  rw [List.length_append]
  exact Nat.lt_add_right _ (h s hs j hj)

theorem liftPy_post {α : Type} {x : Except ColorErr α} {A : α → Prop} {E : ColorErr → Prop} (h : x.Post A E) :
    (liftPy x).Post A fun e' => ∀ e, e' = .py e → E e := by
  cases x with
  | ok a => exact h
  | error e0 => intro e he; cases he; exact h

/-- The object a segment is rendered through: `none` when it has no style or a falsy one (its text is written as it
is), `some (i, heap[i])` when `if style:` succeeds. -/
def segObj (heap : Heap) (seg : Seg) : Except RenderErr (Option (Nat × StyleObj)) :=
  match seg.style with
  | none => .ok none
  | some i =>
    match heap[i]? with
    | none => .error .badRef
    | some o => if o.style.toBool then .ok (some (i, o)) else .ok none

/-- The body of the loop of `_render_buffer`: what one segment writes, and the heap afterwards. -/
def renderStep (v : RVariant) (cc : Cfg) (P : Palettes) (cfg : Config) (heap : Heap) (seg : Seg) :
    Except RenderErr (List Tok × Heap) :=
  if (!v.styledControlKept && !cfg.isTerminal && seg.control) = true then .ok ([], heap)
  else match segObj heap seg with
    | .error e => .error e
    | .ok none => .ok (if !cfg.isTerminal && seg.control then [] else [.text seg.text], heap)
    | .ok (some (i, o)) =>
      (liftPy (styleRender v cc P o seg.text cfg.colorSystem cfg.legacyWindows)).bind fun r => .ok (r.1, heap.set i r.2)

theorem renderLoop_eq_forE (v : RVariant) (cc : Cfg) (P : Palettes) (cfg : Config) (segs : List Seg) :
    ∀ heap, renderLoop v cc P cfg heap segs = forE (renderStep v cc P cfg) heap segs := by
  induction segs with
  | nil => intro heap; rfl
  | cons seg rest ih =>
    intro heap
    rw [renderLoop, forE, renderStep]
    simp only [ih]
    split
    · dsimp only [Except.bind]
      cases forE (renderStep v cc P cfg) heap rest <;> rfl
    · unfold segObj
      cases seg.style with
      | none => rfl
      | some i =>
        dsimp only
        cases heap[i]? with
        | none => rfl
        | some o =>
          dsimp only
          split
          · dsimp only [bind]
            cases styleRender v cc P o seg.text cfg.colorSystem cfg.legacyWindows <;> rfl
          · rfl

theorem segObj_cases (heap : Heap) (seg : Seg) :
    (segObj heap seg = .ok none ∧ (segStyle heap seg = none ∨ ∃ s, segStyle heap seg = some s ∧ s.isNull = true)) ∨
    (∃ i o, segObj heap seg = .ok (some (i, o)) ∧ seg.style = some i ∧ heap[i]? = some o ∧ o.style.isNull = false) ∨
    (segObj heap seg = .error .badRef ∧ ∃ i, seg.style = some i ∧ heap[i]? = none) := by
  unfold segObj segStyle
  cases seg.style with
  | none => exact .inl ⟨rfl, .inl rfl⟩
  | some i =>
    dsimp only
    cases ho : heap[i]? with
    | none => exact .inr (.inr ⟨rfl, i, rfl, ho⟩)
    | some o =>
      cases hb : o.style.isNull
      · exact .inr (.inl ⟨i, o, by simp [Style.toBool, hb], rfl, ho, hb⟩)
      · exact .inl ⟨by simp [Style.toBool, hb], .inr ⟨_, rfl, hb⟩⟩

theorem renderStep_skip {v : RVariant} {cfg : Config} {seg : Seg}
    (h : (!v.styledControlKept && !cfg.isTerminal && seg.control) = true) (heap : Heap) :
    renderStep v cc P cfg heap seg = .ok ([], heap) := if_pos h

/-- What one step of the loop does: it skips the segment; or the segment has no style, or a null one, and its text is
written as it is (not at all for a control segment on a non-terminal); or it is rendered through its object `heap[i]`,
whose cache may change; or its reference dangles. -/
theorem renderStep_cases (v : RVariant) (cc : Cfg) (P : Palettes) (cfg : Config) (heap : Heap) (seg : Seg) :
    ((!v.styledControlKept && !cfg.isTerminal && seg.control) = true ∧
      renderStep v cc P cfg heap seg = .ok ([], heap)) ∨
    ((!v.styledControlKept && !cfg.isTerminal && seg.control) = false ∧
      ((segStyle heap seg = none ∨ ∃ s, segStyle heap seg = some s ∧ s.isNull = true) ∧
        renderStep v cc P cfg heap seg =
          .ok (if !cfg.isTerminal && seg.control then [] else [.text seg.text], heap) ∨
      (∃ i o, seg.style = some i ∧ heap[i]? = some o ∧ o.style.isNull = false ∧
        renderStep v cc P cfg heap seg =
          (liftPy (styleRender v cc P o seg.text cfg.colorSystem cfg.legacyWindows)).bind fun r =>
            .ok (r.1, heap.set i r.2)) ∨
      (∃ i, seg.style = some i ∧ heap[i]? = none) ∧ renderStep v cc P cfg heap seg = .error .badRef)) := by
  by_cases hs : (!v.styledControlKept && !cfg.isTerminal && seg.control) = true
  · exact .inl ⟨hs, renderStep_skip hs heap⟩
  · refine .inr ⟨by simpa using hs, ?_⟩
    rw [renderStep, if_neg hs]
    rcases segObj_cases heap seg with ⟨e, h⟩ | ⟨i, o, e, h⟩ | ⟨e, h⟩ <;> rw [e]
    · exact .inl ⟨h, rfl⟩
    · exact .inr (.inl ⟨i, o, h.1, h.2.1, h.2.2, rfl⟩)
    · exact .inr (.inr ⟨h, rfl⟩)

end RichModel.AnsiRender
