import RichModel.Lemmas.TableTotal
import RichModel.Lemmas.Collapse
/-!
Column widths for columns of any kind that never measure negative (`Table.MeasuresNonneg`).  The structural minimum of a table is
the first-pass widths of the columns that may not shrink (fixed `width`, `no_wrap`) plus one cell for every column that may.  At
or above it `_collapse_widths` reaches `max_width` without starving a column and the re-measure can push a column over its
collapsed width only up to its `min_width` floor; below it (free columns) every column ends at exactly one cell.
-/
namespace RichModel

/-- The floor a column's `min_width` puts under its measured width (`with_minimum`); 0 for fixed-width columns (their
`min_width` is not read) and for columns without one. -/
def Table.colFloor (t : Table) (idx : Nat) (c : Column) : Int :=
  if c.width.isSome then 0 else match c.minWidth with
    | none => 0
    | some m => max 0 (m + t.paddingWidth idx)

theorem colFloor_nonneg (t : Table) (idx : Nat) (c : Column) : 0 ≤ t.colFloor idx c := by
  unfold Table.colFloor
  split
  · omega
  · split <;> omega

/-- Sum of the `min_width` floors. -/
def Table.floorSum (t : Table) : Int := (t.indexed.map (fun ci => t.colFloor ci.2 ci.1)).sum

theorem floorSum_nonneg (t : Table) : 0 ≤ t.floorSum :=
  sum_nonneg_of_all _ (fun x hx => by obtain ⟨ci, _, rfl⟩ := List.mem_map.mp hx; exact colFloor_nonneg t ci.2 ci.1)

theorem colFloor_zero (t : Table) (idx : Nat) (c : Column) (h : c.minWidth = none ∨ c.width.isSome = true) : t.colFloor idx c = 0 := by
  unfold Table.colFloor
  rcases h with h | h <;> simp [h]

/-- The `min_width + padding` floors, one per column (`t.floorSum` is their sum, by definition). -/
def Table.floors (t : Table) : List Int := t.indexed.map (fun ci => t.colFloor ci.2 ci.1)

theorem floors_length (t : Table) : t.floors.length = t.columns.length := by simp [Table.floors, indexed_length]

theorem floors_zero (t : Table) (hnomin : ∀ c ∈ t.columns, c.minWidth = none ∨ c.width.isSome = true) : ∀ f ∈ t.floors, f = 0 := by
  intro f hf
  obtain ⟨ci, hci, rfl⟩ := List.mem_map.mp hf
  exact colFloor_zero t ci.2 ci.1 (hnomin ci.1 (mem_indexed t ci hci))

theorem floorSum_zero (t : Table) (hnomin : ∀ c ∈ t.columns, c.minWidth = none ∨ c.width.isSome = true) : t.floorSum = 0 :=
  sum_zero_of_all_zero _ (floors_zero t hnomin)

theorem Table.AllFree.floorSum {t : Table} (h : t.AllFree) : t.floorSum = 0 :=
  floorSum_zero t (fun _ hc => let ⟨_, hf⟩ := h.of_mem hc; Or.inl hf.2.1)

theorem measureColumn_le_floor (t : Table) (idx : Nat) (c : Column) (w : Int) (hw1 : 1 ≤ w) :
    (t.measureColumn idx c w).maximum ≤ max w (t.colFloor idx c) := by
  rw [measureColumn_maximum t idx c w hw1, Table.colFloor]
  have hx : min (t.cellsMax c w) w ≤ w := Int.min_le_right _ _
  generalize min (t.cellsMax c w) w = x at hx ⊢
  cases c.width with
  | some cwid => simp only; omega
  | none =>
    cases c.minWidth with
    | none => cases c.maxWidth <;> simp only [Option.isSome_none, Bool.false_eq_true, if_false] <;> omega
    | some k =>
      simp only [Option.isSome_none, Bool.false_eq_true, if_false]
      generalize max 0 (k + t.paddingWidth idx) = F
      cases c.maxWidth <;> simp only <;> omega

theorem Column.SaneFree.measure_le {t : Table} {idx : Nat} {c : Column} (h : c.SaneFree t idx) (w : Int) (hw : 1 ≤ w) :
    (t.measureColumn idx c w).maximum ≤ w := by
  have := measureColumn_le_floor t idx c w hw
  rw [colFloor_zero t idx c (Or.inl h.2.1)] at this
  omega

theorem remeasure_col_le (t : Table) (hm : t.MeasuresNonneg) (q : Int × Column × Nat) (hq : q.2 ∈ t.indexed) (hw1 : 1 ≤ q.1) :
    orOne (t.measureColumn q.2.2 q.2.1 q.1).maximum ≤ max q.1 (t.colFloor q.2.2 q.2.1) :=
  (orOne_bounds _ _ (hm q.2 hq q.1)).2 (by omega) (measureColumn_le_floor t q.2.2 q.2.1 q.1 hw1)

theorem remeasure_sum_le (t : Table) (f : Column × Nat → Int) (ws : List Int) (hlen : ws.length = t.columns.length)
    (h : ∀ q ∈ ws.zip t.indexed, orOne (t.measureColumn q.2.2 q.2.1 q.1).maximum ≤ q.1 + f q.2) :
    (t.remeasure ws).sum ≤ ws.sum + (t.indexed.map f).sum := by
  unfold Table.remeasure
  rw [← indexed_length] at hlen
  generalize t.indexed = ind at h hlen
  induction ws generalizing ind with
  | nil => rw [List.eq_nil_of_length_eq_zero hlen.symm]; exact Int.le_refl 0
  | cons w ws ih =>
    cases ind with
    | nil => cases hlen
    | cons ci ind =>
      have h0 := h (w, ci) (by simp)
      have := ih ind (fun q hq => h q (by simp [hq])) (by simpa using hlen)
      simp only [List.zip_cons_cons, List.map_cons, List.sum_cons] at h0 this ⊢
      omega

theorem remeasure_general (t : Table) (hm : t.MeasuresNonneg) (ws : List Int) (hlen : ws.length = t.columns.length)
    (h1 : ∀ w ∈ ws, 1 ≤ w) :
    (t.remeasure ws).length = t.columns.length ∧ (∀ w ∈ t.remeasure ws, 1 ≤ w) ∧ (t.remeasure ws).sum ≤ ws.sum + t.floorSum := by
  refine ⟨remeasure_length t ws hlen, remeasure_ge_one_of t hm ws, remeasure_sum_le t _ ws hlen (fun q hq => ?_)⟩
  have hw1 := h1 q.1 (List.of_mem_zip hq).1
  have := remeasure_col_le t hm q (List.of_mem_zip hq).2 hw1
  have := colFloor_nonneg t q.2.2 q.2.1
  omega

theorem collapseWidths_budget (ws0 : List Int) (wr : List Bool) (maxWidth : Int) (hwl : ws0.length = wr.length)
    (h1 : ∀ w ∈ ws0, 1 ≤ w) (hover : maxWidth < ws0.sum)
    (hbudget : nonWrapSum (ws0.zip wr) + wrapCount (ws0.zip wr) ≤ maxWidth) :
    (collapseWidths ws0 wr maxWidth).sum = maxWidth ∧ (collapseWidths ws0 wr maxWidth).length = ws0.length ∧
      ∀ w ∈ collapseWidths ws0 wr maxWidth, 1 ≤ w := by
  have hkeep := collapseWidths_keep_mixed ws0 wr maxWidth hwl h1 hbudget
  obtain ⟨hcl, _, _, hfit, hge⟩ := collapseWidths_post ws0 wr maxWidth hwl (fun w hw => by have := h1 w hw; omega)
  have hany : wr.any id = true := by
    cases hb : wr.any id with
    | true => rfl
    | false =>
      have := nonWrapSum_all ws0 wr hwl hb
      have := wrapCount_nonneg (ws0.zip wr)
      omega
  refine ⟨?_, hcl, hkeep⟩
  rcases hfit with h | h
  · have := hge (by omega); omega
  · exact absurd h (not_wrapZero _ _ (by omega) hkeep hany)

/-- **`_calculate_column_widths` at or above the structural minimum.**  The proviso of the last clause is needed only where a
column has a `min_width` floor: nothing else lets the re-measure push the columns over the offer again. -/
theorem calcWidths_budget (fl : Flags) (t : Table) (maxWidth : Int) (hm : t.MeasuresNonneg) (hne : t.columns ≠ [])
    (ws0 : List Int) (hf : t.FirstPassAt fl maxWidth ws0)
    (hbudget : nonWrapSum (ws0.zip t.wrapable) + wrapCount (ws0.zip t.wrapable) ≤ maxWidth) :
    ∃ ws, t.calcWidths fl maxWidth = some ws ∧ ws.sum ≤ maxWidth + t.floorSum ∧ ws.length = t.columns.length ∧
      (∀ w ∈ ws, 1 ≤ w) ∧
      (fl.staleTableWidth = false → t.expand = true → (fl.minWidthCapsExpand = false ∨ t.minWidth = none) →
        (maxWidth < ws0.sum → 0 < t.floorSum → (t.remeasure (collapseWidths ws0 t.wrapable maxWidth)).sum ≤ maxWidth) →
        ws.sum = maxWidth) := by
  have hF := floorSum_nonneg t
  obtain ⟨h0, hl, hp⟩ := hf
  by_cases hover : maxWidth < ws0.sum
  · obtain ⟨hrs, hrl, hr1⟩ := collapseWidths_budget ws0 t.wrapable maxWidth (hl.trans (wrapable_length t).symm) hp hover hbudget
    obtain ⟨_, _, hms⟩ := remeasure_general t hm _ (hrl.trans hl) hr1
    obtain ⟨ws, h1, h2, h3, h4, _, h6, _⟩ := calcWidths_collapsed fl t maxWidth hm hne ws0 h0 hl
      (fun w hw => by have := hp w hw; omega) hover (by omega)
    refine ⟨ws, h1, by omega, h3, h4, fun hst hexp hfl hrem => h6 hst hexp hfl ?_⟩
    by_cases hF0 : 0 < t.floorSum
    · exact hrem hover hF0
    · omega
  · obtain ⟨ws, h1, h2, h3, h4, _, h5⟩ := calcWidths_fitting fl t maxWidth hne ws0 h0 (ne_nil_of_length_eq hl hne) hp (by omega)
    exact ⟨ws, h1, by omega, by omega, h4, fun _ hexp hfl _ => h5 hexp hfl⟩

theorem Table.AllFree.budget {t : Table} (hfree : t.AllFree) (hnw : ∀ c ∈ t.columns, c.noWrap = false) (ws0 : List Int)
    (hl : ws0.length = t.columns.length) :
    nonWrapSum (ws0.zip t.wrapable) + wrapCount (ws0.zip t.wrapable) = (t.columns.length : Int) := by
  obtain ⟨h0, hc⟩ := wrap_sums_all ws0 t.wrapable (hl.trans (wrapable_length t).symm) (wrapable_all t (allFree_wrap t hfree hnw))
  omega

theorem calcWidths_free_fits (fl : Flags) (t : Table) (maxWidth : Int) (hfirst : t.FirstPass fl maxWidth) (hfree : t.AllFree)
    (hne : t.columns ≠ []) (hnw : ∀ c ∈ t.columns, c.noWrap = false) (hmw : (t.columns.length : Int) ≤ maxWidth) :
    ∃ ws, t.calcWidths fl maxWidth = some ws ∧ ws.sum ≤ maxWidth ∧ ws.length = t.columns.length ∧ ∀ w ∈ ws, 1 ≤ w := by
  obtain ⟨ws0, hf⟩ := hfirst
  have hb := hfree.budget hnw ws0 hf.length
  obtain ⟨ws, h1, h2, h3, h4, _⟩ := calcWidths_budget fl t maxWidth hfree.measures hne ws0 hf (by omega)
  exact ⟨ws, h1, by have := hfree.floorSum; omega, h3, h4⟩

theorem remeasure_le_of_floor (t : Table) (hm : t.MeasuresNonneg) (ws : List Int) (hlen : ws.length = t.columns.length)
    (h1 : ∀ w ∈ ws, 1 ≤ w) (hf : ∀ p ∈ ws.zip t.floors, p.2 ≤ p.1) : (t.remeasure ws).sum ≤ ws.sum := by
  have hz : (t.indexed.map (fun _ => (0 : Int))).sum = 0 :=
    sum_zero_of_all_zero _ (fun x hx => by obtain ⟨_, _, rfl⟩ := List.mem_map.mp hx; rfl)
  have := remeasure_sum_le t (fun _ => 0) ws hlen (fun q hq => ?_)
  · omega
  · have := remeasure_col_le t hm q (List.of_mem_zip hq).2 (h1 q.1 (List.of_mem_zip hq).1)
    have hfl := hf (q.1, t.colFloor q.2.2 q.2.1) (by
      rw [Table.floors, List.zip_map_right]; exact List.mem_map.mpr ⟨q, hq, rfl⟩)
    simp only at hfl
    omega

/-- Every ratio that is set is at least 1 (a `ratio=0` column is excluded: beside an active ratio the first pass may hand it no
cell, and the table then comes out wider than offered). -/
def Table.RatiosPos (t : Table) : Prop := ∀ c ∈ t.columns, ∀ r, c.ratio = some r → 1 ≤ r

theorem firstWidths_pos (fl : Flags) (t : Table) (hr : t.expand = false ∨ t.RatiosPos) (hfree : t.AllFree)
    (hpad : ∀ i, 0 ≤ t.paddingWidth i) (maxWidth : Int) : t.FirstPass fl maxWidth := by
  have hrp : t.expand = true → t.RatiosPos := fun he => hr.resolve_left (by rw [he]; decide)
  obtain ⟨ws, h0, hl, _, h1⟩ := firstWidths_flex fl t maxWidth (fun ci hci => hfree.measures ci hci maxWidth) hpad
      (fun c hc => by rw [hfree.width c hc]; exact Int.le_refl 0)
      (fun he c hc => by
        cases hrr : c.ratio with
        | none => exact Int.le_refl 0
        | some r => have := hrp he c hc r hrr; simp only [Option.getD_some]; omega)
  exact ⟨ws, h0, hl, h1 hrp⟩

/-- `C07.width_fits` with `t.NoRatio` replaced by "the table does not expand, or every ratio that is set is at least 1"; the
padding must not be negative for the flex minimum `1 + padding` to be at least one cell. -/
theorem width_fits_ratio (fl : Flags) (t : Table) (maxWidth : Int) (hr : t.expand = false ∨ t.RatiosPos) (hfree : t.AllFree)
    (hpad : ∀ i, 0 ≤ t.paddingWidth i)
    (hne : t.columns ≠ []) (hnw : ∀ c ∈ t.columns, c.noWrap = false) (hmw : (t.columns.length : Int) ≤ maxWidth) :
    ∃ ws, t.calcWidths fl maxWidth = some ws ∧ ws.sum ≤ maxWidth ∧ ws.length = t.columns.length ∧ ∀ w ∈ ws, 1 ≤ w :=
  calcWidths_free_fits fl t maxWidth (firstWidths_pos fl t hr hfree hpad maxWidth) hfree hne hnw hmw

theorem width_fits_noRatio_or_ratiosPos (fl : Flags) (t : Table) (maxWidth : Int) (hr : t.NoRatio ∨ t.RatiosPos)
    (hfree : t.AllFree) (hpad : ∀ i, 0 ≤ t.paddingWidth i)
    (hne : t.columns ≠ []) (hnw : ∀ c ∈ t.columns, c.noWrap = false) (hmw : (t.columns.length : Int) ≤ maxWidth) :
    ∃ ws, t.calcWidths fl maxWidth = some ws ∧ ws.sum ≤ maxWidth ∧ ws.length = t.columns.length ∧ ∀ w ∈ ws, 1 ≤ w := by
  rcases hr with h | h
  · exact calcWidths_free_fits fl t maxWidth (firstWidths_free fl t h hfree maxWidth) hfree hne hnw hmw
  · exact width_fits_ratio fl t maxWidth (Or.inr h) hfree hpad hne hnw hmw

theorem remeasure_low (t : Table) (hfree : t.AllFree) (ws : List Int) (hlen : ws.length = t.columns.length)
    (h01 : ∀ w ∈ ws, 0 ≤ w ∧ w ≤ 1) :
    (t.remeasure ws).length = ws.length ∧ (∀ w ∈ t.remeasure ws, w = 1) := by
  refine ⟨(remeasure_length t ws hlen).trans hlen.symm, fun w hw => ?_⟩
  obtain ⟨wc, hwc, rfl⟩ := List.mem_map.mp hw
  have hm := List.of_mem_zip hwc
  have h := h01 wc.1 hm.1
  by_cases h0 : wc.1 < 1
  · rw [measureColumn_lt_one t wc.2.2 wc.2.1 wc.1 h0]; rfl
  · have hf := hfree wc.2 hm.2
    have hb := orOne_bounds _ wc.1 (hf.measure_nonneg wc.1)
    have := hb.2 (by omega) (hf.measure_le wc.1 (by omega))
    omega

theorem shrinkPre_low (t : Table) (maxWidth : Int) (ws0 : List Int) (hlen : ws0.length = t.columns.length)
    (h1 : ∀ w ∈ ws0, 1 ≤ w) (hwrap : ∀ c ∈ t.columns, c.width = none ∧ c.noWrap = false)
    (hmw : maxWidth < (t.columns.length : Int)) :
    (t.shrinkPre ws0 maxWidth).1.length = t.columns.length ∧ (∀ w ∈ (t.shrinkPre ws0 maxWidth).1, 0 ≤ w ∧ w ≤ 1) ∧
      maxWidth ≤ (t.shrinkPre ws0 maxWidth).2 := by
  have hwl : ws0.length = t.wrapable.length := hlen.trans (wrapable_length t).symm
  have hall := wrapable_all t hwrap
  have hnn : ∀ w ∈ ws0, 0 ≤ w := fun w hw => by have := h1 w hw; omega
  have hlow := collapseWidths_low ws0 t.wrapable maxWidth hwl hall h1 (by omega)
  have hge := (collapseWidths_post ws0 t.wrapable maxWidth hwl hnn).2.2.2.2 (by have := sum_ge_length ws0 h1; omega)
  refine ⟨shrinkPre_length t ws0 maxWidth hlen hnn, ?_⟩
  unfold Table.shrinkPre
  simp only
  split
  · rename_i hover
    -- the collapse did not reach the budget: then every width is 0 and the last-resort `ratio_reduce` has nothing to take
    have hzero := (collapseWidths_fits_or_zero ws0 t.wrapable maxWidth hwl hall hnn).resolve_left (by omega)
    rw [ratioReduce_zero_max _ _ _ _ hzero]
    exact ⟨hlow, by omega⟩
  · exact ⟨hlow, hge⟩

theorem calcWidths_free_low (fl : Flags) (t : Table) (maxWidth : Int) (hfirst : t.FirstPass fl maxWidth) (hfree : t.AllFree)
    (hne : t.columns ≠ []) (hnw : ∀ c ∈ t.columns, c.noWrap = false) (hmw : maxWidth < (t.columns.length : Int)) :
    ∃ ws, t.calcWidths fl maxWidth = some ws ∧ ws.sum ≤ (t.columns.length : Int) ∧ ws.length = t.columns.length ∧ ∀ w ∈ ws, 1 ≤ w := by
  obtain ⟨ws0, hf⟩ := hfirst
  apply calcWidths_bound fl t maxWidth (t.columns.length : Int) hne ws0 hf (by omega)
  intro _
  obtain ⟨hpl, hp01, hp2⟩ := shrinkPre_low t maxWidth ws0 hf.length hf.pos (allFree_wrap t hfree hnw) hmw
  obtain ⟨hml, hm1⟩ := remeasure_low t hfree _ hpl hp01
  have hmsum : (t.remeasure (t.shrinkPre ws0 maxWidth).1).sum = (t.columns.length : Int) := by
    rw [sum_const _ 1 hm1, hml, hpl]; omega
  simp only [Table.shrinkWidths]
  exact ⟨by omega, fun w hw => by rw [hm1 w hw]; omega, by omega, by omega⟩

end RichModel
