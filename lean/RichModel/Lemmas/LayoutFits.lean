import RichModel.Lemmas.LayoutPanel
import RichModel.Lemmas.LayoutTextNoWrap
import RichModel.Lemmas.LayoutSmin
import RichModel.Lemmas.LayoutMeasure
/-!
The cases of the structural induction behind C01 (`render_fits`) that do not involve a table — text, the framing renderables, the
transparent wrappers, groups, rule, bars, tree — one lemma `good_…` per case; the pass-through constructors take the induction
hypothesis as an argument.  The table and columns cases and the induction itself (`good` / `goodL`) are in `LayoutFitsTable.lean`.
-/
namespace RichModel.Layout
open RichModel RichModel.Frames

/-- what the theorems need of the configuration: rich's cell-width table, the repaired `leading` of tables (fix dd342b5, what
/repo contains), an empty poison (the theorems speak of the cases the model covers), and the panel title rendered at the width it
was aligned to.  (`hcw`: the width function; `hfl`: the table flag `leadingRepeat`; `hp`: the poison; `htc`: the panel title's width;
derived below: `hsp` a blank is one cell, `h2` no character wider than two, `hel` the ellipsis is one cell.) -/
structure CfgOk (cfg : Cfg) : Prop where
  hcw : cfg.cw = cwR
  hfl : cfg.fl.leadingRepeat = false
  hp : cfg.poison = []
  /-- the panel title is rendered at the width it was aligned to (the code since fix 0e1edf7) -/
  htc : cfg.titleAtConsoleWidth = false

theorem CfgOk.hsp {cfg : Cfg} (ok : CfgOk cfg) : cfg.cw ' ' = 1 := by rw [ok.hcw]; exact cwD_space
theorem CfgOk.h2 {cfg : Cfg} (ok : CfgOk cfg) : ∀ c, cfg.cw c ≤ 2 := by rw [ok.hcw]; exact cwD_le_two
theorem CfgOk.hel {cfg : Cfg} (ok : CfgOk cfg) : cfg.cw '…' = 1 := by rw [ok.hcw]; exact cwD_ellipsis

/-- The induction statement for one tree: in the domain NO LINE IS WIDER THAN `max w (smin r)` — the available width when it is at or
above the structural minimum, the structural minimum itself below it — and a statically closed renderable ends its last line. -/
def Good (cfg : Cfg) (r : R) : Prop :=
  ∀ (o : Opts) (w : Nat), 1 ≤ w → Dom cfg r o w →
    Fits cfg.cw (max w (smin cfg.cw r)) (render cfg r o w) ∧ (closedR r = true → Closed (render cfg r o w))

/-- the same for the members of a group rendered one after the other: the bound is the largest of their structural minimums, and
the whole ends its last line when every member does -/
def GoodL (cfg : Cfg) (rs : List R) : Prop :=
  ∀ (o : Opts) (w : Nat), 1 ≤ w → DomL cfg rs o w →
    Fits cfg.cw (max w (sminMax cfg.cw rs)) (renderL cfg rs o w) ∧ (closedL rs = true → Closed (renderL cfg rs o w))

theorem renderAt_chOf (cfg : Cfg) (r : R) (o : Opts) (x : Int) : (chOf cfg r o).renderAt x = consoleRender cfg r o x := rfl

theorem smin_panel_ge (cw : Char → Nat) (o : PanelOpts) (c : R) :
    2 + smin cw c ≤ smin cw (.panel o c) ∧ (o.title ≠ [] → 4 ≤ smin cw (.panel o c)) := by
  rw [smin]
  constructor
  · omega
  · intro h
    have : o.title.isEmpty = false := by
      cases ht : o.title with
      | nil => exact absurd ht h
      | cons _ _ => rfl
    simp only [this, Bool.false_eq_true, if_false]
    omega

theorem good_of_any (cfg : Cfg) (r : R)
    (h : ∀ (o : Opts) (w : Nat), 1 ≤ w → Dom cfg r o w → Fits cfg.cw w (render cfg r o w) ∧ (closedR r = true → Closed (render cfg r o w))) :
    Good cfg r := fun o w hw hd => ⟨fits_mono _ _ _ _ (h o w hw hd).1 (Nat.le_max_left _ _), (h o w hw hd).2⟩

/-- a `Text` and a `str` render alike -/
theorem good_text_str (cfg : Cfg) (ok : CfgOk cfg) (t : T) : Good cfg (.text t) ∧ Good cfg (.str t) := by
  constructor <;>
  · apply good_of_any
    intro o w hw hd
    unfold render
    unfold Dom at hd
    refine ⟨text_fits cfg ok.hsp ok.h2 ok.hel ok.hp t o w hw hd.1 hd.2, ?_⟩
    intro hc
    unfold closedR at hc
    apply text_closed cfg ok.hp t o w
    simpa [textClosed] using hc

/-- a padding crops what it holds: at EVERY width the padded block fits and ends its last line, whatever the child -/
theorem padding_fits (cfg : Cfg) (ok : CfgOk cfg) (p : PadDims) (e : Bool) (c : R) (o : Opts) (w : Nat) :
    Fits cfg.cw w (render cfg (.padding p e c) o w) ∧ Closed (render cfg (.padding p e c) o w) := by
  unfold render
  rw [ok.hcw]
  refine ⟨fits_of_lines_le _ _ _ ?_, padding_closed cfg.v p e (chOf cfg c o) (w : Int)⟩
  simpa [chOf] using padding_lines_le_any cfg.v p e (chOf cfg c o) (w : Int) (by omega)

theorem good_padding (cfg : Cfg) (ok : CfgOk cfg) (p : PadDims) (e : Bool) (c : R) : Good cfg (.padding p e c) :=
  good_of_any cfg _ fun o w _ _ => ⟨(padding_fits cfg ok p e c o w).1, fun _ => (padding_fits cfg ok p e c o w).2⟩

/-- a panel crops what it holds too: at EVERY width, whatever the child, no line is wider than the width on offer or — below three
cells, four with a title — than the two borders and one cell (the four fixed characters of a titled top row), and the panel ends its
last line -/
theorem panel_fits (cfg : Cfg) (ok : CfgOk cfg) (po : PanelOpts) (c : R) (o : Opts) (w : Nat) :
    Fits cfg.cw (max w (if po.title = [] then 3 else 4)) (render cfg (.panel po c) o w) ∧ Closed (render cfg (.panel po c) o w) := by
  generalize hN : (if po.title = [] then 3 else 4) = N
  unfold render
  split
  · rename_i s heq
    have := panelL_fits_any cfg ok.hcw ok.hp ok.htc po (chOf cfg c o) (w : Int) s heq (fun k => (chOf_measureAt cfg c o k).2)
    rwa [Int.toNat_natCast, hN] at this
  · rw [ok.hp]
    exact ⟨fits_nil _ _, closed_nil⟩

theorem good_panel (cfg : Cfg) (ok : CfgOk cfg) (po : PanelOpts) (c : R) : Good cfg (.panel po c) := by
  intro o w _ _
  obtain ⟨hf, hc⟩ := panel_fits cfg ok po c o w
  refine ⟨fits_mono _ _ _ _ hf ?_, fun _ => hc⟩
  -- the borders and one cell (four cells with a title) are part of the structural minimum
  have hge := smin_panel_ge cfg.cw po c
  have hpos := smin_pos cfg.cw c
  split
  · omega
  · rename_i hne
    have := hge.2 hne
    omega

/-- a child handed a narrower width `n ≤ w` (by `Align`, `Constrain`) is rendered through `Console.render`: below one cell nothing,
else inside its domain never wider than `max w (smin c)` -/
theorem good_renderAt (cfg : Cfg) (c : R) (ih : Good cfg c) (o : Opts) (w : Nat) (n : Int) (hn : n ≤ (w : Int))
    (hd : Dom cfg c o n.toNat) :
    Fits cfg.cw (max w (smin cfg.cw c)) ((chOf cfg c o).renderAt n) ∧ (closedR c = true → Closed ((chOf cfg c o).renderAt n)) := by
  rw [renderAt_chOf]
  unfold consoleRender
  split
  · exact ⟨fits_nil _ _, fun _ => closed_nil⟩
  · obtain ⟨hf, hc⟩ := ih o n.toNat (by omega) hd
    exact ⟨fits_mono _ _ _ _ hf (by omega), hc⟩

theorem good_align (cfg : Cfg) (ok : CfgOk cfg) (ao : AlignOpts) (c : R) (ih : Good cfg c) : Good cfg (.align ao c) := by
  intro o w _ hd
  unfold render smin
  unfold Dom at hd
  have hchild := (good_renderAt cfg c ih o w _ (Int.min_le_right _ _) hd).1
  rw [ok.hcw] at hchild ⊢
  constructor
  · apply fits_of_lines_le
    have := align_lines_le_bound cfg.env cfg.v ao (chOf cfg c o) (w : Int) (max w (smin cwR c)) (by omega)
      ((fits_iff_lines cwR _ _).mp hchild)
    simpa [chOf] using this
  · intro _
    exact align_closed cfg.env cfg.v ao (chOf cfg c o) (w : Int)

theorem good_constrain (cfg : Cfg) (k : Option Nat) (c : R) (ih : Good cfg c) : Good cfg (.constrain k c) := by
  intro o w hw hd
  unfold render smin
  unfold Dom at hd
  rw [closedR]
  -- the child is rendered through `Console.render` at `w`, or at `min k w`
  cases k with
  | none => exact good_renderAt cfg c ih o w w (Int.le_refl _) hd
  | some k =>
    have := good_renderAt cfg c ih o w (min k w : Nat) (by omega) hd
    simp only [Option.map_some, constrainConsole, Int.ofNat_eq_natCast]
    rwa [show ((min k w : Nat) : Int) = min (k : Int) (w : Int) by omega] at this

/-- the transparent wrappers (`Styled`, a `__rich__` cast, an object with only `__rich_console__`) render their child as it is -/
theorem good_wrapper (cfg : Cfg) (c : R) (ih : Good cfg c) : Good cfg (.styled c) ∧ Good cfg (.cast c) ∧ Good cfg (.opaque c) := by
  refine ⟨?_, ?_, ?_⟩ <;>
  · intro o w hw hd
    unfold render closedR smin
    unfold Dom at hd
    exact ih o w hw hd

theorem good_group (cfg : Cfg) (fit : Bool) (items : List R) (ih : GoodL cfg items) : Good cfg (.group fit items) := by
  intro o w hw hd
  unfold render closedR smin
  unfold Dom at hd
  obtain ⟨hf, hc⟩ := ih o w hw hd
  exact ⟨fits_mono _ _ _ _ hf (by omega), hc⟩

theorem goodL_nil (cfg : Cfg) : GoodL cfg [] := by
  intro o w _ _
  unfold renderL
  exact ⟨fits_nil _ _, fun _ => closed_nil⟩

theorem goodL_cons (cfg : Cfg) (r : R) (rs : List R) (ih : Good cfg r) (ihL : GoodL cfg rs) : GoodL cfg (r :: rs) := by
  intro o w hw hd
  unfold renderL sminMax
  unfold DomL at hd
  obtain ⟨hd1, hcl, hd2⟩ := hd
  obtain ⟨hf1, hc1⟩ := ih o w hw hd1
  obtain ⟨hf2, hc2⟩ := ihL o w hw hd2
  have hf1' := fits_mono _ _ (max w (max (smin cfg.cw r) (sminMax cfg.cw rs))) _ hf1 (by omega)
  have hf2' := fits_mono _ _ (max w (max (smin cfg.cw r) (sminMax cfg.cw rs))) _ hf2 (by omega)
  constructor
  · rcases hcl with rfl | hcl
    · rw [renderL, List.append_nil]
      exact hf1'
    · exact fits_append _ _ _ _ (hc1 hcl) hf1' hf2'
  · intro hc
    unfold closedL at hc
    simp only [Bool.and_eq_true] at hc
    exact closed_append _ _ (hc1 hc.1) (hc2 hc.2)

/-- **A rule** fits under every options: the text it yields is one line of exactly `w` cells, so under overflow "ignore", where nothing
is cut, nothing needs to be (provided it holds no tab to expand); and it ends its line when its `end` is the line feed. -/
theorem rule_fits (cfg : Cfg) (ok : CfgOk cfg) (ro : RuleOpts) (o : Opts) (w : Nat) (hw : 1 ≤ w)
    (hov : o.overflow ≠ some RichModel.Overflow.ignore ∨ ∀ c ∈ (ruleText cfg.cw cfg.env cfg.v ro (w : Int)).1, c ≠ '\t')
    (hend : ro.endS = ['\n'] ∨ ro.endS = []) :
    Fits cfg.cw w (ruleConsoleL cfg ro o w) ∧ (ro.endS = ['\n'] → Closed (ruleConsoleL cfg ro o w)) := by
  unfold ruleConsoleL
  simp only
  have he := ruleText_snd cfg.cw cfg.env cfg.v ro (w : Int)
  -- the `end` of the text the rule yields is the rule's own `end`, or the line feed
  have hEnd : ∀ P : List Char → Prop, P ro.endS → P ['\n'] →
      P (if (ro.title.isEmpty && !cfg.ruleNoTitleEnd) = true then ro.endS else (ruleText cfg.cw cfg.env cfg.v ro (w : Int)).2) := by
    intro P h1 h2
    split
    · exact h1
    · rw [he]; split
      · exact h2
      · exact h1
  have hE := hEnd (fun e => e = ['\n'] ∨ e = []) hend (Or.inl rfl)
  constructor
  · apply text_fits_unless_ignore cfg ok.hsp ok.h2 ok.hel ok.hp _ o w hw _ (by simpa only [Text.new] using hE)
    intro hig
    have htab := hov.resolve_left (fun h => h (effOverflow_ignore rfl hig))
    simp only [Text.new]
    refine ⟨fun c hc => htab c (List.mem_filter.mp hc).1, .of_le ?_⟩
    have h1 := nw_cellLen_strip cfg.cw (ruleText cfg.cw cfg.env cfg.v ro (w : Int)).1
    have h2 := ruleText_cellLen cfg.cw ok.hsp ok.h2 cfg.env cfg.v ro (w : Int) (by omega)
    omega
  · intro hn
    apply text_closed cfg ok.hp _ o w
    simp only [Text.new]
    exact hEnd (· = ['\n']) hn rfl

theorem good_rule (cfg : Cfg) (ok : CfgOk cfg) (ro : RuleOpts) : Good cfg (.rule ro) := by
  apply good_of_any
  intro o w hw hd
  unfold render
  unfold Dom at hd
  obtain ⟨hf, hc⟩ := rule_fits cfg ok ro o w hw hd.1 hd.2
  exact ⟨hf, fun h => hc (by simpa [closedR] using h)⟩

theorem good_bar (cfg : Cfg) (ok : CfgOk cfg) (bo : BarOpts) : Good cfg (.bar bo) := by
  apply good_of_any
  intro o w hw hd
  unfold render
  rw [ok.hcw]
  unfold Dom at hd
  obtain ⟨h1, h2, h3, h4⟩ := hd
  obtain ⟨hf, hc⟩ := bar_fits bo w hw h1 h2 h3 h4
  exact ⟨hf, fun _ => hc⟩

theorem good_progress (cfg : Cfg) (ok : CfgOk cfg) (po : ProgressOpts) : Good cfg (.progressBar po) := by
  apply good_of_any
  intro o w hw hd
  unfold render
  rw [ok.hcw]
  unfold Dom at hd
  obtain ⟨h1, h2, h3⟩ := hd
  refine ⟨progress_fits cfg.env po w hw h1 h2 h3, fun hc => ?_⟩
  unfold closedR at hc
  cases hc

theorem tree_render_fits (cfg : Cfg) (ok : CfgOk cfg) (root : TNode) (o : Opts) (w : Nat) :
    Fits cfg.cw w (render cfg (.tree root) o w) ∧ Closed (render cfg (.tree root) o w) := by
  unfold render
  rw [ok.hcw]
  exact ⟨tree_fits cfg.env (nodeR cfg root o) w, tree_closed cfg.env (nodeR cfg root o) (w : Int)⟩

theorem good_tree (cfg : Cfg) (ok : CfgOk cfg) (root : TNode) : Good cfg (.tree root) :=
  good_of_any cfg _ fun o w _ _ => ⟨(tree_render_fits cfg ok root o w).1, fun _ => (tree_render_fits cfg ok root o w).2⟩

end RichModel.Layout
