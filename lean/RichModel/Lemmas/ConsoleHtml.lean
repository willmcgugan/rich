import RichModel.Lemmas.Console
import RichModel.Lemmas.Html
/-!
The fragments `export_html` produces for one segment carry the escaped text, inside tags that no `>` ends early when the
style table is `TagSafe` (`Dressed`; `dressed_inlineSeg` for the inline mode).  `Segment.simplify` + `filter_control` lose
nothing but control segments (`htmlSegments_visible`).
-/
namespace RichModel.Console
open RichModel

variable {σ : Type}

/-- Contract on the style parameters under which a tag body cannot be ended early by a `>`:
the CSS rule never contains `>`; and, only for the code that writes the link verbatim
(`escapeHref = false`, rich 9.10.0 as found, before fix e488480), neither does a link. -/
structure TagSafe (v : Variant) (env : StyleEnv σ) : Prop where
  rule : ∀ s, '>' ∉ env.htmlRule s
  link : v.escapeHref = false → ∀ s l, linkOf env s = some l → '>' ∉ l

theorem not_gt_mem_hrefOf (v : Variant) (env : StyleEnv σ) (h : TagSafe v env) (s : σ) (l : List Char)
    (hl : linkOf env s = some l) : '>' ∉ hrefOf v l := by
  unfold hrefOf
  by_cases hv : v.escapeHref = true
  · simp only [hv, if_true]; exact not_gt_mem_escapeAttr l
  · have hv' : v.escapeHref = false := by simpa using hv
    simp only [hv', Bool.false_eq_true, if_false]
    exact h.link hv' s l hl

theorem fragsText_tagged (a c : List Char) (fs : List Frag) :
    fragsText ([Frag.tag a] ++ fs ++ [Frag.tag c]) = fragsText fs := by simp [fragsText]

/-- `fs` carries the escaped text `t`, and — under the assumption `P` on the style table — no `>` ends one of its tags
early: what a segment becomes in either mode. -/
structure Dressed (P : Prop) (t : List Char) (fs : List Frag) : Prop where
  text : fragsText fs = escape t
  ok : P → FragsOk fs

theorem Dressed.bare (P : Prop) (t : List Char) : Dressed P t [Frag.text (escape t)] :=
  ⟨by simp [fragsText], fun _ f hf => by cases List.mem_singleton.mp hf; exact not_lt_mem_escape t⟩

theorem Dressed.tagged {P : Prop} {t : List Char} {fs : List Frag} (a c : List Char) (ha : P → '>' ∉ a) (hc : '>' ∉ c)
    (h : Dressed P t fs) : Dressed P t ([Frag.tag a] ++ fs ++ [Frag.tag c]) := by
  refine ⟨(fragsText_tagged a c fs).trans h.text, fun hP => FragsOk.append (FragsOk.append ?_ (h.ok hP)) ?_⟩
  · intro f hf; cases List.mem_singleton.mp hf; exact ha hP
  · intro f hf; cases List.mem_singleton.mp hf; exact hc

theorem Dressed.link (v : Variant) (env : StyleEnv σ) (s : σ) {t : List Char} {fs : List Frag}
    (h : Dressed (TagSafe v env) t fs) : Dressed (TagSafe v env) t (wrapLink v env s fs) := by
  unfold wrapLink
  split
  · rename_i l hl
    refine h.tagged _ _ (fun hs => ?_) (by decide +kernel)
    simp only [List.mem_append, List.mem_singleton, not_or]
    exact ⟨⟨by decide +kernel, not_gt_mem_hrefOf v env hs s l hl⟩, by decide +kernel⟩
  · exact h

/-- `<span …>text</span>` whose opening tag is `pre ++ x ++ "` with no `>` in `x`. -/
theorem Dressed.span {P : Prop} (pre x t : List Char) (hp : '>' ∉ pre) (hx : P → '>' ∉ x) :
    Dressed P t ([Frag.tag (pre ++ x ++ ['"'])] ++ [Frag.text (escape t)] ++ [Frag.tag "/span".toList]) := by
  refine (Dressed.bare P t).tagged _ _ (fun hP => ?_) (by decide +kernel)
  simp only [List.mem_append, List.mem_singleton, not_or]
  exact ⟨⟨hp, hx hP⟩, by decide +kernel⟩

theorem dressed_inlineSeg (v : Variant) (env : StyleEnv σ) (seg : Segment σ) :
    Dressed (TagSafe v env) seg.text (htmlInlineSeg v env seg) := by
  unfold htmlInlineSeg
  cases seg.style with
  | none => exact .bare _ _
  | some s =>
    simp only
    split
    · apply Dressed.link
      split
      · exact .span _ _ _ (by decide +kernel) (fun h => h.rule s)
      · exact .bare _ _
    · exact .bare _ _

theorem Dressed.flatMap {P : Prop} (g : Segment σ → List Frag) (hg : ∀ seg, Dressed P seg.text (g seg))
    (segs : List (Segment σ)) : Dressed P (segs.flatMap (·.text)) (segs.flatMap g) := by
  refine ⟨?_, fun hP f hf => ?_⟩
  · rw [← flatMap_escape, fragsText, List.flatMap_assoc]
    exact congrArg (List.flatMap · segs) (funext fun seg => (hg seg).text)
  · obtain ⟨x, _, hx⟩ := List.mem_flatMap.mp hf
    exact (hg x).ok hP f hx

/-- `Segment.simplify` (after b97fe77) and `filter_control` lose nothing but control segments: every such reading of the
segments `export_html` iterates is that of the record. -/
theorem htmlSegments_visible [BEq σ] [LawfulBEq σ] {α : Type} (g : Char → Option σ → α) (v : Variant)
    (hv : v.mergeCtl = false) (record : List (Segment σ)) :
    ((htmlSegments v record).filter (fun s => !s.control)).flatMap (fun s => s.text.map (fun c => g c s.style)) =
      (record.filter (fun s => !s.control)).flatMap (fun s => s.text.map (fun c => g c s.style)) := by
  have e : (htmlSegments v record).filter (fun s => !s.control) = (simplify record false).filter (fun s => !s.control) := by
    simp [htmlSegments, filterControl, hv]
  rw [e, visible_eq_stream, visible_eq_stream]
  congr 2
  cases record with
  | nil => rfl
  | cons s rest => exact simplifyLoop_stream rest s

theorem htmlSegments_text [BEq σ] [LawfulBEq σ] (v : Variant) (hv : v.mergeCtl = false) (record : List (Segment σ)) :
    (htmlSegments v record).flatMap (·.text) = exportPlain record := by
  have h := htmlSegments_visible (fun c _ => c) v hv record
  simp only [List.map_id'] at h
  rw [exportPlain, ← h]
  simp [htmlSegments, filterControl]

theorem htmlSegments_segStream [BEq σ] [LawfulBEq σ] (v : Variant) (hv : v.mergeCtl = false) (env : StyleEnv σ)
    (record : List (Segment σ)) :
    segStream env (htmlSegments v record) = segStream env record :=
  htmlSegments_visible (fun c st => (c, effStyle env st)) v hv record

end RichModel.Console
