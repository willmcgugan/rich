import RichModel.Model.Lru
import RichModel.Model.Cells
/-!
Refinement of the `LRUCache` state machine (`Model/Lru.lean`) to a **plain ordered map that never evicts**: the
abstract state `A` is an association list holding every key ever stored (a plain finite map: `lookupL A` is the
function obtained by `Function.update` over the history, see `amRun_lookup`), ordered by recency of use as the class
defines "use" (`__getitem__` of a live key, `__setitem__` of a key that is not live); the cache is *exactly* the
restriction of `A` to its `cap` most recent keys (`viewL cap A`), for every operation history.  The cache in front of
`cell_len` (`Cache` of `Model/Cells.lean`) is this machine: `Cache.get_eq_lookupL`, `Cache.set_eq_step`.
-/
namespace RichModel
set_option linter.unusedSectionVars false

variable {K V : Type} [DecidableEq K]

def KeysNodup (A : List (K × V)) : Prop := (A.map Prod.fst).Nodup

theorem keysNodup_nil : KeysNodup ([] : List (K × V)) := List.nodup_nil

theorem viewL_short (cap : Nat) (l : List (K × V)) (h : l.length ≤ cap) : viewL cap l = l := by
  unfold viewL
  have : l.length - cap = 0 := by omega
  rw [this]; rfl

theorem viewL_nil (cap : Nat) : viewL cap ([] : List (K × V)) = [] := viewL_short cap [] (Nat.zero_le _)

/-- what is live is the view: either the cache is full, or nothing has been evicted yet -/
theorem viewL_live (cap : Nat) (dead live : List (K × V))
    (h : live.length = cap ∨ (dead = [] ∧ live.length ≤ cap)) : viewL cap (dead ++ live) = live := by
  rcases h with h | ⟨rfl, h⟩
  · unfold viewL
    have : (dead ++ live).length - cap = dead.length := by simp; omega
    rw [this]; simp
  · exact viewL_short cap _ h

theorem viewL_length_le (cap : Nat) (A : List (K × V)) : (viewL cap A).length ≤ cap := by
  unfold viewL; simp; omega

theorem viewL_decomp (cap : Nat) (A : List (K × V)) :
    ∃ dead live, A = dead ++ live ∧ viewL cap A = live ∧
      (live.length = cap ∨ (dead = [] ∧ live.length < cap)) := by
  refine ⟨A.take (A.length - cap), A.drop (A.length - cap), (List.take_append_drop _ _).symm, rfl, ?_⟩
  by_cases h : cap ≤ A.length
  · left; simp; omega
  · right
    have : A.length - cap = 0 := by omega
    rw [this]; simp; omega

theorem hasKey_append (a b : List (K × V)) (k : K) : hasKey (a ++ b) k = (hasKey a k || hasKey b k) := by
  simp [hasKey]

theorem eraseL_append (a b : List (K × V)) (k : K) : eraseL (a ++ b) k = eraseL a k ++ eraseL b k := by
  simp [eraseL]

theorem replaceL_keys (a : List (K × V)) (k : K) (v : V) : (replaceL a k v).map Prod.fst = a.map Prod.fst := by
  simp only [replaceL, List.map_map]
  apply List.map_congr_left
  intro p _
  simp only [Function.comp]
  split <;> rfl

theorem keysNodup_replaceL (A : List (K × V)) (k : K) (v : V) (h : KeysNodup A) : KeysNodup (replaceL A k v) := by
  unfold KeysNodup at *
  rwa [replaceL_keys]

theorem eraseL_of_not_hasKey (a : List (K × V)) (k : K) (h : hasKey a k = false) : eraseL a k = a := by
  unfold eraseL
  rw [List.filter_eq_self]
  intro p hp
  simp only [hasKey, List.any_eq_false] at h
  have := h p hp
  simpa using this

theorem hasKey_iff_mem_keys (a : List (K × V)) (k : K) : hasKey a k = true ↔ k ∈ a.map Prod.fst := by
  simp only [hasKey, List.any_eq_true, List.mem_map, beq_iff_eq]

theorem lookupL_eq_none_iff (a : List (K × V)) (k : K) : lookupL a k = none ↔ hasKey a k = false := by
  simp only [lookupL, hasKey, Option.map_eq_none_iff, List.find?_eq_none, List.any_eq_false]

theorem lookupL_none_hasKey (a : List (K × V)) (k : K) (h : lookupL a k = none) : hasKey a k = false :=
  (lookupL_eq_none_iff a k).mp h

theorem lookupL_some_hasKey (a : List (K × V)) (k : K) (v : V) (h : lookupL a k = some v) : hasKey a k = true := by
  cases hk : hasKey a k with
  | true => rfl
  | false => rw [(lookupL_eq_none_iff a k).mpr hk] at h; cases h

theorem lookupL_append (a b : List (K × V)) (k : K) : lookupL (a ++ b) k = (lookupL a k).or (lookupL b k) := by
  unfold lookupL
  rw [List.find?_append]
  cases a.find? (fun p => p.1 == k) <;> rfl

theorem eraseL_keys (a : List (K × V)) (k : K) :
    (eraseL a k).map Prod.fst = (a.map Prod.fst).filter (fun x => !(x == k)) := by
  rw [List.filter_map]; rfl

theorem keysNodup_touch (A : List (K × V)) (k : K) (v : V) (h : KeysNodup A) :
    KeysNodup (eraseL A k ++ [(k, v)]) := by
  unfold KeysNodup at *
  rw [List.map_append, eraseL_keys]
  apply List.nodup_append.mpr
  refine ⟨h.filter _, by simp, ?_⟩
  intro a ha b hb
  simp only [List.map_cons, List.map_nil, List.mem_singleton] at hb
  simp only [List.mem_filter] at ha
  subst hb
  intro hab; subst hab; simp at ha

theorem eraseL_length (a : List (K × V)) (k : K) (hn : KeysNodup a) (hk : hasKey a k = true) :
    (eraseL a k).length + 1 = a.length := by
  -- on the keys `eraseL` is `List.erase`, since they are distinct
  have hmem := (hasKey_iff_mem_keys a k).mp hk
  have h : (eraseL a k).length = ((a.map Prod.fst).erase k).length := by
    rw [← List.length_map (f := Prod.fst), eraseL_keys, List.Nodup.erase_eq_filter hn]
    rfl
  have hpos : 0 < a.length := by simpa using List.length_pos_of_mem hmem
  rw [h, List.length_erase_of_mem hmem, List.length_map]
  omega

theorem keysNodup_append {dead live : List (K × V)} (h : KeysNodup (dead ++ live)) :
    KeysNodup live ∧ ∀ k, hasKey live k = true → hasKey dead k = false := by
  unfold KeysNodup at h
  rw [List.map_append] at h
  obtain ⟨_, hl, hd⟩ := List.nodup_append.mp h
  refine ⟨hl, fun k hk => Bool.eq_false_iff.mpr fun hh => ?_⟩
  exact hd k ((hasKey_iff_mem_keys dead k).mp hh) k ((hasKey_iff_mem_keys live k).mp hk) rfl

theorem viewL_replaceL (cap : Nat) (A : List (K × V)) (k : K) (v : V) :
    viewL cap (replaceL A k v) = replaceL (viewL cap A) k v := by
  unfold viewL replaceL
  rw [List.length_map, List.map_drop]

/-- a new key goes to the end of the view, pushing the oldest entry out when the view is full -/
theorem viewL_touch_miss (cap : Nat) (hcap : 0 < cap) (A : List (K × V)) (k : K) (v : V)
    (hk : hasKey (viewL cap A) k = false) :
    viewL cap (eraseL A k ++ [(k, v)]) =
      (if (viewL cap A).length ≥ cap then (viewL cap A).tail else viewL cap A) ++ [(k, v)] := by
  obtain ⟨dead, live, rfl, hv, hlen⟩ := viewL_decomp cap A
  rw [hv] at hk ⊢
  rw [eraseL_append, eraseL_of_not_hasKey live k hk]
  rcases hlen with h | ⟨rfl, h⟩
  · rw [if_pos (Nat.le_of_eq h.symm)]
    cases live with
    | nil => exact absurd h.symm (Nat.ne_of_gt hcap)
    | cons x tl =>
      rw [show eraseL dead k ++ x :: tl ++ [(k, v)] = (eraseL dead k ++ [x]) ++ (tl ++ [(k, v)]) by simp]
      exact viewL_live cap _ _ (.inl (by simpa using h))
  · rw [if_neg (Nat.not_le.mpr h), List.append_assoc]
    exact viewL_live cap _ _ (.inr ⟨rfl, by rw [List.length_append]; exact h⟩)

theorem viewL_touch_hit (cap : Nat) (A : List (K × V)) (hA : KeysNodup A) (k : K) (v : V)
    (hk : hasKey (viewL cap A) k = true) :
    viewL cap (eraseL A k ++ [(k, v)]) = eraseL (viewL cap A) k ++ [(k, v)] := by
  obtain ⟨dead, live, rfl, hv, hlen⟩ := viewL_decomp cap A
  rw [hv] at hk ⊢
  have hel := eraseL_length live k (keysNodup_append hA).1 hk
  rw [eraseL_append, eraseL_of_not_hasKey dead k ((keysNodup_append hA).2 k hk), List.append_assoc]
  refine viewL_live cap _ _ ?_
  rw [List.length_append, List.length_singleton]
  exact hlen.imp (by omega) fun ⟨hd, h⟩ => ⟨hd, by omega⟩

theorem amStep_sim (cap : Nat) (hcap : 0 < cap) (A : List (K × V)) (hA : KeysNodup A) (op : LruOp K V) :
    Lru.step { cap := cap, items := viewL cap A } op =
      ((amStep cap A op).1, { cap := cap, items := viewL cap (amStep cap A op).2 }) ∧
    KeysNodup (amStep cap A op).2 := by
  cases op with
  | setitem k v =>
    simp only [Lru.step, amStep]
    cases hk : hasKey (viewL cap A) k with
    | true =>
      rw [if_pos rfl, if_pos rfl, viewL_replaceL]
      exact ⟨rfl, keysNodup_replaceL A k v hA⟩
    | false =>
      rw [if_neg Bool.false_ne_true, if_neg Bool.false_ne_true, viewL_touch_miss cap hcap A k v hk]
      refine ⟨?_, keysNodup_touch _ k v hA⟩
      split
      · next hfull =>
        cases hl : viewL cap A with
        | nil => rw [hl] at hfull; exact absurd hfull (Nat.not_le.mpr hcap)
        | cons x tl => rfl
      · rfl
  | getitem k =>
    simp only [Lru.step, amStep]
    cases hl : lookupL (viewL cap A) k with
    | none => exact ⟨rfl, hA⟩
    | some v =>
      simp only
      rw [viewL_touch_hit cap A hA k v (lookupL_some_hasKey _ k v hl)]
      exact ⟨rfl, keysNodup_touch _ k v hA⟩
  | get k =>
    simp only [Lru.step, amStep]
    cases hl : lookupL (viewL cap A) k <;> exact ⟨rfl, hA⟩
  | contains k => exact ⟨rfl, hA⟩
  | len => exact ⟨rfl, hA⟩

theorem lookupL_eraseL (a : List (K × V)) (k k' : K) :
    lookupL (eraseL a k) k' = if k' = k then none else lookupL a k' := by
  unfold lookupL eraseL
  rw [List.find?_filter]
  by_cases h : k' = k
  · subst h
    rw [if_pos rfl, List.find?_eq_none.2 (fun p _ => by simp), Option.map_none]
  · -- away from `k` the two searches test the same thing
    rw [if_neg h]
    congr 2
    funext p
    by_cases hp : p.1 = k' <;> simp [hp, h]

theorem lookupL_touch (a : List (K × V)) (k k' : K) (v : V) :
    lookupL (eraseL a k ++ [(k, v)]) k' = if k' = k then some v else lookupL a k' := by
  rw [lookupL_append, lookupL_eraseL]
  by_cases h : k' = k
  · rw [if_pos h, if_pos h, h]; simp [lookupL]
  · rw [if_neg h, if_neg h]
    have : (k == k') = false := beq_false_of_ne fun e => h e.symm
    simp [lookupL, this]

theorem lookupL_replaceL (a : List (K × V)) (k k' : K) (v : V) :
    lookupL (replaceL a k v) k' = if k' = k then (if hasKey a k then some v else none) else lookupL a k' := by
  induction a with
  | nil => simp [lookupL, replaceL, hasKey]
  | cons p rest ih =>
    simp only [lookupL, replaceL, hasKey, List.map_cons, List.find?_cons, List.any_cons] at ih ⊢
    by_cases h : p.1 = k
    · by_cases h2 : k' = k
      · subst h2; simp [h]
      · have : (k == k') = false := by simpa using fun e => h2 e.symm
        simp only [h, beq_self_eq_true, if_true, this, h2, if_false]
        rw [ih]; simp [h2]
    · have hb : (p.1 == k) = false := by simpa using h
      simp only [hb, Bool.false_eq_true, if_false, Bool.false_or]
      by_cases h3 : p.1 = k'
      · have : k' ≠ k := fun e => h (h3.trans e)
        simp [h3, this]
      · have hb3 : (p.1 == k') = false := by simpa using h3
        simp only [hb3]
        exact ih

/-- A live entry is an entry of the whole map (the view is a suffix and keys are distinct). -/
theorem lookupL_view (cap : Nat) (A : List (K × V)) (hA : KeysNodup A) (k : K) (v : V)
    (h : lookupL (viewL cap A) k = some v) : lookupL A k = some v := by
  obtain ⟨dead, live, rfl, hv, _⟩ := viewL_decomp cap A
  rw [hv] at h
  rw [lookupL_append, (lookupL_eq_none_iff dead k).mpr
    ((keysNodup_append hA).2 k (lookupL_some_hasKey live k v h))]
  exact h

/-- read as a function, the abstract state changes at `__setitem__` only, by an update at the key -/
theorem amStep_lookup (cap : Nat) (A : List (K × V)) (hA : KeysNodup A) (op : LruOp K V) (k' : K) :
    lookupL (amStep cap A op).2 k' = plainRun (lookupL A) [op] k' := by
  cases op with
  | setitem k v =>
    simp only [amStep, plainRun]
    cases hk : hasKey (viewL cap A) k with
    | true =>
      obtain ⟨dead, live, rfl, hv, _⟩ := viewL_decomp cap A
      rw [if_pos rfl, lookupL_replaceL, hasKey_append, ← hv, hk, Bool.or_true, if_pos rfl]
    | false => rw [if_neg Bool.false_ne_true, lookupL_touch]
  | getitem k =>
    simp only [amStep, plainRun]
    cases hl : lookupL (viewL cap A) k with
    | none => rfl
    | some v =>
      simp only
      rw [lookupL_touch]
      split
      · next h => rw [h, lookupL_view cap A hA k v hl]
      · rfl
  | get k =>
    simp only [amStep, plainRun]
    cases lookupL (viewL cap A) k <;> rfl
  | contains k => rfl
  | len => rfl

theorem amRun_sim (cap : Nat) (hcap : 0 < cap) : ∀ (ops : List (LruOp K V)) (A : List (K × V)), KeysNodup A →
    Lru.run { cap := cap, items := viewL cap A } ops =
      ((amRun cap A ops).1, { cap := cap, items := viewL cap (amRun cap A ops).2 }) ∧
    KeysNodup (amRun cap A ops).2
  | [], A, hA => ⟨rfl, hA⟩
  | op :: rest, A, hA => by
      obtain ⟨h1, h2⟩ := amStep_sim cap hcap A hA op
      obtain ⟨h3, h4⟩ := amRun_sim cap hcap rest (amStep cap A op).2 h2
      simp only [Lru.run, amRun]
      rw [h1]
      simp only
      rw [h3]
      exact ⟨rfl, h4⟩

theorem amRun_lookup (cap : Nat) (hcap : 0 < cap) : ∀ (ops : List (LruOp K V)) (A : List (K × V)), KeysNodup A →
    ∀ k, lookupL (amRun cap A ops).2 k = plainRun (lookupL A) ops k
  | [], _, _, _ => rfl
  | op :: rest, A, hA, k => by
      rw [amRun, amRun_lookup cap hcap rest _ (amStep_sim cap hcap A hA op).2 k, funext (amStep_lookup cap A hA op)]
      cases op <;> rfl

theorem keysNodup_viewL (cap : Nat) (A : List (K × V)) (h : KeysNodup A) : KeysNodup (viewL cap A) := by
  unfold KeysNodup viewL at *
  exact h.sublist ((List.drop_sublist _ _).map _)

theorem Lru.run_bounded (cap : Nat) (hcap : 0 < cap) (A : List (K × V)) (hA : KeysNodup A) (ops : List (LruOp K V)) :
    (Lru.run { cap := cap, items := viewL cap A } ops).2.items.length ≤ cap ∧
    KeysNodup (Lru.run { cap := cap, items := viewL cap A } ops).2.items := by
  obtain ⟨h1, h2⟩ := amRun_sim cap hcap ops A hA
  rw [h1]
  exact ⟨viewL_length_le _ _, keysNodup_viewL _ _ h2⟩

theorem Lru.run_hit_sound (cap : Nat) (hcap : 0 < cap) (A : List (K × V)) (hA : KeysNodup A) (ops : List (LruOp K V))
    (k : K) (v : V) (h : lookupL (Lru.run { cap := cap, items := viewL cap A } ops).2.items k = some v) :
    plainRun (lookupL A) ops k = some v := by
  obtain ⟨h1, h2⟩ := amRun_sim cap hcap ops A hA
  rw [h1] at h
  rw [← amRun_lookup cap hcap ops A hA k]
  exact lookupL_view cap _ h2 k v h

/-- the two equality tests on keys in play (`List`'s own, and the one `lookupL` / `hasKey` take from `DecidableEq`) agree -/
theorem Cache.beq_eq (a b : List Char) : (a == b) = @BEq.beq _ instBEqOfDecidableEq a b := by
  rw [Bool.eq_iff_iff]; simp

theorem Cache.get_eq_lookupL (c : Cache) (k : List Char) : c.get k = lookupL c.items k := by
  unfold Cache.get lookupL
  simp only [Cache.beq_eq]

theorem Cache.set_eq_step (c : Cache) (k : List Char) (v : Nat) (h : 0 < c.cap ∨ c.items ≠ []) :
    Lru.step { cap := c.cap, items := c.items } (.setitem k v) =
      (.unit, { cap := (c.set k v).cap, items := (c.set k v).items }) := by
  unfold Cache.set
  simp only [Lru.step, hasKey, Cache.beq_eq]
  split
  · -- an existing key: both replace the value in place (`Cache.set` writes the key again, which is the same key)
    congr 2
    exact List.map_congr_left fun p _ => by by_cases hp : p.1 = k <;> simp [hp]
  · split
    · next hge =>
      cases hi : c.items with
      | nil =>
        rw [hi] at hge
        exact absurd (h.resolve_right (fun hne => hne hi)) (Nat.not_lt.mpr hge)
      | cons x tl => rfl
    · rfl

end RichModel
