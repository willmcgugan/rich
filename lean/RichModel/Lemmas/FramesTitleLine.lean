import RichModel.Model.FramesTitle
import RichModel.Lemmas.WrapDivideLine
import RichModel.Lemmas.WrapStages
import RichModel.Lemmas.TextRender
import RichModel.Lemmas.TextSplit
import RichModel.Lemmas.TextAppend
import RichModel.Lemmas.TextTruncate
import RichModel.Lemmas.TextPad
/-!
`Text.__rich_console__` (`textConsoleG`, Model/FramesTitle.lean) on a consistent ONE-LINE text that is exactly `w` cells
wide, rendered at width `w`: whatever the justify / overflow / no_wrap options in force, nothing raises and the output
is one line of exactly `w` cells followed by the text's `end` (the step shared by the `Text`-title theorems for `Rule`
and `Panel`).  The pipeline is followed stage by stage: `split("\n")` (no line feed:
the text itself), no tab to expand, `divide_line` (nothing to cut: the text fits), then `Wrap.finishLine_fits` for
`rstrip_end` (nothing: it fits), `Lines.justify` (default / left / full: the line; center / right: trailing whitespace
stripped and as many blanks put back in front / around) and the final `truncate` (nothing), `Text("\n").join` of one
line, `render(end)`.
Repaired code (`WVariant.repaired`, what /repo contains now).  The stages are prefixed `ft_`.
-/
namespace RichModel.Frames
open RichModel RichModel.Text RichModel.Wrap

variable {σ : Type}

/-- the characters a list of segments shows, in order -/
def segChars (l : List (Segment σ)) : List Char := l.flatMap (·.text)

/-! ### stages -/

/-- the paragraph loop body of `Text.wrap` on a line that is exactly `w` cells wide -/
theorem ft_wrapLine_one [BEq σ] (cw : Char → Nat) (hsp : cw ' ' = 1) (A : StyleAlg σ) (l : Text σ) (hl : Inv l) (w : Nat)
    (j : Justify) (ov : RichModel.Overflow) (nw : Bool) (hw : cellLen cw l.plain = w) :
    ∃ x, wrapLine WVariant.repaired cw A l w j ov nw = .ok [x] ∧ Inv x ∧ cellLen cw x.plain = w ∧
      ∀ c ∈ x.plain, c ∈ l.plain ∨ c = ' ' := by
  obtain ⟨_, h3, h4⟩ := finishLine_fits WVariant.repaired cw hsp w j ov l (Nat.le_of_eq hw)
  refine ⟨_, wrapLine_one WVariant.repaired cw A l w j ov nw ?_,
    (finishLine_stage (chars := false) cw w j ov l hl).kept.inv, h3 rfl hw, h4⟩
  split
  · rfl
  · rw [Wrap.divideLine_nil cw l.plain w _ (by omega)]
    exact divide_nil l hl

/-- `Text.wrap` on a consistent text without line feed or tab that is exactly `w` cells wide -/
theorem ft_wrap_one [BEq σ] (cw : Char → Nat) (hsp : cw ' ' = 1) (A : StyleAlg σ) (t : Text σ) (ht : Inv t)
    (hnl : '\n' ∉ t.plain) (htab : '\t' ∉ t.plain) (w : Nat) (hw : cellLen cw t.plain = w)
    (j : Option Justify) (ov : Option RichModel.Overflow) (ts : Option Nat) (nw : Option Bool) :
    ∃ x, wrap WVariant.repaired cw A t w j ov ts nw = .ok [x] ∧ Inv x ∧ cellLen cw x.plain = w ∧
      ∀ c ∈ x.plain, c ∈ t.plain ∨ c = ' ' := by
  obtain ⟨x, hx, hxi, hxw, hxm⟩ :=
    ft_wrapLine_one cw hsp A t ht w (wrapJustifyOf t j) (wrapOverflowOf t ov) (noWrapOf t ov nw) hw
  refine ⟨x, wrap_ok_iff.mpr ⟨[t], split_none t ht hnl, ?_⟩, hxi, hxw, hxm⟩
  have hc : t.plain.contains '\t' = false := by
    simpa using htab
  simp only [bind, Except.bind, wrapParagraphs, hc, Bool.false_eq_true, if_false]
  rw [hx]
  simp

/-! ### `Text.__rich_console__` -/

/-- **A consistent one-line text of exactly `w` cells, rendered at width `w`, is one line of exactly `w` cells followed
by its `end`** — for every justify / overflow / no_wrap in force (the text's own or the options'), every span set and
style algebra. -/
theorem textConsoleG_one_line [BEq σ] (cfg : TCfg σ) (hwv : cfg.wv = WVariant.repaired) (hsp : cfg.cw ' ' = 1)
    (t : Text σ) (ht : Inv t) (hnl : '\n' ∉ t.plain) (htab : '\t' ∉ t.plain) (w : Nat) (hw : cellLen cfg.cw t.plain = w)
    (o : TOpts) :
    ∃ segs x, textConsoleG cfg t o w = .ok segs ∧ segChars segs = x ++ t.endStr ∧ cellLen cfg.cw x = w ∧
      (∀ c ∈ x, c ∈ t.plain ∨ c = ' ') ∧ ∀ s ∈ segs, s.control = false := by
  unfold textConsoleG
  simp only [hwv]
  obtain ⟨x, hx, hxi, hxw, hxm⟩ := ft_wrap_one cfg.cw hsp cfg.alg t ht hnl htab w hw
    (some ((t.justify.orElse (fun _ => o.justify)).getD Justify.default))
    (some ((t.overflow.orElse (fun _ => o.overflow)).getD RichModel.Overflow.fold))
    (some (effTabSizeG cfg t)) (some ((t.noWrap.orElse (fun _ => o.noWrap)).getD false))
  rw [hx]
  simp only [bind, Except.bind]
  have hsepI : Inv (Text.new Variant.repaired ['\n'] cfg.A.null) :=
    inv_new _ _ _ _ _ _ _ _ (by intro sp h; simp at h)
  have hji : Inv (Text.join Variant.repaired (Text.new Variant.repaired ['\n'] cfg.A.null) [x]) :=
    inv_join _ _ hsepI (fun y hy => by simp only [List.mem_singleton] at hy; subst hy; exact hxi)
  have hjp : (Text.join Variant.repaired (Text.new Variant.repaired ['\n'] cfg.A.null) [x]).plain = x.plain := by
    rw [Text.join_plain]; simp [joinSeq]
  obtain ⟨segs, hr, hf⟩ := Text.render_chars _ hji t.endStr
  rw [show WVariant.repaired.text = Variant.repaired from rfl, hr]
  refine ⟨_, x.plain, rfl, ?_, hxw, hxm, ?_⟩
  · rw [← hjp, ← hf]
    simp [segChars, List.flatMap_map]
  · intro s hs
    obtain ⟨r, _, rfl⟩ := List.mem_map.mp hs
    rfl

end RichModel.Frames
