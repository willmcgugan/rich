import RichModel.Lemmas.StyleGrammar
/-!
The text round trip of `Style`: `parse (render s) == s` for every well-formed `s` (`Style.wf`).
(That every style returned by `parse` is well-formed is in `Lemmas/StyleParse.lean`.)
-/
namespace RichModel
open AsciiStr
namespace Style
variable {T : StrTables} [hT : T.Lawful]

/-- `attrNames` (Model/Style.lean) with the bit each name stands for. -/
def pairs13 : List (Nat × List Char) :=
  [(0, cl! "bold"), (1, cl! "dim"), (2, cl! "italic"), (3, cl! "underline"), (4, cl! "blink"),
   (5, cl! "blink2"), (6, cl! "reverse"), (7, cl! "conceal"), (8, cl! "strike"), (9, cl! "underline2"),
   (10, cl! "frame"), (11, cl! "encircle"), (12, cl! "overline")]

/-- What `__str__` appends after the attribute words: the colour, `on` and the background, `link` and the link. -/
def colorElems (s : Style) : List (List Char) :=
  (match s.color with | some c => [c.name] | none => []) ++
  (match s.bgcolor with | some c => [cl! "on", c.name] | none => []) ++
  (if strTruthy s.link then [cl! "link", s.link.getD []] else [])

theorem attrElem_nil {s : Style} {i n} (h : s.setAttributes.testBit i = false) : attrElem s i n = [] := by
  simp [attrElem, h]

/-- A group guard of `__str__` changes nothing: where no bit of the mask is set, the words of the
group are absent anyway. -/
theorem guarded_attrElems (s : Style) {m : Nat} {ps : List (Nat × List Char)} (hm : ∀ p ∈ ps, m.testBit p.1 = true) :
    (if s.setAttributes &&& m ≠ 0 then ps.flatMap (fun p => attrElem s p.1 p.2) else []) =
      ps.flatMap fun p => attrElem s p.1 p.2 :=
  mask_guard fun h => List.flatMap_eq_nil_iff.mpr fun p hp => attrElem_nil (h p.1 (hm p hp))

theorem strElems_flat (s : Style) :
    strElems s = (pairs13.flatMap fun p => attrElem s p.1 p.2) ++ colorElems s := by
  have g1 := guarded_attrElems s (m := 0b0000000001111) (ps := pairs13.take 4) (by decide)
  have g2 := guarded_attrElems s (m := 0b0000111110000) (ps := (pairs13.drop 4).take 5) (by decide)
  have g3 := guarded_attrElems s (m := 0b1111000000000) (ps := pairs13.drop 9) (by decide)
  simp only [strElems, colorElems, pairs13, List.take, List.drop, List.flatMap_cons, List.flatMap_nil,
    List.append_nil, List.append_assoc] at g1 g2 g3 ⊢
  rw [g1, g2, g3]
  simp only [List.append_assoc]
  rfl

/-- An attribute word `p.2` naming bit `p.1`, as a test `decide` runs on a table of documented words.  Its `attrIndex`
conjunct is the one the lemmas use: the others follow from it (`attr_word`). -/
def goodAttr (p : Nat × List Char) : Bool :=
  !p.2.isEmpty && allAscii p.2 && p.2.all (fun c => !AsciiStr.isSpace c) && decide (AsciiStr.lower p.2 = p.2) &&
    decide (p.2 ≠ cl! "on") && decide (p.2 ≠ cl! "not") &&
    decide (p.2 ≠ cl! "link") && decide (attrIndex p.2 = some p.1) && decide (p.1 < 13)

theorem goodAttr_idx {p : Nat × List Char} (h : goodAttr p = true) : attrIndex p.2 = some p.1 := by
  simp only [goodAttr, Bool.and_eq_true, decide_eq_true_eq] at h
  exact h.1.2

theorem pairs13_idx : ∀ p ∈ pairs13, attrIndex p.2 = some p.1 := by decide

/-- What the words for attribute `p.1` do to the keyword dictionary. -/
def applyAttr (s : Style) (K : Kwargs) (p : Nat × List Char) : Kwargs :=
  if s.setAttributes.testBit p.1 then K.set p.1 (some (s.attributes.testBit p.1)) else K

theorem reads_attrElem (v : StyleVariant) (s : Style) {i n} (h : attrIndex n = some i) (st : ParseState) :
    Reads T v ((attrElem s i n).flatMap T.split) st { st with attributes := applyAttr s st.attributes (i, n) } := by
  obtain ⟨hw, -⟩ := attr_word (T := T) h
  unfold attrElem attr applyAttr
  by_cases hs : s.setAttributes.testBit i = true
  · by_cases ha : s.attributes.testBit i = true
    · simpa [hs, ha, hw.split, Tok.apply] using Reads.one (.attr (hw.low.symm ▸ h)) st
    · have : T.split ('n' :: 'o' :: 't' :: ' ' :: n) = [cl! "not", n] :=
        T.split_two (k := cl! "not") (by decide) hw.ne hw.nospace
      simpa [hs, ha, this, Tok.apply] using Reads.one (.notAttr (T.word_of_lit (by decide)).low h) st
  · simpa [hs] using Reads.nil st

theorem reads_attrs (v : StyleVariant) (s : Style) (ps : List (Nat × List Char))
    (hps : ∀ p ∈ ps, attrIndex p.2 = some p.1) (st : ParseState) :
    Reads T v (ps.flatMap fun p => (attrElem s p.1 p.2).flatMap T.split) st
      { st with attributes := ps.foldl (applyAttr s) st.attributes } := by
  induction ps generalizing st with
  | nil => exact .nil st
  | cons p ps ih =>
    rw [List.flatMap_cons]
    exact (reads_attrElem v s (hps p (by simp)) st).append (ih (fun q hq => hps q (by simp [hq])) _)

omit hT in
theorem applyAttr_length (s : Style) (K : Kwargs) (p : Nat × List Char) : (applyAttr s K p).length = K.length := by
  unfold applyAttr
  split <;> simp

omit hT in
theorem applyAttr_getD (s : Style) (K : Kwargs) (p : Nat × List Char) (j : Nat) (hj : j < K.length) :
    (applyAttr s K p).getD j none =
      if j = p.1 ∧ s.setAttributes.testBit j = true then some (s.attributes.testBit j) else K.getD j none := by
  unfold applyAttr
  by_cases hjp : j = p.1
  · subst hjp
    by_cases hs : s.setAttributes.testBit p.1 = true <;> simp [hs, List.getD_eq_getElem?_getD, hj]
  · split <;> simp [List.getD_eq_getElem?_getD, hjp, Ne.symm hjp]

theorem foldl_applyAttr_length (s : Style) (ps : List (Nat × List Char)) (K : Kwargs) :
    (ps.foldl (applyAttr s) K).length = K.length := by
  induction ps generalizing K with
  | nil => rfl
  | cons p ps ih => rw [List.foldl_cons, ih, applyAttr_length]

theorem foldl_applyAttr_getD (s : Style) (ps : List (Nat × List Char)) (K : Kwargs) (j : Nat) (hj : j < K.length) :
    (ps.foldl (applyAttr s) K).getD j none =
      if j ∈ ps.map (·.1) ∧ s.setAttributes.testBit j = true then some (s.attributes.testBit j) else K.getD j none := by
  induction ps generalizing K with
  | nil => simp
  | cons p ps ih =>
    rw [List.foldl_cons, ih _ (by rw [applyAttr_length]; exact hj), applyAttr_getD s K p j hj]
    simp only [List.map_cons, List.mem_cons, or_and_right]
    by_cases hm : j ∈ ps.map (·.1) ∧ s.setAttributes.testBit j = true
    · rw [if_pos hm, if_pos (Or.inr hm)]
    · simp only [if_neg hm, or_iff_left hm]

/-- The dictionary `parse` ends up with when it reads the attribute words of `str s`. -/
def kwOf (s : Style) : Kwargs := pairs13.foldl (applyAttr s) (List.replicate 13 none)

theorem kwOf_getD (s : Style) (j : Nat) (hj : j < 13) :
    (kwOf s).getD j none = if s.setAttributes.testBit j = true then some (s.attributes.testBit j) else none := by
  unfold kwOf
  rw [foldl_applyAttr_getD s pairs13 _ j (by simpa using hj)]
  have hm : j ∈ pairs13.map (·.1) := by
    have : pairs13.map (·.1) = List.range 13 := by decide
    rw [this]; exact List.mem_range.mpr hj
  simp [hm, hj, List.getD_eq_getElem?_getD, -List.reduceReplicate]

theorem kwSet_kwOf (s : Style) (hlt : s.setAttributes < 8192) : kwSet (kwOf s) = s.setAttributes := by
  apply Nat.eq_of_testBit_eq
  intro j
  rw [kwSet_testBit]
  by_cases hj : j < 13
  · rw [kwOf_getD s j hj]
    cases s.setAttributes.testBit j <;> simp [hj]
  · rw [testBit_false_of_lt_8192 hlt (by omega)]
    simp [hj]

theorem kwVal_kwOf (s : Style) (hsub : s.attributes &&& s.setAttributes = s.attributes)
    (hlt : s.setAttributes < 8192) : kwVal (kwOf s) = s.attributes := by
  apply Nat.eq_of_testBit_eq
  intro j
  rw [kwVal_testBit]
  have hsj := testBit_of_and_eq hsub j
  by_cases hj : j < 13
  · rw [kwOf_getD s j hj, hsj]
    cases s.setAttributes.testBit j <;> cases s.attributes.testBit j <;> simp [hj]
  · rw [hsj, testBit_false_of_lt_8192 hlt (by omega)]
    simp [hj]

omit hT in
theorem wfColor_iff {v : StyleVariant} {c : Color} :
    wfColorT T v c = true ↔ (∀ ch ∈ c.name, T.isSpace ch = false) ∧ Color.parseT T v c.name = .ok c := by
  unfold wfColorT
  rw [Bool.and_eq_true, T.mem_noSpace]
  cases Color.parseT T v c.name <;> simp

theorem wfColor_word {v : StyleVariant} {c : Color} (h : wfColorT T v c = true) : T.Word c.name := by
  obtain ⟨h1, h2⟩ := wfColor_iff.mp h
  refine ⟨fun hn => ?_, h1, ?_⟩
  · rw [hn, Color.parseT_nil] at h2
    cases h2
  · have := Color.parseT_name T h2
    rw [T.strip_noSpace (T.lower_noSpace h1)] at this
    exact this.symm

/-- The reading of `Style.wfT` as propositions. -/
structure Wf (T : StrTables) (v : StyleVariant) (s : Style) : Prop where
  sub : s.attributes &&& s.setAttributes = s.attributes
  lt : s.setAttributes < 8192
  color : ∀ c, s.color = some c → wfColorT T v c = true
  bgcolor : ∀ c, s.bgcolor = some c → wfColorT T v c = true
  link : wfLinkT T s.link = true

omit hT in
theorem wf_iff {v : StyleVariant} {s : Style} : wfT T v s = true ↔ Wf T v s := by
  unfold wfT
  simp only [Bool.and_eq_true, decide_eq_true_eq]
  constructor
  · rintro ⟨⟨⟨⟨h1, h2⟩, h3⟩, h4⟩, h5⟩
    refine ⟨h1, h2, ?_, ?_, h5⟩
    · intro c hc; rw [hc] at h3; exact h3
    · intro c hc; rw [hc] at h4; exact h4
  · rintro ⟨h1, h2, h3, h4, h5⟩
    refine ⟨⟨⟨⟨h1, h2⟩, ?_⟩, ?_⟩, h5⟩
    · cases hc : s.color with
      | none => rfl
      | some c => exact h3 c hc
    · cases hc : s.bgcolor with
      | none => rfl
      | some c => exact h4 c hc

omit hT in
theorem wfLink_cases {l : Option (List Char)} (h : wfLinkT T l = true) :
    l = none ∨ ∃ w, l = some w ∧ w ≠ [] ∧ (∀ c ∈ w, T.isSpace c = false) ∧ strTruthy (some w) = true := by
  cases l with
  | none => exact Or.inl rfl
  | some w =>
    right
    simp only [wfLinkT, Bool.and_eq_true, Bool.not_eq_true', List.isEmpty_eq_false_iff] at h
    refine ⟨w, rfl, h.1, T.mem_noSpace.mp h.2, ?_⟩
    cases w with
    | nil => exact absurd rfl h.1
    | cons a r => rfl

/-- The state of the loop after the words of `str s`. -/
def finalState (s : Style) : ParseState :=
  { color := s.color.map (·.name), bgcolor := s.bgcolor.map (·.name), attributes := kwOf s, link := s.link }

theorem reads_colorElems {v : StyleVariant} {s : Style} (h : Wf T v s) (K : Kwargs) :
    Reads T v ((colorElems s).flatMap T.split) { attributes := K }
      { color := s.color.map (·.name), bgcolor := s.bgcolor.map (·.name), attributes := K, link := s.link } := by
  -- the colour, then `on` and the background, then `link` and the link: one item each
  have e1 : Reads T v ((match s.color with | some c => [c.name] | none => []).flatMap T.split)
      { attributes := K } { color := s.color.map (·.name), attributes := K } := by
    cases hc : s.color with
    | none => exact .nil _
    | some c =>
      have hw := wfColor_word (h.color c hc)
      have := Reads.one (.fg (hw.low.symm ▸ (wfColor_iff.mp (h.color c hc)).2)) { attributes := K }
      rw [hw.low] at this
      simpa [hw.split, Tok.apply] using this
  have e2 : ∀ st, Reads T v ((match s.bgcolor with | some c => [cl! "on", c.name] | none => []).flatMap T.split)
      st { st with bgcolor := (s.bgcolor.map (·.name)).or st.bgcolor } := by
    intro st
    cases hb : s.bgcolor with
    | none => exact .nil _
    | some b =>
      have hon : T.Word (cl! "on") := T.word_of_lit (by decide)
      simpa [(wfColor_word (h.bgcolor b hb)).split, hon.split, Tok.apply] using
        Reads.one (.bg hon.low (wfColor_iff.mp (h.bgcolor b hb)).2) st
  have e3 : ∀ st, Reads T v ((if strTruthy s.link then [cl! "link", s.link.getD []] else []).flatMap T.split) st
      { st with link := s.link.or st.link } := by
    intro st
    rcases wfLink_cases h.link with hl | ⟨w, hl, hne, hns, ht⟩
    · rw [hl]; exact .nil _
    · have hlink : T.Word (cl! "link") := T.word_of_lit (by decide)
      simpa [hl, ht, T.split_word hne hns, hlink.split, Tok.apply] using Reads.one (.link (w := w) hlink.low) st
  simp only [colorElems, List.flatMap_append]
  simpa using (e1.append (e2 _)).append (e3 _)

theorem reads_render {v : StyleVariant} {s : Style} (h : Wf T v s) :
    Reads T v (T.split (joinSpace (strElems s))) {} (finalState s) := by
  rw [T.split_joinSpace, strElems_flat, List.flatMap_append, List.flatMap_assoc]
  exact (reads_attrs v s pairs13 pairs13_idx {}).append (reads_colorElems h _)

/-- The object `parse` builds from the definition of `s`: the fields of `s`, a fresh hash and `_null`
computed by `__init__`, an empty definition cache. -/
def reparsed (s : Style) : Style :=
  { color := s.color, bgcolor := s.bgcolor, attributes := s.attributes, setAttributes := s.setAttributes,
    link := s.link, hash := s.fieldsKey,
    isNull := !(s.setAttributes ≠ 0 || s.color.isSome || s.bgcolor.isSome || strTruthy s.link),
    styleDef := none }

omit hT in
theorem init_finalState {v : StyleVariant} {s : Style} (h : Wf T v s) :
    initT T v ((finalState s).color.map .str) ((finalState s).bgcolor.map .str) (finalState s).attributes
      (finalState s).link = .ok (reparsed s) := by
  have harg : ∀ {o : Option Color}, (∀ c, o = some c → wfColorT T v c = true) →
      argColorT T v ((o.map (·.name)).map .str) = .ok o := by
    intro o ho
    cases o with
    | none => rfl
    | some c => exact argColor_some.mpr ⟨c, (wfColor_iff.mp (ho c rfl)).2, rfl⟩
  have hattr : (if s.setAttributes = 0 then 0 else s.attributes) = s.attributes := by
    split
    · rename_i h0
      have := h.sub
      rw [h0] at this
      simpa using this
    · rfl
  have hsl : storedLink v s.link = s.link := storedLink_of_ne (fun e => by have := h.link; rw [e] at this; cases this) v
  refine init_ok_iff.mpr ⟨s.color, s.bgcolor, harg h.color, harg h.bgcolor, ?_⟩
  simp [finalState, reparsed, fieldsKey, kwSet_kwOf s h.lt, kwVal_kwOf s h.sub h.lt, hattr, hsl]

theorem joinSpace_eq_nil {es : List (List Char)} (hne : ∀ e ∈ es, e ≠ []) (h : joinSpace es = []) : es = [] := by
  cases es with
  | nil => rfl
  | cons w rest =>
    have hw := hne w (by simp)
    cases rest with
    | nil => exact absurd h hw
    | cons w' r =>
      have : joinSpace (w :: w' :: r) = w ++ ' ' :: joinSpace (w' :: r) := rfl
      rw [this] at h
      simp at h

theorem parse_render_nonempty {v : StyleVariant} {s : Style} (hwf : Wf T v s)
    (hd : (joinSpace (strElems s)).isEmpty = false) : parseT T v (joinSpace (strElems s)) = .ok (reparsed s) :=
  (parseT_of_reads v rfl (by simpa using hd) (reads_render hwf)).trans (init_finalState hwf)

theorem parse_render {v : StyleVariant} {s : Style} (hwf : Wf T v s) :
    ∃ s', parseT T v (render s) = .ok s' ∧ eq s' s = true := by
  unfold render
  by_cases hd : (joinSpace (strElems s)).isEmpty = true
  · -- the definition is `none`: the loop of `parse` on no words ends in the state it started in,
    -- and `reads_render` says that state holds the fields of `s`
    simp only [hd, if_true]
    refine ⟨Style.null, parse_none v, ?_⟩
    have hloop := parseLoop_ok_iff.mpr (reads_render (v := v) hwf)
    rw [List.isEmpty_iff.mp hd, show T.split [] = [] from rfl, parseLoopT.eq_def] at hloop
    simp only [finalState, Except.ok.injEq, ParseState.mk.injEq] at hloop
    obtain ⟨h1, h2, h3, h4⟩ := hloop
    have hset : s.setAttributes = 0 := by
      rw [← kwSet_kwOf s hwf.lt, ← h3]; decide
    have hattr : s.attributes = 0 := by
      have := hwf.sub; rw [hset] at this; simpa using this.symm
    rw [eq_iff]
    simp [Style.null, hset, hattr, ← h4, Option.map_eq_none_iff.mp h1.symm, Option.map_eq_none_iff.mp h2.symm]
  · have hd' : (joinSpace (strElems s)).isEmpty = false := by simpa using hd
    simp only [hd', if_false, Bool.false_eq_true]
    refine ⟨_, parse_render_nonempty hwf hd', ?_⟩
    rw [eq_iff]
    simp [reparsed]

end Style
end RichModel
