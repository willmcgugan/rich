import RichModel.Lemmas.SyntaxRange
/-
Token styles for property C17.  The styled stream `highlightStyled` has the characters of
`highlight`, and every character carries the style of the token it came from — except on the lines before the
start of a range, which the ranged path leaves unstyled.
-/
namespace RichModel.Syntax

/-- the characters of the tokens, each with its token's style id -/
def tokChars (toks : List (Line × StyleId)) : List (Char × StyleId) := toks.flatMap (fun t => t.1.map (fun c => (c, t.2)))

/-- Reference semantics: walk the token characters counting newlines; a character on a line before line `k`
(0-based count of newlines seen `< k`) is unstyled, any other carries its token's style. -/
def specStyle (k : Nat) : Nat → List (Char × StyleId) → Styled
  | _, [] => []
  | ln, (c, id) :: rest => (c, if ln < k then none else some id) :: specStyle k (if c = '\n' then ln + 1 else ln) rest

@[simp] theorem styleWith_fst (st : Option StyleId) (t : Line) : (styleWith st t).map Prod.fst = t := by
  simp [styleWith, Function.comp_def]

theorem specStyle_fst (k : Nat) : ∀ (T : List (Char × StyleId)) (ln : Nat), (specStyle k ln T).map Prod.fst = T.map Prod.fst := by
  intro T ln
  fun_induction specStyle k ln T <;> simp_all

theorem specStyle_noNL (k : Nat) (id : StyleId) (x : Line) (ln : Nat) (rest : List (Char × StyleId)) (h : '\n' ∉ x) :
    specStyle k ln (x.map (fun c => (c, id)) ++ rest) = styleWith (if ln < k then none else some id) x ++ specStyle k ln rest := by
  induction x <;> simp_all [specStyle, styleWith, eq_comm (a := '\n')]

/-- a whole piece gets one style; the line count moves on after its newline -/
theorem specStyle_piece (k : Nat) (id : StyleId) {p : Line} (hp : LinePiece p) (ln : Nat) (rest : List (Char × StyleId)) :
    specStyle k ln (p.map (fun c => (c, id)) ++ rest) =
      styleWith (if ln < k then none else some id) p ++ specStyle k (if endsNL p then ln + 1 else ln) rest := by
  obtain ⟨x, hx, rfl | rfl⟩ := hp
  · rw [endsNL_append_singleton]
    simp only [beq_self_eq_true, if_true, List.map_append, List.map_cons, List.map_nil, List.append_assoc, List.cons_append, List.nil_append]
    rw [specStyle_noNL k id x ln _ hx]
    simp [specStyle, styleWith]
  · rw [endsNL_false_of_not_mem hx]
    simpa using specStyle_noNL k id p ln rest hx

theorem tokChars_cons (p : Line × StyleId) (ps : List (Line × StyleId)) :
    tokChars (p :: ps) = p.1.map (fun c => (c, p.2)) ++ tokChars ps := by
  simp [tokChars]

theorem tokChars_lineTokenizeS (toks : List (Line × StyleId)) : tokChars (lineTokenizeS toks) = tokChars toks := by
  unfold tokChars lineTokenizeS
  rw [List.flatMap_assoc]
  congr 1; funext t
  conv => rhs; rw [← pieces_flatten t.1]
  simp [List.flatMap_def, List.map_flatten, Function.comp_def]

theorem lineTokenizeS_fst (toks : List (Line × StyleId)) :
    (lineTokenizeS toks).map Prod.fst = lineTokenize (toks.map Prod.fst) := by
  induction toks <;> simp_all [lineTokenizeS, lineTokenize, Function.comp_def]

theorem lineTokenizeS_ok (toks : List (Line × StyleId)) : ∀ p ∈ lineTokenizeS toks, LinePiece p.1 :=
  fun p hp => lineTokenize_ok _ p.1 (lineTokenizeS_fst toks ▸ List.mem_map_of_mem hp)

theorem flatMap_styleWith (toks : List (Line × StyleId)) :
    toks.flatMap (fun t => styleWith (some t.2) t.1) = (tokChars toks).map (fun p => (p.1, some p.2)) := by
  induction toks with
  | nil => rfl
  | cons t ts ih =>
    simp only [tokChars, styleWith, List.flatMap_cons, List.map_append, List.map_map] at *
    rw [ih]; rfl

theorem specStyle_of_le (k : Nat) (T : List (Char × StyleId)) (ln : Nat) (h : k ≤ ln) :
    specStyle k ln T = T.map (fun p => (p.1, some p.2)) := by
  induction T generalizing ln with
  | nil => rfl
  | cons p T ih =>
    simp [specStyle, Nat.not_lt.mpr h, ih _ (show k ≤ if p.1 = '\n' then ln + 1 else ln by split <;> omega)]

/-- the take loop: once the line count has reached `k`, every piece is styled with its token's style -/
theorem takeLoopS_prefix (k : Nat) (le : Int) (ps : List (Line × StyleId)) (ln : Nat) (hk : k ≤ ln) :
    takeLoopS le ln ps <+: specStyle k ln (tokChars ps) := by
  -- from line `k` on the reference walk is the `flatMap` of the styled pieces; the loop is that `flatMap` cut short
  rw [specStyle_of_le k _ ln hk, ← flatMap_styleWith]
  clear hk
  fun_induction takeLoopS le ln ps <;> simp_all [List.prefix_append_right_inj]

theorem takeLoopS_fst (le : Int) (ps : List (Line × StyleId)) (ln : Nat) :
    (takeLoopS le ln ps).map Prod.fst = (takeLoop le ln (ps.map Prod.fst)).flatten := by
  fun_induction takeLoopS le ln ps <;> simp_all [takeLoop, Int.not_le.mpr]

/-- The styled skip loop followed by the styled take loop: it stops where the plain skip loop stops, having yielded the
same characters, and styles every character as the reference walk does. -/
theorem skip_take_styles (k : Nat) (le : Int) (ps : List (Line × StyleId)) (ln : Nat) (h : ∀ p ∈ ps, LinePiece p.1) :
    ∃ y ln' r yp, skipLoopS false k ln ps = .ok (y, ln', r) ∧
      skipLoop false k ln (ps.map Prod.fst) = .ok (yp, ln', r.map Prod.fst) ∧ y.map Prod.fst = yp.flatten ∧
      (y ++ takeLoopS le ln' r) <+: specStyle k ln (tokChars ps) := by
  induction ps generalizing ln with
  | nil =>
    refine ⟨[], ln, [], [], ?_, ?_, rfl, by simp [takeLoopS]⟩
    · rw [skipLoopS]; split <;> rfl
    · rw [List.map_nil, skipLoop]; split <;> rfl
  | cons p rest ih =>
    obtain ⟨hp, hr⟩ := List.forall_mem_cons.mp h
    rw [List.map_cons, skipLoopS, skipLoop]
    by_cases hlt : ln < k
    · obtain ⟨y, ln', r, yp, hs, hsp, hy, hf⟩ := ih (if endsNL p.1 then ln + 1 else ln) hr
      refine ⟨styleWith none p.1 ++ y, ln', r, p.1 :: yp, by simp [hlt, hs], by simp [hlt, hsp], by simp [hy], ?_⟩
      rw [tokChars_cons, specStyle_piece k p.2 hp ln]
      simp only [hlt, if_true, List.append_assoc]
      exact (List.prefix_append_right_inj _).mpr hf
    · refine ⟨[], ln, p :: rest, [], by simp [hlt], by simp [hlt], rfl, ?_⟩
      rw [List.nil_append]; exact takeLoopS_prefix k le (p :: rest) ln (by omega)

/-- the styled highlight: same characters as the plain one; without a lexer no token style; with a lexer a prefix of
the reference stream (styles of the tokens, none before line `a` of a range `(a, b)`) -/
theorem highlightStyled_spec (found : Bool) (toks : List (Line × StyleId)) (src : List Char) (range : Option (Int × Int)) :
    ∃ st, highlightStyled false found toks src range = .ok st ∧
      highlight false found (toks.map Prod.fst) src range = .ok (st.map Prod.fst) ∧
      (found = false → ∀ p ∈ st, p.2 = none) ∧
      (found = true → st <+: specStyle (match range with | some (a, _) => (a - 1).toNat | none => 0) 0 (tokChars toks)) := by
  cases found with
  | false =>
    refine ⟨styleWith none (stripCtl src), by simp [highlightStyled], by simp [highlight], ?_, nofun⟩
    intro _ p hp
    simp only [styleWith, List.mem_map] at hp
    obtain ⟨c, _, rfl⟩ := hp; rfl
  | true =>
    cases range with
    | none =>
      refine ⟨toks.flatMap (fun t => styleWith (some t.2) t.1), by simp [highlightStyled], ?_, nofun, fun _ => ?_⟩
      · simp [highlight, List.flatMap_def, styleWith, Function.comp_def]
      · simp only
        rw [specStyle_of_le _ _ _ (Nat.zero_le _), flatMap_styleWith]; exact List.prefix_refl _
    | some ab =>
      obtain ⟨a, b⟩ := ab
      obtain ⟨y, ln', r, yp, hs, hsp, hy, hf⟩ := skip_take_styles (a - 1).toNat b (lineTokenizeS toks) 0 (lineTokenizeS_ok toks)
      rw [lineTokenizeS_fst] at hsp
      rw [tokChars_lineTokenizeS] at hf
      refine ⟨y ++ takeLoopS b ln' r, by simp only [highlightStyled, Bool.not_true, Bool.false_eq_true, if_false, hs], ?_, nofun, fun _ => hf⟩
      simp only [highlight, Bool.not_true, Bool.false_eq_true, if_false, hsp]
      rw [List.map_append, hy, takeLoopS_fst]; simp

end RichModel.Syntax
