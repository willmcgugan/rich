import RichModel.Lemmas.WrapFold
/-!
Every overflow mode, justify "full" (the other modes: `finishLine_stage` of `Lemmas/WrapStages`), repaired variant.
What becomes of a divided line `d` (stripped by `rstrip_end`, rebuilt from its words unless it is the last line of the
paragraph, finally cropped) shows, as non-whitespace characters, a prefix of `d`'s non-whitespace characters — each with
the effective style it has in `d`, modulo the null style that `Text("").join` puts in front — possibly surrounded by
ellipsis characters (`InkPrefix`).
-/
namespace RichModel
namespace Wrap
open Text
variable {σ : Type}
variable {chars : Bool}

/-- made of ellipsis characters only -/
def AllEll (e : List (Char × List σ)) : Prop := ∀ p ∈ e, p.1 = '…'

theorem filter_take_prefix {α : Type} (q : α → Bool) : ∀ (v : List α) (k : Nat),
    ∃ n, (v.take k).filter q = (v.filter q).take n
  | [], _ => ⟨0, by simp⟩
  | _ :: _, 0 => ⟨0, by simp⟩
  | a :: v, k + 1 => by
    obtain ⟨n, hn⟩ := filter_take_prefix q v k
    simp only [List.take_succ_cons, List.filter_cons]
    split
    · exact ⟨n + 1, by simp [hn]⟩
    · exact ⟨n, hn⟩

theorem nsv_filler_allEll (v : List (Char × List σ)) (h : Filler v) : AllEll (nsv v) := by
  intro p hp
  obtain ⟨hm, hns⟩ := List.mem_filter.mp hp
  rcases h p hm with h1 | h1
  · rw [h1, space_isSpace] at hns; simp at hns
  · exact h1

/-- the non-whitespace characters of a `Kept` line: ellipses, a prefix of the original's, ellipses -/
theorem kept_ink {L M : Text σ} (h : Kept L M) :
    ∃ e1 n e2, nsv M.view = e1 ++ ((nsv L.view).take n ++ e2) ∧ AllEll e1 ∧ AllEll e2 := by
  obtain ⟨pre, k, post, hv, hpre, hpost⟩ := h.shape
  obtain ⟨n, hn⟩ := filter_take_prefix (fun p : Char × List σ => !pyIsSpace p.1) L.view k
  refine ⟨nsv pre, n, nsv post, ?_, nsv_filler_allEll _ hpre, nsv_filler_allEll _ hpost⟩
  rw [hv, nsv_append, nsv_append]
  show _ ++ (List.filter _ (L.view.take k) ++ _) = _
  rw [hn]; rfl

/-- `F` shows (as non-whitespace characters, null style erased) a prefix of `d`'s, between ellipses -/
def InkPrefix [BEq σ] (A : StyleAlg σ) (d F : Text σ) : Prop :=
  ∃ e1 n e2, dropNull A (nsv F.view) = e1 ++ (dropNull A ((nsv d.view).take n) ++ e2) ∧ AllEll e1 ∧ AllEll e2

theorem allEll_dropNull [BEq σ] (A : StyleAlg σ) (e : List (Char × List σ)) (h : AllEll e) : AllEll (dropNull A e) := by
  intro p hp
  simp only [dropNull, List.mem_map] at hp
  obtain ⟨q, hq, rfl⟩ := hp
  exact h q hq

theorem inkPrefix_of_kept [BEq σ] (A : StyleAlg σ) {d F : Text σ} (h : Kept d F) : InkPrefix A d F := by
  obtain ⟨e1, n, e2, hv, h1, h2⟩ := kept_ink h
  exact ⟨dropNull A e1, n, dropNull A e2, by rw [hv, dropNull_append, dropNull_append],
    allEll_dropNull A _ h1, allEll_dropNull A _ h2⟩

theorem inkPrefix_rebuilt [BEq σ] [LawfulBEq σ] (cw : Char → Nat) (A : StyleAlg σ) (w : Nat) {d l R F : Text σ}
    (hdl : ∃ k, l.view = d.view.take k) (hR : Rebuilt cw A w l R) (hF : Kept R F) : InkPrefix A d F := by
  obtain ⟨e1, n, e2, hv, h1, h2⟩ := kept_ink hF
  obtain ⟨k, hk⟩ := hdl
  obtain ⟨m, hm⟩ := filter_take_prefix (fun p : Char × List σ => !pyIsSpace p.1) d.view k
  have hl : nsv l.view = (nsv d.view).take m := by rw [hk]; exact hm
  refine ⟨dropNull A e1, min n m, dropNull A e2, ?_, allEll_dropNull A _ h1, allEll_dropNull A _ h2⟩
  rw [hv, hR.ink, hl, dropNull_append, dropNull_append, ← List.map_take, dropNull_cons_null, List.take_take]

/-- the lines handed to `wrapLine`'s justify "full" stage and what finally comes out, pointwise: a line is either left as
it is or rebuilt (`FullRel.pointwise`), and in both cases stripped before and cropped after -/
theorem fullRel_inkPrefix [BEq σ] [LawfulBEq σ] (cw : Char → Nat)
    (A : StyleAlg σ) (w : Nat) (o : Overflow) (ds outs : List (Text σ)) (hi : AllInv ds)
    (h : FullRel cw A w (ds.map (fun l => Text.rstripEndW chars cw Variant.repaired l (w : Int))) outs) :
    ∀ p ∈ ds.zip (outs.map (fun l => l.truncate cw (w : Int) (some o))), InkPrefix A p.1 p.2 := by
  intro p hp
  rw [List.zip_map_right] at hp
  obtain ⟨⟨d, out⟩, hq, rfl⟩ := List.mem_map.mp hp
  have hd := hi d (List.of_mem_zip hq).1
  have h0 := (rstripEnd_stage (chars := chars) cw w o d hd w).kept
  rcases FullRel.pointwise cw A w _ outs h (Text.rstripEndW chars cw Variant.repaired d (w : Int), out)
    (by rw [List.zip_map_left]; exact List.mem_map.mpr ⟨(d, out), hq, rfl⟩) with he | hr
  · obtain rfl : out = Text.rstripEndW chars cw Variant.repaired d (w : Int) := he
    exact inkPrefix_of_kept A (h0.trans (truncate_stage cw _ h0.inv w o false).kept)
  · obtain ⟨k, _, hs⟩ := rstripEnd_spec (chars := chars) cw d hd w
    exact inkPrefix_rebuilt cw A w ⟨k, hs.view⟩ hr (truncate_stage cw out hr.inv w o false).kept

end Wrap
end RichModel
