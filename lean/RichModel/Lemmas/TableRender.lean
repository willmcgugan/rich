import RichModel.Lemmas.Table
import RichModel.Lemmas.Ratio
/-!
Structure of `Table.renderRow` / `Table.renderBody`: widths of all lines, the order of the cell lines,
what each cell line holds; then the end-to-end reading of the rendered CHARACTERS of a table: slicing a rendered line by
cell offsets (`cellSpan`), and the characters of one cell collected over the lines of its row.
-/
namespace RichModel

/-- edge characters are drawn: `_box and show_edge` -/
def Table.edged (t : Table) : Bool := t.box.isSome && t.showEdge
/-- cells of the divider between neighbouring columns: 1 with a box, 0 without -/
def Table.sepLen (t : Table) : Nat := if t.box.isSome then 1 else 0
/-- The cell width of every body line. -/
def Table.bodyWidth (t : Table) (widths : List Nat) : Nat := lineWidth t.edged t.sepLen widths

theorem bodyWidth_eq (t : Table) (widths : List Nat) (hlen : widths.length = t.columns.length) (hne : t.columns ≠ []) :
    (t.bodyWidth widths : Int) = t.extraWidth + (widths.sum : Int) := by
  have hn : 1 ≤ t.columns.length := List.length_pos_iff.mpr hne
  unfold Table.bodyWidth lineWidth Table.edged Table.sepLen Table.extraWidth
  rw [hlen]
  cases t.box.isSome <;> cases t.showEdge <;> simp <;> omega

/-- `_extra_width` of a table with `n` columns is at most the edges and dividers of a table with a box (`q`: some table that
has a box whenever this one has), and not negative when there is a column. -/
theorem extraWidth_le (t : Table) (n : Nat) (hn : t.columns.length = n) (q : Bool) (hq : t.box.isSome = true → q = true) :
    (1 ≤ n → 0 ≤ t.extraWidth) ∧ t.extraWidth ≤ (((if q && t.showEdge then 2 else 0) + (if q then n - 1 else 0) : Nat) : Int) := by
  unfold Table.extraWidth
  rw [hn]
  generalize t.box.isSome = p at hq ⊢
  cases p <;> cases q <;> cases t.showEdge <;> simp at hq ⊢ <;> omega

/-- A structured line that is emitted once and is `W` cells wide. -/
structure BodyLine.OnceWide (cw : Char → Nat) (W : Nat) (l : BodyLine) : Prop where
  once : l.rep = 1
  wide : cellLen cw l.once = W

theorem BodyLine.OnceWide.text_width {cw : Char → Nat} {W : Nat} {l : BodyLine} (h : l.OnceWide cw W) : cellLen cw l.text = W := by
  rw [text_of_rep_one l h.once]; exact h.wide

/-- `(row, line)` of a cell line; `none` for separators. -/
def BodyLine.cellTag (l : BodyLine) : Option (Nat × Nat) :=
  match l.tag with
  | .cell i k => some (i, k)
  | _ => none

/-- A separator line: it carries no cell tag and, emitted once, reads as a `Box.get_row`-style line over the column widths, drawn
with the table's edge setting in characters of the table's box (one cell wide each when the box's are and the space is); with
`leading` repaired it IS emitted once. -/
structure Table.IsSep (fl : Flags) (cw : Char → Nat) (t : Table) (widths : List Nat) (l : BodyLine) : Prop where
  noTag : l.cellTag = none
  once : fl.leadingRepeat = false → l.rep = 1
  rule : ∃ b tag chars, t.box = some b ∧ (cw ' ' = 1 → b.wf cw → chars.wf cw) ∧
    l.once = (ruleLine tag chars t.showEdge widths).once

theorem Table.IsSep.onceWide {fl : Flags} {cw : Char → Nat} {t : Table} {widths : List Nat} {l : BodyLine} (h : t.IsSep fl cw widths l)
    (hsp : cw ' ' = 1) (hfl : fl.leadingRepeat = false) (hwf : ∀ b, t.box = some b → b.wf cw) : l.OnceWide cw (t.bodyWidth widths) := by
  obtain ⟨b, tag, chars, hb, hch, honce⟩ := h.rule
  refine ⟨h.once hfl, ?_⟩
  rw [honce, ruleLine_width cw tag chars (hch hsp (hwf b hb))]
  simp [Table.bodyWidth, Table.edged, Table.sepLen, hb]

/-- A character of the box occupies one cell, a line feed none. -/
theorem Table.IsSep.no_nl {fl : Flags} {cw : Char → Nat} {t : Table} {widths : List Nat} {l : BodyLine} (h : t.IsSep fl cw widths l)
    (hsp : cw ' ' = 1) (hnl : cw '\n' = 0) (hwf : ∀ b, t.box = some b → b.wf cw) : ∀ c ∈ l.once, c ≠ '\n' := by
  obtain ⟨b, tag, chars, hb, hch, he⟩ := h.rule
  obtain ⟨hl, hh, hd, hr⟩ := hch hsp (hwf b hb)
  rw [he]
  intro c hc heq
  subst heq
  have h1 : cw '\n' = 1 := by
    unfold ruleLine BodyLine.once at hc
    simp only [List.mem_append] at hc
    rcases hc with (hc | hc) | hc
    · split at hc
      · simp only [List.mem_singleton] at hc; rw [hc]; exact hl
      · simp at hc
    · rcases mem_joinSep _ _ _ hc with hc | ⟨p, hp, hc⟩
      · simp only [List.mem_singleton] at hc; rw [hc]; exact hd
      · simp only [List.mem_map] at hp
        obtain ⟨w, _, rfl⟩ := hp
        simp only [List.mem_replicate] at hc
        rw [hc.2]; exact hh
    · split at hc
      · simp only [List.mem_singleton] at hc; rw [hc]; exact hr
      · simp at hc
  omega

theorem getRow_sep (fl : Flags) (cw : Char → Nat) (t : Table) (widths : List Nat) (b : Box) (hb : t.box = some b) (tag : LineTag)
    (lv : RowLevel) (htag : (b.getRow tag lv t.showEdge widths).cellTag = none) :
    t.IsSep fl cw widths (b.getRow tag lv t.showEdge widths) :=
  ⟨htag, fun _ => rfl, b, tag, b.levelChars lv, hb, fun hsp hwf => Box.levelChars_wf cw hsp b hwf lv, rfl⟩

/-- A line of the box that is drawn or not: the top and bottom edge, the separators under the header and above the footer. -/
theorem optLine_sep (fl : Flags) (cw : Char → Nat) (t : Table) (widths : List Nat) (c : Bool) (L : Box → BodyLine)
    (h : ∀ b, t.box = some b → c = true → t.IsSep fl cw widths (L b)) :
    ∀ l ∈ (match t.box with | some b => if c then [L b] else [] | none => []), t.IsSep fl cw widths l := by
  intro l hl
  split at hl
  · rename_i b hb
    split at hl
    · rename_i hc
      cases List.mem_singleton.mp hl
      exact h b hb hc
    · cases hl
  · cases hl

theorem footSep_sep (fl : Flags) (cw : Char → Nat) (t : Table) (widths : List Nat) (last : Bool) :
    ∀ l ∈ t.footSep widths last, t.IsSep fl cw widths l :=
  optLine_sep fl cw t widths _ _ (fun b hb _ => getRow_sep fl cw t widths b hb _ _ rfl)

theorem headSep_sep (fl : Flags) (cw : Char → Nat) (t : Table) (widths : List Nat) (first : Bool) :
    ∀ l ∈ t.headSep widths first, t.IsSep fl cw widths l :=
  optLine_sep fl cw t widths _ _ (fun b hb _ => getRow_sep fl cw t widths b hb _ _ rfl)

/-- The separator after a row; with `leading` as found it is ONE line repeated `leading` times. -/
theorem between_sep (fl : Flags) (cw : Char → Nat) (t : Table) (widths : List Nat) (n index : Nat) (first last : Bool) :
    ∀ l ∈ t.between fl widths n index first last, t.IsSep fl cw widths l := by
  intro l hl
  unfold Table.between at hl
  split at hl
  · rename_i b hb
    split at hl
    · unfold Table.sepLines at hl
      split at hl
      · split at hl
        · -- `leading` as found: the one line that is repeated, which is why `IsSep` promises `rep = 1` only for the repaired code
          rename_i hrep
          cases List.mem_singleton.mp hl
          exact ⟨rfl, fun hfl => absurd (hrep.symm.trans hfl) (by decide), b, .midSep, b.levelChars .mid, hb,
            fun hsp hwf => Box.levelChars_wf cw hsp b hwf .mid, rfl⟩
        · cases List.eq_of_mem_replicate hl
          exact getRow_sep fl cw t widths b hb _ _ rfl
      · cases List.mem_singleton.mp hl
        exact getRow_sep fl cw t widths b hb _ _ rfl
    · cases hl
  · cases hl

/-- Cells of the left edge of a cell line (and of its right edge). -/
def Table.leftLen (t : Table) : Nat := if t.edged then 1 else 0

theorem cellLine_form (cw : Char → Nat) (t : Table) (hwf : ∀ b, t.box = some b → b.wf cw) (widths : List Nat) (first last : Bool)
    (index : Nat) (row : List Cell) (k : Nat) :
    let line := t.cellLine cw widths first last index row k
    line.rep = 1 ∧ line.parts = (shapeRow cw widths row).2.map (fun c => c.getD k []) ∧
      cellLen cw line.left = t.leftLen ∧ cellLen cw line.right = t.leftLen ∧ cellLen cw line.sep = t.sepLen := by
  unfold Table.cellLine Table.leftLen Table.edged Table.sepLen
  cases hb : t.box with
  | none => exact ⟨rfl, rfl, rfl, rfl, rfl⟩
  | some b =>
    obtain ⟨hl, _, hd, hr⟩ := Box.rowChars_wf cw b (hwf b hb) first last
    refine ⟨rfl, rfl, ?_, ?_, by simp [cellLen, hd]⟩ <;> cases t.showEdge <;> simp [cellLen, hl, hr]

theorem cellLine_edges (cw : Char → Nat) (t : Table) (hwf : ∀ b, t.box = some b → b.wf cw) (widths : List Nat)
    (first last : Bool) (index : Nat) (row : List Cell) (k : Nat) :
    let l := t.cellLine cw widths first last index row k
    (l.left = [] ∨ ∃ c, l.left = [c] ∧ cw c = 1) ∧ (l.sep = [] ∨ ∃ c, l.sep = [c] ∧ cw c = 1) ∧
    (l.right = [] ∨ ∃ c, l.right = [c] ∧ cw c = 1) ∧
    l.left.length + l.right.length = (if t.edged then 2 else 0) ∧ l.sep.length = t.sepLen := by
  unfold Table.cellLine Table.edged Table.sepLen
  cases hb : t.box with
  | none => simp
  | some b =>
    obtain ⟨wl, _, wd, wr⟩ := Box.rowChars_wf cw b (hwf b hb) first last
    cases t.showEdge <;> simp [wl, wd, wr]

theorem cellLine_onceWide (cw : Char → Nat) (hsp : cw ' ' = 1) (h2 : ∀ c, cw c ≤ 2) (t : Table)
    (hwf : ∀ b, t.box = some b → b.wf cw) (widths : List Nat) (first last : Bool) (index : Nat) (row : List Cell)
    (hlen : row.length = widths.length) (k : Nat) (hk : k < (shapeRow cw widths row).1) :
    (t.cellLine cw widths first last index row k).OnceWide cw (t.bodyWidth widths) := by
  obtain ⟨hrep, hparts, hl, hr, hs⟩ := cellLine_form cw t hwf widths first last index row k
  have hp := shapeRow_parts cw hsp h2 widths row hlen k hk
  have hpl : (shapeRow cw widths row).2.length = widths.length := by simpa using congrArg List.length hp
  refine ⟨hrep, ?_⟩
  rw [BodyLine.once, cellLen_append, cellLen_append, cellLen_joinSep, hl, hr, hs, hparts, hp, List.length_map, hpl,
    Table.bodyWidth, lineWidth, Table.leftLen]
  split <;> omega

theorem zipRows_row_length (cols : List (List Cell)) : ∀ row ∈ zipRows cols, row.length = cols.length := by
  intro row hrow
  unfold zipRows at hrow
  cases cols with
  | nil => simp at hrow
  | cons c cs =>
    simp only [List.mem_map, List.mem_range] at hrow
    obtain ⟨i, _, rfl⟩ := hrow
    simp

theorem cellLine_tag (cw : Char → Nat) (t : Table) (widths : List Nat) (first last : Bool) (index : Nat) (row : List Cell) (k : Nat) :
    (t.cellLine cw widths first last index row k).cellTag = some (index, k) := by
  unfold Table.cellLine
  cases t.box <;> rfl

theorem renderRow_form (fl : Flags) (cw : Char → Nat) (t : Table) (widths : List Nat) (n index : Nat) (row : List Cell) :
    ∃ pre post, t.renderRow fl cw widths n index row =
        pre ++ (List.range (shapeRow cw widths row).1).map (t.cellLine cw widths (index == 0) (index + 1 == n) index row) ++ post ∧
      (∀ l ∈ pre, t.IsSep fl cw widths l) ∧ ∀ l ∈ post, t.IsSep fl cw widths l :=
  ⟨_, t.headSep widths _ ++ t.between fl widths n index _ _, by rw [Table.renderRow, List.append_assoc],
    footSep_sep fl cw t widths _,
    fun l hl => (List.mem_append.mp hl).elim (headSep_sep fl cw t widths _ l) (between_sep fl cw t widths n index _ _ l)⟩

/-- The rows `_render` walks: `zip(*columns' cells)`. -/
def Table.rows (t : Table) : List (List Cell) := zipRows (t.columns.map t.getCells)

theorem rows_row_length (t : Table) (widths : List Nat) (hlen : widths.length = t.columns.length) (i : Nat) (row : List Cell)
    (hrow : t.rows[i]? = some row) : row.length = widths.length := by
  rw [zipRows_row_length _ row (List.mem_of_getElem? hrow), List.length_map, hlen]

theorem renderBody_form (fl : Flags) (cw : Char → Nat) (t : Table) (widths : List Nat) :
    ∃ top bottom, t.renderBody fl cw widths =
        top ++ t.rows.zipIdx.flatMap (fun ri => t.renderRow fl cw widths t.rows.length ri.2 ri.1) ++ bottom ∧
      (∀ l ∈ top, t.IsSep fl cw widths l) ∧ ∀ l ∈ bottom, t.IsSep fl cw widths l :=
  ⟨_, _, rfl,
    optLine_sep fl cw t widths _ _ (fun b hb he => ⟨rfl, fun _ => rfl, b, .top, b.top, hb, fun _ h => h.1, by rw [he]; rfl⟩),
    optLine_sep fl cw t widths _ _
      (fun b hb he => ⟨rfl, fun _ => rfl, b, .bottom, b.bottom, hb, fun _ h => h.2.2.2.2.2.2.2, by rw [he]; rfl⟩)⟩

theorem renderBody_nil (fl : Flags) (cw : Char → Nat) (t : Table) (ht : t.columns = []) :
    t.renderBody fl cw [] =
      (match t.box with | some b => if t.showEdge then [b.getTop []] else [] | none => []) ++
      (match t.box with | some b => if t.showEdge then [b.getBottom []] else [] | none => []) := by
  cases hb : t.box <;> simp [Table.renderBody, ht, zipRows, hb]

theorem cellLine_mem_body (fl : Flags) (cw : Char → Nat) (t : Table) (widths : List Nat) (i : Nat) (row : List Cell)
    (hrow : t.rows[i]? = some row) (k : Nat) (hk : k < (shapeRow cw widths row).1) :
    t.cellLine cw widths (i == 0) (i + 1 == t.rows.length) i row k ∈ t.renderBody fl cw widths := by
  obtain ⟨top, bottom, hb, _⟩ := renderBody_form fl cw t widths
  obtain ⟨pre, post, hr, _⟩ := renderRow_form fl cw t widths t.rows.length i row
  rw [hb]
  refine List.mem_append_left _ (List.mem_append_right _ (List.mem_flatMap.mpr ⟨(row, i), List.mem_zipIdx_iff_getElem?.2 hrow, ?_⟩))
  rw [hr]
  exact List.mem_append_left _ (List.mem_append_right _ (List.mem_map.mpr ⟨k, List.mem_range.mpr hk, rfl⟩))

theorem renderBody_mem (fl : Flags) (cw : Char → Nat) (t : Table) (widths : List Nat) :
    ∀ l ∈ t.renderBody fl cw widths,
      (∃ ri ∈ t.rows.zipIdx, ∃ k, k < (shapeRow cw widths ri.1).1 ∧
        l = t.cellLine cw widths (ri.2 == 0) (ri.2 + 1 == t.rows.length) ri.2 ri.1 k) ∨
      t.IsSep fl cw widths l := by
  intro l hl
  obtain ⟨top, bottom, hb, htop, hbot⟩ := renderBody_form fl cw t widths
  rw [hb] at hl
  simp only [List.mem_append, List.mem_flatMap] at hl
  rcases hl with (hl | ⟨ri, hri, hl⟩) | hl
  · exact Or.inr (htop l hl)
  · obtain ⟨pre, post, hr, hpre, hpost⟩ := renderRow_form fl cw t widths t.rows.length ri.2 ri.1
    rw [hr] at hl
    simp only [List.mem_append, List.mem_map, List.mem_range] at hl
    rcases hl with (hl | ⟨k, hk, rfl⟩) | hl
    · exact Or.inr (hpre l hl)
    · exact Or.inl ⟨ri, hri, k, hk, rfl⟩
    · exact Or.inr (hpost l hl)
  · exact Or.inr (hbot l hl)

theorem renderBody_onceWide (cw : Char → Nat) (hsp : cw ' ' = 1) (h2 : ∀ c, cw c ≤ 2) (fl : Flags) (hfl : fl.leadingRepeat = false)
    (t : Table) (hwf : ∀ b, t.box = some b → b.wf cw) (widths : List Nat) (hlen : widths.length = t.columns.length) :
    ∀ l ∈ t.renderBody fl cw widths, l.OnceWide cw (t.bodyWidth widths) := by
  intro l hl
  rcases renderBody_mem fl cw t widths l hl with ⟨ri, hri, k, hk, rfl⟩ | h
  · exact cellLine_onceWide cw hsp h2 t hwf widths _ _ ri.2 ri.1
      (rows_row_length t widths hlen ri.2 ri.1 (List.mem_zipIdx_iff_getElem?.mp hri)) k hk
  · exact h.onceWide hsp hfl hwf

theorem filterMap_cellTag_seps (fl : Flags) (cw : Char → Nat) (t : Table) (widths : List Nat) (top mid bottom : List BodyLine)
    (h1 : ∀ l ∈ top, t.IsSep fl cw widths l) (h2 : ∀ l ∈ bottom, t.IsSep fl cw widths l) :
    (top ++ mid ++ bottom).filterMap BodyLine.cellTag = mid.filterMap BodyLine.cellTag := by
  have hnil : ∀ ls : List BodyLine, (∀ l ∈ ls, t.IsSep fl cw widths l) → ls.filterMap BodyLine.cellTag = [] := fun ls h =>
    List.filterMap_eq_nil_iff.mpr (fun l hl => (h l hl).noTag)
  rw [List.filterMap_append, List.filterMap_append, hnil top h1, hnil bottom h2, List.nil_append, List.append_nil]

theorem renderBody_tags (fl : Flags) (cw : Char → Nat) (t : Table) (widths : List Nat) :
    (t.renderBody fl cw widths).filterMap BodyLine.cellTag
      = t.rows.zipIdx.flatMap (fun ri => (List.range (shapeRow cw widths ri.1).1).map (fun k => (ri.2, k))) := by
  obtain ⟨top, bottom, hb, htop, hbot⟩ := renderBody_form fl cw t widths
  rw [hb, filterMap_cellTag_seps fl cw t widths _ _ _ htop hbot, List.filterMap_flatMap]
  refine congrArg (List.flatMap · _) (funext fun ri => ?_)
  obtain ⟨pre, post, hr, hpre, hpost⟩ := renderRow_form fl cw t widths t.rows.length ri.2 ri.1
  rw [hr, filterMap_cellTag_seps fl cw t widths _ _ _ hpre hpost, List.filterMap_map]
  rw [show (BodyLine.cellTag ∘ t.cellLine cw widths (ri.2 == 0) (ri.2 + 1 == t.rows.length) ri.2 ri.1) = (fun k => some (ri.2, k))
    from funext fun k => cellLine_tag cw t widths _ _ ri.2 ri.1 k]
  exact congrFun (List.filterMap_eq_map (f := fun k => (ri.2, k))) _

theorem renderBody_cell_line (fl : Flags) (cw : Char → Nat) (t : Table) (widths : List Nat) (l : BodyLine) (i k : Nat)
    (hl : l ∈ t.renderBody fl cw widths) (htag : l.cellTag = some (i, k)) :
    ∃ row, t.rows[i]? = some row ∧ k < (shapeRow cw widths row).1 ∧
      l = t.cellLine cw widths (i == 0) (i + 1 == t.rows.length) i row k := by
  rcases renderBody_mem fl cw t widths l hl with ⟨⟨row, idx⟩, hri, k', hk', rfl⟩ | h
  · rw [cellLine_tag] at htag
    cases htag
    exact ⟨row, List.mem_zipIdx_iff_getElem?.mp hri, hk', rfl⟩
  · rw [h.noTag] at htag; cases htag

theorem render_some {fl : Flags} {cw : Char → Nat} {t : Table} {avail : Int} {r : Rendered} (h : t.render fl cw avail = some r) :
    t.calcWidths fl (t.width.getD avail - t.extraWidth) = some r.widths ∧ r.body = t.renderBody fl cw (r.widths.map Int.toNat) := by
  unfold Table.render at h
  cases hws : t.calcWidths fl (t.width.getD avail - t.extraWidth) with
  | none => simp only [hws] at h; cases h
  | some ws => simp only [hws, Option.some.injEq] at h; subst h; exact ⟨rfl, rfl⟩

/-- Column `j` starts at this cell offset in every cell line: the left edge, the earlier columns and one
divider per earlier column. -/
def Table.colOffset (t : Table) (widths : List Nat) (j : Nat) : Nat := t.leftLen + (widths.take j).sum + j * t.sepLen

theorem cellLine_column (cw : Char → Nat) (hsp : cw ' ' = 1) (h2 : ∀ c, cw c ≤ 2) (t : Table)
    (hwf : ∀ b, t.box = some b → b.wf cw) (widths : List Nat) (first last : Bool) (index : Nat) (row : List Cell)
    (hlen : row.length = widths.length) (k : Nat) (hk : k < (shapeRow cw widths row).1) (j : Nat) (hj : j < widths.length) :
    let line := t.cellLine cw widths first last index row k
    ∃ pre post : List Char, line.text = pre ++ line.parts.getD j [] ++ post ∧ cellLen cw pre = t.colOffset widths j ∧
      cellLen cw (line.parts.getD j []) = widths[j] := by
  intro line
  obtain ⟨hrep, hparts, hl, _, hs⟩ := cellLine_form cw t hwf widths first last index row k
  have hpw : line.parts.map (cellLen cw) = widths := by
    rw [hparts]; exact shapeRow_parts cw hsp h2 widths row hlen k hk
  have hjp : j < line.parts.length := by
    have := congrArg List.length hpw
    simp only [List.length_map] at this; omega
  have hgetD : line.parts.getD j [] = line.parts[j] := by
    rw [List.getD_eq_getElem?_getD, List.getElem?_eq_getElem hjp, Option.getD_some]
  have hpj : cellLen cw line.parts[j] = widths[j] := by
    have : (line.parts.map (cellLen cw))[j]'(by simpa using hjp) = widths[j] := by simp only [hpw]
    simpa using this
  obtain ⟨pre, post, hsplit, hpre⟩ := joinSep_split cw line.sep line.parts j hjp
  rw [hgetD]
  refine ⟨line.left ++ pre, post ++ line.right, ?_, ?_, hpj⟩
  · rw [text_of_rep_one line hrep]
    simp only [BodyLine.once, hsplit, List.append_assoc]
  · rw [cellLen_append, hpre, List.map_take, hpw, hl, hs, Table.colOffset, Nat.add_assoc]

theorem cell_height_le (cw : Char → Nat) (widths : List Nat) (row : List Cell) (hlen : row.length = widths.length)
    (j : Nat) (hj : j < widths.length) :
    ((row[j]'(by omega)).renderLines widths[j]).length ≤ (shapeRow cw widths row).1 := by
  unfold shapeRow
  simp only
  apply (rowHeight_ge _).2
  rw [List.mem_map]
  refine ⟨(widths[j], row[j]'(by omega)), ?_, rfl⟩
  rw [List.mem_iff_getElem]
  exact ⟨j, by simp; omega, by simp⟩

theorem foldl_min_const (n : Nat) : ∀ (ls : List (List Cell)), (∀ l ∈ ls, l.length = n) →
    ls.foldl (fun m l => min m l.length) n = n
  | [], _ => rfl
  | l :: ls, h => by
    simp only [List.foldl_cons, h l (by simp), Nat.min_self]
    exact foldl_min_const n ls (fun x hx => h x (List.mem_cons_of_mem _ hx))

theorem getCells_length (t : Table) (c : Column) :
    (t.getCells c).length = (if t.showHeader then 1 else 0) + c.cells.length + (if t.showFooter then 1 else 0) := by
  unfold Table.getCells
  cases t.showHeader <;> cases t.showFooter <;> simp <;> omega

theorem zipRows_uniform (cols : List (List Cell)) (n : Nat) (hne : cols ≠ []) (h : ∀ l ∈ cols, l.length = n) :
    zipRows cols = (List.range n).map (fun i => cols.map (fun l => l.getD i default)) := by
  cases cols with
  | nil => exact absurd rfl hne
  | cons c cs =>
    unfold zipRows
    simp only
    rw [h c List.mem_cons_self, foldl_min_const n cs (fun l hl => h l (List.mem_cons_of_mem _ hl))]

theorem rows_append {α β : Type} (d : β) (cols : List α) (f g : α → List β) (n k : Nat) (hf : ∀ c ∈ cols, (f c).length = n) :
    (List.range (n + k)).map (fun i => cols.map (fun c => (f c ++ g c).getD i d))
      = (List.range n).map (fun i => cols.map (fun c => (f c).getD i d))
        ++ (List.range k).map (fun i => cols.map (fun c => (g c).getD i d)) := by
  rw [List.range_add, List.map_append, List.map_map]
  congr 1
  · refine List.map_congr_left (fun i hi => List.map_congr_left (fun c hc => ?_))
    have := hf c hc
    rw [List.getD_eq_getElem?_getD, List.getD_eq_getElem?_getD, List.getElem?_append_left (by have := List.mem_range.mp hi; omega)]
  · refine List.map_congr_left (fun i _ => List.map_congr_left (fun c hc => ?_))
    simp only [List.getD_eq_getElem?_getD]
    rw [List.getElem?_append_right (by have := hf c hc; omega), hf c hc, Nat.add_sub_cancel_left]

/-- Drop the first `n` cells of a line. -/
def dropCells (cw : Char → Nat) : List Char → Nat → List Char
  | [], _ => []
  | c :: s, n => if n = 0 then c :: s else dropCells cw s (n - cw c)

/-- Take the first `n` cells of a line. -/
def takeCells (cw : Char → Nat) : List Char → Nat → List Char
  | [], _ => []
  | c :: s, n => if n = 0 then [] else c :: takeCells cw s (n - cw c)

/-- The characters a line shows in the cells `[off, off + w)`. -/
def cellSpan (cw : Char → Nat) (line : List Char) (off w : Nat) : List Char := takeCells cw (dropCells cw line off) w

theorem dropCells_append (cw : Char → Nat) : ∀ (a b : List Char), (∀ c ∈ a, 1 ≤ cw c) → dropCells cw (a ++ b) (cellLen cw a) = b
  | [], b, _ => by cases b <;> simp [dropCells, cellLen]
  | c :: a, b, h => by
    have hc := h c (by simp)
    have ih := dropCells_append cw a b (fun x hx => h x (List.mem_cons_of_mem _ hx))
    simp only [List.cons_append, dropCells, cellLen, List.map_cons, List.sum_cons]
    have : ¬ (cw c + (a.map cw).sum = 0) := by omega
    simp only [this, if_false, Nat.add_sub_cancel_left]
    exact ih

theorem takeCells_append (cw : Char → Nat) : ∀ (a b : List Char), (∀ c ∈ a, 1 ≤ cw c) → takeCells cw (a ++ b) (cellLen cw a) = a
  | [], b, _ => by cases b <;> simp [takeCells, cellLen]
  | c :: a, b, h => by
    have hc := h c (by simp)
    have ih := takeCells_append cw a b (fun x hx => h x (List.mem_cons_of_mem _ hx))
    simp only [List.cons_append, takeCells, cellLen, List.map_cons, List.sum_cons]
    have : ¬ (cw c + (a.map cw).sum = 0) := by omega
    simp only [this, if_false, Nat.add_sub_cancel_left]
    exact congrArg _ ih

theorem cellSpan_eq (cw : Char → Nat) (pre part post : List Char) (h1 : ∀ c ∈ pre, 1 ≤ cw c) (h2 : ∀ c ∈ part, 1 ≤ cw c) :
    cellSpan cw (pre ++ part ++ post) (cellLen cw pre) (cellLen cw part) = part := by
  unfold cellSpan
  rw [List.append_assoc, dropCells_append cw pre _ h1, takeCells_append cw part post h2]

theorem flatMap_range_getD : ∀ (L : List (List Char)), (List.range L.length).flatMap (fun k => L.getD k []) = L.flatten
  | [] => rfl
  | x :: L => by
    have ih := flatMap_range_getD L
    rw [List.length_cons, List.range_succ_eq_map, List.flatMap_cons, List.flatMap_map]
    simp only [List.getD_cons_zero, List.flatten_cons]
    congr 1

theorem filter_replicate_space (isSp : Char → Bool) (hsp : isSp ' ' = true) (n : Nat) :
    (List.replicate n ' ').filter (fun c => !isSp c) = [] := by
  rw [List.filter_replicate, hsp]; rfl

theorem filter_flatten_blank (isSp : Char → Bool) (hsp : isSp ' ' = true) (n w : Nat) :
    ((List.replicate n (List.replicate w ' ')).flatten).filter (fun c => !isSp c) = [] := by
  induction n with
  | zero => rfl
  | succ n ih => simp only [List.replicate_succ, List.flatten_cons, List.filter_append, filter_replicate_space isSp hsp, ih, List.append_nil]

theorem shaped_lines_nonspace (cw : Char → Nat) (isSp : Char → Bool) (hsp : isSp ' ' = true) (w h : Nat) (lines : List (List Char))
    (hw : ∀ l ∈ lines, cellLen cw l = w) (hh : lines.length ≤ h) :
    ((List.range h).flatMap (fun k => (shapeCell cw w h lines).getD k [])).filter (fun c => !isSp c)
      = lines.flatten.filter (fun c => !isSp c) := by
  have hlen : (shapeCell cw w h lines).length = h := by rw [shapeCell_length]; omega
  have := flatMap_range_getD (shapeCell cw w h lines)
  rw [hlen] at this
  rw [this, shapeCell_exact cw w h lines hw, List.flatten_append, List.filter_append, filter_flatten_blank isSp hsp, List.append_nil]

end RichModel
