import RichModel.Lemmas.TextTruncate
import RichModel.Lemmas.TextGuides
import RichModel.Lemmas.TextSlice
import RichModel.Lemmas.Except
/-!
Editing histories: three nested operation types (`Op`, `OpX`, `OpAll`), their one-step semantics on the repaired
model, the per-operation domain condition, and preservation of `Text.Inv` by every step inside its domain;
the histories rest on `inv_of_run` (`Lemmas/Except.lean`).
-/
namespace RichModel

namespace Text
variable {σ : Type}

/-- The basic editing operations.  (`divide`, `split`, slices, `join`, `expand_tabs`, `truncate`, `align` come with
the larger operation set `OpX` below.) -/
inductive Op (σ : Type) where
  | appendStr (s : List Char) (style : Option σ)        -- `append(str, style)`
  | appendT (u : Text σ)                                -- `append(Text)`
  | appendText (u : Text σ)                             -- `append_text(Text)`
  | stylize (style : σ) (start : Int) (stop : Option Int)
  | addSpans (spans : List (Span σ))                    -- `copy_styles`, `highlight_regex`, `highlight_words`
  | setPlain (s : List Char)                            -- `text.plain = s`
  | padLeft (n : Nat) (ch : Char)
  | padRight (n : Nat) (ch : Char)
  | rightCrop (amount : Nat)
  | setLength (n : Nat)
  | copy
  | blankCopy
  | index (i : Nat)                                     -- `text[i]`

/-- one step on the repaired model -/
def step (null : σ) (t : Text σ) : Op σ → Except PyErr (Text σ)
  | .appendStr s st => .ok (t.appendStr s st)
  | .appendT u => .ok (t.appendT u)
  | .appendText u => .ok (t.appendText u)
  | .stylize st a b => .ok (t.stylize Variant.repaired st a b)
  | .addSpans sps => .ok (t.addSpans sps)
  | .setPlain s => .ok (t.setPlain s)
  | .padLeft n ch => .ok (t.padLeft (n : Int) ch)
  | .padRight n ch => .ok (t.padRight (n : Int) ch)
  | .rightCrop a => .ok (t.rightCrop Variant.repaired (a : Int))
  | .setLength n => .ok (t.setLength Variant.repaired (n : Int))
  | .copy => .ok (t.copy Variant.repaired)
  | .blankCopy => .ok (t.blankCopy Variant.repaired)
  | .index i => t.getItem Variant.repaired null (i : Int)

/-- what the caller owes for an operation applied to `t` (the domain of the property) -/
def Op.Pre (t : Text σ) : Op σ → Prop
  | .appendT u => Inv u
  | .appendText u => Inv u
  | .addSpans sps => SpansIn sps t.length          -- spans handed in lie inside the text
  | .setPlain s => NoCtl s                          -- the setter does not strip control codes
  | .padLeft _ ch => isStripCode ch = false
  | .padRight _ ch => isStripCode ch = false
  | .index i => i < t.plain.length                  -- otherwise `IndexError`, as for `str`
  | _ => True

theorem inv_step (null : σ) (t t' : Text σ) (op : Op σ) (h : Inv t) (hp : op.Pre t)
    (hs : step null t op = .ok t') : Inv t' := by
  cases op with
  | appendStr s st => cases hs; exact inv_appendStr t s st h
  | appendT u => cases hs; exact inv_appendT t u h hp
  | appendText u => cases hs; exact inv_appendText t u h hp
  | stylize st a b => cases hs; exact inv_stylize t st a b h
  | addSpans sps => cases hs; exact inv_addSpans t sps h hp
  | setPlain s => cases hs; exact inv_setPlain t s h hp
  | padLeft n ch => cases hs; exact inv_padLeft t n ch h hp
  | padRight n ch => cases hs; exact inv_padRight t n ch h hp
  | rightCrop a => cases hs; exact inv_rightCrop t a h
  | setLength n => cases hs; exact (h.shows.setLength n).inv
  | copy => cases hs; rw [copy_eq_self t h]; exact h
  | blankCopy => cases hs; exact inv_blankCopy t
  | index i => exact (Except.Returns.of_eq (view_getItem null t i i hp (Or.inl rfl) h) hs).1

/-- run a history; the first Python exception ends it -/
def run (null : σ) (t : Text σ) : List (Op σ) → Except PyErr (Text σ)
  | [] => .ok t
  | op :: rest =>
    match step null t op with
    | .ok t' => run null t' rest
    | .error e => .error e

/-- every operation of the history is inside its domain at the moment it is applied -/
def HistPre (null : σ) (t : Text σ) : List (Op σ) → Prop
  | [] => True
  | op :: rest => op.Pre t ∧ ∀ t', step null t op = .ok t' → HistPre null t' rest

theorem inv_run (null : σ) (ops : List (Op σ)) (t t' : Text σ) (h : Inv t) (hp : HistPre null t ops)
    (hr : run null t ops = .ok t') : Inv t' :=
  inv_of_run (Pre := fun t op => op.Pre t) (fun _ => rfl) (fun _ _ _ _ h => by simp only [run, h])
    (fun _ _ _ _ h => by simp only [run, h]) (fun _ _ _ h => h) (inv_step null) ops t t' h hp hr

theorem step_ok (null : σ) (t : Text σ) (op : Op σ) (h : Inv t) (hp : op.Pre t) :
    ∃ t', step null t op = .ok t' := by
  cases op with
  | index i =>
    obtain ⟨u, hu, _, _⟩ := view_getItem null t i i hp (Or.inl rfl) h
    exact ⟨u, hu⟩
  | _ => exact ⟨_, rfl⟩

inductive OpX (σ : Type) where
  | base (op : Op σ)
  | rstrip
  | truncate (w : Int) (ov : Option Overflow) (pad : Bool)
  | align (m : AlignMethod) (w : Int) (ch : Char)
  | joinSep (lines : List (Text σ))                               -- `t.join(lines)`
  | joinIn (sep : Text σ) (before after : List (Text σ))          -- `sep.join(before + [t] + after)`
  | assembleIn (before after : List (Part σ)) (style : σ)         -- `Text.assemble(*before, t, *after, style=…)`
  | divide (offs : List Nat) (pick : Nat)                         -- `t.divide(offs)[pick]`
  | slice (a b : Option Int)                                      -- `t[a:b]`
  | split (d : Char) (pick : Nat)                                 -- `t.split(d, include_separator=True)[pick]`
  | expandTabs (ts : Nat)                                         -- `t.expand_tabs(ts)`
  | removeSuffix (suffix : List Char)                             -- `t.remove_suffix(suffix)`
  | addStr (s : List Char)                                        -- `t + str`
  | addText (u : Text σ)                                          -- `t + Text`

def pickLine (r : Except PyErr (List (Text σ))) (k : Nat) : Except PyErr (Text σ) :=
  match r with
  | .error e => .error e
  | .ok ls => match ls[k]? with
    | some l => .ok l
    | none => .error .indexError

def stepX [BEq σ] (cw : Char → Nat) (null : σ) (t : Text σ) : OpX σ → Except PyErr (Text σ)
  | .base op => step null t op
  | .rstrip => .ok t.rstrip
  | .truncate w ov pad => .ok (t.truncate cw w ov pad)
  | .align m w ch => .ok (t.align Variant.repaired cw m w ch)
  | .joinSep lines => .ok (t.join Variant.repaired lines)
  | .joinIn sep before after => .ok (sep.join Variant.repaired (before ++ [t] ++ after))
  | .assembleIn before after style => .ok (assemble Variant.repaired (before ++ [Part.txt t] ++ after) style)
  | .divide offs k => pickLine (t.divide Variant.repaired offs) k
  | .slice a b => t.getSlice Variant.repaired a b
  | .split d k => pickLine (t.split Variant.repaired [d] true) k
  | .expandTabs ts => t.expandTabs Variant.repaired (some ts)
  | .removeSuffix suffix => .ok (t.removeSuffix Variant.repaired suffix)
  | .addStr s => .ok (t.addStr Variant.repaired s)
  | .addText u => .ok (t.addText Variant.repaired u)

/-- the domain of the property, per operation -/
def OpX.Pre (t : Text σ) : OpX σ → Prop
  | .base op => op.Pre t
  | .align _ _ ch => isStripCode ch = false
  | .joinSep lines => ∀ x ∈ lines, Inv x
  | .joinIn sep before after => Inv sep ∧ (∀ x ∈ before, Inv x) ∧ (∀ x ∈ after, Inv x)
  | .assembleIn before after _ => (∀ p ∈ before, p.Ok) ∧ (∀ p ∈ after, p.Ok)
  | .divide offs _ => AscFrom 0 offs ∧ ∀ o ∈ offs, o ≤ t.plain.length      -- ascending offsets inside the text
  | .addText u => Inv u
  | .expandTabs ts => 0 < ts
  | _ => True

theorem inv_pickLine {r : Except PyErr (List (Text σ))} {lines : List (Text σ)} (hr : r = .ok lines)
    (hall : ∀ l ∈ lines, Inv l) {k : Nat} {t' : Text σ} (hs : pickLine r k = .ok t') : Inv t' := by
  subst hr
  unfold pickLine at hs
  simp only [] at hs
  cases hk : lines[k]? with
  | none => rw [hk] at hs; cases hs
  | some l =>
    rw [hk] at hs
    cases hs
    exact hall _ (List.mem_of_getElem? hk)

theorem inv_stepX [BEq σ] (cw : Char → Nat) (null : σ) (t t' : Text σ) (op : OpX σ) (h : Inv t) (hp : op.Pre t)
    (hs : stepX cw null t op = .ok t') : Inv t' := by
  cases op with
  | base op => exact inv_step null t t' op h hp hs
  | rstrip => cases hs; exact inv_rstrip t h
  | truncate w ov pad => cases hs; exact (truncate_spec cw t w ov pad h).1
  | align m w ch => cases hs; exact (h.shows.align cw m w ch hp).inv
  | joinSep lines => cases hs; exact inv_join t lines h hp
  | joinIn sep before after =>
    cases hs
    refine inv_join sep _ hp.1 ?_
    simp only [List.forall_mem_append, List.forall_mem_singleton]
    exact ⟨⟨hp.2.1, h⟩, hp.2.2⟩
  | assembleIn before after style =>
    cases hs
    refine (Shows.assemble _ style _ _ _ _ _ ?_).inv
    simp only [List.forall_mem_append, List.forall_mem_singleton]
    exact ⟨⟨hp.1, h⟩, hp.2⟩
  | divide offs k =>
    obtain ⟨lines, hdiv, _, _, hall⟩ := divide_view t offs h hp.1 hp.2
    exact inv_pickLine hdiv (fun l hl => (hall l hl).1) hs
  | slice a b => exact (Except.Returns.of_eq (getSlice_view_all t a b h) hs).1
  | split d k =>
    obtain ⟨parts, hsp, _, hall, _⟩ := split_char_shape d t h
    exact inv_pickLine hsp (fun l hl => (hall l hl).1) hs
  | expandTabs ts => exact (Except.Returns.of_eq (expandTabs_view t h (some ts) ts hp rfl) hs).1
  | removeSuffix suffix => cases hs; exact (h.shows.removeSuffix suffix).inv
  | addStr s => cases hs; exact (h.shows.addStr s).inv
  | addText u => cases hs; exact (h.shows.addText (Inv.shows hp)).inv

def runX [BEq σ] (cw : Char → Nat) (null : σ) (t : Text σ) : List (OpX σ) → Except PyErr (Text σ)
  | [] => .ok t
  | op :: rest =>
    match stepX cw null t op with
    | .ok t' => runX cw null t' rest
    | .error e => .error e

def HistPreX [BEq σ] (cw : Char → Nat) (null : σ) (t : Text σ) : List (OpX σ) → Prop
  | [] => True
  | op :: rest => op.Pre t ∧ ∀ t', stepX cw null t op = .ok t' → HistPreX cw null t' rest

inductive OpAll (σ : Type) where
  | x (op : OpX σ)
  | splitAny (sep : List Char) (incl blank : Bool) (pick : Nat)   -- `t.split(sep, include_separator, allow_blank)[pick]`
  | fit (w : Nat) (pick : Nat)                                    -- `t.fit(w)[pick]`
  | pad (n : Nat) (ch : Char)                                     -- `t.pad(n, ch)`
  | appendTokens (tokens : List (List Char × Option σ))           -- `t.append_tokens(tokens)`
  | rstripEnd (size : Int)                                        -- `t.rstrip_end(size)`
  | indentGuides (size : Option Nat) (character : List Char) (style : σ)  -- `t.with_indent_guides(size, character=…, style=…)`

def stepAll [BEq σ] (cw : Char → Nat) (null : σ) (t : Text σ) : OpAll σ → Except PyErr (Text σ)
  | .x op => stepX cw null t op
  | .splitAny sep incl blank k => pickLine (Text.splitW false Variant.repaired t sep incl blank) k
  | .fit w k => pickLine (t.fit Variant.repaired (w : Int)) k
  | .pad n ch => .ok (t.pad (n : Int) ch)
  | .appendTokens toks => .ok (t.appendTokens toks)
  | .rstripEnd size => .ok (rstripEndW false cw Variant.repaired t size)
  | .indentGuides size ch st => t.withIndentGuides Variant.repaired null size ch st

/-- the domain of the property, per operation -/
def OpAll.Pre (t : Text σ) : OpAll σ → Prop
  | .x op => op.Pre t
  | .splitAny sep _ _ _ => sep ≠ []                      -- an empty separator raises `AssertionError`
  | .pad _ ch => isStripCode ch = false                  -- `pad` does not strip control codes
  | .appendTokens toks => ∀ tok ∈ toks, NoCtl tok.1      -- nor does `append_tokens`
  | .indentGuides _ ch _ => NoCtl ch
  | _ => True

theorem inv_stepAll [BEq σ] (cw : Char → Nat) (null : σ) (t t' : Text σ) (op : OpAll σ) (h : Inv t) (hp : op.Pre t)
    (hs : stepAll cw null t op = .ok t') : Inv t' := by
  cases op with
  | x op => exact inv_stepX cw null t t' op h hp hs
  | splitAny sep incl blank k =>
    obtain ⟨parts, hsp, _, _, hall⟩ := split_view_all t sep incl blank h hp
    exact inv_pickLine hsp (fun l hl => (hall l hl).1) hs
  | fit w k =>
    obtain ⟨lines, hf, _, hall⟩ := fit_spec t w h
    exact inv_pickLine hf (fun l hl => (hall l hl).1) hs
  | pad n ch => cases hs; exact inv_pad t n ch h hp
  | appendTokens toks => cases hs; exact (h.shows.appendTokens toks hp).inv
  | rstripEnd size => cases hs; exact (h.shows.rstripEndW cw size).inv
  | indentGuides size ch st => exact inv_withIndentGuides null t t' size ch st h hp hs

def runAll [BEq σ] (cw : Char → Nat) (null : σ) (t : Text σ) : List (OpAll σ) → Except PyErr (Text σ)
  | [] => .ok t
  | op :: rest =>
    match stepAll cw null t op with
    | .ok t' => runAll cw null t' rest
    | .error e => .error e

def HistPreAll [BEq σ] (cw : Char → Nat) (null : σ) (t : Text σ) : List (OpAll σ) → Prop
  | [] => True
  | op :: rest => op.Pre t ∧ ∀ t', stepAll cw null t op = .ok t' → HistPreAll cw null t' rest

end Text
end RichModel
