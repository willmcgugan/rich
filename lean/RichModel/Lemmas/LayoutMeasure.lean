import RichModel.Lemmas.LayoutBase
import RichModel.Lemmas.Ratio
/-!
Whatever a renderable tree is, `Measurement.get` reports `0 ≤ minimum ≤ maximum ≤ available` (C09 `measure_normal`); a fitted group
reports the largest minimum and maximum of its members; and the child oracles the recursive functions build (lists of them: maps
over the children) answer with `measure`, so what the frames and the table are handed never measures a negative maximum.
-/
namespace RichModel.Layout
open RichModel RichModel.Frames

/-- `0 ≤ minimum ≤ maximum ≤ w` -/
def Normal (m : Measurement) (w : Nat) : Prop := 0 ≤ m.minimum ∧ m.minimum ≤ m.maximum ∧ m.maximum ≤ (w : Int)

theorem Normal.max_nonneg {m : Measurement} {w : Nat} (h : Normal m w) : 0 ≤ m.maximum := Int.le_trans h.1 h.2.1

/-- a column all of whose oracles — header, footer, cells — never measure a negative maximum (`MeasNonneg`, Lemmas/TableWidths.lean):
all the table needs to know of its cells -/
def ColMeasNonneg (c : ColS) : Prop := ∀ ch ∈ c.header :: c.footer :: c.cells, MeasNonneg ch.measure

theorem normal_getPost (w : Nat) (m : Option Measurement) : Normal (Measurement.getPost (w : Int) m) w := by
  have h := Measurement.getPost_ok (w : Int) m
  refine ⟨h.1, h.2.1, ?_⟩
  have := h.2.2
  omega

theorem normal_poison (cfg : Cfg) (w : Nat) : Normal (poisonMeasure cfg w) w := normal_getPost w _

/-- **measure_normal** for every renderable tree and every available width `w ≥ 1` (the guard for `w < 1` is `measureGet`). -/
theorem measure_normal (cfg : Cfg) : ∀ (r : R) (w : Nat), Normal (measure cfg r w) w := by
  intro r w
  -- but for `panel`, `cast` and `table`, the measurement is what `Measurement.get` returns
  cases r with
  | panel o c =>
    unfold measure
    split
    · exact normal_getPost w _
    · exact normal_poison cfg w
  | cast c =>
    by_cases h : ∃ t, c = .str t
    · obtain ⟨t, rfl⟩ := h
      unfold measure; exact normal_getPost w _
    · rw [measure]
      · exact measure_normal cfg c w
      · intro t ht; exact h ⟨t, ht⟩
  | table o cols =>
    rw [measure, tableMeasure]
    split
    · exact normal_poison cfg w
    · exact normal_getPost w _
  | _ => unfold measure; exact normal_getPost w _

theorem measureGet_normal (cfg : Cfg) (r : R) (w : Int) :
    0 ≤ (measureGet cfg r w).minimum ∧ (measureGet cfg r w).minimum ≤ (measureGet cfg r w).maximum ∧
      (measureGet cfg r w).maximum ≤ max w 0 := by
  unfold measureGet
  split
  · simp; omega
  · obtain ⟨h1, h2, h3⟩ := measure_normal cfg r w.toNat
    exact ⟨h1, h2, by omega⟩

theorem chOf_measureAt (cfg : Cfg) (r : R) (o : Opts) (k : Int) :
    0 ≤ ((chOf cfg r o).measureAt k).maximum ∧ ((chOf cfg r o).measureAt k).maximum ≤ max k 0 := by
  have h := measureGet_normal cfg r k
  exact ⟨Int.le_trans h.1 h.2.1, h.2.2⟩

theorem getPost_of_normal (w : Nat) (m : Measurement) (h : Normal m w) : Measurement.getPost (w : Int) (some m) = m := by
  obtain ⟨a, b⟩ := m
  obtain ⟨h1, h2, h3⟩ := h
  simp only at h1 h2 h3
  have hmin : (⟨min a w, min b w⟩ : Measurement) = ⟨a, b⟩ := by rw [Int.min_eq_left (by omega), Int.min_eq_left h3]
  simp only [Measurement.getPost, Measurement.normalize_of_ok ⟨a, b⟩ h1 h2, Measurement.withMaximum, hmin]
  split
  · rw [Measurement.mk.injEq]; omega
  · split
    · rw [Measurement.mk.injEq]; omega
    · rfl

theorem measureL_eq_map (cfg : Cfg) (w : Nat) : ∀ items : List R, measureL cfg items w = items.map (fun r => measure cfg r w)
  | [] => by rw [measureL]; rfl
  | r :: rs => by rw [measureL, measureL_eq_map cfg w rs]; rfl

theorem group_measure_is_max (cfg : Cfg) (items : List R) (w : Nat) (hne : items ≠ []) :
    measure cfg (.group true items) w =
      ⟨listMax ((measureL cfg items w).map (·.minimum)), listMax ((measureL cfg items w).map (·.maximum))⟩ := by
  rw [measure]
  have hn : measureL cfg items w ≠ [] := by rw [measureL_eq_map]; simpa using hne
  have hN : ∀ m ∈ measureL cfg items w, Normal m w := by
    rw [measureL_eq_map]
    exact List.forall_mem_map.mpr fun r _ => measure_normal cfg r w
  generalize measureL cfg items w = ms at hn hN
  have hemp : ms.isEmpty = false := by cases ms with | nil => exact absurd rfl hn | cons _ _ => rfl
  simp only [if_true, measureRenderables, hemp, Bool.false_eq_true, if_false]
  apply getPost_of_normal
  have hmin := listMax_mem (ms.map (·.minimum)) (by simpa using hn)
  have hmax := listMax_mem (ms.map (·.maximum)) (by simpa using hn)
  obtain ⟨m1, hm1, e1⟩ := List.mem_map.mp hmin
  obtain ⟨m2, hm2, e2⟩ := List.mem_map.mp hmax
  obtain ⟨a1, a2, a3⟩ := hN m1 hm1
  obtain ⟨b1, b2, b3⟩ := hN m2 hm2
  have hle : m1.maximum ≤ listMax (ms.map (·.maximum)) := listMax_ge _ _ (List.mem_map.mpr ⟨m1, hm1, rfl⟩)
  refine ⟨?_, ?_, ?_⟩ <;> simp only <;> omega

/-- the lists of oracles the recursive functions build are maps over the children -/
theorem chsR_eq_map (cfg : Cfg) (o : Opts) : ∀ rs : List R, chsR cfg rs o = rs.map (fun r => chOf cfg r o)
  | [] => by rw [chsR]; rfl
  | r :: rs => by rw [chsR, chsR_eq_map cfg o rs]; rfl

theorem colsR_eq_map (cfg : Cfg) : ∀ cs : List Col, colsR cfg cs = cs.map (colR cfg)
  | [] => by rw [colsR]; rfl
  | c :: cs => by rw [colsR, colsR_eq_map cfg cs]; rfl

theorem chsR_length (cfg : Cfg) (rs : List R) (o : Opts) : (chsR cfg rs o).length = rs.length := by
  rw [chsR_eq_map, List.length_map]

theorem chsR_mem (cfg : Cfg) (rs : List R) (o : Opts) (ch : Ch) (h : ch ∈ chsR cfg rs o) : ∃ r, ch = chOf cfg r o := by
  rw [chsR_eq_map] at h
  obtain ⟨r, _, rfl⟩ := List.mem_map.mp h
  exact ⟨r, rfl⟩

theorem colsR_length (cfg : Cfg) (cs : List Col) : (colsR cfg cs).length = cs.length := by
  rw [colsR_eq_map, List.length_map]

theorem colsR_mem (cfg : Cfg) (cs : List Col) (c' : ColS) (h : c' ∈ colsR cfg cs) : ∃ c ∈ cs, c' = colR cfg c := by
  rw [colsR_eq_map] at h
  obtain ⟨c, hc, rfl⟩ := List.mem_map.mp h
  exact ⟨c, hc, rfl⟩

theorem colR_o (cfg : Cfg) : ∀ c : Col, (colR cfg c).o = colOptsOf c
  | .mk co h f cells => by unfold colR; rfl

theorem chsM_eq_map (cfg : Cfg) : ∀ rs : List R, chsM cfg rs = rs.map (fun r => mCh (fun x => measure cfg r x))
  | [] => by rw [chsM]; rfl
  | r :: rs => by rw [chsM, chsM_eq_map cfg rs]; rfl

theorem colsM_eq_map (cfg : Cfg) : ∀ cs : List Col, colsM cfg cs = cs.map (colM cfg)
  | [] => by rw [colsM]; rfl
  | c :: cs => by rw [colsM, colsM_eq_map cfg cs]; rfl

/-! Every oracle the recursive functions hand to the frames and to the table answers with `measure`, so its maximum is never
negative. -/

theorem measure_nonneg (cfg : Cfg) (r : R) : MeasNonneg (measure cfg r) :=
  fun k => (measure_normal cfg r k).max_nonneg

theorem chsR_meas (cfg : Cfg) (rs : List R) (o : Opts) : ∀ ch ∈ chsR cfg rs o, MeasNonneg ch.measure := by
  intro ch h
  rw [chsR_eq_map] at h
  obtain ⟨r, _, rfl⟩ := List.mem_map.mp h
  exact measure_nonneg cfg r

theorem chsM_meas (cfg : Cfg) (rs : List R) : ∀ ch ∈ chsM cfg rs, MeasNonneg ch.measure := by
  intro ch h
  rw [chsM_eq_map] at h
  obtain ⟨r, _, rfl⟩ := List.mem_map.mp h
  exact measure_nonneg cfg r

theorem colsR_meas (cfg : Cfg) (cols : List Col) :
    ∀ c ∈ colsR cfg cols, ColMeasNonneg c := by
  intro c hc
  rw [colsR_eq_map] at hc
  obtain ⟨⟨o, h, f, cells⟩, _, rfl⟩ := List.mem_map.mp hc
  rw [colR]
  exact List.forall_mem_cons.mpr ⟨measure_nonneg cfg h, List.forall_mem_cons.mpr ⟨measure_nonneg cfg f, chsR_meas cfg cells _⟩⟩

theorem colsM_meas (cfg : Cfg) (cols : List Col) :
    ∀ c ∈ colsM cfg cols, ColMeasNonneg c := by
  intro c hc
  rw [colsM_eq_map] at hc
  obtain ⟨⟨o, h, f, cells⟩, _, rfl⟩ := List.mem_map.mp hc
  rw [colM]
  exact List.forall_mem_cons.mpr ⟨measure_nonneg cfg h, List.forall_mem_cons.mpr ⟨measure_nonneg cfg f, chsM_meas cfg cells⟩⟩

end RichModel.Layout
