import RichModel.Lemmas.Except
import RichModel.Model.Text
/-!
The base of the text lemmas: annotated strings (`annot`) and `view` read through them, the `spanIds` calculus (append,
single span, move, trim), Python slice arithmetic, `strip_control_codes`, and `set_cell_size` with an `int` total at a
natural number.
-/
namespace RichModel
namespace Text
variable {σ : Type}

/-- `annot s f k`: the characters of `s`, the one at position `j` paired with `f (k + j)`. -/
def annot {β : Type} : List Char → (Nat → β) → Nat → List (Char × β)
  | [], _, _ => []
  | c :: cs, f, k => (c, f k) :: annot cs f (k + 1)

theorem zipIdx_map_eq_annot {β : Type} (s : List Char) (f : Nat → β) (k : Nat) :
    (s.zipIdx k).map (fun p => (p.1, f p.2)) = annot s f k := by
  induction s generalizing k with
  | nil => rfl
  | cons c cs ih => simp [List.zipIdx_cons, annot, ih]

theorem view_eq_annot (t : Text σ) : t.view = annot t.plain t.effStyle 0 := by
  unfold view; exact zipIdx_map_eq_annot _ _ _

theorem relView_eq_annot (t : Text σ) : t.relView = annot t.plain (spanIds t.spans) 0 := by
  unfold relView; exact zipIdx_map_eq_annot _ _ _

theorem annot_append {β : Type} (a b : List Char) (f : Nat → β) (k : Nat) :
    annot (a ++ b) f k = annot a f k ++ annot b f (k + a.length) := by
  induction a generalizing k with
  | nil => simp [annot]
  | cons c cs ih => simp [annot, ih, Nat.add_assoc, Nat.add_comm 1]

theorem annot_congr {β : Type} (s : List Char) (f g : Nat → β) (k : Nat)
    (h : ∀ i, k ≤ i → i < k + s.length → f i = g i) : annot s f k = annot s g k := by
  induction s generalizing k with
  | nil => rfl
  | cons c cs ih =>
    simp only [annot]
    rw [h k (Nat.le_refl _) (by simp), ih (k + 1) (fun i h1 h2 => h i (by omega) (by simp; omega))]

theorem annot_length {β : Type} (s : List Char) (f : Nat → β) (k : Nat) : (annot s f k).length = s.length := by
  induction s generalizing k with
  | nil => rfl
  | cons c cs ih => simp [annot, ih]

theorem annot_map_fst {β : Type} (s : List Char) (f : Nat → β) (k : Nat) : (annot s f k).map (·.1) = s := by
  induction s generalizing k with
  | nil => rfl
  | cons c cs ih => simp [annot, ih]

theorem annot_map {β γ : Type} (s : List Char) (f : Nat → β) (g : β → γ) (k : Nat) :
    (annot s f k).map (fun p => (p.1, g p.2)) = annot s (fun i => g (f i)) k := by
  induction s generalizing k with
  | nil => rfl
  | cons c cs ih => simp [annot, ih]

theorem annot_shift {β : Type} (s : List Char) (f : Nat → β) (k d : Nat) :
    annot s f (k + d) = annot s (fun i => f (i + d)) k := by
  induction s generalizing k with
  | nil => rfl
  | cons c cs ih =>
    simp only [annot]
    rw [show k + d + 1 = (k + 1) + d by omega, ih]

theorem annot_take {β : Type} (s : List Char) (f : Nat → β) (k n : Nat) :
    annot (s.take n) f k = (annot s f k).take n := by
  induction s generalizing k n with
  | nil => simp [annot]
  | cons c cs ih =>
    cases n with
    | zero => simp [annot]
    | succ n => simp [annot, ih]

theorem annot_drop {β : Type} (s : List Char) (f : Nat → β) (k n : Nat) :
    annot (s.drop n) f (k + n) = (annot s f k).drop n := by
  induction s generalizing k n with
  | nil => simp [annot]
  | cons c cs ih =>
    cases n with
    | zero => simp [annot]
    | succ n =>
      simp only [List.drop_succ_cons, annot]
      rw [show k + (n + 1) = (k + 1) + n by omega, ih]

theorem annot_const {β : Type} (s : List Char) (f : Nat → β) (k : Nat) (b : β)
    (h : ∀ i, k ≤ i → i < k + s.length → f i = b) : annot s f k = s.map (fun c => (c, b)) := by
  induction s generalizing k with
  | nil => rfl
  | cons c cs ih =>
    simp only [annot, List.map_cons]
    rw [h k (Nat.le_refl _) (by simp), ih (k + 1) (fun i h1 h2 => h i (by omega) (by simp; omega))]

theorem annot_replicate {β : Type} (c : Char) (n : Nat) (f : Nat → β) (k : Nat) (b : β)
    (h : ∀ i, k ≤ i → i < k + n → f i = b) : annot (List.replicate n c) f k = List.replicate n (c, b) := by
  rw [annot_const _ _ _ b (by rw [List.length_replicate]; exact h), List.map_replicate]

theorem annot_mem_fst {β : Type} : ∀ (s : List Char) (f : Nat → β) (k : Nat) (p : Char × β), p ∈ annot s f k → p.1 ∈ s
  | [], _, _, _, h => by simp [annot] at h
  | c :: cs, f, k, p, h => by
    simp only [annot, List.mem_cons] at h
    rcases h with rfl | h
    · simp
    · exact List.mem_cons_of_mem _ (annot_mem_fst cs f (k + 1) p h)

theorem annot_snoc {β : Type} (w : List Char) (x : Char) (f : Nat → β) :
    annot (w ++ [x]) f 0 = annot w f 0 ++ [(x, f w.length)] := by
  rw [annot_append]; simp [annot]

theorem view_map_fst (t : Text σ) : t.view.map (·.1) = t.plain := by
  rw [view_eq_annot, annot_map_fst]

/-- an equation between views carries one between plain strings -/
theorem map_plain (L : List (Text σ)) : L.map (·.plain) = (L.map view).map (List.map (·.1)) := by
  rw [List.map_map]; exact List.map_congr_left fun l _ => (view_map_fst l).symm

theorem view_length (t : Text σ) : t.view.length = t.plain.length := by
  rw [view_eq_annot, annot_length]

theorem view_isEmpty (t : Text σ) : t.view.isEmpty = t.plain.isEmpty := by
  rw [view_eq_annot]
  cases t.plain <;> rfl

theorem view_getElem?_snd (t : Text σ) (i : Nat) :
    ((t.view[i]?).map (·.2)) = if i < t.plain.length then some (t.effStyle i) else none := by
  unfold view
  rw [List.getElem?_map, List.getElem?_zipIdx]
  by_cases hi : i < t.plain.length
  · rw [if_pos hi, List.getElem?_eq_getElem hi]; simp
  · rw [if_neg hi, List.getElem?_eq_none (by omega)]; rfl

theorem flatten_plains : ∀ (parts : List (Text σ)),
    (parts.map (·.plain)).flatten = (parts.flatMap Text.view).map (·.1)
  | [] => rfl
  | p :: ps => by
    simp only [List.map_cons, List.flatten_cons, List.flatMap_cons, List.map_append, flatten_plains ps]
    rw [view_map_fst]

theorem spanIds_nil (i : Nat) : spanIds ([] : List (Span σ)) i = [] := rfl

theorem spanIds_append (a b : List (Span σ)) (i : Nat) : spanIds (a ++ b) i = spanIds a i ++ spanIds b i := by
  simp [spanIds]

theorem spanIds_cons (sp : Span σ) (rest : List (Span σ)) (i : Nat) :
    spanIds (sp :: rest) i = if sp.covers i then sp.style :: spanIds rest i else spanIds rest i := by
  simp only [spanIds, List.filter_cons]
  split <;> simp

theorem covers_iff (sp : Span σ) (i : Nat) : sp.covers i = true ↔ sp.start ≤ (i : Int) ∧ (i : Int) < sp.stop := by
  simp [Span.covers]

theorem spanIds_single (a b : Int) (st : σ) (i : Nat) :
    spanIds [(⟨a, b, st⟩ : Span σ)] i = if a ≤ (i : Int) ∧ (i : Int) < b then [st] else [] := by
  rw [spanIds_cons, spanIds_nil]
  simp only [covers_iff]

theorem spanIds_eq_nil (spans : List (Span σ)) (i : Nat)
    (h : ∀ sp ∈ spans, ¬ (sp.start ≤ (i : Int) ∧ (i : Int) < sp.stop)) : spanIds spans i = [] := by
  induction spans with
  | nil => rfl
  | cons sp rest ih =>
    rw [spanIds_cons]
    have : sp.covers i = false := by
      cases hc : sp.covers i with
      | false => rfl
      | true => exact absurd ((covers_iff sp i).1 hc) (h sp (by simp))
    simp only [this, Bool.false_eq_true, if_false]
    exact ih (fun sp' h' => h sp' (by simp [h']))

theorem spanIds_map (spans : List (Span σ)) (g : Span σ → Span σ) (i j : Nat)
    (hs : ∀ sp ∈ spans, (g sp).style = sp.style)
    (hc : ∀ sp ∈ spans, (g sp).covers i = sp.covers j) : spanIds (spans.map g) i = spanIds spans j := by
  induction spans with
  | nil => rfl
  | cons sp rest ih =>
    simp only [List.map_cons, spanIds_cons]
    rw [hc sp (by simp), hs sp (by simp), ih (fun s h => hs s (by simp [h])) (fun s h => hc s (by simp [h]))]

theorem spanIds_move (spans : List (Span σ)) (k : Nat) (i : Nat) :
    spanIds (spans.map (fun sp => sp.move (k : Int))) (i + k) = spanIds spans i := by
  apply spanIds_map
  · intro sp _; rfl
  · intro sp _
    simp only [Span.covers, Span.move]
    congr 1 <;> (apply decide_eq_decide.2; omega)

theorem spanIds_move_lt (spans : List (Span σ)) (k : Nat) (i : Nat) (hi : i < k)
    (h0 : ∀ sp ∈ spans, 0 ≤ sp.start) :
    spanIds (spans.map (fun sp => sp.move (k : Int))) i = [] := by
  apply spanIds_eq_nil
  intro sp hsp
  obtain ⟨sp0, h0m, rfl⟩ := List.mem_map.1 hsp
  have := h0 sp0 h0m
  simp only [Span.move]; omega

theorem covers_clip (sp : Span σ) (m : Int) (i : Nat) :
    (sp.clip m).covers i = true ↔ sp.covers i = true ∧ (i : Int) < m := by
  unfold Span.clip
  split <;> simp only [covers_iff] <;> omega

theorem clip_style (sp : Span σ) (m : Int) : (sp.clip m).style = sp.style := by
  unfold Span.clip; split <;> rfl

theorem spanIds_trim (spans : List (Span σ)) (m : Int) (i : Nat) :
    spanIds (trimSpansTo spans m) i = if (i : Int) < m then spanIds spans i else [] := by
  unfold spanIds trimSpansTo
  have hst : ((fun x : Span σ => x.style) ∘ fun sp : Span σ => sp.clip m) = fun x => x.style :=
    funext fun sp => clip_style sp m
  rw [List.filter_map, List.filter_filter, List.map_map, hst]
  split
  · next h =>
    -- below the cut a span that covers `i` starts below the cut and is still there after clipping
    congr 1
    apply List.filter_congr
    intro sp _
    rw [Bool.eq_iff_iff, Bool.and_eq_true, Function.comp_apply, covers_clip, decide_eq_true_iff, covers_iff]
    omega
  · next h =>
    rw [List.filter_eq_nil_iff.2, List.map_nil]
    intro sp _
    rw [Bool.and_eq_true, Function.comp_apply, covers_clip]
    omega

theorem setCellSizeI_nat (cw : Char → Nat) (t : List Char) (n : Nat) :
    setCellSizeI cw t (n : Int) = setCellSize cw t n := by
  unfold setCellSizeI setCellSize
  simp only [beq_iff_eq, Int.natCast_inj, Int.ofNat_lt, Int.toNat_sub]

theorem clampIdx_nat (n k : Nat) : Py.clampIdx n (k : Int) = min k n := by
  simp only [Py.clampIdx]
  split
  · omega
  · simp

theorem sliceTo_nat {α : Type} (l : List α) (k : Nat) : Py.sliceTo l (k : Int) = l.take k := by
  simp only [Py.sliceTo, clampIdx_nat]
  rw [List.take_eq_take_iff]; omega

theorem slice_nat {α : Type} (l : List α) (a b : Nat) : Py.slice l (a : Int) (b : Int) = (l.drop a).take (b - a) := by
  simp only [Py.slice, clampIdx_nat]
  rcases Nat.le_total a l.length with ha | ha
  · rw [Nat.min_eq_left ha]
    rcases Nat.le_total b l.length with hb | hb
    · rw [Nat.min_eq_left hb]
    · have hl : (l.drop a).length ≤ l.length - a := Nat.le_of_eq List.length_drop
      rw [Nat.min_eq_right hb, List.take_of_length_le hl, List.take_of_length_le (Nat.le_trans hl (Nat.sub_le_sub_right hb a))]
  · rw [Nat.min_eq_right ha, List.drop_eq_nil_of_le ha, List.drop_length, List.take_nil, List.take_nil]

theorem mem_takeWhile_true {α : Type} (p : α → Bool) (l : List α) (c : α) (h : c ∈ l.takeWhile p) : p c = true :=
  List.all_eq_true.mp List.all_takeWhile c h

theorem stripControl_noCtl (s : List Char) : ∀ c ∈ stripControl s, isStripCode c = false := by
  intro c hc
  simp only [stripControl, List.mem_filter] at hc
  simpa using hc.2

theorem stripControl_id (s : List Char) (h : ∀ c ∈ s, isStripCode c = false) : stripControl s = s := by
  simp only [stripControl]
  rw [List.filter_eq_self]
  intro c hc; simp [h c hc]

end Text
end RichModel
