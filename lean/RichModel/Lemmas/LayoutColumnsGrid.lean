import RichModel.Model.Layout
import RichModel.Lemmas.FramesColumns
/-!
`Columns` down to the rendered cells: the composition layer (`Model/Layout.lean`, C01) renders `Columns` as the inner
`Table.grid` of `Model/Table.lean` (C07) whose cell at row `r`, column `j` IS the oracle of the item the layout of
`Model/FramesColumns.lean` (C08) puts there (wrapped in `Constrain` / `Align` as the options ask) — or the blank text.
`columnsConsole_eq` says what `columnsConsole` is step by step (`gridCols`: its local `cols`); `colsGrid` / `colsCell` name the grid
and its cell, and `columnsConsole_eq_grid` is the case in which the padding unpacks and the layout exists.
-/
namespace RichModel.Layout
open RichModel RichModel.Frames

/-- the renderable `Columns` stores in a grid cell: the blank `""` or the item wrapped as `equal` / `align` ask -/
def colsCell (cfg : Cfg) (o : ColsOpts) (items : List Ch) (w : Nat) (x : Option Nat) : Ch :=
  let measured := items.map (fun c => (c.measureAt (w : Int)).maximum)
  let w0 := listMax measured
  match x with
  | none => textChild cfg (emptyText cfg) ({} : ColOpts).cellOpts
  | some i =>
    let c := items.getD i dfltCh
    let c := if o.lay.equal then constrainChild (some w0) c else c
    match o.align with
    | some a => alignChild cfg.cw cfg.env cfg.v { align := a } c
    | none => c

/-- the columns of the inner grid for a layout -/
def colsGrid (cfg : Cfg) (o : ColsOpts) (items : List Ch) (w : Nat) (lay : ColumnsLayout) : List ColS :=
  (List.range lay.columnCount).map (fun j =>
    { o := { width := o.lay.width.map Int.toNat },
      header := textChild cfg (emptyText cfg) ({} : ColOpts).cellOpts,
      footer := textChild cfg (emptyText cfg) ({} : ColOpts).cellOpts,
      cells := lay.rows.map (fun row => colsCell cfg o items w (row.getD j none)) })

/-- the columns of the inner `Table.grid` of `Columns.__rich_console__` (the local `cols` of `columnsConsole`) -/
def gridCols (cfg : Cfg) (o : ColsOpts) (items : List Ch) (w : Nat) (lay : ColumnsLayout) : List ColS :=
  let measured := items.map (fun c => (c.measureAt (w : Int)).maximum)
  let w0 := listMax measured
  let wrap (c : Ch) : Ch :=
    let c := if o.lay.equal then constrainChild (some w0) c else c
    match o.align with
    | some a => alignChild cfg.cw cfg.env cfg.v { align := a } c
    | none => c
  let blank := textChild cfg (emptyText cfg) ({} : ColOpts).cellOpts
  let cell (x : Option Nat) : Ch := match x with
    | none => blank
    | some i => wrap (items.getD i dfltCh)
  (List.range lay.columnCount).map (fun j =>
    { o := { width := o.lay.width.map Int.toNat }, header := blank, footer := blank,
      cells := lay.rows.map (fun row => cell (row.getD j none)) })

/-- `columnsConsole` is: unpack the padding, lay the items out (C08), render the grid (C07) — `gridCols` is its `cols`. -/
theorem columnsConsole_eq (cfg : Cfg) (o : ColsOpts) (opts : Opts) (items : List Ch) (w : Nat) :
    columnsConsole cfg o opts items w =
      match unpackPad o.lay.padding with
      | .error _ => cfg.poison
      | .ok p =>
        match columnsLayout cfg.v o.lay (items.map (fun c => (c.measureAt (w : Int)).maximum)) (w : Int) with
        | .error _ => cfg.poison
        | .ok none => []
        | .ok (some lay) => tableConsole cfg (o.grid p) opts (gridCols cfg o items w lay) w := by
  unfold columnsConsole
  cases unpackPad o.lay.padding with
  | error e => rfl
  | ok p =>
    dsimp only
    cases columnsLayout cfg.v o.lay (items.map (fun c => (c.measureAt (w : Int)).maximum)) (w : Int) with
    | error e => rfl
    | ok L => cases L <;> rfl

/-- `gridCols` is `colsGrid` with `colsCell` written out -/
theorem gridCols_eq_colsGrid (cfg : Cfg) (o : ColsOpts) (items : List Ch) (w : Nat) (lay : ColumnsLayout) :
    gridCols cfg o items w lay = colsGrid cfg o items w lay := rfl

/-- `Columns.__rich_console__` is the rendering of that grid -/
theorem columnsConsole_eq_grid (cfg : Cfg) (o : ColsOpts) (opts : Opts) (items : List Ch) (w : Nat) (p : PadDims)
    (lay : ColumnsLayout) (hp : unpackPad o.lay.padding = .ok p)
    (hlay : columnsLayout cfg.v o.lay (items.map (fun c => (c.measureAt (w : Int)).maximum)) (w : Int) = .ok (some lay)) :
    columnsConsole cfg o opts items w = tableConsole cfg (o.grid p) opts (colsGrid cfg o items w lay) w := by
  rw [columnsConsole_eq, hp, hlay]
  rfl

/-- the cell of the grid at row `r`, column `j` -/
theorem colsGrid_cell (cfg : Cfg) (o : ColsOpts) (items : List Ch) (w : Nat) (lay : ColumnsLayout) (j r : Nat)
    (hj : j < lay.columnCount) (hr : r < lay.rows.length) :
    ∃ col, (colsGrid cfg o items w lay)[j]? = some col ∧ col.cells.length = lay.rows.length ∧
      col.cells[r]? = some (colsCell cfg o items w ((lay.rows.getD r []).getD j none)) := by
  have hlen : j < (colsGrid cfg o items w lay).length := by simp [colsGrid, hj]
  refine ⟨(colsGrid cfg o items w lay)[j], List.getElem?_eq_getElem hlen, ?_, ?_⟩
  · simp [colsGrid]
  · simp only [colsGrid, List.getElem_map, List.getElem_range, List.getElem?_map, List.getElem?_eq_getElem hr, Option.map_some]
    simp [List.getD_eq_getElem?_getD, List.getElem?_eq_getElem hr]

theorem colsGrid_length (cfg : Cfg) (o : ColsOpts) (items : List Ch) (w : Nat) (lay : ColumnsLayout) :
    (colsGrid cfg o items w lay).length = lay.columnCount := by simp [colsGrid]

end RichModel.Layout
