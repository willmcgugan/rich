import RichModel.Lemmas.TextSplit
import RichModel.Model.TextStr
/-!
`split` read at string level (`strSplit`), its two string laws (nothing lost / `sep.join` inverts it), and `fit`.
-/
namespace RichModel
namespace Text
variable {σ : Type}

theorem cutAt_eq {α : Type} (l : List α) : ∀ (offs : List Nat) (start : Nat), cutAt start offs l = piecesFrom start offs l
  | [], _ => rfl
  | o :: os, start => by simp [cutAt, piecesFrom, cutAt_eq l os o]

theorem cutBetween_eq {α : Type} (l : List α) : ∀ (ms : List (Nat × Nat)) (start : Nat),
    cutBetween start ms l = betweenFrom start ms l
  | [], _ => rfl
  | m :: rest, start => by simp [cutBetween, betweenFrom, cutBetween_eq l rest m.2]

theorem popBlank_eq {α : Type} (b : Bool) (ps : List (List α)) : popBlank b ps = dropBlank b ps := rfl

theorem strSplit_eq {α : Type} (sep : List Char) (incl blank : Bool) (chars : List Char) (v : List α) :
    strSplit sep incl blank chars v =
      (if (findAll sep chars).isEmpty then [v]
       else dropBlank blank (if incl then pieces ((findAll sep chars).map (·.2)) v
                             else betweenFrom 0 (findAll sep chars) v)) := by
  unfold strSplit pieces
  simp only [cutAt_eq, cutBetween_eq, popBlank_eq]

/-- **`split` is the string-level split of the styled string.**  For every non-empty separator and both flags both
ways, the pieces' styled strings are `strSplit` applied to `view t` (cut where the separator occurs in its
characters), and their plain strings are the same function applied to the plain string. -/
theorem split_str_view [BEq σ] (t : Text σ) (sep : List Char) (incl blank : Bool) (h : Inv t) (hsep : sep ≠ []) :
    ∃ parts, Text.splitW false Variant.repaired t sep incl blank = .ok parts ∧
      parts.map view = strSplit sep incl blank (t.view.map (·.1)) t.view ∧
      parts.map (·.plain) = strSplit sep incl blank t.plain t.plain ∧
      ∀ l ∈ parts, Inv l ∧ l.style = t.style := by
  obtain ⟨parts, h1, h2, h3, h4⟩ := split_view_all t sep incl blank h hsep
  refine ⟨parts, h1, ?_, ?_, h4⟩
  · rw [view_map_fst, strSplit_eq]; exact h2
  · rw [strSplit_eq]; exact h3

/-- with `include_separator=True` nothing is lost and nothing moves: the pieces concatenate to the original -/
theorem strSplit_incl_flatten {α : Type} (sep : List Char) (blank : Bool) (chars : List Char) (v : List α)
    (hsep : sep ≠ []) : (strSplit sep true blank chars v).flatten = v := by
  have hlen : 0 < sep.length := List.length_pos_iff.2 hsep
  rw [strSplit_eq]
  split
  · simp
  · simp only [if_true]
    rw [dropBlank_flatten]
    have hasc := ((findAll_strong sep chars hlen).asc).1
    exact pieces_flatten v _ (ascFrom_ends _ 0 hasc)

theorem betweenFrom_ne_nil {α : Type} (start : Nat) (ms : List (Nat × Nat)) (l : List α) : betweenFrom start ms l ≠ [] := by
  cases ms <;> simp [betweenFrom]

theorem intercalate_cons_of_ne_nil {α : Type} (sep a : List α) (rest : List (List α)) (h : rest ≠ []) :
    List.intercalate sep (a :: rest) = a ++ sep ++ List.intercalate sep rest := by
  cases rest with
  | nil => exact absurd rfl h
  | cons b bs => simp [List.intercalate, List.intersperse]

/-- between the occurrences lies everything but the separators: joining with `sep` gives the string back -/
theorem betweenFrom_intercalate (sep s : List Char) : ∀ (ms : List (Nat × Nat)) (start : Nat),
    GoodMs sep s start ms → List.intercalate sep (betweenFrom start ms s) = s.drop start
  | [], start, _ => by simp [betweenFrom, List.intercalate]
  | m :: rest, start, hg => by
    obtain ⟨g1, g2, _, g4, g5⟩ := hg
    have ih := betweenFrom_intercalate sep s rest m.2 g5
    rw [betweenFrom, intercalate_cons_of_ne_nil _ _ _ (betweenFrom_ne_nil _ _ _), ih]
    have e1 : s.drop m.1 = sep ++ s.drop m.2 := by
      have := List.take_append_drop (m.2 - m.1) (s.drop m.1)
      rw [g4, List.drop_drop] at this
      have e : m.1 + (m.2 - m.1) = m.2 := by omega
      rw [e] at this
      exact this.symm
    have e2 : (s.drop start).take (m.1 - start) ++ s.drop m.1 = s.drop start := by
      have := List.take_append_drop (m.1 - start) (s.drop start)
      rw [List.drop_drop] at this
      have e : start + (m.1 - start) = m.1 := by omega
      rw [e] at this
      exact this
    rw [List.append_assoc, ← e1, e2]

/-- **`sep.join(text.split(sep, allow_blank=True))` is the text** (string level; as for `str.split`), for every
non-empty separator, self-overlapping ones included -/
theorem strSplit_intercalate (sep s : List Char) (hsep : sep ≠ []) :
    List.intercalate sep (strSplit sep false true s s) = s := by
  have hlen : 0 < sep.length := List.length_pos_iff.2 hsep
  rw [strSplit_eq]
  split
  · simp [List.intercalate]
  · simp only [Bool.false_eq_true, if_false]
    rw [dropBlank_true, betweenFrom_intercalate sep s _ 0 (findAll_good sep s hlen)]
    simp

/-- `split()` at newlines (`splitW true`, the released last-line rule) is the repaired split: a newline cannot overlap itself -/
theorem split_newline_eq [BEq σ] (t : Text σ) (h : Inv t) :
    t.split Variant.repaired = Text.splitW false Variant.repaired t ['\n'] false false :=
  splitW_released_eq t ['\n'] false false h (unbordered_singleton '\n')

/-- `split()` — at newlines, a blank last line dropped — read at string level -/
theorem split_lines_str [BEq σ] (t : Text σ) (h : Inv t) :
    (t.split Variant.repaired).Returns fun lines =>
      lines.map view = strSplit ['\n'] false false t.plain t.view ∧ ∀ l ∈ lines, Inv l ∧ l.style = t.style := by
  obtain ⟨parts, h1, h2, _, h4⟩ := split_str_view t ['\n'] false false h (by simp)
  exact ⟨parts, (split_newline_eq t h).trans h1, view_map_fst t ▸ h2, h4⟩

/-- `fit(w)`: the lines of the text (split at newlines, a blank last line dropped), each cut or padded to exactly `w`
characters; characters kept keep their styles, padding is base-styled -/
theorem fit_spec [BEq σ] (t : Text σ) (w : Nat) (h : Inv t) :
    ∃ lines, t.fit Variant.repaired (w : Int) = .ok lines ∧
      lines.map view = (strSplit ['\n'] false false t.plain t.view).map (fitLine w t.style) ∧
      (∀ l ∈ lines, Inv l ∧ l.style = t.style ∧ l.plain.length = w) := by
  obtain ⟨parts, h1, h2, h4⟩ := split_lines_str t h
  unfold fit
  rw [h1]
  -- every piece `l` goes through `set_length(w)`
  have hfit : ∀ l ∈ parts, Shows (l.setLength Variant.repaired (w : Int)) t.style (fitLine w t.style l.view) := fun l hl => by
    have := (Shows.mk (h4 l hl).1 (h4 l hl).2 rfl).setLength w
    rwa [← (Inv.shows (h4 l hl).1).length] at this
  refine ⟨parts.map (fun l => l.setLength Variant.repaired (w : Int)), rfl, ?_, ?_⟩
  · rw [← h2, List.map_map, List.map_map]
    exact List.map_congr_left fun l hl => (hfit l hl).view
  · intro l hl
    obtain ⟨p, hp, rfl⟩ := List.mem_map.1 hl
    refine ⟨(hfit p hp).inv, (hfit p hp).style, ?_⟩
    rw [← (hfit p hp).length, fitLine, List.length_append, List.length_take, List.length_replicate]
    omega

end Text
end RichModel
