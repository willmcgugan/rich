import RichModel.Model.Text
/-!
The three insertion sorts of the Text model (`sortNat`, `sortEvs`, `Py.sortByKey`) are instances of
one generic insertion sort; permutation and sortedness are proved once.
-/
namespace RichModel
namespace Text

def insertBy {α : Type} (r : α → α → Bool) (e : α) : List α → List α
  | [] => [e]
  | x :: xs => if r e x then e :: x :: xs else x :: insertBy r e xs

def sortBy {α : Type} (r : α → α → Bool) (l : List α) : List α := l.foldr (insertBy r) []

theorem insertBy_perm {α : Type} (r : α → α → Bool) (e : α) (l : List α) : (insertBy r e l).Perm (e :: l) := by
  induction l with
  | nil => exact List.Perm.refl _
  | cons x xs ih =>
    simp only [insertBy]
    split
    · exact List.Perm.refl _
    · exact (List.Perm.cons x ih).trans (List.Perm.swap e x xs)

theorem sortBy_perm {α : Type} (r : α → α → Bool) (l : List α) : (sortBy r l).Perm l := by
  induction l with
  | nil => exact List.Perm.refl _
  | cons x xs ih =>
    simp only [sortBy, List.foldr_cons]
    exact (insertBy_perm r x _).trans (List.Perm.cons x ih)

theorem insertBy_sorted {α : Type} (r : α → α → Bool)
    (total : ∀ a b, r a b = false → r b a = true) (trans : ∀ a b c, r a b = true → r b c = true → r a c = true)
    (e : α) (l : List α) (h : l.Pairwise (fun a b => r a b = true)) :
    (insertBy r e l).Pairwise (fun a b => r a b = true) := by
  induction l with
  | nil => simp [insertBy]
  | cons x xs ih =>
    simp only [insertBy]
    rw [List.pairwise_cons] at h
    split
    · rename_i hex
      refine List.pairwise_cons.2 ⟨?_, List.pairwise_cons.2 h⟩
      intro y hy
      rcases List.mem_cons.1 hy with rfl | hy
      · exact hex
      · exact trans _ _ _ hex (h.1 y hy)
    · rename_i hex
      refine List.pairwise_cons.2 ⟨?_, ih h.2⟩
      intro y hy
      have := (insertBy_perm r e xs).mem_iff.1 hy
      rcases List.mem_cons.1 this with rfl | hy'
      · exact total _ _ (by simpa using hex)
      · exact h.1 y hy'

theorem sortBy_sorted {α : Type} (r : α → α → Bool)
    (total : ∀ a b, r a b = false → r b a = true) (trans : ∀ a b c, r a b = true → r b c = true → r a c = true)
    (l : List α) : (sortBy r l).Pairwise (fun a b => r a b = true) := by
  induction l with
  | nil => simp [sortBy]
  | cons x xs ih =>
    simp only [sortBy, List.foldr_cons]
    exact insertBy_sorted r total trans x _ ih

theorem foldr_eq_sortBy {α : Type} (r : α → α → Bool) (ins : α → List α → List α)
    (h : ∀ e l, ins e l = insertBy r e l) (l : List α) : l.foldr ins [] = sortBy r l := by
  rw [show ins = insertBy r from funext fun e => funext (h e)]
  rfl

theorem insertNat_eq (n : Nat) (l : List Nat) : insertNat n l = insertBy (fun a b => decide (a ≤ b)) n l := by
  induction l with
  | nil => rfl
  | cons x xs ih => simp only [insertNat, insertBy, ih, decide_eq_true_eq]

theorem sortNat_eq (l : List Nat) : sortNat l = sortBy (fun a b => decide (a ≤ b)) l :=
  foldr_eq_sortBy _ _ insertNat_eq l

theorem sortNat_perm (l : List Nat) : (sortNat l).Perm l := by rw [sortNat_eq]; exact sortBy_perm _ l

theorem sortNat_sorted (l : List Nat) : (sortNat l).Pairwise (· ≤ ·) := by
  rw [sortNat_eq]
  have := sortBy_sorted (fun (a b : Nat) => decide (a ≤ b))
    (by intro a b h; simp at h ⊢; omega) (by intro a b c h1 h2; simp at h1 h2 ⊢; omega) l
  exact this.imp (by intro a b h; simpa using h)

theorem sortNat_congr (l₁ l₂ : List Nat) (h : l₁.Perm l₂) : sortNat l₁ = sortNat l₂ :=
  List.Perm.eq_of_pairwise (le := (· ≤ ·)) (fun _ _ _ _ h1 h2 => Nat.le_antisymm h1 h2)
    (sortNat_sorted l₁) (sortNat_sorted l₂) ((sortNat_perm l₁).trans (h.trans (sortNat_perm l₂).symm))

theorem sortNat_of_sorted (l : List Nat) (h : l.Pairwise (· ≤ ·)) : sortNat l = l :=
  List.Perm.eq_of_pairwise (le := (· ≤ ·)) (fun _ _ _ _ h1 h2 => Nat.le_antisymm h1 h2)
    (sortNat_sorted l) h (sortNat_perm l)

theorem Ev.le_iff (a b : Ev) :
    a.le b = true ↔ a.off < b.off ∨ (a.off = b.off ∧ (a.leaving = false ∨ b.leaving = true)) := by
  simp [Ev.le]

theorem Ev.off_le_of_le {a b : Ev} (h : a.le b = true) : a.off ≤ b.off := by
  rw [Ev.le_iff] at h; omega

theorem insertEv_eq (e : Ev) (l : List Ev) : insertEv e l = insertBy Ev.le e l := by
  induction l with
  | nil => rfl
  | cons x xs ih => simp only [insertEv, insertBy, ih]

theorem sortEvs_eq (l : List Ev) : sortEvs l = sortBy Ev.le l :=
  foldr_eq_sortBy _ _ insertEv_eq l

theorem sortEvs_perm (l : List Ev) : (sortEvs l).Perm l := by rw [sortEvs_eq]; exact sortBy_perm _ l

/-- `itemgetter(0, 1)` orders the events by one integer: twice the offset, plus one for a leaving event -/
theorem Ev.le_iff_key (a b : Ev) :
    a.le b = true ↔ 2 * a.off + (if a.leaving then 1 else 0) ≤ 2 * b.off + (if b.leaving then 1 else 0) := by
  rw [Ev.le_iff]
  cases a.leaving <;> cases b.leaving <;> simp <;> omega

theorem sortEvs_sorted (l : List Ev) : (sortEvs l).Pairwise (fun a b => a.le b = true) := by
  rw [sortEvs_eq]
  apply sortBy_sorted
  · intro a b h
    have h' : ¬ (a.le b = true) := by rw [h]; exact Bool.false_ne_true
    rw [Ev.le_iff_key] at h' ⊢
    omega
  · intro a b c h1 h2
    rw [Ev.le_iff_key] at h1 h2 ⊢
    omega

theorem insertByKey_eq {α : Type} (key : α → Int) (e : α) (l : List α) :
    Py.insertByKey key e l = insertBy (fun a b => decide (key a ≤ key b)) e l := by
  induction l with
  | nil => rfl
  | cons x xs ih => simp only [Py.insertByKey, insertBy, ih, decide_eq_true_eq]

theorem sortByKey_eq {α : Type} (key : α → Int) (l : List α) :
    Py.sortByKey key l = sortBy (fun a b => decide (key a ≤ key b)) l :=
  foldr_eq_sortBy _ _ (insertByKey_eq key) l

theorem sortByKey_perm {α : Type} (key : α → Int) (l : List α) : (Py.sortByKey key l).Perm l := by
  rw [sortByKey_eq]; exact sortBy_perm _ l

theorem sortByKey_sorted {α : Type} (key : α → Int) (l : List α) :
    (Py.sortByKey key l).Pairwise (fun a b => key a ≤ key b) := by
  rw [sortByKey_eq]
  have := sortBy_sorted (fun (a b : α) => decide (key a ≤ key b))
    (by intro a b h; simp at h ⊢; omega) (by intro a b c h1 h2; simp at h1 h2 ⊢; omega) l
  exact this.imp (by intro a b h; simpa using h)

end Text
end RichModel
