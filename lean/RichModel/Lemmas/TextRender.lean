import RichModel.Lemmas.TextRenderLoop
/-!
`Text.render` = the reference semantics: under `Inv` the render succeeds and its (character, style
list) stream is `view t`.
-/
namespace RichModel
namespace Text
variable {σ : Type}

/-- the items of a text: id 0 is the base style over the whole text, id `k+1` is span `k` -/
def itemsOf (t : Text σ) : List Item :=
  ⟨0, 0, (t.plain.length : Int)⟩ :: t.spans.zipIdx.map (fun p => ⟨p.2 + 1, p.1.start, p.1.stop⟩)

theorem zipIdx_sorted {α : Type} (l : List α) : l.zipIdx.Pairwise (fun p q => p.2 < q.2) := by
  have := List.pairwise_lt_range' (s := 0) (n := l.length)
  rw [← List.zipIdx_map_snd] at this
  exact List.pairwise_map.1 this

theorem inj_of_pairwise_lt {α : Type} (f : α → Nat) (l : List α) (h : l.Pairwise (fun a b => f a < f b)) :
    ∀ a ∈ l, ∀ b ∈ l, f a = f b → a = b := by
  induction l with
  | nil => intro a ha; simp at ha
  | cons x xs ih =>
    rw [List.pairwise_cons] at h
    intro a ha b hb hab
    rcases List.mem_cons.1 ha with hax | ha <;> rcases List.mem_cons.1 hb with hbx | hb
    · rw [hax, hbx]
    · have := h.1 b hb; rw [hax] at hab; omega
    · have := h.1 a ha; rw [hbx] at hab; omega
    · exact ih h.2 a ha b hb hab

theorem itemsOf_sorted (t : Text σ) : (itemsOf t).Pairwise (fun a b => a.id < b.id) := by
  unfold itemsOf
  refine List.pairwise_cons.2 ⟨?_, ?_⟩
  · intro b hb
    obtain ⟨p, _, rfl⟩ := List.mem_map.1 hb
    simp
  · rw [List.pairwise_map]
    exact (zipIdx_sorted t.spans).imp (by intro a b h; simp only []; omega)

theorem itemsOf_ok (t : Text σ) (h : Inv t) : ItemsOk (itemsOf t) t.plain.length := by
  have hs := itemsOf_sorted t
  refine ⟨inj_of_pairwise_lt (fun it : Item => it.id) _ hs, ?_, ?_, ⟨_, List.mem_cons_self, rfl, rfl⟩⟩
  · show ((itemsOf t).map (·.id)).Pairwise (· ≠ ·)
    rw [List.pairwise_map]
    exact hs.imp (by intro a b h; omega)
  · intro it hit
    rcases List.mem_cons.1 hit with rfl | hit
    · simp
    · obtain ⟨p, hp, rfl⟩ := List.mem_map.1 hit
      have hm : p.1 ∈ t.spans := List.mem_of_getElem? (List.mem_zipIdx_iff_getElem?.1 hp)
      have := h.2.2 p.1 hm
      have hl := h.1
      simp only []; omega

theorem events_perm (t : Text σ) : (events t).Perm (evsOf (itemsOf t)) := by
  have e1 : events t = (⟨0, false, 0⟩ : Ev) ::
      (t.spans.zipIdx.map (fun p => (⟨p.1.start, false, p.2 + 1⟩ : Ev)) ++
        (t.spans.zipIdx.map (fun p => (⟨p.1.stop, true, p.2 + 1⟩ : Ev)) ++ [(⟨(t.plain.length : Int), true, 0⟩ : Ev)])) := by
    simp [events]
  have e2 : evsOf (itemsOf t) = (⟨0, false, 0⟩ : Ev) ::
      (t.spans.zipIdx.map (fun p => (⟨p.1.start, false, p.2 + 1⟩ : Ev)) ++
        ((⟨(t.plain.length : Int), true, 0⟩ : Ev) :: t.spans.zipIdx.map (fun p => (⟨p.1.stop, true, p.2 + 1⟩ : Ev)))) := by
    simp [evsOf, itemsOf, Item.enter, Item.leave, List.map_map, Function.comp_def]
  rw [e1, e2]
  exact List.Perm.cons _ (List.Perm.append_left _ List.perm_append_comm)

theorem filter_map_zipIdx {α β : Type} (l : List α) (k : Nat) (g : α → Bool) (f : α → β) :
    ((l.zipIdx k).filter (fun p => g p.1)).map (fun p => f p.1) = (l.filter g).map f := by
  induction l generalizing k with
  | nil => rfl
  | cons a as ih =>
    rw [List.zipIdx_cons]
    simp only [List.filter_cons]
    split <;> simp [ih]

theorem active_styles (t : Text σ) (i : Nat) (hi : i < t.plain.length) :
    (sortNat (activeIds (itemsOf t) i)).map t.styleOf = t.effStyle i := by
  have hact : activeIds (itemsOf t) i =
      0 :: ((t.spans.zipIdx.filter (fun p => p.1.covers i)).map (fun p => p.2 + 1)) := by
    unfold activeIds itemsOf
    have hb : (Item.covers ⟨0, 0, (t.plain.length : Int)⟩ i) = true := by
      simp [Item.covers]; omega
    rw [List.filter_cons, if_pos hb]
    simp only [List.map_cons, List.filter_map, List.map_map]
    congr 1
  have hsorted : (0 :: ((t.spans.zipIdx.filter (fun p => p.1.covers i)).map (fun p => p.2 + 1))).Pairwise (· ≤ ·) := by
    refine List.pairwise_cons.2 ⟨by intro b _; omega, ?_⟩
    rw [List.pairwise_map]
    exact ((zipIdx_sorted t.spans).filter _).imp (by intro a b h; omega)
  rw [hact, sortNat_of_sorted _ hsorted]
  simp only [List.map_cons, List.map_map, effStyle, spanIds]
  congr 1
  · rw [← filter_map_zipIdx t.spans 0 (fun sp => sp.covers i) (·.style)]
    apply List.map_congr_left
    intro p hp
    have := List.mem_zipIdx_iff_getElem?.1 (List.mem_filter.1 hp).1
    simp only [Function.comp, styleOf, Nat.add_sub_cancel] at this ⊢
    simp [this]

/-- **`render()` shows the reference semantics.**  For every consistent text (any length, any number
of spans — nested, overlapping, duplicated, empty) and every `end` string, `render` raises nothing; the characters it
emits, each with the styles combined for it in combination order, are exactly `view t`, and the `end` string follows
as one unstyled segment. -/
theorem render_spec (t : Text σ) (h : Inv t) (endStr : List Char) :
    ∃ segs, t.render endStr = .ok (segs ++ if endStr.isEmpty then [] else [RSeg.mk endStr none]) ∧
      segStream segs = t.view := by
  have hperm : ([] ++ sortEvs t.events).Perm (evsOf (itemsOf t)) := by
    simpa using (sortEvs_perm t.events).trans (events_perm t)
  cases hL : sortEvs t.events with
  | nil =>
    have := (sortEvs_perm t.events).length_eq
    rw [hL] at this
    simp [events] at this
  | cons e L' =>
    have c : Ctx (itemsOf t) t.plain.length [] (e :: L') :=
      ⟨itemsOf_ok t h, by rw [← hL]; exact hperm, by rw [← hL]; simpa using sortEvs_sorted t.events⟩
    have hst : StackOk (itemsOf t) [] [] := ⟨List.nodup_nil, by intro id; simp [IsOpen]⟩
    obtain ⟨segs, hr, hs⟩ := renderLoop_spec t.plain t.styleOf (itemsOf t) L' e [] [] c hst
    have he0 : e.off = 0 := by
      have hr0 := (c.off_range (e := e) (by simp)).1
      have hm : (⟨0, 0, (t.plain.length : Int)⟩ : Item).enter ∈ e :: L' :=
        (c.mem _).2 ⟨_, List.mem_cons_self, Or.inl rfl⟩
      have hle : e.off ≤ 0 := (List.mem_cons.1 hm).elim (fun h' => h' ▸ Int.le_refl _)
        ((List.pairwise_cons.1 (List.pairwise_append.1 c.offs).2.1).1 _)
      omega
    refine ⟨segs, ?_, ?_⟩
    · unfold render
      rw [hL, hr]
      rfl
    · rw [hs, he0, view_eq_annot]
      simp only [Int.toNat_zero, List.drop_zero]
      apply annot_congr
      intro i _ hi
      exact active_styles t i (by omega)

theorem segStream_fst (segs : List (RSeg σ)) : (segStream segs).map (·.1) = segs.flatMap (·.text) := by
  induction segs with
  | nil => rfl
  | cons a l ih =>
    simp only [segStream, List.flatMap_cons, List.map_append] at ih ⊢
    rw [ih]
    simp [Function.comp_def]

theorem render_chars (t : Text σ) (h : Inv t) (e : List Char) :
    ∃ segs, t.render e = .ok segs ∧ segs.flatMap (·.text) = t.plain ++ e := by
  obtain ⟨segs, hr, hs⟩ := render_spec t h e
  refine ⟨_, hr, ?_⟩
  rw [List.flatMap_append, ← segStream_fst, hs, view_map_fst]
  cases e <;> simp

/-- `Text.render(console, end=e)` of a consistent text never raises (neither the `ValueError` of `stack.remove` nor
the `RuntimeError` of `Style.combine(())`), whatever the `end` string. -/
theorem render_total (t : Text σ) (h : Inv t) (e : List Char) : ∃ segs, t.render e = .ok segs :=
  (render_chars t h e).imp fun _ hp => hp.1

end Text
end RichModel
