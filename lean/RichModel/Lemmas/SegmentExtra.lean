import RichModel.Model.SegmentExtra
import RichModel.Lemmas.Cells
import RichModel.Lemmas.Segment
/-! `Model/SegmentExtra`: `set_cell_size` for a negative and for a non-negative integer total; `make_control`. -/
namespace RichModel

variable {σ : Type}

theorem popLoop_all (l : List Nat) (e : Int) (h : (l.sum : Int) < e) :
    (popLoop l e).1 = [] ∧ (popLoop l e).2 = e - l.sum := by
  obtain ⟨_, hsum, hstop⟩ := popLoop_inv l e
  have h1 : (popLoop l e).1 = [] := hstop.resolve_left (by omega)
  rw [h1, List.sum_nil, Int.natCast_zero] at hsum
  exact ⟨h1, by omega⟩

/-- For `total ≥ 0` the integer version is the natural-number model used everywhere else. -/
theorem setCellSizeI_nonneg (cw : Char → Nat) (s : List Char) (n : Nat) :
    setCellSizeI cw s (n : Int) = setCellSize cw s n := by
  have hb : ((cellLen cw s : Int) == (n : Int)) = (cellLen cw s == n) := by
    rw [Bool.eq_iff_iff, beq_iff_eq, beq_iff_eq, Int.natCast_inj]
  unfold setCellSizeI setCellSize
  simp only [hb, Int.ofNat_lt, Int.toNat_sub]

theorem setCellSizeI_neg (cw : Char → Nat) (s : List Char) (t : Int) (ht : t < 0) :
    setCellSizeI cw s t = [] := by
  unfold setCellSizeI
  simp only
  have h1 : ((cellLen cw s : Int) == t) = false := by
    have : (cellLen cw s : Int) ≠ t := by omega
    simpa using this
  have h2 : ¬ (cellLen cw s : Int) < t := by omega
  simp only [h1, Bool.false_eq_true, if_false, h2]
  have hsum : (((s.map cw).reverse.sum : Nat) : Int) = cellLen cw s := by simp [cellLen, List.sum_reverse]
  obtain ⟨p1, p2⟩ := popLoop_all (s.map cw).reverse ((cellLen cw s : Int) - t) (by rw [hsum]; omega)
  generalize hp : popLoop (s.map cw).reverse ((cellLen cw s : Int) - t) = pr at p1 p2
  obtain ⟨rem, e⟩ := pr
  simp only at p1 p2 ⊢
  subst p1
  have : (e == -1) = false := by
    have : e ≠ -1 := by rw [p2, hsum]; omega
    simpa using this
  simp [this]

theorem makeControl_spec (cw : Char → Nat) (segs : List (Segment σ)) :
    (∀ s ∈ makeControl segs, s.control = true) ∧
    (makeControl segs).map (fun s => (s.text, s.style)) = segs.map (fun s => (s.text, s.style)) ∧
    lineLength cw (makeControl segs) = 0 := by
  have h1 : ∀ s ∈ makeControl segs, s.control = true := by
    intro s hs
    obtain ⟨_, _, rfl⟩ := List.mem_map.mp hs
    rfl
  exact ⟨h1, by simp [makeControl, List.map_map, Function.comp_def], lineLength_of_control cw h1⟩

theorem lineLength_newLine (cw : Char → Nat) (h : cw '\n' = 0) (b : Bool) :
    lineLength cw [(Segment.newLine b : Segment σ)] = 0 := by
  rw [lineLength_cons, lineLength_nil]
  cases b
  · rw [Segment.cellLength_text cw rfl]; simp [Segment.newLine, cellLen, h]
  · rw [Segment.cellLength_control cw rfl]

end RichModel
