import RichModel.Lemmas.TextSpans
/-!
The parts of the invariant (`SpansIn`, `NoCtl`) and the operations that leave the length of the string alone or set the
string outright: constructor, `copy`, `blank_copy`, the `plain` setter, `stylize`, the span-adding helper — invariant and
reference semantics (`view`) of each.  At the end the relation `Shows`, which states invariant, base style and `view` of a
result at once; the other files state the derived operations with it.
-/
namespace RichModel
namespace Text
variable {σ : Type}

/-- all spans lie in `[0, n]` and are not inverted -/
def SpansIn (spans : List (Span σ)) (n : Int) : Prop :=
  ∀ sp ∈ spans, 0 ≤ sp.start ∧ sp.start ≤ sp.stop ∧ sp.stop ≤ n

def NoCtl (s : List Char) : Prop := ∀ c ∈ s, isStripCode c = false

theorem inv_iff (t : Text σ) : Inv t ↔ t.length = (t.plain.length : Int) ∧ NoCtl t.plain ∧ SpansIn t.spans t.length := Iff.rfl

theorem SpansIn.nil (n : Int) : SpansIn ([] : List (Span σ)) n := fun _ h => nomatch h

theorem SpansIn.single {a b n : Int} (st : σ) (h0 : 0 ≤ a) (hab : a ≤ b) (hbn : b ≤ n) :
    SpansIn [(⟨a, b, st⟩ : Span σ)] n := by
  intro sp hsp
  rw [List.mem_singleton.1 hsp]
  exact ⟨h0, hab, hbn⟩

theorem SpansIn.mono {spans : List (Span σ)} {n m : Int} (h : SpansIn spans n) (hnm : n ≤ m) : SpansIn spans m :=
  fun sp hsp => ⟨(h sp hsp).1, (h sp hsp).2.1, Int.le_trans (h sp hsp).2.2 hnm⟩

theorem SpansIn.append {a b : List (Span σ)} {n : Int} (ha : SpansIn a n) (hb : SpansIn b n) : SpansIn (a ++ b) n := by
  intro sp hsp
  rcases List.mem_append.1 hsp with h | h
  · exact ha sp h
  · exact hb sp h

theorem SpansIn.move {a : List (Span σ)} {n : Int} (k : Int) (hk : 0 ≤ k) (ha : SpansIn a n) :
    SpansIn (a.map (fun sp => sp.move k)) (n + k) := by
  intro sp hsp
  obtain ⟨s0, h0, rfl⟩ := List.mem_map.1 hsp
  have := ha s0 h0
  simp only [Span.move]; omega

theorem SpansIn.trim {a : List (Span σ)} {n : Int} (m : Int) (ha : SpansIn a n) :
    SpansIn (trimSpansTo a m) m := by
  intro sp hsp
  simp only [trimSpansTo, List.mem_map, List.mem_filter] at hsp
  obtain ⟨s0, ⟨h0, hlt⟩, rfl⟩ := hsp
  have := ha s0 h0
  simp only [decide_eq_true_eq] at hlt
  simp only [Span.clip]
  split
  · omega
  · simp only []; omega

theorem NoCtl.append {a b : List Char} (ha : NoCtl a) (hb : NoCtl b) : NoCtl (a ++ b) := by
  intro c hc
  rcases List.mem_append.1 hc with h | h
  · exact ha c h
  · exact hb c h

theorem NoCtl.replicate (n : Nat) (c : Char) (hc : isStripCode c = false) : NoCtl (List.replicate n c) := by
  intro d hd; rw [(List.mem_replicate.1 hd).2]; exact hc

theorem NoCtl.take {a : List Char} (n : Nat) (ha : NoCtl a) : NoCtl (a.take n) :=
  fun c hc => ha c (List.mem_of_mem_take hc)

theorem NoCtl.drop {a : List Char} (n : Nat) (ha : NoCtl a) : NoCtl (a.drop n) :=
  fun c hc => ha c (List.mem_of_mem_drop hc)

theorem NoCtl.ite {c : Prop} [Decidable c] {a b : List Char} (ha : NoCtl a) (hb : NoCtl b) :
    NoCtl (if c then a else b) := by
  split <;> assumption

theorem noCtl_flatten_replicate (k : Nat) (l : List Char) (h : NoCtl l) : NoCtl (List.replicate k l).flatten := by
  intro c hc
  simp only [List.mem_flatten, List.mem_replicate] at hc
  obtain ⟨l', ⟨_, rfl⟩, hc⟩ := hc
  exact h c hc

theorem noCtl_space : isStripCode ' ' = false := by decide

theorem noCtl_ellipsis : isStripCode '…' = false := by decide

theorem spanIds_beyond {spans : List (Span σ)} {n : Int} (h : SpansIn spans n) (i : Nat) (hi : n ≤ (i : Int)) :
    spanIds spans i = [] :=
  spanIds_eq_nil spans i (fun sp hsp => by have := h sp hsp; omega)

theorem inv_new (text : List Char) (style : σ) (spans : List (Span σ)) (j : Option Justify) (o : Option Overflow)
    (nw : Option Bool) (e : List Char) (ts : Option Nat)
    (hs : SpansIn spans ((stripControl text).length : Int)) :
    Inv (new Variant.repaired text style spans j o nw e ts) :=
  ⟨rfl, stripControl_noCtl text, hs⟩

theorem inv_new_nil (s : List Char) (style : σ) (j : Option Justify) (o : Option Overflow) (nw : Option Bool)
    (e : List Char) (ts : Option Nat) : Inv (new Variant.repaired s style [] j o nw e ts) :=
  inv_new s style [] j o nw e ts (fun _ h => nomatch h)

theorem new_newline_plain (v : Variant) (style : σ) : (new v ['\n'] style).plain = ['\n'] := by
  simp only [new, stripControl]
  decide

theorem view_new (v : Variant) (text : List Char) (style : σ) (spans : List (Span σ)) (j : Option Justify)
    (o : Option Overflow) (nw : Option Bool) (e : List Char) (ts : Option Nat) :
    (new v text style spans j o nw e ts).view = annot (stripControl text) (fun i => style :: spanIds spans i) 0 := by
  rw [view_eq_annot]; rfl

theorem copy_eq_self (t : Text σ) (h : Inv t) : t.copy Variant.repaired = t := by
  obtain ⟨hl, hc, _⟩ := h
  cases t
  simp only [copy, new, Variant.repaired] at *
  simp [stripControl_id _ hc, hl]

theorem inv_blankCopy (t : Text σ) : Inv (t.blankCopy Variant.repaired) :=
  inv_new [] t.style [] _ _ _ _ _ (SpansIn.nil _)

/-- `setPlain` without its local definitions -/
theorem setPlain_eq (t : Text σ) (s : List Char) :
    t.setPlain s =
      if s != t.plain then
        (if t.length > (s.length : Int) then
          trimSpans { t with plain := s, length := (s.length : Int) }
         else { t with plain := s, length := (s.length : Int) })
      else t := rfl

theorem setPlain_of_inv (t : Text σ) (s : List Char) (h : Inv t) :
    t.setPlain s =
      { t with plain := s, length := (s.length : Int),
               spans := if s.length < t.plain.length then trimSpansTo t.spans (s.length : Int) else t.spans } := by
  have hl := h.1
  rw [setPlain_eq]
  split
  · split
    · rw [if_pos (by omega)]; rfl
    · rw [if_neg (by omega)]
  · next hne =>
    obtain rfl : s = t.plain := by simpa using hne
    rw [if_neg (Nat.lt_irrefl _), ← hl]

theorem inv_setPlain (t : Text σ) (s : List Char) (h : Inv t) (hs : NoCtl s) : Inv (t.setPlain s) := by
  rw [setPlain_of_inv t s h]
  refine ⟨rfl, hs, ?_⟩
  show SpansIn (if _ then _ else _) (s.length : Int)
  split
  · exact SpansIn.trim _ h.2.2
  · exact SpansIn.mono h.2.2 (by have := h.1; omega)

theorem setPlain_plain (t : Text σ) (s : List Char) : (t.setPlain s).plain = s := by
  rw [setPlain_eq]
  split
  · split <;> rfl
  · rename_i h; simp at h; exact h.symm

theorem setPlain_style (t : Text σ) (s : List Char) : (t.setPlain s).style = t.style := by
  rw [setPlain_eq]
  split
  · split <;> rfl
  · rfl

theorem setPlain_fields (t : Text σ) (s : List Char) :
    (t.setPlain s).endStr = t.endStr ∧ (t.setPlain s).tabSize = t.tabSize ∧ (t.setPlain s).overflow = t.overflow := by
  fun_cases setPlain t s <;> exact ⟨rfl, rfl, rfl⟩

theorem setPlain_endStr (t : Text σ) (s : List Char) : (t.setPlain s).endStr = t.endStr :=
  (setPlain_fields t s).1

theorem setPlain_tabSize (t : Text σ) (s : List Char) : (t.setPlain s).tabSize = t.tabSize :=
  (setPlain_fields t s).2.1

theorem setPlain_length (t : Text σ) (s : List Char) (h : Inv t) : (t.setPlain s).length = (s.length : Int) := by
  rw [setPlain_of_inv t s h]

theorem spanIds_setPlain (t : Text σ) (s : List Char) (h : Inv t) (i : Nat) (hi : i < s.length) :
    spanIds (t.setPlain s).spans i = spanIds t.spans i := by
  rw [setPlain_of_inv t s h]
  show spanIds (if _ then _ else _) i = _
  split
  · rw [spanIds_trim, if_pos (by omega)]
  · rfl

theorem view_setPlain (t : Text σ) (s : List Char) (h : Inv t) :
    (t.setPlain s).view = annot s t.effStyle 0 := by
  rw [view_eq_annot, setPlain_plain]
  apply annot_congr
  intro i _ hi
  simp only [effStyle, setPlain_style]
  rw [spanIds_setPlain t s h i (by omega)]

theorem effStyle_beyond (t : Text σ) (h : Inv t) (i : Nat) (hi : t.plain.length ≤ i) : t.effStyle i = [t.style] := by
  simp only [effStyle]
  rw [spanIds_beyond h.2.2 i (by rw [h.1]; omega)]

theorem effStyle_eq_view (t : Text σ) (h : Inv t) (i : Nat) :
    t.effStyle i = ((t.view[i]?).map (·.2)).getD [t.style] := by
  rw [view_getElem?_snd]
  split
  · rfl
  · exact effStyle_beyond t h i (by omega)

/-- `start` as `stylize` normalises it -/
def stylizeStart (v : Variant) (len a : Int) : Int :=
  if a < 0 then (if v.stylizeNeg then len + a else max 0 (len + a)) else a

/-- `end` as `stylize` normalises it -/
def stylizeStop (len : Int) (b : Option Int) : Int :=
  if b.getD len < 0 then len + b.getD len else b.getD len

theorem stylize_eq (v : Variant) (t : Text σ) (st : σ) (a : Int) (b : Option Int) :
    t.stylize v st a b =
      if (decide (stylizeStart v t.length a ≥ t.length) || decide (stylizeStop t.length b ≤ stylizeStart v t.length a)) = true then t
      else { t with spans := t.spans ++ [⟨stylizeStart v t.length a, min t.length (stylizeStop t.length b), st⟩] } := rfl

theorem stylize_plain (v : Variant) (t : Text σ) (st : σ) (a : Int) (b : Option Int) :
    (t.stylize v st a b).plain = t.plain ∧ (t.stylize v st a b).length = t.length ∧ (t.stylize v st a b).style = t.style := by
  rw [stylize_eq]
  split <;> exact ⟨rfl, rfl, rfl⟩

theorem addSpans_plain (t : Text σ) (spans : List (Span σ)) :
    (t.addSpans spans).plain = t.plain ∧ (t.addSpans spans).length = t.length := ⟨rfl, rfl⟩

theorem stylizeStart_repaired (len a : Int) :
    stylizeStart Variant.repaired len a = if a < 0 then max 0 (len + a) else a := rfl

theorem inv_stylize (t : Text σ) (st : σ) (a : Int) (b : Option Int) (h : Inv t) :
    Inv (t.stylize Variant.repaired st a b) := by
  obtain ⟨hl, hc, hsp⟩ := (inv_iff _).1 h
  rw [stylize_eq]
  split
  · exact h
  · rename_i hcond
    simp only [Bool.or_eq_true, decide_eq_true_eq, not_or, Int.not_le, ge_iff_le] at hcond
    have h0 : 0 ≤ stylizeStart Variant.repaired t.length a := by
      rw [stylizeStart_repaired]; split <;> omega
    exact ⟨hl, hc, SpansIn.append hsp (SpansIn.single st h0 (by omega) (Int.min_le_left _ _))⟩

/-- `stylize` adds its style to exactly the characters Python's slice conventions name, and to no other -/
theorem view_stylize (t : Text σ) (st : σ) (a : Int) (b : Option Int) (h : Inv t) :
    (t.stylize Variant.repaired st a b).view =
      annot t.plain (fun i => t.effStyle i ++
        (if stylizeStart Variant.repaired t.length a ≤ (i : Int) ∧ (i : Int) < stylizeStop t.length b then [st] else [])) 0 := by
  obtain ⟨hl, _, _⟩ := (inv_iff _).1 h
  rw [view_eq_annot, (stylize_plain _ t st a b).1]
  apply annot_congr
  intro i _ hi
  simp only [effStyle, (stylize_plain _ t st a b).2.2]
  rw [stylize_eq]
  split
  · rename_i hcond
    simp only [Bool.or_eq_true, decide_eq_true_eq, ge_iff_le] at hcond
    rw [if_neg (by omega)]
    simp
  · rw [spanIds_append, spanIds_single, List.cons_append]
    -- `i` lies inside the text, so capping the span's end at `len` changes nothing
    exact congrArg _ (congrArg _ (ite_congr (propext (by omega)) (fun _ => rfl) (fun _ => rfl)))

/-- with bounds that are not negative nothing is normalised -/
theorem view_stylize_nat (t : Text σ) (st : σ) (a e : Nat) (h : Inv t) :
    (t.stylize Variant.repaired st (a : Int) (some (e : Int))).view =
      annot t.plain (fun i => t.effStyle i ++ (if a ≤ i ∧ i < e then [st] else [])) 0 := by
  have e2 : stylizeStart Variant.repaired t.length (a : Int) = a := by rw [stylizeStart_repaired, if_neg (by omega)]
  have e3 : stylizeStop t.length (some (e : Int)) = e := by
    simp only [stylizeStop, Option.getD_some]; rw [if_neg (by omega)]
  rw [view_stylize t st _ _ h, e2, e3]
  simp only [Int.ofNat_le, Int.ofNat_lt]

theorem inv_addSpans (t : Text σ) (spans : List (Span σ)) (h : Inv t) (hs : SpansIn spans t.length) :
    Inv (t.addSpans spans) :=
  ⟨h.1, h.2.1, SpansIn.append h.2.2 hs⟩

theorem view_addSpans (t : Text σ) (spans : List (Span σ)) :
    (t.addSpans spans).view = annot t.plain (fun i => t.effStyle i ++ spanIds spans i) 0 := by
  rw [view_eq_annot]
  apply annot_congr
  intro i _ _
  simp [effStyle, addSpans, spanIds_append]

/-- every text of the list is consistent -/
abbrev AllInv (ls : List (Text σ)) : Prop := ∀ l ∈ ls, Inv l

/-- `t` is a consistent text with base style `b` whose styled string is `v`.  Every operation of the API takes such a
text to such a text, `v` going to a list function of `v` (and of the length of the text's string, where a count is
involved); a derived operation is the chain of its steps. -/
structure Shows (t : Text σ) (b : σ) (v : List (Char × List σ)) : Prop where
  inv : Inv t
  style : t.style = b
  view : t.view = v

theorem Inv.shows {t : Text σ} (h : Inv t) : Shows t t.style t.view := ⟨h, rfl, rfl⟩

theorem shows_new (s : List Char) (style : σ) (hs : NoCtl s) :
    Shows (new Variant.repaired s style) style (s.map (fun c => (c, [style]))) := by
  refine ⟨inv_new _ _ _ _ _ _ _ _ (SpansIn.nil _), rfl, ?_⟩
  rw [view_new, stripControl_id s hs]
  exact annot_const _ _ _ _ fun _ _ _ => rfl

namespace Shows

variable {t : Text σ} {b : σ} {v : List (Char × List σ)}

theorem length (h : Shows t b v) : v.length = t.plain.length := by
  rw [← h.view, view_length]

end Shows

end Text
end RichModel
