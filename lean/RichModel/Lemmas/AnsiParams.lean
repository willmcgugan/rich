import RichModel.Lemmas.AnsiColor
import RichModel.Model.AnsiParams
/-!
Every SGR parameter the truecolor encoder can emit is read back by the decoder — the statement at the level of
the two FUNCTIONS (`makeAnsiCodes` / `colorCodes` of the encoder, `sgrCodes` + `applyCodes` of the decoder) for styles
with one thing set: each of the 13 attributes, on and off; every colour as the constructors build it, foreground and
background (so the 256 palette numbers, `default`, and `38;2;r;g;b` for all `r g b`); the explicit `38;5;n` / `48;5;n`
form.  For every variant of the decoder, from the obligations on the tables (`tables_ok`, `natStr_paramOk`).
-/
namespace RichModel
namespace Ansi
open AsciiStr

/-- Attribute `i` set to `False` writes nothing; set to `True` it writes one non-empty parameter text that the decoder
reads back as "attribute `i` on" and nothing else. -/
def attrParamOk (cfg : Cfg) (i : Nat) : Bool :=
  (match makeAnsiCodes (attrStyle i false) with
   | .ok [] => true
   | _ => false) &&
  (match makeAnsiCodes (attrStyle i true) with
   | .ok p => !p.isEmpty && (decodeParams cfg p).map fieldsOf == some ⟨none, none, 2 ^ i, 2 ^ i, none, false⟩
   | .error _ => false)

/-- what the encoder writes for colour `c` is read back as exactly `c` on the same side -/
def colorParamOk (cfg : Cfg) (c : Color) (fg : Bool) : Bool :=
  match colorCodes c fg with
  | .ok ps => !ps.isEmpty && (decodeParams cfg (joinWith ';' ps)).map fieldsOf == some (colorFields fg c)
  | .error _ => false

/-- the explicit palette form `38;5;n` / `48;5;n` (for every `n`, also those the encoder writes as 30-37 / 90-97) -/
def ext5Ok (cfg : Cfg) (n : Nat) (fg : Bool) : Bool :=
  (decodeParams cfg (joinWith ';' ([if fg then 38 else 48, 5, n].map natStr))).map fieldsOf == some (colorFields fg (fromAnsi n))

def paletteOk (cfg : Cfg) : Bool :=
  (List.range 256).all fun n =>
    colorParamOk cfg (fromAnsi n) true && colorParamOk cfg (fromAnsi n) false && ext5Ok cfg n true && ext5Ok cfg n false

def encoderParamsOk (cfg : Cfg) : Bool :=
  (List.range 13).all (attrParamOk cfg) && paletteOk cfg &&
    colorParamOk cfg defaultColor true && colorParamOk cfg defaultColor false

theorem decodeParams_of_add (cfg : Cfg) {text : List Char} {nums : List Nat} (hs : sgrCodes cfg text = .ok nums) {b : Style}
    (hn : b.isNull = false) (h : Adds cfg nums b) : decodeParams cfg text = some b := by
  simp [decodeParams, hs, h.run Style.null, Style.add_null_left _ _ hn]

theorem AddsColor.decoded {cfg : Cfg} {fg : Bool} {codes : List Nat} {col : Color} (h : AddsColor cfg fg codes col) :
    (decodeParams cfg (joinWith ';' (codes.map natStr))).map fieldsOf = some (colorFields fg col) := by
  obtain ⟨b, hb, happ⟩ := h.adds
  rw [decodeParams_of_add cfg (sgrCodes_natStr cfg _ h.lt h.ne) (addend_of_colorFields hb).notNull happ, Option.map_some, hb]

theorem colorParams_decoded (cfg : Cfg) {c : Color} (hc : canon c = true) (fg : Bool) :
    ∃ ps, colorCodes c fg = .ok ps ∧ ps ≠ [] ∧
      (decodeParams cfg (joinWith ';' ps)).map fieldsOf = some (colorFields fg (decColor c)) :=
  have h := colorCodes_spec cfg c hc fg
  ⟨_, colorCodes_eq hc fg, by simpa using h.ne, h.decoded⟩

theorem colorParamOk_of_canon (cfg : Cfg) {c : Color} (hc : canon c = true) (hd : decColor c = c) (fg : Bool) :
    colorParamOk cfg c fg = true := by
  obtain ⟨ps, h1, h2, h3⟩ := colorParams_decoded cfg hc fg
  cases ps with
  | nil => exact absurd rfl h2
  | cons p r => simp [colorParamOk, h1, h3, hd]

theorem ext5Ok_lt (cfg : Cfg) {n : Nat} (hn : n < 256) (fg : Bool) : ext5Ok cfg n fg = true := by
  simpa [ext5Ok] using (AddsColor.ext cfg fg (p := [5, n]) (by simp; omega) fun _ => rfl).decoded

theorem BitItem.decoded (cfg : Cfg) {x : BitCode} (hx : BitItem cfg.sv x) :
    x.text ≠ [] ∧ (decodeParams cfg x.text).map fieldsOf = some ⟨none, none, 2 ^ x.bit, 2 ^ x.bit, none, false⟩ := by
  obtain ⟨b, hfb, hrow⟩ := applyCodes_row cfg hx.plain hx.row
  have hn : b.isNull = false := by simpa [fieldsOf] using congrArg Fields.isNull hfb
  have hpl : ParamTexts [(x.text, x.num)] := by intro p hp'; simpa [List.mem_singleton.mp hp'] using hx.param
  have hs := sgrCodes_paramTexts cfg _ hpl (by simp)
  simp only [List.map_cons, List.map_nil, joinWith] at hs
  exact ⟨paramTexts_nonempty _ hpl x.text (by simp), by rw [decodeParams_of_add cfg hs hn hrow, Option.map_some, hfb]⟩

theorem attrParamOk_lt (cfg : Cfg) {i : Nat} (hi : i < 13) : attrParamOk cfg i = true := by
  -- the attribute parameters of a style with bit `i` alone: one item
  obtain ⟨bs, hb1, hb2, hb3⟩ := attrCodes_spec (2 ^ i)
  have h13 : ∀ i < 13, (List.range 13).filter ((2 ^ i).testBit ·) = [i] := by decide
  rw [h13 i hi] at hb3
  obtain ⟨x, rfl, rfl⟩ : ∃ x, bs = [x] ∧ x.bit = i := by
    match bs, hb3 with
    | [x], h => exact ⟨x, rfl, by simpa using h⟩
  obtain ⟨hne, hdec⟩ := BitItem.decoded cfg (hb2 x (by simp))
  have h0 : makeAnsiCodes (attrStyle x.bit false) = .ok [] := by
    simp [makeAnsiCodes, attrStyle, attrCodes, optColorCodes, Style.null, joinWith]
  have h1 : makeAnsiCodes (attrStyle x.bit true) = .ok x.text := by
    simp [makeAnsiCodes, attrStyle, hb1, optColorCodes, Style.null, joinWith]
  simp [attrParamOk, h0, h1, hne, hdec]

theorem encoderParamsOk_all (cfg : Cfg) : encoderParamsOk cfg = true := by
  simp only [encoderParamsOk, paletteOk, Bool.and_eq_true, List.all_eq_true, List.mem_range]
  exact ⟨⟨⟨fun i hi => attrParamOk_lt cfg hi,
    fun n hn => ⟨⟨⟨colorParamOk_of_canon cfg (canon_fromAnsi hn).1 (canon_fromAnsi hn).2 true,
      colorParamOk_of_canon cfg (canon_fromAnsi hn).1 (canon_fromAnsi hn).2 false⟩, ext5Ok_lt cfg hn true⟩, ext5Ok_lt cfg hn false⟩⟩,
    colorParamOk_of_canon cfg rfl rfl true⟩, colorParamOk_of_canon cfg rfl rfl false⟩

end Ansi
end RichModel
