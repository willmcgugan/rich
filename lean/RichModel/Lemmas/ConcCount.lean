import RichModel.Lemmas.ConcOut
/-!
Counting `file.write` calls per operation.  Invariant `WC`: the calls a thread has issued during an operation plus the `write`
actions it may still execute (`owed`) never exceed the `write` actions in the code of the operation, for every schedule.
-/
namespace RichModel.Conc

def isWriteAct : Act → Bool
  | .write => true
  | _ => false

/-- number of `file.write` statements in a piece of code -/
def nWrites (c : List GAct) : Nat := (c.filter (fun g => isWriteAct g.a)).length

/-- number of `file.write` calls thread `t` made during its operation number `i` -/
def writesOf (s : State) (t i : Nat) : Nat := (s.sh.file.filter (fun w => w.tid == t && w.op == i)).length

/-- the `i`-th operation of thread `t`'s program -/
def opAt (progs : List (List Op)) (t i : Nat) : Option Op := ((progs.getD t []).drop i).head?

/-- number of `file.write` statements in the code of the `i`-th operation of thread `t` -/
def budget (cfg : Cfg) (progs : List (List Op)) (t i : Nat) : Nat :=
  match opAt progs t i with
  | some op => nWrites (code cfg op)
  | none => 0

/-- The `file.write` statements thread `t` may still execute during its `i`-th operation: those left in its continuation
if that operation is running, none if it is over, all of its code if it has not begun. -/
def owed (cfg : Cfg) (progs : List (List Op)) (t : Nat) (l : Local) (i : Nat) : Nat :=
  if i + 1 = l.nops then nWrites l.cont else if i < l.nops then 0 else budget cfg progs t i

/-- The invariant of the write count: the program left is the given one without its first `nops` operations, and for every
thread and operation the `file.write` calls made plus those still owed stay within the budget. -/
structure WC (cfg : Cfg) (progs : List (List Op)) (s : State) : Prop where
  prog : ∀ t, (s.th t).prog = (progs.getD t []).drop (s.th t).nops
  /-- a thread with code left is inside an operation: the one with index `nops - 1`, which its writes carry -/
  pos : ∀ t, (s.th t).cont ≠ [] → 1 ≤ (s.th t).nops
  cnt : ∀ t i, writesOf s t i + owed cfg progs t (s.th t) i ≤ budget cfg progs t i

theorem nWrites_cons (g : GAct) (r : List GAct) :
    nWrites (g :: r) = (if isWriteAct g.a then 1 else 0) + nWrites r := by
  simp only [nWrites, List.filter_cons]
  split <;> simp <;> omega

theorem writesOf_file_eq {s s' : State} (h : s'.sh.file = s.sh.file) (t i : Nat) : writesOf s' t i = writesOf s t i := by
  simp [writesOf, h]

theorem wc_init (cfg : Cfg) (sh : Shared) (progs : List (List Op)) (hf : sh.file = []) : WC cfg progs (initState sh progs) := by
  refine ⟨fun t => by simp [initState], fun t h => by simp [initState] at h, fun t i => ?_⟩
  simp [initState, writesOf, hf, owed]

theorem writesOf_upd {s s' : State} {t n : Nat} {ws : List Write} (hf : s'.sh.file = s.sh.file ++ ws)
    (hws : ∀ w ∈ ws, w.tid = t ∧ w.op + 1 = n) (u i : Nat) :
    writesOf s' u i = writesOf s u i + if u = t ∧ i + 1 = n then ws.length else 0 := by
  rw [writesOf, hf, filter_append_const _ _ _ (c := u = t ∧ i + 1 = n) fun w hw => by
    have := hws w hw; simp; omega, List.length_append]
  split <;> rfl

/-- `WC` after a step of thread `t` that issued the writes `ws` (none or one) in its running operation: what `t` owes
has gone down by as much. -/
theorem wc_upd {cfg : Cfg} {progs : List (List Op)} {s : State} {t : Nat} (h : WC cfg progs s) {sh' : Shared} {l' : Local}
    {ws : List Write} (hprog : l'.prog = (progs.getD t []).drop l'.nops) (hpos : l'.cont ≠ [] → 1 ≤ l'.nops)
    (hf : sh'.file = s.sh.file ++ ws) (hws : ∀ w ∈ ws, w.tid = t ∧ w.op + 1 = (s.th t).nops)
    (hle : ∀ i, (if i + 1 = (s.th t).nops then ws.length else 0) + owed cfg progs t l' i ≤ owed cfg progs t (s.th t) i) :
    WC cfg progs ⟨sh', upd s.th t l'⟩ := by
  have hw := writesOf_upd (s := s) (s' := ⟨sh', upd s.th t l'⟩) hf hws
  refine ⟨fun u => ?_, fun u hu => ?_, fun u i => ?_⟩ <;> by_cases hut : u = t
  · subst hut; simp only [upd_same, hprog]
  · simp only [upd_other _ _ hut]; exact h.prog u
  · subst hut; simp only [upd_same] at hu ⊢; exact hpos hu
  · simp only [upd_other _ _ hut] at hu ⊢; exact h.pos u hu
  · subst hut
    have hc := h.cnt u i
    have := hle i
    simp only [hw, upd_same, true_and]
    omega
  · simpa only [hw, upd_other _ _ hut, hut, false_and, if_false, Nat.add_zero] using h.cnt u i

theorem owed_le {cfg : Cfg} {progs : List (List Op)} {t : Nat} {l l' : Local} {k : Nat} (hn : l'.nops = l.nops)
    (hle : k + nWrites l'.cont ≤ nWrites l.cont) (i : Nat) :
    (if i + 1 = l.nops then k else 0) + owed cfg progs t l' i ≤ owed cfg progs t l i := by
  simp only [owed, hn]
  split <;> omega

/-- Loading the next operation leaves what is owed as it is: the code of the operation is what was owed for it as a whole. -/
theorem owed_load {cfg : Cfg} {progs : List (List Op)} {t : Nat} {l : Local} (hc : l.cont = []) {op : Op}
    (hop : opAt progs t l.nops = some op) (rest : List Op) (i : Nat) :
    owed cfg progs t { l with prog := rest, cont := code cfg op, nops := l.nops + 1 } i = owed cfg progs t l i := by
  simp only [owed, hc]
  rcases Nat.lt_trichotomy i l.nops with h | rfl | h
  · rw [if_neg (by omega), if_pos (by omega), if_pos h]; exact (ite_self 0).symm
  · rw [if_pos rfl, if_neg (by omega), if_neg (Nat.lt_irrefl _), budget, hop]
  · rw [if_neg (by omega), if_neg (by omega), if_neg (by omega), if_neg (by omega)]

/-- The step of a thread inside an operation issues at most the `write` at the head of its continuation. -/
theorem Eff.writes {cfg : Cfg} {t : Nat} {sh sh' : Shared} {l l' : Local} {act : Act} (h : Eff cfg t sh l act sh' l') :
    l'.nops = l.nops ∧ l'.prog = l.prog ∧ ∃ ws, sh'.file = sh.file ++ ws ∧ (∀ w ∈ ws, w.tid = t ∧ w.op = l.nops - 1) ∧
      ws.length + nWrites l'.cont ≤ (if isWriteAct act then 1 else 0) + nWrites l.cont := by
  have nil : ∀ {c k : Nat}, ([] : List Write).length + c ≤ k + c := by simp
  cases h
  case write =>
    refine ⟨rfl, rfl, _, rfl, fun w hw => ?_, ?_⟩
    · split at hw
      · cases List.mem_singleton.mp hw; exact ⟨rfl, rfl⟩
      · nomatch hw
    · split <;> simp [isWriteAct]
  case ctrl c hcont =>
    refine ⟨rfl, rfl, [], (List.append_nil _).symm, nofun, ?_⟩
    rcases hcont with rfl | rfl
    · exact nil
    · exact Nat.zero_le _
  all_goals exact ⟨rfl, rfl, [], (List.append_nil _).symm, nofun, nil⟩

theorem wc_step {cfg : Cfg} {progs : List (List Op)} {s s' : State} {t : Nat} (inv : Inv cfg s) (h : WC cfg progs s)
    (hs : stepT cfg s t = some s') : WC cfg progs s' := by
  obtain ⟨sh', l', rfl, -, hstep⟩ := step_eff inv hs
  have hprog := h.prog t
  cases hstep with
  | load op rest hc hp =>
    rw [hp] at hprog
    have hop : opAt progs t (s.th t).nops = some op := by rw [opAt, ← hprog]; rfl
    refine wc_upd h ?_ (fun _ => Nat.le_add_left _ _) (List.append_nil _).symm nofun fun i => ?_
    · simpa [List.tail_drop] using congrArg List.tail hprog
    · rw [owed_load hc hop, List.length_nil, ite_self, Nat.zero_add]; exact Nat.le_refl _
  | act g act r hc eff =>
    have hpos := h.pos t (by simp [hc])
    obtain ⟨hn, hp, ws, hf, hws, hle⟩ := eff.writes
    refine wc_upd h (hn ▸ hp ▸ hprog) (fun _ => hn ▸ hpos) hf (fun w hw => ?_) (owed_le hn ?_)
    · exact ⟨(hws w hw).1, (hws w hw).2 ▸ Nat.sub_add_cancel hpos⟩
    · rw [hc, nWrites_cons]; exact hle

theorem nWrites_append (a b : List GAct) : nWrites (a ++ b) = nWrites a + nWrites b := by
  simp [nWrites]

theorem nWrites_printBody (k : DKind) (ls : List Live.Line) : nWrites (printBody k (.pushUser ls)) = 1 := by
  cases k <;> rfl

theorem nWrites_print (cfg : Cfg) (ls : List Live.Line) : nWrites (code cfg (.print ls)) = 1 :=
  nWrites_printBody cfg.kind ls

/-- A `FileProxy.write` that completes lines: the code has two `_check_buffer` calls, so two `write` statements. -/
theorem nWrites_proxyPrint (cfg : Cfg) (ls : List Live.Line) : nWrites (code cfg (.proxyPrint ls)) = 2 := by
  simp only [code, nWrites_append, nWrites_printBody]
  rfl

end RichModel.Conc
