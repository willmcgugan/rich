import RichModel.Lemmas.WrapFull
import RichModel.Lemmas.WrapDivideLine
/-!
One paragraph (no newline, tabs expanded) through `wrapLine`: `divide` at the offsets of `divide_line`, `rstrip_end`,
`Lines.justify`, the final `truncate`.  With folding at a width into which every character fits, `divide` cuts the
styled string into pieces that fit once stripped (`divide_fold`), so no stage touches a non-whitespace character.
Justify "full" rebuilds every line but the last as `Text("").join(tokens)`, which puts the null style of `Text("")` in
front of every effective style: exactly (`fullMark`), or compared after erasing the null style (`dropNull`).
`wrapLine_fold_ink` is the statement for every justify mode at once.
-/
namespace RichModel
namespace Wrap
open Text
variable {σ : Type}
variable {chars : Bool}

/-- `divide` at the offsets `divide_line` computes with folding: the lines are the pieces of the styled string, and
each fits the width once its trailing whitespace is removed -/
theorem divide_fold [BEq σ] (cw : Char → Nat) (w : Nat) (hwc : ∀ c, cw c ≤ w) (P : Text σ) (hP : Inv P) :
    ∃ lines, P.divide Variant.repaired (divideLine cw P.plain w true) = .ok lines ∧
      lines.map Text.view = pieces (divideLine cw P.plain w true) P.view ∧
      (lines.map Text.view).flatten = P.view ∧
      ∀ l ∈ lines, Inv l ∧ FitsStripped cw w l := by
  obtain ⟨hasc, hin⟩ := divideLine_weak cw P.plain w true
  obtain ⟨lines, hdiv, hview, hplain, hall⟩ := Text.divide_view P _ hP hasc hin
  refine ⟨lines, hdiv, hview, by rw [hview, pieces_flatten _ _ hasc], fun l hl => ⟨(hall l hl).1, ?_⟩⟩
  apply divideLine_pieces_fit cw P.plain w hwc
  rw [← hplain]; exact List.mem_map_of_mem hl

/-- the lines `wrapLine` starts from: the paragraph itself with `no_wrap`, otherwise what `divide` makes of it at the
offsets of `divide_line` -/
def startLines [BEq σ] (cw : Char → Nat) (P : Text σ) (w : Nat) (o : Overflow) (nw : Bool) : Except PyErr (List (Text σ)) :=
  if nw then .ok [P] else P.divide Variant.repaired (divideLine cw P.plain w (o == Overflow.fold))

theorem startLines_wrap [BEq σ] (cw : Char → Nat) (P : Text σ) (w : Nat) (o : Overflow) :
    startLines cw P w o false = P.divide Variant.repaired (divideLine cw P.plain w (o == Overflow.fold)) := rfl

/-- they are consecutive pieces of the styled string, at every width (`divideLine_weak`) -/
theorem paragraph_lines [BEq σ] (cw : Char → Nat) (P : Text σ) (hP : Inv P) (w : Nat) (o : Overflow) (nw : Bool) :
    ∃ lines : List (Text σ), startLines cw P w o nw = .ok lines ∧
      (lines.map Text.view).flatten = P.view ∧ AllInv lines := by
  have hweak := divideLine_weak cw P.plain w (o == Overflow.fold)
  cases nw with
  | true => exact ⟨[P], rfl, List.append_nil _, fun l hl => List.mem_singleton.mp hl ▸ hP⟩
  | false =>
    obtain ⟨lines, hdiv, hview, _, hall⟩ := Text.divide_view P _ hP hweak.1 hweak.2
    exact ⟨lines, (startLines_wrap cw P w o).trans hdiv, by rw [hview, pieces_flatten _ _ hweak.1], fun l hl => (hall l hl).1⟩

theorem wrapLine_of_lines [BEq σ] (cw : Char → Nat) (A : StyleAlg σ) (P : Text σ) (w : Nat) (j : Justify) (o : Overflow)
    (nw : Bool) (lines : List (Text σ)) (h : startLines cw P w o nw = .ok lines) :
    wrapLine (WVariant.fixed chars) cw A P w j o nw =
      justifyLines (WVariant.fixed chars) cw A (lines.map (fun l => Text.rstripEndW chars cw Variant.repaired l w)) w j o
        >>= fun justified => .ok (justified.map (fun l => l.truncate cw w (some o))) := by
  show (startLines cw P w o nw >>= _) = _
  rw [h]; rfl

theorem wrapLine_finish [BEq σ] (cw : Char → Nat) (A : StyleAlg σ) (P : Text σ) (w : Nat) (j : Justify)
    (hj : j ≠ Justify.full) (o : Overflow) (nw : Bool) (lines : List (Text σ)) (h : startLines cw P w o nw = .ok lines) :
    wrapLine (WVariant.fixed chars) cw A P w j o nw = .ok (lines.map (finishLine (WVariant.fixed chars) cw w j o)) := by
  rw [wrapLine_of_lines cw A P w j o nw lines h, justifyLines_map _ _ _ _ _ _ _ hj]
  simp only [bind, Except.bind, List.map_map]
  rfl

/-! ### justify "full" -/

/-- for justify "full": `Lines.justify` succeeds on the stripped lines, and what it returns (`FullRel`) is cropped -/
theorem wrapLine_full [BEq σ] (cw : Char → Nat) (hsp : cw ' ' = 1) (A : StyleAlg σ) (P : Text σ) (w : Nat) (o : Overflow)
    (nw : Bool) (lines : List (Text σ)) (h : startLines cw P w o nw = .ok lines) (hinv : AllInv lines) :
    ∃ outs, wrapLine (WVariant.fixed chars) cw A P w Justify.full o nw =
        .ok (outs.map (fun l => l.truncate cw w (some o))) ∧
      FullRel cw A w (lines.map (fun l => Text.rstripEndW chars cw Variant.repaired l (w : Int))) outs := by
  obtain ⟨outs, hjf, hrel⟩ := justifyFull_spec cw hsp A w
    (lines.map (fun l => Text.rstripEndW chars cw Variant.repaired l (w : Int)))
    (by intro s hs; obtain ⟨l, hl, rfl⟩ := List.mem_map.mp hs
        exact (rstripEnd_stage (chars := chars) cw w o l (hinv l hl) w).kept.inv)
  refine ⟨outs, ?_, hrel⟩
  rw [wrapLine_of_lines cw A P w Justify.full o nw lines h]
  simp only [justifyLines, show (WVariant.fixed chars).text = Variant.repaired from rfl, hjf, bind, Except.bind]

/-- One paragraph.  The lines `wrapLine` starts from are consistent (`paragraph_lines`, at the offsets of `divideLine_weak`);
every stage after that — `rstrip_end`, `Lines.justify`, `truncate` — keeps them so (`Stage.kept`), justify "full" by
`justifyFull_inv`. -/
theorem wrapLine_inv [BEq σ] (cw : Char → Nat) (A : StyleAlg σ) (line : Text σ) (h : Inv line) (w : Nat)
    (j : Justify) (o : Overflow) (nw : Bool) :
    (wrapLine (WVariant.fixed chars) cw A line w j o nw).Returns AllInv := by
  obtain ⟨lines, hs, _, hinv⟩ := paragraph_lines cw line h w o nw
  by_cases hj : j = Justify.full
  · subst hj
    rw [wrapLine_of_lines cw A line w Justify.full o nw lines hs]
    exact .bind (justifyFull_inv cw A w _ (List.forall_mem_map.mpr fun l hl =>
        (rstripEnd_stage (chars := chars) cw w o l (hinv l hl) w).kept.inv)) fun js hjs =>
      .ok (List.forall_mem_map.mpr fun l hl => (truncate_stage cw l (hjs l hl) w o false).kept.inv)
  · rw [wrapLine_finish cw A line w j hj o nw lines hs]
    exact .ok (List.forall_mem_map.mpr fun l hl => (finishLine_stage cw w j o l (hinv l hl)).kept.inv)

/-- erase the null style `""` (the identity of rich's style algebra) from every effective style -/
def dropNull [BEq σ] (A : StyleAlg σ) (v : List (Char × List σ)) : List (Char × List σ) :=
  v.map (fun p => (p.1, p.2.filter (fun s => !(s == A.null))))

theorem dropNull_map_fst [BEq σ] (A : StyleAlg σ) (v : List (Char × List σ)) : (dropNull A v).map (·.1) = v.map (·.1) := by
  simp only [dropNull, List.map_map, Function.comp_def]

theorem dropNull_append [BEq σ] (A : StyleAlg σ) (a b : List (Char × List σ)) :
    dropNull A (a ++ b) = dropNull A a ++ dropNull A b := by simp [dropNull]

theorem dropNull_cons_null [BEq σ] [LawfulBEq σ] (A : StyleAlg σ) (v : List (Char × List σ)) :
    dropNull A (v.map (fun p => (p.1, A.null :: p.2))) = dropNull A v := by
  simp [dropNull]

theorem dropNull_fullMark [BEq σ] [LawfulBEq σ] (A : StyleAlg σ) (ls : List (List (Char × List σ))) :
    dropNull A (fullMark A.null ls) = dropNull A ls.flatten :=
  fullMark_map A.null _ (fun p => by simp) ls

theorem zip_map_append {α : Type} (R : α × α → Prop) (f : α → α) (hf : ∀ x, R (f x, x)) :
    ∀ (l r1 r2 : List α), (∀ p ∈ r1.zip r2, R p) → ∀ p ∈ (l.map f ++ r1).zip (l ++ r2), R p
  | [], _, _, h => by simpa using h
  | x :: l, r1, r2, h => by
    intro p hp
    simp only [List.map_cons, List.cons_append, List.zip_cons_cons, List.mem_cons] at hp
    rcases hp with rfl | hp
    · exact hf x
    · exact zip_map_append R f hf l r1 r2 h p hp

/-- the ink of one (tab-expanded) paragraph `Q` after `wrapLine` with folding at width `w`, exactly -/
def paraInk (cw : Char → Nat) (A : StyleAlg σ) (w : Nat) (j : Justify) (Q : Text σ) : List (Char × List σ) :=
  if j = Justify.full then fullMark A.null ((pieces (divideLine cw Q.plain w true) Q.view).map nsv) else nsv Q.view

theorem paraInk_full (cw : Char → Nat) (A : StyleAlg σ) (w : Nat) (Q : Text σ) :
    paraInk cw A w Justify.full Q = fullMark A.null ((pieces (divideLine cw Q.plain w true) Q.view).map nsv) :=
  if_pos rfl

theorem paraInk_of_ne_full (cw : Char → Nat) (A : StyleAlg σ) (w : Nat) {j : Justify} (hj : j ≠ Justify.full) (Q : Text σ) :
    paraInk cw A w j Q = nsv Q.view :=
  if_neg hj

/-- the tail of `wrapLine` for justify "full" on lines already stripped by `rstrip_end`: the last line keeps its ink,
every other one gets the null style in front; the final crop takes nothing but whitespace from either kind -/
theorem fullRel_fold [BEq σ] (cw : Char → Nat) (hsp : cw ' ' = 1) (A : StyleAlg σ) (w : Nat) (ss outs : List (Text σ))
    (h : FullRel cw A w ss outs) (hs : ∀ s ∈ ss, Inv s ∧ FitsStripped cw w s) :
    nsv ((outs.map (fun l => l.truncate cw (w : Int) (some Overflow.fold))).flatMap Text.view)
      = fullMark A.null (ss.map (fun s => nsv s.view)) := by
  have hout : ∀ o ∈ outs, nsv (o.truncate cw (w : Int) (some Overflow.fold)).view = nsv o.view := by
    intro o ho
    obtain ⟨s, hs', rfl | hr⟩ := FullRel.mem cw A w ss outs h o ho
    · exact ((truncate_stage cw o (hs o hs').1 w _ false).ink hsp (by decide) (hs o hs').2).1
    · exact ((truncate_stage cw o hr.inv w _ false).ink hsp (by decide) (hr.fits (hs s hs').2)).1
  rw [List.flatMap_map, flatMap_congr_of_hom nsv nsv_append _ Text.view outs hout, FullRel.mark cw A w ss outs h]

/-- **One paragraph, folding, every justify mode, exactly**: `wrapLine` succeeds on a consistent paragraph, returns
consistent lines, and their ink is `paraInk`: the paragraph's own, with the null style in front on every rebuilt line
for "full". -/
theorem wrapLine_fold_ink [BEq σ] (cw : Char → Nat) (hsp : cw ' ' = 1) (A : StyleAlg σ) (w : Nat)
    (hwc : ∀ c, cw c ≤ w) (j : Justify) (P : Text σ) (hP : Inv P) :
    ∃ out, wrapLine (WVariant.fixed chars) cw A P w j Overflow.fold false = .ok out ∧
      nsv (out.flatMap Text.view) = paraInk cw A w j P ∧ AllInv out := by
  obtain ⟨lines, hdiv, hview, hflat, hall⟩ := divide_fold cw w hwc P hP
  have hs := (startLines_wrap cw P w Overflow.fold).trans hdiv
  have hinv := wrapLine_inv (chars := chars) cw A P hP w j Overflow.fold false
  by_cases hj : j = Justify.full
  · subst hj
    have hstr := fun l (hl : l ∈ lines) => rstripEnd_stage (chars := chars) cw w Overflow.fold l (hall l hl).1 w
    have hink := fun l hl => (hstr l hl).ink hsp (by decide) (hall l hl).2
    obtain ⟨outs, hwl, hrel⟩ := wrapLine_full (chars := chars) cw hsp A P w Overflow.fold false lines hs
      (fun l hl => (hall l hl).1)
    refine ⟨_, hwl, ?_, hinv.of_eq hwl⟩
    rw [fullRel_fold cw hsp A w _ outs hrel (List.forall_mem_map.mpr fun l hl => ⟨(hstr l hl).kept.inv, (hink l hl).2⟩),
      List.map_map, paraInk_full, ← hview, List.map_map]
    exact congrArg _ (List.map_congr_left (fun l hl => (hink l hl).1))
  · have hl := fun l (hl : l ∈ lines) => finishLine_stage (chars := chars) cw w j Overflow.fold l (hall l hl).1
    have hfin := wrapLine_finish (chars := chars) cw A P w j hj Overflow.fold false lines hs
    refine ⟨_, hfin, ?_, hinv.of_eq hfin⟩
    rw [paraInk_of_ne_full cw A w hj, List.flatMap_map,
      flatMap_congr_of_hom nsv nsv_append _ Text.view lines (fun l h => ((hl l h).ink hsp (by decide) (hall l h).2).1), List.flatMap_def, hflat]

theorem paraInk_dropNull [BEq σ] [LawfulBEq σ] (cw : Char → Nat) (A : StyleAlg σ) (w : Nat)
    (j : Justify) (P : Text σ) : dropNull A (paraInk cw A w j P) = dropNull A (nsv P.view) := by
  unfold paraInk
  split
  · rw [dropNull_fullMark]
    conv => rhs; rw [← pieces_flatten P.view _ (divideLine_weak cw P.plain w true).1, nsv_flatten]
  · rfl

/-- the exact ink of one paragraph `P` of `Text.wrap` (tab expansion, then folding at width `w`) -/
def wrapInk [BEq σ] (cw : Char → Nat) (A : StyleAlg σ) (w : Nat) (j : Justify) (tabSize : Option Nat) (P : Text σ) :
    List (Char × List σ) :=
  match (if P.plain.contains '\t' then P.expandTabs Variant.repaired tabSize else .ok P) with
  | .ok Q => paraInk cw A w j Q
  | .error _ => []

theorem wrapInk_of_ok [BEq σ] (cw : Char → Nat) (A : StyleAlg σ) (w : Nat) (j : Justify) {tabSize : Option Nat} {P Q : Text σ}
    (h : (if P.plain.contains '\t' then P.expandTabs Variant.repaired tabSize else .ok P) = .ok Q) :
    wrapInk cw A w j tabSize P = paraInk cw A w j Q := by
  unfold wrapInk; rw [h]

end Wrap
end RichModel
