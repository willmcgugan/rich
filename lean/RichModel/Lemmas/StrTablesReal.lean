import RichModel.Lemmas.ColorParse
/-!
`StrTables.real` — the character tables translated from the running Python on this run
(`Gen/StrTables.lean`) — is lawful: agreement with the ASCII rules below 128, `lower()` idempotent,
`lower()` never creating white space.  Proved from table-level checks (`decide +kernel` over the
generated tables); the same facts are re-validated on the real `str` methods over all code points by
the harness on every run.
-/
namespace RichModel
namespace StrTables
open AsciiStr

/-! ### bit masks over code points (the kernel computes with them in no time) -/

/-- bits `lo … lo+n-1` -/
def runMask (lo n : Nat) : Nat := (2 ^ n - 1) <<< lo

theorem testBit_runMask (lo n m : Nat) : (runMask lo n).testBit m = (decide (lo ≤ m) && decide (m < lo + n)) := by
  unfold runMask
  rw [Nat.testBit_shiftLeft, Nat.testBit_two_pow_sub_one]
  by_cases h : lo ≤ m
  · simp [h]; omega
  · simp [h]

theorem testBit_foldl_or {α : Type} (f : α → Nat) (l : List α) (init m : Nat) :
    (l.foldl (fun acc x => acc ||| f x) init).testBit m = (init.testBit m || l.any fun x => (f x).testBit m) := by
  induction l generalizing init with
  | nil => simp
  | cons a r ih => simp [List.foldl_cons, ih, Nat.testBit_or, Bool.or_assoc]

/-- the code points that are a source of a lower-case mapping -/
def srcMask : Nat :=
  Gen.strLowerSpecial.foldl (fun acc p => acc ||| runMask p.1 1)
    (Gen.strLowerRuns.foldl (fun acc r => acc ||| runMask r.1 (r.2.1 - r.1 + 1)) 0)

/-- the code points `lower()` can produce from a mapped character -/
def outMask : Nat :=
  Gen.strLowerSpecial.foldl (fun acc p => acc ||| p.2.foldl (fun a x => a ||| runMask x 1) 0)
    (Gen.strLowerRuns.foldl (fun acc r => acc ||| runMask r.2.2 (r.2.1 - r.1 + 1)) 1)

/-- the white-space code points -/
def wsMask : Nat := Gen.strWhitespace.foldl (fun acc w => acc ||| runMask w 1) 0

/-- No output of `lower()` (nor U+0000) is a source of a mapping or a white-space character. -/
theorem masks_tbl : (srcMask &&& outMask == 0 && wsMask &&& outMask == 0) = true := by
  decide +kernel

/-- `m` is no source of a lower-case mapping, and no white space: what every output of `lower()` must be. -/
def plainOut (m : Nat) : Bool := !srcMask.testBit m && !wsMask.testBit m

theorem plainOut_of_out {m : Nat} (h : outMask.testBit m = true) : plainOut m = true := by
  have := masks_tbl
  simp only [Bool.and_eq_true, beq_iff_eq] at this
  have h1 := congrArg (fun n => n.testBit m) this.1
  have h2 := congrArg (fun n => n.testBit m) this.2
  simp only [Nat.testBit_and, h, Bool.and_true, Nat.zero_testBit] at h1 h2
  simp [plainOut, h1, h2]

theorem testBit_foldl_or_of_init {α : Type} (f : α → Nat) (l : List α) {init m : Nat} (h : init.testBit m = true) :
    (l.foldl (fun acc x => acc ||| f x) init).testBit m = true := by
  rw [testBit_foldl_or, h, Bool.true_or]

theorem testBit_foldl_or_of_mem {α : Type} (f : α → Nat) {l : List α} {x : α} (hx : x ∈ l) (init : Nat) {m : Nat}
    (h : (f x).testBit m = true) : (l.foldl (fun acc x => acc ||| f x) init).testBit m = true := by
  rw [testBit_foldl_or, Bool.or_eq_true, List.any_eq_true]
  exact .inr ⟨x, hx, h⟩

theorem out_zero : outMask.testBit 0 = true :=
  testBit_foldl_or_of_init _ _ (testBit_foldl_or_of_init _ _ rfl)

theorem out_run {r : Nat × Nat × Nat} (hr : r ∈ Gen.strLowerRuns) {k : Nat} (hk : k ≤ r.2.1 - r.1) :
    outMask.testBit (r.2.2 + k) = true :=
  testBit_foldl_or_of_init _ _ (testBit_foldl_or_of_mem _ hr _ (by rw [testBit_runMask]; simp; omega))

theorem out_special {p : Nat × List Nat} (hp : p ∈ Gen.strLowerSpecial) {x : Nat} (hx : x ∈ p.2) :
    outMask.testBit x = true :=
  testBit_foldl_or_of_mem _ hp _ (testBit_foldl_or_of_mem _ hx _ (by rw [testBit_runMask]; simp))

theorem inRuns_filter_lt (rs : List (Nat × Nat × Nat)) {n b : Nat} (h : n < b) :
    inRuns (rs.filter (·.1 < b)) n = inRuns rs n := by
  rw [inRuns, inRuns, List.find?_filter]
  congr 2
  funext r
  by_cases h1 : r.1 ≤ n <;> simp [h1]
  omega

theorem inRuns_singleton (lo hi t n : Nat) :
    inRuns [(lo, hi, t)] n = if lo ≤ n ∧ n ≤ hi then some (t + (n - lo)) else none := by
  by_cases h : lo ≤ n ∧ n ≤ hi <;> simp [inRuns, h]

/-- What the tables hold below 128: the ten ASCII white-space characters, the digits, the capital letters. -/
theorem ascii_tbl :
    Gen.strWhitespace.filter (· < 128) = [9, 10, 11, 12, 13, 28, 29, 30, 31, 32] ∧
    Gen.strDecimalRuns.filter (·.1 < 128) = [(48, 57, 0)] ∧
    Gen.strLowerRuns.filter (·.1 < 128) = [(65, 90, 97)] ∧
    Gen.strLowerSpecial.all (fun p => decide (128 ≤ p.1)) = true := by
  decide +kernel

theorem inRuns_some {rs : List (Nat × Nat × Nat)} {n t : Nat} (h : inRuns rs n = some t) :
    ∃ r ∈ rs, r.1 ≤ n ∧ n ≤ r.2.1 ∧ t = r.2.2 + (n - r.1) := by
  unfold inRuns at h
  simp only [Option.map_eq_some_iff] at h
  obtain ⟨r, hr, rfl⟩ := h
  have hm := List.mem_of_find?_eq_some hr
  have hp := List.find?_some hr
  simp only [Bool.and_eq_true, decide_eq_true_eq] at hp
  exact ⟨r, hm, hp.1, hp.2, rfl⟩

theorem not_in_runs_of_mask {α : Type} (lo len : α → Nat) (l : List α) (init : Nat) {m : Nat}
    (h : (l.foldl (fun acc x => acc ||| runMask (lo x) (len x)) init).testBit m = false) :
    init.testBit m = false ∧ ∀ x ∈ l, ¬ (lo x ≤ m ∧ m < lo x + len x) := by
  rw [testBit_foldl_or, Bool.or_eq_false_iff, List.any_eq_false] at h
  exact ⟨h.1, fun x hx hm => h.2 x hx (by simp [testBit_runMask, hm])⟩

theorem plain_char {c : Char} (h : plainOut c.toNat = true) : real.lowerChar c = [c] ∧ real.isSpace c = false := by
  simp only [plainOut, srcMask, wsMask, Bool.and_eq_true, Bool.not_eq_true'] at h
  obtain ⟨h0, hspec⟩ := not_in_runs_of_mask (fun p : Nat × List Nat => p.1) (fun _ => 1) _ _ h.1
  obtain ⟨-, hruns⟩ := not_in_runs_of_mask (fun r : Nat × Nat × Nat => r.1) (fun r => r.2.1 - r.1 + 1) _ _ h0
  obtain ⟨-, hws⟩ := not_in_runs_of_mask (fun w : Nat => w) (fun _ => 1) _ _ h.2
  have hs : (Gen.strLowerSpecial.find? fun p => p.1 == c.toNat) = none :=
    List.find?_eq_none.mpr fun p hp hpe => hspec p hp (by simp only [beq_iff_eq] at hpe; omega)
  have hr : inRuns Gen.strLowerRuns c.toNat = none := by
    unfold inRuns
    rw [Option.map_eq_none_iff, List.find?_eq_none]
    intro r hr hre
    simp only [Bool.and_eq_true, decide_eq_true_eq] at hre
    exact hruns r hr (by omega)
  have hw : real.isSpace c = false := by
    show Gen.strWhitespace.contains c.toNat = false
    rw [List.contains_eq_any_beq, List.any_eq_false]
    exact fun w hw hwe => hws w hw (by simp only [beq_iff_eq] at hwe; omega)
  refine ⟨?_, hw⟩
  simp only [real, hs, hr]

/-- `Char.ofNat` of a number that is no code point is U+0000. -/
theorem plain_ofNat {x : Nat} (hx : plainOut x = true) : plainOut (Char.ofNat x).toNat = true := by
  unfold Char.ofNat
  split
  · simpa [Char.ofNatAux, Char.toNat, UInt32.toNat_ofNatLT] using hx
  · exact plainOut_of_out out_zero

theorem lowerChar_out (c : Char) :
    (∀ d ∈ real.lowerChar c, plainOut d.toNat = true) ∨ real.lowerChar c = [c] := by
  cases hs : (Gen.strLowerSpecial.find? fun p => p.1 == c.toNat) with
  | some p =>
    left
    intro d hd
    simp only [real, hs, List.mem_map] at hd
    obtain ⟨x, hx, rfl⟩ := hd
    exact plain_ofNat (plainOut_of_out (out_special (List.mem_of_find?_eq_some hs) hx))
  | none =>
    cases hr : inRuns Gen.strLowerRuns c.toNat with
    | some t =>
      left
      intro d hd
      simp only [real, hs, hr, List.mem_singleton] at hd
      subst hd
      obtain ⟨r, hrm, hlo, hhi, rfl⟩ := inRuns_some hr
      exact plain_ofNat (plainOut_of_out (out_run hrm (k := c.toNat - r.1) (by omega)))
    | none => right; simp only [real, hs, hr]

instance : Lawful real where
  space_ascii := fun c hc => by
    have : Gen.strWhitespace.contains c.toNat = (Gen.strWhitespace.filter (· < 128)).contains c.toNat := by
      simp [hc]
    show Gen.strWhitespace.contains c.toNat = _
    rw [this, ascii_tbl.1]
    simp only [AsciiStr.isSpace, List.contains_eq_mem, List.mem_cons, List.not_mem_nil, or_false, Bool.decide_or]
    rw [Bool.eq_iff_iff]
    simp only [Bool.or_eq_true, Bool.and_eq_true, decide_eq_true_eq]
    omega
  decimal_ascii := fun c hc => by
    show inRuns Gen.strDecimalRuns c.toNat = _
    rw [← inRuns_filter_lt _ hc, ascii_tbl.2.1, inRuns_singleton]
    simp [AsciiStr.isDigit]
  lower_ascii := fun c hc => by
    have hs : (Gen.strLowerSpecial.find? fun p => p.1 == c.toNat) = none := by
      rw [List.find?_eq_none]
      intro p hp hpe
      have := List.all_eq_true.mp ascii_tbl.2.2.2 p hp
      simp only [beq_iff_eq, decide_eq_true_eq] at hpe this
      omega
    have hr : inRuns Gen.strLowerRuns c.toNat = if 65 ≤ c.toNat ∧ c.toNat ≤ 90 then some (c.toNat + 32) else none := by
      rw [← inRuns_filter_lt _ hc, ascii_tbl.2.2.1, inRuns_singleton]
      split <;> simp; omega
    by_cases hu : 65 ≤ c.toNat ∧ c.toNat ≤ 90 <;> simp [real, hs, hr, hu, AsciiStr.lowerChar]
  lower_idem := fun c => by
    rcases lowerChar_out c with h | h
    · have : ∀ l : List Char, (∀ d ∈ l, plainOut d.toNat = true) → l.flatMap real.lowerChar = l := by
        intro l
        induction l with
        | nil => intro _; rfl
        | cons d r ih =>
          intro hl
          rw [List.flatMap_cons, (plain_char (hl d (by simp))).1, ih (fun x hx => hl x (by simp [hx]))]
          rfl
      exact this _ h
    · rw [h]; simp [h]
  lower_noSpace := fun c hc d hd => by
    rcases lowerChar_out c with h | h
    · exact (plain_char (h d hd)).2
    · rw [h] at hd; simp only [List.mem_singleton] at hd; subst hd; exact hc
  digits_floor := by decide

end StrTables
end RichModel
