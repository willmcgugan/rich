import RichModel.Lemmas.Ratio
/-!
`Table._collapse_widths`, on top of what an iteration does (`CollapseIter`) and the induction principle
`collapseWidths_induct` of `Lemmas/Ratio`: an iteration never widens a column (`ListLe`, `collapseStep_le`); the loop never
starves a column (`collapseWidths_keep_mixed`, `collapseWidths_keep`); and below one cell per column it levels every width to 0
or 1 (`collapseWidths_low`; the re-measure then hands every column exactly one cell: `calcWidths_free_low` of `Lemmas/TableGeneral`).

The two invariants.  An iteration on widths that are all at least 1 (`collapseStep_cases`) either levels the widest shrinkable
columns down to the second widest, which is still at least one cell, or all shrinkable columns are equal at `M` and
`ratio_reduce` splits the excess evenly among them with banker's rounding.  With a budget of the widths of the columns that may
not shrink (fixed `width`, `no_wrap`; `nonWrapSum`) plus one cell for every column that may (`wrapCount`), "at most `M - 1` per
remaining column is still to be taken" survives every turn of the even split (`ratioReduceLoop_mixed`), so no column drops below one
cell.  With every column shrinkable and a budget smaller than the number of columns (zero and negative budgets included), "at
least `M - 1` per remaining column is still to be taken" survives (`ratioReduceLoop_uniform_low`), so every column ends at one
cell or none: the loop keeps `Level`, "all widths ≥ 1, or all widths in {0, 1}".
-/
namespace RichModel

/-- Pointwise `≤` between two lists of the same length. -/
def ListLe (a b : List Int) : Prop := a.length = b.length ∧ ∀ p ∈ a.zip b, p.1 ≤ p.2

theorem ListLe.getElem {a b : List Int} (h : ListLe a b) (i : Nat) (hi : i < a.length) : a[i] ≤ b[i]'(by rw [← h.1]; exact hi) :=
  h.2 (a[i], b[i]'(by rw [← h.1]; exact hi)) (List.mem_iff_getElem.mpr ⟨i, by rw [List.length_zip, ← h.1]; omega, List.getElem_zip⟩)

theorem ListLe.of_getElem {a b : List Int} (hl : a.length = b.length) (h : ∀ i (hi : i < a.length), a[i] ≤ b[i]) : ListLe a b := by
  refine ⟨hl, fun p hp => ?_⟩
  obtain ⟨i, hi, rfl⟩ := List.getElem_of_mem hp
  rw [List.getElem_zip]
  exact h i (by rw [List.length_zip] at hi; omega)

theorem ListLe.refl (a : List Int) : ListLe a a := .of_getElem rfl (fun _ _ => Int.le_refl _)

theorem ListLe.trans {a b c : List Int} (h1 : ListLe a b) (h2 : ListLe b c) : ListLe a c :=
  .of_getElem (h1.1.trans h2.1) (fun i hi => Int.le_trans (h1.getElem i hi) (h2.getElem i (h1.1 ▸ hi)))

theorem ListLe.cons {x y : Int} {a b : List Int} : ListLe (x :: a) (y :: b) ↔ x ≤ y ∧ ListLe a b := by
  simp only [ListLe, List.length_cons, Nat.add_right_cancel_iff, List.zip_cons_cons, List.forall_mem_cons]
  exact ⟨fun ⟨hl, hxy, ht⟩ => ⟨hxy, hl, ht⟩, fun ⟨hxy, hl, ht⟩ => ⟨hl, hxy, ht⟩⟩

theorem collapseStep_le (widths : List Int) (wrapable : List Bool) (maxWidth : Int)
    (hlen : widths.length = wrapable.length) (hnn : ∀ w ∈ widths, 0 ≤ w) (w' : List Int)
    (h : collapseStep widths wrapable maxWidth = some w') : ListLe w' widths := by
  have it := collapseStep_iter widths wrapable maxWidth hlen hnn w' h
  exact .of_getElem (it.length_eq hlen) (fun i hi => (it.getElem hlen i hi).1)

/-- One step of the even split: if at most `K` per column is still to be taken from `tr` columns, and this
column gives at least the floor of its share, at most `K` per column remains for the other `tr-1`. -/
theorem even_split_step (rem tr K d : Int) (htr : 1 ≤ tr) (hle : rem ≤ tr * K) (hd : rem / tr ≤ d) :
    rem - d ≤ (tr - 1) * K := by
  have hdecomp := Int.mul_ediv_add_emod rem tr
  have hr0 := Int.emod_nonneg rem (b := tr) (by omega)
  have hr1 := Int.emod_lt_of_pos rem (show 0 < tr by omega)
  have hC : (tr - 1) * K = tr * K - K := by rw [Int.sub_mul, Int.one_mul]
  by_cases hq : rem / tr ≤ K - 1
  · have hA : (tr - 1) * (rem / tr) ≤ (tr - 1) * (K - 1) := Int.mul_le_mul_of_nonneg_left hq (by omega)
    have hB : (tr - 1) * (K - 1) = (tr - 1) * K - (tr - 1) := by rw [Int.mul_sub, Int.mul_one]
    have hA' : (tr - 1) * (rem / tr) = tr * (rem / tr) - rem / tr := by rw [Int.sub_mul, Int.one_mul]
    omega
  · rw [hC]; omega

/-- `ratio_reduce` over items that are either `(ratio 1, cap, M)` or `(ratio 0, _, value ≥ 1)`. -/
theorem ratioReduceLoop_mixed (cap M : Int) (hM : 1 ≤ M) (items : List (Int × Int × Int)) : ∀ (rem tr : Int),
    (∀ it ∈ items, it = (1, cap, M) ∨ (it.1 = 0 ∧ 1 ≤ it.2.2)) → tr = (rrRatios items).sum → 0 ≤ rem → rem ≤ tr * (M - 1) →
    (M ≤ cap ∨ rem ≤ cap) → ∀ x ∈ ratioReduceLoop items rem tr, 1 ≤ x := by
  induction items with
  | nil => intros; simp [ratioReduceLoop] at *
  | cons it rest ih =>
    intro rem tr hall htr h0 hle hcap
    obtain ⟨hit, hrest⟩ := List.forall_mem_cons.mp hall
    have hrnn := sum_ratios_nonneg rest (fun i hi => by
      rcases hrest i hi with h | h
      · rw [h]; exact Int.zero_le_ofNat 1
      · omega)
    obtain ⟨ratio, maximum, value⟩ := it
    rw [rrRatios_cons, List.sum_cons] at htr
    rcases hit with hit | ⟨hr0, hv1⟩
    · cases hit
      have htr1 : 1 ≤ tr := by omega
      have htr0 : 0 < tr := htr1
      rw [ratioReduceLoop_cons_pos _ _ _ _ _ _ (by decide) htr0, Int.one_mul, List.forall_mem_cons]
      have hdq := rhe_ge_div rem tr
      have hdle : roundHalfEven rem tr ≤ M - 1 := rhe_le rem tr (M - 1) htr0 (by rw [Int.mul_comm]; exact hle)
      have hd0 : 0 ≤ roundHalfEven rem tr := rhe_nonneg rem tr htr0 h0
      have hdrem : roundHalfEven rem tr ≤ rem :=
        rhe_le rem tr rem htr0 (by have := share_le 1 rem tr htr1 h0; rwa [Int.one_mul] at this)
      generalize roundHalfEven rem tr = d at *
      refine ⟨by omega, ih (rem - min cap d) (tr - 1) hrest (by omega) (by omega) ?_ (by omega)⟩
      by_cases hcd : d ≤ cap
      · rw [Int.min_eq_right hcd]
        exact even_split_step rem tr (M - 1) d htr1 hle hdq
      · -- the maximum binds: then `cap < M`, so all that is left is at most `cap` and the rest have nothing to give
        have : 0 ≤ (tr - 1) * (M - 1) := Int.mul_nonneg (by omega) (by omega)
        omega
    · simp only at hr0 hv1
      subst hr0
      rw [ratioReduceLoop_cons_zero, List.forall_mem_cons]
      exact ⟨hv1, ih rem tr hrest (by omega) h0 hle hcap⟩

/-- Total width of the columns that may not shrink. -/
def nonWrapSum (zs : List (Int × Bool)) : Int := (zs.map (fun z => if z.2 then 0 else z.1)).sum
/-- Number of columns that may shrink. -/
def wrapCount (zs : List (Int × Bool)) : Int := (zs.map (fun z => if z.2 then (1 : Int) else 0)).sum

theorem nonWrapSum_cons (z : Int × Bool) (zs : List (Int × Bool)) :
    nonWrapSum (z :: zs) = (if z.2 then 0 else z.1) + nonWrapSum zs := by
  rw [nonWrapSum, List.map_cons, List.sum_cons]; rfl

theorem wrapCount_cons (z : Int × Bool) (zs : List (Int × Bool)) :
    wrapCount (z :: zs) = (if z.2 then 1 else 0) + wrapCount zs := by
  rw [wrapCount, List.map_cons, List.sum_cons]; rfl

theorem nonWrapSum_mono : ∀ (a b : List Int) (wr : List Bool), ListLe a b → nonWrapSum (a.zip wr) ≤ nonWrapSum (b.zip wr)
  | [], [], _, _ => Int.le_refl _
  | [], _ :: _, _, h => by simp [ListLe] at h
  | _ :: _, [], _, h => by simp [ListLe] at h
  | _ :: _, _ :: _, [], _ => Int.le_refl _
  | x :: a, y :: b, w :: wr, h => by
    obtain ⟨hxy, ht⟩ := ListLe.cons.mp h
    have ih := nonWrapSum_mono a b wr ht
    rw [List.zip_cons_cons, List.zip_cons_cons, nonWrapSum_cons, nonWrapSum_cons]
    simp only
    split <;> omega

theorem wrapCount_zip (a b : List Int) (wr : List Bool) (h : a.length = b.length) : wrapCount (a.zip wr) = wrapCount (b.zip wr) := by
  induction a generalizing b wr with
  | nil => cases b with
    | nil => rfl
    | cons _ _ => simp at h
  | cons x a ih => cases b with
    | nil => simp at h
    | cons y b => cases wr with
      | nil => rfl
      | cons w wr =>
        rw [List.zip_cons_cons, List.zip_cons_cons, wrapCount_cons, wrapCount_cons, ih b wr (by simpa using h)]

theorem wrapCount_nonneg (zs : List (Int × Bool)) : 0 ≤ wrapCount zs :=
  sum_nonneg_of_all _ (fun x hx => by obtain ⟨z, _, rfl⟩ := List.mem_map.mp hx; split <;> decide)

theorem nonWrapSum_all (ws : List Int) (wr : List Bool) (hlen : ws.length = wr.length) (hnone : wr.any id = false) :
    nonWrapSum (ws.zip wr) = ws.sum := by
  have : ∀ z ∈ ws.zip wr, (if z.2 then 0 else z.1) = z.1 := fun z hz =>
    if_neg (by simpa using List.any_eq_false.mp hnone z.2 (List.of_mem_zip hz).2)
  rw [nonWrapSum, List.map_congr_left this, map_fst_zip ws wr hlen]

theorem sum_split_wrap (M : Int) : ∀ (zs : List (Int × Bool)), (∀ z ∈ zs, z.2 = true → z.1 = M) →
    (zs.map (·.1)).sum = nonWrapSum zs + wrapCount zs * M
  | [], _ => by simp [nonWrapSum, wrapCount]
  | z :: zs, h => by
    have ih := sum_split_wrap M zs (fun x hx => h x (List.mem_cons_of_mem _ hx))
    have hz := h z (by simp)
    rw [List.map_cons, List.sum_cons, nonWrapSum_cons, wrapCount_cons, Int.add_mul, ih]
    cases hb : z.2 with
    | true => rw [hz hb]; simp only [if_true]; omega
    | false => simp only [Bool.false_eq_true, if_false]; omega

theorem not_wrapZero (r : List Int) (wr : List Bool) (hlen : r.length = wr.length) (h1 : ∀ w ∈ r, 1 ≤ w)
    (hany : wr.any id = true) : ¬ wrapZero r wr := by
  intro hz
  simp only [List.any_eq_true, id] at hany
  obtain ⟨b, hb, hbt⟩ := hany
  obtain ⟨a, ha⟩ := exists_zip_of_mem r wr hlen b hb
  have := hz (a, b) ha hbt
  have := h1 a (List.of_mem_zip ha).1
  simp only at *
  omega

/-- With `k` columns at `M` and a budget of the other columns' `N` plus one cell each, the excess is at most `M - 1` per column. -/
theorem split_budget {sum N k M maxWidth : Int} (hs : sum = N + k * M) (hb : N + k ≤ maxWidth) :
    sum - maxWidth ≤ k * (M - 1) := by
  rw [Int.mul_sub, Int.mul_one]; omega

/-- **The two shapes of an iteration of the collapse loop** on widths that are all at least 1.  Either the widest shrinkable
columns are levelled down to the second widest, which is still at least one cell — then every column keeps a cell; or all
shrinkable columns are equal, at `M`, and `ratio_reduce` splits the excess evenly among them (ratio 1 each, none giving more than
`m = min excess M`; the other columns ratio 0). -/
theorem collapseStep_cases (widths : List Int) (wrapable : List Bool) (maxWidth : Int)
    (hlen : widths.length = wrapable.length) (h1 : ∀ w ∈ widths, 1 ≤ w) (w' : List Int)
    (h : collapseStep widths wrapable maxWidth = some w') :
    (∀ w ∈ w', 1 ≤ w) ∨
    ∃ M m : Int, 1 ≤ M ∧ m = min (widths.sum - maxWidth) M ∧ 0 ≤ widths.sum - maxWidth ∧
      (∀ z ∈ widths.zip wrapable, z.2 = true → z.1 = M) ∧
      widths.sum = nonWrapSum (widths.zip wrapable) + wrapCount (widths.zip wrapable) * M ∧
      w' = ratioReduceLoop ((widths.zip wrapable).map (fun z => ((if z.2 then (1 : Int) else 0), m, z.1)))
        (widths.sum - maxWidth) (wrapCount (widths.zip wrapable)) := by
  have hnn : ∀ w ∈ widths, 0 ≤ w := fun w hw => by have := h1 w hw; omega
  have it := collapseStep_iter widths wrapable maxWidth hlen hnn w' h
  have hmem := collapseStep_mem widths wrapable maxWidth hlen w' it
  have hzw := map_fst_zip widths wrapable hlen
  have hz1 : ∀ z ∈ widths.zip wrapable, 1 ≤ z.1 := fun z hzm => h1 _ (List.of_mem_zip hzm).1
  by_cases hs1 : 1 ≤ collapseSecond (widths.zip wrapable)
  · -- a reduced column stays at or above the second maximum
    exact Or.inl (fun r hr => (hmem r hr).elim (h1 r) (Int.le_trans hs1))
  · -- a shrinkable column below the maximum would be at most the second maximum, which is 0
    have hS0 := it.second_nonneg
    have hlt := it.second_lt
    have hallM : ∀ z ∈ widths.zip wrapable, z.2 = true → z.1 = collapseMax (widths.zip wrapable) := by
      intro z hzm hb
      by_cases hzz : z.1 = collapseMax (widths.zip wrapable)
      · exact hzz
      · have := collapseSecond_ge _ z hzm hb hzz
        have := hz1 z hzm
        omega
    refine Or.inr ⟨collapseMax (widths.zip wrapable), collapseCap widths wrapable maxWidth, by omega,
      collapseCap_of_second_zero widths wrapable maxWidth (by omega), Int.le_of_lt it.excess_pos, hallM, by rw [← sum_split_wrap _ _ hallM, hzw], ?_⟩
    rw [it.eq, collapseItems_of_all_max _ hallM, rrRatios_map]
    rfl

theorem collapseStep_keep_mixed (widths : List Int) (wrapable : List Bool) (maxWidth : Int)
    (hlen : widths.length = wrapable.length) (h1 : ∀ w ∈ widths, 1 ≤ w)
    (hmw : nonWrapSum (widths.zip wrapable) + wrapCount (widths.zip wrapable) ≤ maxWidth) (w' : List Int)
    (h : collapseStep widths wrapable maxWidth = some w') : ∀ w ∈ w', 1 ≤ w := by
  rcases collapseStep_cases widths wrapable maxWidth hlen h1 w' h with hk | ⟨M, m, hM1, hm, hex, hallM, hwsum, hw'⟩
  · exact hk
  · rw [hw']
    refine ratioReduceLoop_mixed m M hM1 _ (widths.sum - maxWidth) _ (fun it hit => ?_) (by rw [rrRatios_map]; rfl) hex
      (split_budget hwsum hmw) (by omega)
    obtain ⟨q, hq, rfl⟩ := List.mem_map.mp hit
    cases hb : q.2 with
    | true => exact Or.inl (by simp [hallM q hq hb])
    | false => exact Or.inr ⟨by simp, h1 _ (List.of_mem_zip hq).1⟩

/-- **`_collapse_widths` with unshrinkable columns**: every width at least 1 and a budget of the unshrinkable columns'
widths plus one cell per shrinkable column — every collapsed width is still at least 1.  (The budget is part of the loop
invariant: no iteration widens an unshrinkable column.) -/
theorem collapseWidths_keep_mixed (widths : List Int) (wrapable : List Bool) (maxWidth : Int)
    (hlen : widths.length = wrapable.length) (h1 : ∀ w ∈ widths, 1 ≤ w)
    (hmw : nonWrapSum (widths.zip wrapable) + wrapCount (widths.zip wrapable) ≤ maxWidth) :
    ∀ w ∈ collapseWidths widths wrapable maxWidth, 1 ≤ w :=
  (collapseWidths_induct wrapable maxWidth
    (fun r => (∀ w ∈ r, 1 ≤ w) ∧ nonWrapSum (r.zip wrapable) + wrapCount (r.zip wrapable) ≤ maxWidth)
    (fun ws w' hl hn ⟨i1, i2⟩ hs => by
      have hle := collapseStep_le ws wrapable maxWidth hl hn w' hs
      have hmono := nonWrapSum_mono w' ws wrapable hle
      have hcnt := wrapCount_zip w' ws wrapable hle.1
      exact ⟨collapseStep_keep_mixed ws wrapable maxWidth hl i1 i2 w' hs, by omega⟩)
    widths hlen (fun w hw => by have := h1 w hw; omega) ⟨h1, hmw⟩).1.1

theorem wrap_sums_all (ws : List Int) (wr : List Bool) (hlen : ws.length = wr.length) (hall : ∀ b ∈ wr, b = true) :
    nonWrapSum (ws.zip wr) = 0 ∧ wrapCount (ws.zip wr) = (ws.length : Int) := by
  have hz : ∀ z ∈ ws.zip wr, z.2 = true := fun z hz => hall _ (List.of_mem_zip hz).2
  refine ⟨sum_zero_of_all_zero _ (fun x hx => ?_), ?_⟩
  · obtain ⟨z, hzm, rfl⟩ := List.mem_map.mp hx
    rw [if_pos (hz z hzm)]
  · rw [wrapCount, List.map_congr_left (g := fun _ => (1 : Int)) (fun z hzm => if_pos (hz z hzm)), sum_map_one,
      List.length_zip, ← hlen, Nat.min_self]

theorem collapseWidths_keep (widths : List Int) (wrapable : List Bool) (maxWidth : Int)
    (hlen : widths.length = wrapable.length) (hall : ∀ b ∈ wrapable, b = true) (h1 : ∀ w ∈ widths, 1 ≤ w)
    (hmw : (widths.length : Int) ≤ maxWidth) : ∀ w ∈ collapseWidths widths wrapable maxWidth, 1 ≤ w := by
  obtain ⟨h0, hc⟩ := wrap_sums_all widths wrapable hlen hall
  exact collapseWidths_keep_mixed widths wrapable maxWidth hlen h1 (by omega)

/-- The mirror of `even_split_step`: if at least `K` per column has to be taken from `tr` columns, the share of one column —
`rem / tr` rounded, so at most the `k` with `rem ≤ k * tr` — is at most `rem - (tr - 1) * K`: at least `K` per column is still to
be taken from the others. -/
theorem even_split_step_low (rem tr K : Int) (htr : 1 ≤ tr) (hle : tr * K ≤ rem) : rem ≤ (rem - (tr - 1) * K) * tr := by
  have hxt : (rem - tr * K) * 1 ≤ (rem - tr * K) * tr := Int.mul_le_mul_of_nonneg_left htr (by omega)
  have hC : (tr - 1) * K = tr * K - K := by rw [Int.sub_mul, Int.one_mul]
  have hk : (rem - (tr - 1) * K) * tr = (rem - tr * K) * tr + K * tr := by
    rw [hC, ← Int.add_mul]; congr 1; omega
  rw [hk, Int.mul_comm K tr]; omega

/-- `ratio_reduce` over columns that are all `(ratio 1, maximum cap, value M)` when at least `M - 1` per column has to be taken:
every column ends at one cell or less. -/
theorem ratioReduceLoop_uniform_low (cap M : Int) (hM : 1 ≤ M) (hcap : M - 1 ≤ cap) : ∀ (items : List (Int × Int × Int)) (rem tr : Int),
    (∀ it ∈ items, it = (1, cap, M)) → tr = (items.length : Int) → tr * (M - 1) ≤ rem →
    ∀ x ∈ ratioReduceLoop items rem tr, x ≤ 1
  | [], _, _, _, _, _ => by simp [ratioReduceLoop]
  | it :: rest, rem, tr, hall, htr, hle => by
    have hit := hall it (by simp)
    subst hit
    have htr1 : 1 ≤ tr := by simp only [List.length_cons] at htr; omega
    rw [ratioReduceLoop_cons_pos _ _ _ _ _ _ (by decide) (by omega), Int.one_mul]
    have hdq := rhe_ge_div rem tr
    have hq : M - 1 ≤ rem / tr := by
      apply Int.le_ediv_of_mul_le (by omega)
      rw [Int.mul_comm]; exact hle
    have hdle : roundHalfEven rem tr ≤ rem - (tr - 1) * (M - 1) :=
      rhe_le rem tr _ (by omega) (even_split_step_low rem tr (M - 1) htr1 hle)
    have hC : (tr - 1) * (M - 1) = tr * (M - 1) - (M - 1) := by rw [Int.sub_mul, Int.one_mul]
    generalize roundHalfEven rem tr = d at *
    intro x hx'
    rcases List.mem_cons.mp hx' with hx' | hx'
    · omega
    · refine ratioReduceLoop_uniform_low cap M hM hcap rest (rem - min cap d) (tr - 1) (fun i hi => hall i (List.mem_cons_of_mem _ hi))
        (by simp only [List.length_cons] at htr; omega) ?_ x hx'
      rw [hC] at hdle ⊢
      omega

/-- One iteration of the collapse loop below one cell per column: from "all ≥ 1" to "all ≥ 1" (the widest columns were levelled to
the second widest) or to "all ≤ 1" (all columns were equal). -/
theorem collapseStep_ge_one_or_le_one (widths : List Int) (wrapable : List Bool) (maxWidth : Int)
    (hlen : widths.length = wrapable.length) (hall : ∀ b ∈ wrapable, b = true) (h1 : ∀ w ∈ widths, 1 ≤ w)
    (hmw : maxWidth < (widths.length : Int)) (w' : List Int)
    (h : collapseStep widths wrapable maxWidth = some w') : (∀ w ∈ w', 1 ≤ w) ∨ (∀ w ∈ w', w ≤ 1) := by
  rcases collapseStep_cases widths wrapable maxWidth hlen h1 w' h with hk | ⟨M, m, hM1, hm, hex, hallM, hwsum, hw'⟩
  · exact Or.inl hk
  · right
    -- all columns are equal: what has to be taken is more than `M - 1` per column
    obtain ⟨h0, hc⟩ := wrap_sums_all widths wrapable hlen hall
    have hn1 : 1 ≤ (widths.length : Int) := by
      cases widths with
      | nil => simp [collapseStep] at h
      | cons _ _ => simp only [List.length_cons, Int.natCast_add]; omega
    have hmul : (widths.length : Int) * (M - 1) = (widths.length : Int) * M - (widths.length : Int) := by
      rw [Int.mul_sub, Int.mul_one]
    have hnK : 1 * (M - 1) ≤ (widths.length : Int) * (M - 1) := Int.mul_le_mul_of_nonneg_right hn1 (by omega)
    rw [h0, hc] at hwsum
    rw [hw', hc]
    refine ratioReduceLoop_uniform_low m M hM1 (by omega) _ _ _ (fun it hit => ?_) (by simp [hlen]) (by omega)
    obtain ⟨q, hq, rfl⟩ := List.mem_map.mp hit
    have hb := hall _ (List.of_mem_zip hq).2
    simp [hb, hallM q hq hb]

/-- The invariant of the collapse loop below one cell per column: every column has at least one cell, or none has more than one. -/
def Level (ws : List Int) : Prop := (∀ w ∈ ws, 1 ≤ w) ∨ (∀ w ∈ ws, 0 ≤ w ∧ w ≤ 1)

theorem Level.nonneg {ws : List Int} (hL : Level ws) : ∀ w ∈ ws, 0 ≤ w := by
  intro w hw
  rcases hL with h1 | h01
  · have := h1 w hw; omega
  · exact (h01 w hw).1

theorem collapseStep_Level (widths : List Int) (wrapable : List Bool) (maxWidth : Int)
    (hlen : widths.length = wrapable.length) (hall : ∀ b ∈ wrapable, b = true) (hL : Level widths)
    (hmw : maxWidth < (widths.length : Int)) (w' : List Int)
    (h : collapseStep widths wrapable maxWidth = some w') : Level w' := by
  obtain ⟨_, l2, _, _⟩ := collapseStep_some widths wrapable maxWidth hlen hL.nonneg w' h
  rcases hL with h1 | h01
  · rcases collapseStep_ge_one_or_le_one widths wrapable maxWidth hlen hall h1 hmw w' h with hA | hB
    · exact Or.inl hA
    · exact Or.inr (fun w hw => ⟨l2 w hw, hB w hw⟩)
  · -- no step widens a column
    right
    have hle := collapseStep_le widths wrapable maxWidth hlen (Level.nonneg (Or.inr h01)) w' h
    intro w hw
    refine ⟨l2 w hw, ?_⟩
    obtain ⟨i, hi, rfl⟩ := List.getElem_of_mem hw
    have := hle.getElem i hi
    have := (h01 (widths[i]'(by rw [← hle.1]; exact hi)) (List.getElem_mem _)).2
    omega

/-- **`_collapse_widths` below one cell per column levels everything to 0 or 1**: every column free to wrap, every width at least
1 and a budget SMALLER than the number of columns (any integer) — every collapsed width is 0 or 1. -/
theorem collapseWidths_low (widths : List Int) (wrapable : List Bool) (maxWidth : Int)
    (hlen : widths.length = wrapable.length) (hall : ∀ b ∈ wrapable, b = true) (h1 : ∀ w ∈ widths, 1 ≤ w)
    (hmw : maxWidth < (widths.length : Int)) : ∀ w ∈ collapseWidths widths wrapable maxWidth, 0 ≤ w ∧ w ≤ 1 := by
  have hnn : ∀ w ∈ widths, 0 ≤ w := fun w hw => by have := h1 w hw; omega
  have hL : Level (collapseWidths widths wrapable maxWidth) :=
    (collapseWidths_induct wrapable maxWidth Level
      (fun ws w' hl _ hL hs => collapseStep_Level ws wrapable maxWidth hl hall hL (by omega) w' hs)
      widths hlen hnn (Or.inl h1)).1
  rcases hL with hge | h01
  · -- all ≥ 1 is impossible at the end of the loop: the sum would exceed the budget, and no width is 0
    intro w hw
    have hw1 := hge w hw
    rcases collapseWidths_fits_or_zero widths wrapable maxWidth hlen hall hnn with hs | hz
    · have := sum_ge_length _ hge
      have := (collapseWidths_post widths wrapable maxWidth hlen hnn).1
      omega
    · have := hz w hw
      omega
  · exact h01

/-- non-vacuity: three columns measured 2 cells each with two cells to share end at `[1, 0, 1]` -/
example : collapseWidths [2, 2, 2] [true, true, true] 2 = [1, 0, 1] := by decide

end RichModel
