import RichModel.Model.Term
/-!
Generic facts about the terminal model: replay / row trace over concatenations, what show / hide leave, and
what each operation the live display writes does to a screen whose cursor row is known (`OnRow`).
-/
namespace RichModel

theorem ite_of {α : Sort _} (C : α → Prop) {p : Prop} [Decidable p] {a b : α} (ha : C a) (hb : C b) :
    C (if p then a else b) := by
  split <;> assumption

namespace Screen

theorem replay_nil (H : Nat) (s : Screen) : replay H s [] = s := rfl

theorem replay_cons (H : Nat) (s : Screen) (op : TermOp) (ops : List TermOp) :
    replay H s (op :: ops) = replay H (step H s op) ops := rfl

theorem replay_append (H : Nat) (s : Screen) (a b : List TermOp) :
    replay H s (a ++ b) = replay H (replay H s a) b := by
  simp [replay, List.foldl_append]

theorem rowTrace_append (H : Nat) (s : Screen) (a b : List TermOp) :
    rowTrace H s (a ++ b) = rowTrace H s a ++ rowTrace H (replay H s a) b := by
  induction a generalizing s with
  | nil => rfl
  | cons op rest ih => simp [rowTrace, replay_cons, ih]

/-- `Run H lo s ops s'`: replaying `ops` from `s` ends in `s'` and the cursor never visits a row above `lo`. -/
def Run (H lo : Nat) (s : Screen) (ops : List TermOp) (s' : Screen) : Prop :=
  replay H s ops = s' ∧ ∀ r ∈ rowTrace H s ops, lo ≤ r

theorem Run.nil (H lo : Nat) (s : Screen) : Run H lo s [] s := ⟨rfl, by simp [rowTrace]⟩

theorem Run.append {H lo : Nat} {s s1 s2 : Screen} {a b : List TermOp}
    (h1 : Run H lo s a s1) (h2 : Run H lo s1 b s2) : Run H lo s (a ++ b) s2 := by
  refine ⟨by rw [replay_append, h1.1, h2.1], ?_⟩
  intro r hr
  rw [rowTrace_append, List.mem_append] at hr
  cases hr with
  | inl h => exact h1.2 r h
  | inr h => rw [h1.1] at h; exact h2.2 r h

theorem Run.one {H lo : Nat} {s : Screen} {op : TermOp} (h : lo ≤ (step H s op).row) :
    Run H lo s [op] (step H s op) :=
  ⟨rfl, fun r hr => by cases List.mem_singleton.1 hr; exact h⟩

theorem Run.cons {H lo : Nat} {s s2 : Screen} {op : TermOp} {b : List TermOp}
    (h : lo ≤ (step H s op).row) (h2 : Run H lo (step H s op) b s2) : Run H lo s (op :: b) s2 :=
  Run.append (Run.one h) h2

theorem Run.weaken {H lo lo' : Nat} {s s' : Screen} {ops : List TermOp} (h : Run H lo s ops s')
    (hle : lo' ≤ lo) : Run H lo' s ops s' :=
  ⟨h.1, fun r hr => Nat.le_trans hle (h.2 r hr)⟩

def lastVis : Bool → List TermOp → Bool
  | v, [] => v
  | _, .showCursor :: rest => lastVis true rest
  | _, .hideCursor :: rest => lastVis false rest
  | v, _ :: rest => lastVis v rest

theorem replay_visible (H : Nat) (s : Screen) (ops : List TermOp) :
    (replay H s ops).visible = lastVis s.visible ops := by
  induction ops generalizing s with
  | nil => rfl
  | cons op rest ih =>
    rw [replay_cons, ih]
    cases op <;> simp [step, lastVis]

theorem lastVis_append (v : Bool) (a b : List TermOp) : lastVis v (a ++ b) = lastVis (lastVis v a) b := by
  induction a generalizing v with
  | nil => rfl
  | cons op rest ih => cases op <;> simp [lastVis, ih]

/-- The cursor is at the end of the row `g` right under the rows `P`, and the `m` rows below it are blank.
(On a blank row, `g = []`, the cursor is at its start.) -/
structure OnRow (s : Screen) (P : List (List Char)) (g : List Char) (m : Nat) : Prop where
  rows : s.rows = P ++ g :: List.replicate m []
  row : s.row = P.length
  col : s.col = g.length

variable {H : Nat} {s : Screen} {P : List (List Char)} {g : List Char} {m : Nat}

theorem set_length_append {α : Type _} (P : List α) (p x : α) (R : List α) :
    (P ++ p :: R).set P.length x = P ++ x :: R := by
  rw [List.set_append_right _ _ (Nat.le_refl _), Nat.sub_self, List.set_cons_zero]

theorem getD_length_append {α : Type _} (P : List α) (p d : α) (R : List α) : (P ++ p :: R).getD P.length d = p := by
  rw [List.getD_eq_getElem?_getD, List.getElem?_append_right (Nat.le_refl _), Nat.sub_self]; rfl

theorem writeAt_zero_nil (t : List Char) : writeAt 0 t [] = t := by
  simp [writeAt]

theorem OnRow.text (h : OnRow s P [] m) (t : List Char) : OnRow (step H s (.text t)) P t m := by
  refine ⟨?_, h.row, (congrArg (· + t.length) h.col).trans (Nat.zero_add _)⟩
  show s.rows.set s.row (writeAt s.col t (s.rows.getD s.row [])) = _
  rw [h.rows, h.row, h.col, getD_length_append, set_length_append]
  exact congrArg (P ++ · :: _) (writeAt_zero_nil t)

theorem OnRow.lf (h : OnRow s P g m) : OnRow (step H s .lf) (P ++ [g]) [] (m - 1) := by
  refine ⟨?_, by simp [step, h.row], rfl⟩
  cases m with
  | zero => simp [step, h.rows, h.row]
  | succ m => simp [step, h.rows, h.row, List.replicate_succ]

theorem length_le_append {α : Type _} (P Q : List α) : P.length ≤ (P ++ Q).length := by
  rw [List.length_append]; exact Nat.le_add_right _ _

theorem OnRow.le_row {Q : List (List Char)} (h : OnRow s (P ++ Q) g m) : P.length ≤ s.row :=
  h.row ▸ length_le_append P Q

theorem OnRow.cr (h : OnRow s P [] m) : OnRow (step H s .cr) P [] m := ⟨h.rows, h.row, rfl⟩

theorem OnRow.showCursor (h : OnRow s P g m) : OnRow (step H s .showCursor) P g m := ⟨h.rows, h.row, h.col⟩

/-- `"\r\x1b[2K"`. -/
theorem OnRow.clear (h : OnRow s P g m) : OnRow (step H (step H s .cr) .el2) P [] m := by
  refine ⟨?_, h.row, rfl⟩
  show s.rows.set s.row [] = _
  rw [h.rows, h.row, set_length_append]

/-- `"\x1b[1A\x1b[2K"` from a blank row, while the row above is still on screen. -/
theorem OnRow.up {p : List Char} (h : OnRow s (P ++ [p]) [] m) (hfit : m + 2 ≤ H) :
    OnRow (step H (step H s (.cuu 1)) .el2) P [] (m + 1) := by
  have hrow : (step H s (.cuu 1)).row = P.length := by
    show max (s.rows.length - H) (s.row - (if 1 = 0 then 1 else 1)) = P.length
    rw [h.rows, h.row, if_neg Nat.one_ne_zero]
    simp only [List.length_append, List.length_cons, List.length_replicate, List.length_nil]
    exact Nat.max_eq_right (by omega)
  refine ⟨?_, hrow, h.col⟩
  show s.rows.set (step H s (.cuu 1)).row [] = _
  rw [hrow, h.rows, List.append_assoc, List.singleton_append, set_length_append]; rfl

end Screen
end RichModel
