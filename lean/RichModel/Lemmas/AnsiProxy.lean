import RichModel.Model.AnsiProxyApi
/-!
Lemmas about the `FileProxy` model (property C19): the proxy against its specification over the
flattened character stream (`Prints`: call by call, appended along a history); two proxies on one console do not
interfere (`run2_proj`); then the rest of its file-object surface (`Model/AnsiProxyApi.lean`) against `write` / `flush`
histories.
-/
namespace RichModel
namespace Ansi

/-- One symbol of the flattened history: a character written, or a flush. -/
inductive Sym where
  | ch (c : Char)
  | fl
deriving Repr, DecidableEq

/-- The history with the boundaries between `write` calls erased. -/
def flat : List Op → List Sym
  | [] => []
  | .write s :: h => s.map .ch ++ flat h
  | .flush _ :: h => .fl :: flat h

/-- The units that must be printed, and what is still pending: a newline always closes a unit (even
an empty one), a flush closes a unit only if something is pending.  `cur` is the pending text. -/
def unitsAux : List Sym → List Char → List (List Char) × List Char
  | [], cur => ([], cur)
  | .ch c :: r, cur =>
    if c = '\n' then (cur :: (unitsAux r []).1, (unitsAux r []).2) else unitsAux r (cur ++ [c])
  | .fl :: r, cur =>
    if cur.isEmpty then unitsAux r [] else (cur :: (unitsAux r []).1, (unitsAux r []).2)

theorem flat_append (a b : List Op) : flat (a ++ b) = flat a ++ flat b := by
  induction a with
  | nil => rfl
  | cons op r ih => cases op <;> simp [flat, ih]

def units (h : List Op) : List (List Char) := (unitsAux (flat h) []).1
def pending (h : List Op) : List Char := (unitsAux (flat h) []).2

theorem unitsAux_append (a b : List Sym) (cur : List Char) :
    unitsAux (a ++ b) cur =
      ((unitsAux a cur).1 ++ (unitsAux b (unitsAux a cur).2).1, (unitsAux b (unitsAux a cur).2).2) := by
  induction a generalizing cur with
  | nil => simp [unitsAux]
  | cons x r ih =>
    cases x with
    | ch c =>
      by_cases hc : c = '\n'
      · simp [unitsAux, hc, ih]
      · simp [unitsAux, hc, ih]
    | fl =>
      by_cases he : cur.isEmpty
      · simp [unitsAux, he, ih]
      · simp [unitsAux, he, ih]

/-- The decoded line texts handed to the console by one call, in order. -/
def Call.texts : Call → List (List Run)
  | .printText parts => parts
  | .printOne runs => [runs]
  | .printStr _ => []

def Event.texts : Event → List (List Run)
  | .call c => c.texts
  | .raised _ => []

/-- Every line text printed during a history, in order. -/
def printedTexts (evs : List Event) : List (List Run) := evs.flatMap Event.texts

/-- The call prints a `Text` that came out of the decoder, with markup, emoji and highlighting off
(both `printText` and `printOne` stand for `console.print(text, markup=False, emoji=False, highlight=False)`). -/
def Call.verbatim : Call → Bool
  | .printText _ => true
  | .printOne _ => true
  | .printStr _ => false

def Event.verbatim : Event → Bool
  | .call c => c.verbatim
  | .raised _ => false

theorem writeLoop_spec (text cur : List Char) (buf lines : List (List Char)) :
    (writeLoop text cur buf lines).1 = lines ++ (unitsAux (text.map .ch) (buf.flatten ++ cur)).1 ∧
    (writeLoop text cur buf lines).2.flatten = (unitsAux (text.map .ch) (buf.flatten ++ cur)).2 ∧
    ((∀ c ∈ buf, c ≠ []) → ∀ c ∈ (writeLoop text cur buf lines).2, c ≠ []) := by
  induction text generalizing cur buf lines with
  | nil =>
    refine ⟨by simp [writeLoop, unitsAux], ?_, ?_⟩
    · simp only [writeLoop, List.map_nil, unitsAux]
      split
      · rename_i h; simp [List.isEmpty_iff.mp h]
      · simp
    · intro hb c hc
      simp only [writeLoop] at hc
      split at hc
      · exact hb c hc
      · rename_i h
        rcases List.mem_append.mp hc with h1 | h1
        · exact hb c h1
        · simp at h1; subst h1; intro h2; simp [h2] at h
  | cons x r ih =>
    by_cases hx : x = '\n'
    · subst hx
      obtain ⟨h1, h2, h3⟩ := ih [] [] (lines ++ [buf.flatten ++ cur])
      refine ⟨?_, ?_, ?_⟩
      · simp [writeLoop, unitsAux, h1]
      · simpa [writeLoop, unitsAux] using h2
      · intro _; simpa [writeLoop] using h3 (by simp)
    · obtain ⟨h1, h2, h3⟩ := ih (cur ++ [x]) buf lines
      refine ⟨?_, ?_, ?_⟩
      · simp [writeLoop, unitsAux, hx, h1]
      · simpa [writeLoop, unitsAux, hx] using h2
      · intro hb; simpa [writeLoop, hx] using h3 hb

section
variable {cfg : Cfg} {st st' s1 : Style} {l : List Char} {r ls : List (List Char)} {runs : List Run} {ts : List (List Run)}

theorem decodeMany_cons (r : List (List Char)) (hl : decodeLine cfg st l = (s1, .ok runs)) :
    decodeMany cfg st (l :: r) = ((decodeMany cfg s1 r).1, (decodeMany cfg s1 r).2.map (runs :: ·)) := by
  simp [decodeMany, hl]

theorem decodeMany_cons_ok (h : decodeMany cfg st (l :: r) = (st', .ok ts)) :
    ∃ s1 runs ts', decodeLine cfg st l = (s1, .ok runs) ∧ decodeMany cfg s1 r = (st', .ok ts') ∧ ts = runs :: ts' := by
  rcases hl : decodeLine cfg st l with ⟨s1, e | runs⟩
  · simp [decodeMany, hl] at h
  · rw [decodeMany_cons r hl] at h
    rcases hr : decodeMany cfg s1 r with ⟨s2, e | ts'⟩ <;>
      simp only [hr, Except.map, Prod.mk.injEq, Except.ok.injEq, reduceCtorEq, and_false] at h
    exact ⟨s1, runs, ts', rfl, h.1 ▸ hr, h.2.symm⟩

theorem decodeMany_length (h : decodeMany cfg st ls = (st', .ok ts)) : ts.length = ls.length := by
  induction ls generalizing st ts with
  | nil =>
    obtain ⟨-, rfl⟩ : st = st' ∧ [] = ts := by simpa [decodeMany] using h
    rfl
  | cons l r ih =>
    obtain ⟨s1, runs, ts', -, hr, rfl⟩ := decodeMany_cons_ok h
    simp [ih hr]

end

theorem decodeMany_append (cfg : Cfg) (st : Style) (a b : List (List Char)) {st1 ta}
    (ha : decodeMany cfg st a = (st1, .ok ta)) :
    decodeMany cfg st (a ++ b) =
      ((decodeMany cfg st1 b).1, (decodeMany cfg st1 b).2.map (ta ++ ·)) := by
  induction a generalizing st ta with
  | nil =>
    obtain ⟨rfl, rfl⟩ : st = st1 ∧ [] = ta := by simpa [decodeMany] using ha
    cases hb : (decodeMany cfg st b).2 <;> simp [Except.map, ← hb]
  | cons l r ih =>
    obtain ⟨s1, runs, ts', hl, hr, rfl⟩ := decodeMany_cons_ok ha
    rw [List.cons_append, decodeMany_cons _ hl, ih s1 hr]
    cases (decodeMany cfg st1 b).2 <;> rfl

/-- The decoder never raises (what `decodeLine_total` establishes when `intRaises = false`). -/
def Total (cfg : Cfg) : Prop := ∀ st l, ∃ st' runs, decodeLine cfg st l = (st', .ok runs)

theorem decodeMany_total {cfg : Cfg} (ht : Total cfg) (st : Style) (ls : List (List Char)) :
    ∃ st' ts, decodeMany cfg st ls = (st', .ok ts) := by
  induction ls generalizing st with
  | nil => exact ⟨st, [], rfl⟩
  | cons l r ih =>
    obtain ⟨s1, runs, h1⟩ := ht st l
    obtain ⟨s2, ts, h2⟩ := ih s1
    exact ⟨s2, runs :: ts, by simp [decodeMany_cons r h1, h2, Except.map]⟩

/-- `buffer` holds only non-empty chunks, so "the list is empty" is "nothing is pending". -/
def Proxy.NoEmptyChunk (p : Proxy) : Prop := ∀ c ∈ p.buffer, c ≠ []

theorem Proxy.noEmptyChunk_nil (st : Style) : (⟨[], st⟩ : Proxy).NoEmptyChunk := nofun

theorem Proxy.NoEmptyChunk.flatten_eq_nil {p : Proxy} (h : p.NoEmptyChunk) : p.buffer.flatten = [] ↔ p.buffer = [] :=
  ⟨fun hf => List.eq_nil_iff_forall_not_mem.mpr fun c hc => h c hc (List.flatten_eq_nil_iff.mp hf c hc),
    fun hb => hb ▸ rfl⟩

/-- Calls whose flattened form is `syms`, made on a proxy in state `p`, hand `evs` to the console and leave the proxy in
state `p'`: the texts printed are the decoded units `syms` completes (the pending text first), each once and in order,
decoded from `p`'s decoder state to `p'`'s; nothing is raised and every print is verbatim; what stays buffered is the
unterminated rest. -/
structure Prints (cfg : Cfg) (p : Proxy) (syms : List Sym) (evs : List Event) (p' : Proxy) : Prop where
  texts : decodeMany cfg p.style (unitsAux syms p.buffer.flatten).1 = (p'.style, .ok (printedTexts evs))
  verbatim : ∀ e ∈ evs, e.verbatim = true
  pending : p'.buffer.flatten = (unitsAux syms p.buffer.flatten).2
  ne : p'.NoEmptyChunk

theorem Prints.append {cfg : Cfg} {p p1 p2 : Proxy} {a b : List Sym} {e1 e2 : List Event} (h1 : Prints cfg p a e1 p1)
    (h2 : Prints cfg p1 b e2 p2) : Prints cfg p (a ++ b) (e1 ++ e2) p2 := by
  refine ⟨?_, fun e he => (List.mem_append.mp he).elim (h1.verbatim e) (h2.verbatim e), ?_, h2.ne⟩
  · rw [unitsAux_append]
    simp only
    rw [decodeMany_append cfg p.style _ _ h1.texts, ← h1.pending, h2.texts]
    simp [Except.map, printedTexts]
  · rw [unitsAux_append, h2.pending, h1.pending]

theorem Prints.texts_eq {cfg : Cfg} {p p1 p2 : Proxy} {syms : List Sym} {e1 e2 : List Event} (h1 : Prints cfg p syms e1 p1)
    (h2 : Prints cfg p syms e2 p2) : printedTexts e1 = printedTexts e2 :=
  Except.ok.inj (Prod.mk.inj (h1.texts.symm.trans h2.texts)).2

theorem Proxy.step_spec {cfg : Cfg} (hraw : cfg.flushRaw = false) (ht : Total cfg) (op : Op) (p : Proxy) (hp : p.NoEmptyChunk) :
    Prints cfg p (flat [op]) (p.step cfg op).2 (p.step cfg op).1 := by
  cases op with
  | write s =>
    obtain ⟨w1, w2, w3⟩ := writeLoop_spec s [] p.buffer []
    simp only [List.nil_append, List.append_nil] at w1 w2
    obtain ⟨st1, t1, hd⟩ := decodeMany_total ht p.style (writeLoop s [] p.buffer []).1
    simp only [flat, List.append_nil, Proxy.step, Proxy.write]
    by_cases he : (writeLoop s [] p.buffer []).1.isEmpty
    · simp only [he, if_true]
      exact ⟨by rw [← w1, List.isEmpty_iff.mp he]; simp [decodeMany, printedTexts], by simp, w2, w3 hp⟩
    · simp only [he, hd]
      exact ⟨by rw [← w1, hd]; simp [printedTexts, Event.texts, Call.texts], by simp [Event.verbatim, Call.verbatim],
        w2, w3 hp⟩
  | flush b =>
    by_cases he : p.buffer.isEmpty
    · have hnil : p.buffer = [] := List.isEmpty_iff.mp he
      have hstep : p.step cfg (.flush b) = (p, []) := by simp [Proxy.step, Proxy.flush, he]
      rw [hstep]
      exact ⟨by simp [flat, unitsAux, hnil, decodeMany, printedTexts], by simp, by simp [flat, unitsAux, hnil], hp⟩
    · have hne' : p.buffer.flatten.isEmpty = false := by
        cases hq : p.buffer.flatten with
        | nil => exact absurd (by simp [hp.flatten_eq_nil.mp hq]) he
        | cons _ _ => rfl
      obtain ⟨st1, runs, hd⟩ := ht p.style p.buffer.flatten
      have hstep : p.step cfg (.flush b) = (⟨[], st1⟩, [.call (.printOne runs)]) := by
        simp [Proxy.step, Proxy.flush, he, hraw, hd]
      rw [hstep]
      exact ⟨by simp [flat, unitsAux, hne', decodeMany, hd, Except.map, printedTexts, Event.texts, Call.texts],
        by simp [Event.verbatim, Call.verbatim], by simp [flat, unitsAux, hne'], Proxy.noEmptyChunk_nil st1⟩

theorem run_spec {cfg : Cfg} (hraw : cfg.flushRaw = false) (ht : Total cfg) (h : List Op) (p : Proxy) (hp : p.NoEmptyChunk) :
    Prints cfg p (flat h) (run cfg p h).2 (run cfg p h).1 := by
  induction h generalizing p with
  | nil => exact ⟨by simp [run, flat, unitsAux, decodeMany, printedTexts], by simp [run], by simp [run, flat, unitsAux], hp⟩
  | cons op h ih =>
    have h1 := Proxy.step_spec hraw ht op p hp
    exact flat_append [op] h ▸ h1.append (ih _ h1.ne)

/-- the calls made on stream `b`, in order -/
def proj (b : Bool) (h : List (Bool × Op)) : List Op := h.filterMap fun x => if x.1 = b then some x.2 else none

/-- what the console was asked by stream `b`, in order -/
def eventsOf (b : Bool) (evs : List (Bool × Event)) : List Event :=
  evs.filterMap fun x => if x.1 = b then some x.2 else none

theorem eventsOf_append (b : Bool) (x y : List (Bool × Event)) : eventsOf b (x ++ y) = eventsOf b x ++ eventsOf b y := by
  simp [eventsOf, List.filterMap_append]

theorem eventsOf_map_same (b : Bool) (l : List Event) : eventsOf b (l.map fun e => (b, e)) = l := by
  simp [eventsOf, List.filterMap_map, Function.comp_def]

theorem eventsOf_map_other {b c : Bool} (h : c ≠ b) (l : List Event) : eventsOf b (l.map fun e => (c, e)) = [] := by
  simp [eventsOf, List.filterMap_map, Function.comp_def, h]

theorem Proxies.get_set_same (ps : Proxies) (b : Bool) (p : Proxy) : (ps.set b p).get b = p := by
  cases b <;> simp [Proxies.get, Proxies.set]

theorem Proxies.get_set_other (ps : Proxies) {b c : Bool} (h : c ≠ b) (p : Proxy) : (ps.set c p).get b = ps.get b := by
  cases b <;> cases c <;> simp_all [Proxies.get, Proxies.set]

/-- The two streams do not interfere: what stream `b` asks of the console during an interleaved history, and the
state its proxy ends in, are what a proxy alone would do on the calls made on stream `b`. -/
theorem run2_proj (cfg : Cfg) (b : Bool) (h : List (Bool × Op)) (ps : Proxies) :
    eventsOf b (run2 cfg ps h).2 = (run cfg (ps.get b) (proj b h)).2 ∧
    (run2 cfg ps h).1.get b = (run cfg (ps.get b) (proj b h)).1 := by
  induction h generalizing ps with
  | nil => exact ⟨rfl, rfl⟩
  | cons x r ih =>
    obtain ⟨c, op⟩ := x
    by_cases hc : c = b
    · subst hc
      obtain ⟨h1, h2⟩ := ih (ps.set c ((ps.get c).step cfg op).1)
      rw [Proxies.get_set_same] at h1 h2
      constructor
      · simp only [run2, proj, List.filterMap_cons, if_true, run, eventsOf_append, eventsOf_map_same]
        rw [h1]; rfl
      · simp only [run2, proj, List.filterMap_cons, if_true, run]
        rw [h2]; rfl
    · obtain ⟨h1, h2⟩ := ih (ps.set c ((ps.get c).step cfg op).1)
      rw [Proxies.get_set_other ps hc] at h1 h2
      constructor
      · simp only [run2, proj, List.filterMap_cons, hc, if_false, eventsOf_append, eventsOf_map_other hc, List.nil_append]
        exact h1
      · simp only [run2, proj, List.filterMap_cons, hc, if_false]
        exact h2

theorem run2_spec {cfg : Cfg} (hraw : cfg.flushRaw = false) (ht : Total cfg) (h : List (Bool × Op)) (ps : Proxies) (b : Bool)
    (hp : (ps.get b).NoEmptyChunk) :
    Prints cfg (ps.get b) (flat (proj b h)) (eventsOf b (run2 cfg ps h).2) ((run2 cfg ps h).1.get b) := by
  rw [(run2_proj cfg b h ps).1, (run2_proj cfg b h ps).2]
  exact run_spec hraw ht _ _ hp

/-- The complete (newline-terminated) lines of a text, and the unterminated rest. -/
def completeLines : List Char → List Char → List (List Char) × List Char
  | [], cur => ([], cur)
  | c :: r, cur =>
    if c = '\n' then (cur :: (completeLines r []).1, (completeLines r []).2) else completeLines r (cur ++ [c])

theorem unitsAux_map_ch (s : List Char) (cur : List Char) :
    unitsAux (s.map .ch) cur = completeLines s cur := by
  induction s generalizing cur with
  | nil => rfl
  | cons c r ih =>
    by_cases hc : c = '\n'
    · simp [unitsAux, completeLines, hc, ih]
    · simp [unitsAux, completeLines, hc, ih]

def writesOnly : List (List Char) → List Op := List.map .write

theorem flat_writesOnly (ws : List (List Char)) : flat (writesOnly ws) = ws.flatten.map .ch := by
  induction ws with
  | nil => rfl
  | cons w r ih => simp [writesOnly, flat, ← ih]

theorem flush_empty (cfg : Cfg) (p : Proxy) (b : Bool) (h : p.buffer = []) : p.flush cfg b = (p, []) := by
  simp [Proxy.flush, h]

theorem flush_buffer_nil {cfg : Cfg} (hraw : cfg.flushRaw = false) (ht : Total cfg) (p : Proxy) (b : Bool) :
    (p.flush cfg b).1.buffer = [] := by
  obtain ⟨st', runs, hd⟩ := ht p.style p.buffer.flatten
  simp only [Proxy.flush, hraw, hd]
  split
  · exact List.isEmpty_iff.mp ‹_›
  · rfl

theorem write_empty (cfg : Cfg) (p : Proxy) : p.write cfg [] = (p, []) := by
  obtain ⟨buf, st⟩ := p
  simp [Proxy.write, writeLoop]

theorem write_no_raise (cfg : Cfg) (ht : Total cfg) (p : Proxy) (s : List Char) :
    raisedIn ((p.write cfg s).2.map .ev) = false := by
  unfold Proxy.write
  simp only
  split
  · rfl
  · obtain ⟨s2, t2, e⟩ := decodeMany_total ht p.style (writeLoop s [] p.buffer []).1
    rw [e]
    rfl

theorem run_append (cfg : Cfg) (p : Proxy) (a b : List Op) :
    run cfg p (a ++ b) = ((run cfg (run cfg p a).1 b).1, (run cfg p a).2 ++ (run cfg (run cfg p a).1 b).2) := by
  induction a generalizing p with
  | nil => simp [run]
  | cons op r ih => simp [run, ih, List.append_assoc]

/-- the `filterMap` inside the model's `flatOps`, named so that `writelines_str` can be stated -/
def strsOf (xs : List Arg) : List Op := xs.filterMap fun | .str s => some (Op.write s) | .notStr => none

theorem writelines_str (cfg : Cfg) (ht : Total cfg) (xs : List Arg)
    (h : xs.all (fun | .str _ => true | .notStr => false) = true) (p : Proxy) :
    apiWritelines cfg p xs = ((run cfg p (strsOf xs)).1, (run cfg p (strsOf xs)).2.map .ev) := by
  induction xs generalizing p with
  | nil => rfl
  | cons x r ih =>
    cases x with
    | notStr => simp at h
    | str s =>
      have hr : r.all (fun | .str _ => true | .notStr => false) = true := by simpa using h
      simp only [apiWritelines, apiWrite, write_no_raise cfg ht p s, Bool.false_eq_true, if_false, ih hr, strsOf,
        List.filterMap_cons, run, Proxy.step, List.map_append]

theorem apiRun_str (cfg : Cfg) (ht : Total cfg) (h : List ApiOp)
    (hs : allStr h = true) (p : Proxy) :
    apiRun cfg p h = ((run cfg p (flatOps h)).1, (run cfg p (flatOps h)).2.map .ev) := by
  induction h generalizing p with
  | nil => rfl
  | cons op r ih =>
    cases op with
    | write a =>
      cases a with
      | notStr => simp [allStr] at hs
      | str s =>
        simp only [allStr] at hs
        simp only [apiRun, apiStep, apiWrite, ih hs, flatOps, run, Proxy.step, List.map_append]
    | flush =>
      simp only [allStr] at hs
      simp only [apiRun, apiStep, ih hs, flatOps, run, Proxy.step, List.map_append]
    | writelines xs =>
      simp only [allStr, Bool.and_eq_true] at hs
      simp only [apiRun, apiStep, writelines_str cfg ht xs hs.1, ih hs.2, flatOps, run_append, List.map_append]
      rfl

end Ansi
end RichModel
