import RichModel.Lemmas.LiveCtl
/-!
The invariant relating the model state, the specification-level view and the replayed screen (`Good`); what a
hooked print does when nothing fails (`HookedRes`), on the screen and to the invariant; prints without a display and
steps that write nothing.  Its preservation by every operation is in `LiveStep` / `LiveStop`.
-/
namespace RichModel.Live
open RichModel RichModel.Screen

/-- Invariant: the view is what the screen shows; everything on display is still on screen; the
recorded shape is the height on display; hook depth follows `started`; nothing is displayed before start. -/
structure Good (cfg : Cfg) (st : St) (v : View) (s : Screen) : Prop where
  shown : ∃ k, Shown s (v.printed.map (cells cfg.cw)) (v.frame.map (cells cfg.cw)) k ∧ (region v.frame).length + k ≤ cfg.height
  shape : ShapeOk st.shape v.frame
  hooks : st.hooks = if st.started then 1 else 0
  idle : st.started = false → v.frame = [] ∧ st.shape = none

theorem columnCalls_noFault (c : Nat) (ts : List Task) : (columnCalls noFault c ts).2 = true := by
  induction ts generalizing c with
  | nil => rfl
  | cons t rest ih =>
    simp only [columnCalls, noFault]
    split
    · simp; exact ih _
    · exact ih _

theorem setShape_length (cw : Char → Nat) (f : Frame) (w h : Nat) : (setShape cw f w h).length = max f.length h := by
  rw [setShape, List.length_append, List.length_map, List.length_replicate]; omega

/-- What a hooked print does when nothing fails. -/
structure HookedRes (cfg : Cfg) (st : St) (U : List Line) (r : Res) : Prop where
  err : r.err = none
  out : r.out = positionCursor st.shape ++ emitCells cfg U ++ emitFrame ((shown cfg r.st).map (cells cfg.cw))
  shape : ShapeOk r.st.shape (shown cfg r.st)
  isSome : r.st.shape.isSome = true
  hooks : r.st.hooks = st.hooks
  started : r.st.started = st.started
  bufOut : r.st.bufOut = st.bufOut
  bufErr : r.st.bufErr = st.bufErr

theorem hooked_noFault (cfg : Cfg) (st : St) (U : List Line) : HookedRes cfg st U (hooked cfg noFault st U) := by
  cases hk : cfg.kind
  case progress =>
    simp only [hooked, hk]
    refine ⟨rfl, ?_, ?_, rfl, rfl, rfl, rfl, rfl⟩
    · simp only [shown, hk]; rfl
    · simp only [shown, hk]
      cases st.shape <;> simp only [ShapeOk, progressFrame, setShape_length, getShape, List.length_map, tableLines] <;> omega
  all_goals
    simp only [hooked, hk, noFault]
    refine ⟨rfl, ?_, ?_, rfl, rfl, rfl, rfl, rfl⟩
    · simp only [shown, hk]; rfl
    · simp only [shown, hk]; rfl

theorem plain_terminal {cfg : Cfg} (hc : cfg.plain = true) : cfg.terminal = true := by
  simp [Cfg.plain] at hc; exact hc.1.1

theorem plain_ansi {cfg : Cfg} (hc : cfg.plain = true) : cfg.ansi = true := by
  simp [Cfg.plain] at hc; simp [Cfg.ansi, hc.1.1, hc.1.2]

theorem plain_disable {cfg : Cfg} (hc : cfg.plain = true) : cfg.disable = false := by
  simp [Cfg.plain] at hc; exact hc.2

theorem wf_iff {cfg : Cfg} {ov : Overflow} {r0 : Frame} {h : List Op} :
    wf cfg ov r0 h = true ↔ cfg.plain = true ∧ 1 ≤ cfg.height ∧ wfOps cfg (initSt ov r0) h = true := by
  simp only [wf, Bool.and_eq_true, decide_eq_true_eq, and_assoc]

theorem wfM_iff {cfg : Cfg} {ov : Overflow} {r0 : Frame} {h : List Op} :
    wfM cfg ov r0 h = true ↔ cfg.plain = true ∧ 1 ≤ cfg.height ∧ wfOpsM cfg (initSt ov r0) h = true := by
  simp only [wfM, Bool.and_eq_true, decide_eq_true_eq, and_assoc]

theorem doPrint_plain {cfg : Cfg} (hc : cfg.plain = true) (fails : Nat → Bool) (st : St) (U : List Line) :
    doPrint cfg fails st U = if st.hooks > 0 then hooked cfg fails st U else { st := st, out := emitCells cfg U } := by
  simp [doPrint, plain_terminal hc]

theorem doRefresh_noFault (cfg : Cfg) (hc : cfg.plain = true) (st : St) :
    let r := doRefresh cfg noFault st
    (st.hooks > 0 → HookedRes cfg st [] r) ∧
    (st.hooks = 0 → r.err = none ∧ r.out = [] ∧ r.st.shape = st.shape ∧ r.st.hooks = st.hooks ∧ r.st.started = st.started) := by
  have ha := plain_ansi hc
  have hd := plain_disable hc
  have h0 (h : st.hooks = 0) : ¬ st.hooks > 0 := by rw [h]; exact Nat.lt_irrefl 0
  cases hk : cfg.kind
  case progress =>
    simp only [doRefresh, hk, ha, hd, Bool.not_true, Bool.or_self, Bool.false_eq_true, if_false]
    have hcc := columnCalls_noFault st.calls st.tasks
    generalize columnCalls noFault st.calls st.tasks = cc at hcc
    obtain ⟨c, ok⟩ := cc
    cases (hcc : ok = true)
    simp only [Bool.not_true, Bool.false_eq_true, if_false]
    refine ⟨fun h => ?_, fun h => by rw [if_neg (h0 h)]; exact ⟨rfl, rfl, rfl, rfl, rfl⟩⟩
    rw [if_pos h]
    have := hooked_noFault cfg { st with calls := c, renderable := taskRows st.tasks } []
    -- the same result, read from `st`: no field of `HookedRes` looks at `calls` or `renderable`
    exact ⟨this.err, this.out, this.shape, this.isSome, this.hooks, this.started, this.bufOut, this.bufErr⟩
  all_goals
    simp only [doRefresh, hk, ha, if_true]
    exact ⟨fun h => by rw [if_pos h]; exact hooked_noFault cfg st [],
      fun h => by rw [if_neg (h0 h)]; exact ⟨rfl, rfl, rfl, rfl, rfl⟩⟩

theorem region_map_length (c : Line → Line) (F : Frame) : (region (F.map c)).length = (region F).length := by
  cases F <;> simp [region]

theorem leftBy_map (cfg : Cfg) (cw : Char → Nat) (F : Frame) :
    (leftBy cfg F).map (cells cw) = leftBy cfg (F.map (cells cw)) := by
  unfold leftBy; cases F <;> cases cfg.transient <;> cases cfg.blankFix <;> rfl

theorem shapeOk_map (c : Line → Line) {shape : Option (Nat × Nat)} {F : Frame} (h : ShapeOk shape F) :
    ShapeOk shape (F.map c) := by
  cases shape with
  | none => have : F = [] := h; subst this; exact rfl
  | some wh => obtain ⟨w, hh⟩ := wh; show hh = (F.map c).length; rw [List.length_map]; exact h

/-- What is on the screen and what shape is recorded — the part of `Good` that `stop` keeps true while
`started` is already false. -/
structure Displayed (cfg : Cfg) (P : List Line) (F : Frame) (shape : Option (Nat × Nat)) (s : Screen) : Prop where
  shown : ∃ k, Shown s (P.map (cells cfg.cw)) (F.map (cells cfg.cw)) k ∧ (region F).length + k ≤ cfg.height
  shape : ShapeOk shape F

theorem Good.displayed {cfg : Cfg} {st : St} {v : View} {s : Screen} (g : Good cfg st v s) :
    Displayed cfg v.printed v.frame st.shape s :=
  ⟨g.shown, g.shape⟩

theorem Good.rows {cfg : Cfg} {st : St} {v : View} {s : Screen} (g : Good cfg st v s) :
    ∃ k, s.rows = (v.printed ++ v.frame).map (cells cfg.cw) ++ List.replicate k [] := by
  obtain ⟨k, hs, _⟩ := g.shown
  rw [List.map_append]; exact shown_rows hs

theorem Good.started_iff {cfg : Cfg} {st : St} {v : View} {s : Screen} (g : Good cfg st v s) :
    st.started = true ↔ st.hooks > 0 := by
  rw [g.hooks]
  cases st.started <;> decide

/-- Screen part of a hooked print (needs no fit of the new frame).  The screen holds *cells*. -/
theorem hooked_screen {cfg : Cfg} {st : St} {P : List Line} {F : Frame} {s : Screen} {U : List Line} {r : Res}
    (h : Displayed cfg P F st.shape s) (hr : HookedRes cfg st U r) :
    ∃ s' k', Run cfg.height P.length s r.out s' ∧
      Shown s' ((P ++ U).map (cells cfg.cw)) ((shown cfg r.st).map (cells cfg.cw)) k' ∧
      (region (shown cfg r.st)).length + k' ≤ max cfg.height (region (shown cfg r.st)).length := by
  obtain ⟨⟨k, hs, hk⟩, hshape⟩ := h
  obtain ⟨s', k', hrun, hs', hk', _⟩ := run_hooked (H := cfg.height) hs (shapeOk_map _ hshape)
    (by rw [region_map_length]; exact hk) (U.map (cells cfg.cw)) ((shown cfg r.st).map (cells cfg.cw))
  refine ⟨s', k', ?_, ?_, ?_⟩
  · rw [hr.out]; rw [List.length_map] at hrun; exact hrun
  · rw [List.map_append]; exact hs'
  · rw [region_map_length] at hk'; exact hk'

theorem displayed_hooked {cfg : Cfg} {st : St} {P : List Line} {F : Frame} {s : Screen} {U : List Line} {r : Res}
    (h : Displayed cfg P F st.shape s) (hr : HookedRes cfg st U r)
    (hfit : (shown cfg r.st).length ≤ cfg.height) (hH : 1 ≤ cfg.height) :
    ∃ s', Run cfg.height P.length s r.out s' ∧ Displayed cfg (P ++ U) (shown cfg r.st) r.st.shape s' := by
  obtain ⟨s', k', hrun, hs', hk'⟩ := hooked_screen h hr
  rw [Nat.max_eq_left (by rw [region_length]; exact Nat.max_le.2 ⟨hfit, hH⟩)] at hk'
  exact ⟨s', hrun, ⟨k', hs', hk'⟩, hr.shape⟩

theorem good_hooked {cfg : Cfg} {st : St} {v : View} {s : Screen} {U : List Line} {r : Res}
    (g : Good cfg st v s) (hh : st.hooks > 0) (hr : HookedRes cfg st U r)
    (hfit : (shown cfg r.st).length ≤ cfg.height) (hH : 1 ≤ cfg.height) :
    ∃ s', Run cfg.height v.printed.length s r.out s' ∧
      Good cfg r.st { printed := v.printed ++ U, frame := shown cfg r.st } s' := by
  obtain ⟨s', hrun, hd⟩ := displayed_hooked g.displayed hr hfit hH
  refine ⟨s', hrun, hd.shown, hd.shape, by rw [hr.hooks, hr.started]; exact g.hooks, fun h => ?_⟩
  rw [hr.started, g.started_iff.2 hh] at h; cases h

theorem good_silent {cfg : Cfg} {st st' : St} {v : View} {s : Screen}
    (g : Good cfg st v s) (h1 : st'.shape = st.shape) (h2 : st'.hooks = st.hooks) (h3 : st'.started = st.started) :
    Good cfg st' v s :=
  ⟨g.shown, by rw [h1]; exact g.shape, by rw [h2, h3]; exact g.hooks, by rw [h3, h1]; exact g.idle⟩

theorem good_idle_print {cfg : Cfg} {st : St} {v : View} {s : Screen} (U : List Line)
    (g : Good cfg st v s) (hh : st.hooks = 0) :
    ∃ s', Run cfg.height v.printed.length s (emitCells cfg U) s' ∧ Good cfg st { v with printed := v.printed ++ U } s' := by
  obtain ⟨hF, _⟩ := g.idle (Bool.eq_false_iff.2 fun h => Nat.ne_of_gt (g.started_iff.1 h) hh)
  obtain ⟨k, hs, hk⟩ := g.shown
  rw [hF] at hs hk
  obtain ⟨s', hrun, hb⟩ := run_lines (H := cfg.height) (U.map (cells cfg.cw)) (shown_nil_iff.1 hs)
  rw [List.length_map] at hrun
  refine ⟨s', hrun, ⟨⟨k - (U.map (cells cfg.cw)).length, ?_, ?_⟩, g.shape, g.hooks, g.idle⟩⟩
  · show Shown s' ((v.printed ++ U).map (cells cfg.cw)) (v.frame.map (cells cfg.cw)) _
    rw [hF, List.map_append]; exact shown_nil_iff.2 hb
  · show (region v.frame).length + _ ≤ _
    rw [hF]; exact Nat.le_trans (Nat.add_le_add_left (Nat.sub_le _ _) _) hk

theorem good_of_rows {cfg : Cfg} {st : St} {v : View} {s s' : Screen} (g : Good cfg st v s)
    (h1 : s'.rows = s.rows) (h2 : s'.row = s.row) (h3 : s'.col = s.col) : Good cfg st v s' := by
  obtain ⟨k, hs, hk⟩ := g.shown
  exact ⟨⟨k, ⟨by rw [h1]; exact hs.rows, by rw [h2]; exact hs.row, by rw [h3]; exact hs.col⟩, hk⟩, g.shape, g.hooks, g.idle⟩

end RichModel.Live
