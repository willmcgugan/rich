import RichModel.Lemmas.LiveOp
/-!
Control state of a live display under arbitrary faults: hook depth, io redirection and cursor
visibility are functions of `started`, for every operation, every fault predicate and every code variant.
-/
namespace RichModel.Live
open RichModel RichModel.Screen

/-- Is `sys.stdout` / `sys.stderr` redirected while the display runs?  (Only on a terminal.) -/
def Cfg.rOut (cfg : Cfg) : Bool := cfg.terminal && cfg.redirectStdout
def Cfg.rErr (cfg : Cfg) : Bool := cfg.terminal && cfg.redirectStderr

/-- The control fields the cleanup guarantee is about. -/
structure Bal (cfg : Cfg) (st : St) : Prop where
  hooks : st.hooks = if st.started then 1 else 0
  so : st.stdoutDepth = if st.started && cfg.rOut then 1 else 0
  se : st.stderrDepth = if st.started && cfg.rErr then 1 else 0
  rso : st.restoreStdout = if st.started && cfg.rOut then some 0 else none
  rse : st.restoreStderr = if st.started && cfg.rErr then some 0 else none

theorem Bal.idle {cfg : Cfg} {st : St} (b : Bal cfg st) (hs : st.started = false) :
    st.hooks = 0 ∧ st.stdoutDepth = 0 ∧ st.stderrDepth = 0 ∧ st.restoreStdout = none ∧ st.restoreStderr = none := by
  obtain ⟨b1, b2, b3, b4, b5⟩ := b
  rw [hs] at b1 b2 b3 b4 b5
  exact ⟨b1, b2, b3, b4, b5⟩

theorem Bal.of_ctlEq {cfg : Cfg} {a b : St} (h : Bal cfg b) (e : CtlEq a b) : Bal cfg a :=
  ⟨by rw [e.started, e.hooks]; exact h.hooks, by rw [e.started, e.so]; exact h.so, by rw [e.started, e.se]; exact h.se,
    by rw [e.started, e.rso]; exact h.rso, by rw [e.started, e.rse]; exact h.rse⟩

theorem enableRedirect_eq (cfg : Cfg) (st : St) : enableRedirect cfg st =
    { st with
      restoreStdout := if cfg.rOut then some st.stdoutDepth else st.restoreStdout
      stdoutDepth := if cfg.rOut then st.stdoutDepth + 1 else st.stdoutDepth
      bufOut := if cfg.rOut then [] else st.bufOut
      restoreStderr := if cfg.rErr then some st.stderrDepth else st.restoreStderr
      stderrDepth := if cfg.rErr then st.stderrDepth + 1 else st.stderrDepth
      bufErr := if cfg.rErr then [] else st.bufErr } := by
  unfold enableRedirect Cfg.rOut Cfg.rErr
  cases cfg.terminal <;> cases cfg.redirectStdout <;> cases cfg.redirectStderr <;> rfl

theorem enableRedirect_shape (cfg : Cfg) (st : St) : (enableRedirect cfg st).shape = st.shape := by
  rw [enableRedirect_eq]

theorem enableRedirect_hooks (cfg : Cfg) (st : St) : (enableRedirect cfg st).hooks = st.hooks := by
  rw [enableRedirect_eq]

theorem enableRedirect_renderable (cfg : Cfg) (st : St) : (enableRedirect cfg st).renderable = st.renderable := by
  rw [enableRedirect_eq]

theorem disableRedirect_eq (st : St) : disableRedirect st =
    { st with
      stdoutDepth := st.restoreStdout.getD st.stdoutDepth, restoreStdout := none
      stderrDepth := st.restoreStderr.getD st.stderrDepth, restoreStderr := none } := by
  obtain ⟨_, _, _, _, _, _, _, _, rso, rse, _, _, _, _, _, _⟩ := st
  cases rso <;> cases rse <;> rfl

/-- The `finally:` of `stop`, which has set `started := false` before: a balanced started display becomes a balanced
idle one. -/
theorem cleanup_bal {cfg : Cfg} {st : St} (h : Bal cfg st) (hs : st.started = true) :
    Bal cfg (cleanup { st with started := false }) := by
  obtain ⟨h1, h2, h3, h4, h5⟩ := h
  rw [hs] at h1 h2 h3 h4 h5
  rw [cleanup, disableRedirect_eq]
  refine ⟨?_, ?_, ?_, rfl, rfl⟩
  · show st.hooks - 1 = 0
    rw [h1]; rfl
  · show st.restoreStdout.getD st.stdoutDepth = 0
    rw [h4, h2]; cases cfg.rOut <;> rfl
  · show st.restoreStderr.getD st.stderrDepth = 0
    rw [h5, h3]; cases cfg.rErr <;> rfl

theorem enableRedirect_bal {cfg : Cfg} {st : St} (h : Bal cfg st) (hs : st.started = false) :
    Bal cfg { enableRedirect cfg st with started := true, hooks := st.hooks + 1 } := by
  obtain ⟨started, shape, rend, ov, ov0, hooks, so, se, rso, rse, bo, be, tasks, ti, calls, wd⟩ := st
  obtain ⟨h1, h2, h3, h4, h5⟩ := h
  cases hs; cases h1; cases h2; cases h3; cases h4; cases h5
  rw [enableRedirect_eq]
  exact ⟨rfl, by cases cfg.rOut <;> rfl, by cases cfg.rErr <;> rfl, by cases cfg.rOut <;> rfl, by cases cfg.rErr <;> rfl⟩

theorem flushLive_edits (cfg : Cfg) (fails : Nat → Bool) (st : St) (err : Bool) :
    Keeps Edits st (flushLive cfg fails st err) := by
  unfold flushLive
  by_cases hp : (proxied st err && !(getBuf st err).isEmpty) = true
  · rw [if_pos hp]
    have hd := (doPrint_renders cfg fails st [getBuf st err]).mono Draws.edits
    generalize doPrint cfg fails st [getBuf st err] = r at hd
    dsimp only
    cases r.err with
    | some e => exact hd
    | none =>
      exact ⟨(Edits.of_setBuf (by rw [proxied_of_ctlEq hd.rel.ctl]; exact (Bool.and_eq_true_iff.1 hp).1) []).trans hd.rel, hd.quiet⟩
  · rw [if_neg hp]; exact .silent (.refl _)

theorem flushLive_ctl (cfg : Cfg) (fails : Nat → Bool) (st : St) (err : Bool) :
    Keeps CtlEq st (flushLive cfg fails st err) :=
  (flushLive_edits cfg fails st err).mono Edits.ctl

/-- Printing what was pending in stream `err`, from the state with that buffer emptied. -/
theorem flushed_ctl (cfg : Cfg) (fails : Nat → Bool) (st : St) (err : Bool) :
    Keeps CtlEq st { st := (doPrint cfg fails (setBuf st err []) [getBuf st err]).st,
                     out := (doPrint cfg fails (setBuf st err []) [getBuf st err]).out } :=
  have h := doPrint_renders cfg fails (setBuf st err []) [getBuf st err]
  ⟨h.rel.ctl.trans (setBuf_ctl _ _ _), h.quiet⟩

theorem flushDead_ctl (cfg : Cfg) (fails : Nat → Bool) (st : St) (err : Bool) :
    Keeps CtlEq st (flushDead cfg fails st err) :=
  ite_of (Keeps CtlEq st) (flushed_ctl cfg fails st err) (.silent (CtlEq.refl _))

theorem dropFlush_ctl (cfg : Cfg) (fails : Nat → Bool) (st : St) (alive : Option Bool) :
    Keeps CtlEq st (dropFlush cfg fails st alive) := by
  have flush (x : St) (e : Bool) : Keeps CtlEq x (if alive == some e then { st := x } else flushDead cfg fails x e) :=
    ite_of (Keeps CtlEq x) (.silent (CtlEq.refl _)) (flushDead_ctl cfg fails x e)
  exact ⟨(flush _ true).rel.trans (flush st false).rel, (flush st false).quiet.append (flush _ true).quiet⟩

theorem lateFlush_ctl (cfg : Cfg) (fails : Nat → Bool) (st : St) (alive : Option Bool) :
    Keeps CtlEq st (lateFlush cfg fails st alive) := by
  cases alive with
  | none => exact .silent (CtlEq.refl _)
  | some e => exact ite_of (Keeps CtlEq st) (.silent (CtlEq.refl _)) (flushed_ctl cfg fails st e)

/-- The cursor visibility a display in state `started` is to have: hidden exactly while it runs on a
terminal that understands the codes. -/
def vis (cfg : Cfg) (started : Bool) : Bool := !(started && cfg.ansi)

theorem lastVis_showOp (cfg : Cfg) (v : Bool) : lastVis v (showOp cfg) = (if cfg.ansi then true else v) := by
  unfold showOp; split <;> rfl

theorem lastVis_hideOp (cfg : Cfg) (v : Bool) : lastVis v (hideOp cfg) = (if cfg.ansi then false else v) := by
  unfold hideOp; split <;> rfl

theorem lastVis_finOut (cfg : Cfg) {o : List TermOp} (ho : Quiet o) (v : Bool) :
    lastVis v (finOut cfg o) = (if cfg.ansi then true else v) := by
  unfold finOut
  cases cfg.kind
  · rw [lastVis_append, lastVis_quiet ho, lastVis_showOp]
  · rw [lastVis_append, lastVis_showOp, lastVis_quiet ho]
  · rw [lastVis_append, lastVis_quiet ho, lastVis_showOp]

theorem stopSt_ctl (cfg : Cfg) {x y : St} (h : CtlEq { x with started := false } y) : CtlEq (stopSt cfg x) y := by
  unfold stopSt; cases cfg.kind <;> exact { h with }

theorem cleanup_ctl {a b : St} (h : CtlEq a b) : CtlEq (cleanup a) (cleanup b) := by
  rw [cleanup, cleanup, disableRedirect_eq, disableRedirect_eq]
  exact { started := h.started, hooks := congrArg (· - 1) h.hooks,
          so := by show a.restoreStdout.getD a.stdoutDepth = _; rw [h.rso, h.so],
          se := by show a.restoreStderr.getD a.stderrDepth = _; rw [h.rse, h.se], rso := rfl, rse := rfl }

theorem stopTail_ctl (cfg : Cfg) (fails : Nat → Bool) (r : Res) (hq : Quiet r.out) (v : Bool) (alive : Option Bool) :
    CtlEq (stopTail cfg fails r alive).st (cleanup r.st) ∧
      lastVis v (stopTail cfg fails r alive).out = (if cfg.ansi then true else v) := by
  have hd := dropFlush_ctl cfg fails r.st alive
  generalize hdd : dropFlush cfg fails r.st alive = d at hd
  have hc := cleanup_ctl hd.rel
  simp only [stopTail, hdd]
  cases r.err with
  | some e =>
    have hl := lateFlush_ctl cfg fails (cleanup d.st) alive
    refine ⟨hl.rel.trans hc, ?_⟩
    show lastVis v (r.out ++ finOut cfg d.out ++ (lateFlush cfg fails (cleanup d.st) alive).out) = _
    rw [lastVis_append, lastVis_append, lastVis_quiet hl.quiet, lastVis_finOut cfg hd.quiet, lastVis_quiet hq]
  | none =>
    refine ⟨CtlEq.trans (ite_of (CtlEq · (cleanup d.st)) ⟨rfl, rfl, rfl, rfl, rfl, rfl⟩ (CtlEq.refl _)) hc, ?_⟩
    show lastVis v (r.out ++ (if cfg.terminal && !cfg.quietStop then [TermOp.lf] else []) ++ finOut cfg d.out ++ _) = _
    have q1 : Quiet (r.out ++ (if cfg.terminal && !cfg.quietStop then [TermOp.lf] else [])) :=
      hq.append (ite_of Quiet (.cons nofun nofun .nil) .nil)
    have q3 : Quiet (if cfg.transient && cfg.ansi && !cfg.quietStop then restoreCursor cfg.blankFix (cleanup d.st).shape else []) :=
      ite_of Quiet (quiet_restoreCursor _ _) Quiet.nil
    rw [lastVis_append, lastVis_append, lastVis_quiet q1, lastVis_finOut cfg hd.quiet, lastVis_quiet q3]

theorem doStop_idle {cfg : Cfg} {fails : Nat → Bool} {st : St} (h : st.started = false) :
    doStop cfg fails st = { st := st } := by
  rw [doStop, h]; rfl

/-- An effective `stop` is its tail after something that kept the control fields of the stopping display and wrote
no show / hide (the flushes of the repaired code, as far as they got, and the last refresh). -/
theorem doStop_tail (cfg : Cfg) (fails : Nat → Bool) (st : St) (hst : st.started = true) :
    ∃ r alive, Keeps CtlEq { st with started := false } r ∧ doStop cfg fails st = stopTail cfg fails r alive := by
  have hrefresh (x : St) (hx : CtlEq { x with started := false } { st with started := false }) (o : List TermOp) (ho : Quiet o) :
      Keeps CtlEq { st with started := false }
        { doRefresh cfg fails (stopSt cfg x) with out := o ++ (doRefresh cfg fails (stopSt cfg x)).out } :=
    have h3 := doRefresh_ctl cfg fails (stopSt cfg x)
    ⟨h3.rel.trans (stopSt_ctl cfg hx), ho.append h3.quiet⟩
  by_cases hf : cfg.flushFix = true
  · simp only [doStop, hst, hf, Bool.not_true, Bool.false_eq_true, if_false, if_true]
    have h1 := flushLive_ctl cfg fails { st with started := false } false
    generalize flushLive cfg fails { st with started := false } false = r1 at h1
    cases r1.err with
    | some e => exact ⟨r1, some false, h1, rfl⟩
    | none =>
      have h2 := flushLive_ctl cfg fails r1.st true
      generalize flushLive cfg fails r1.st true = r2 at h2
      have h12 : Keeps CtlEq { st with started := false } { r2 with out := r1.out ++ r2.out } :=
        ⟨h2.rel.trans h1.rel, h1.quiet.append h2.quiet⟩
      cases he : r2.err with
      | some e => exact ⟨_, some true, h12, by rw [he]⟩
      | none => exact ⟨_, none, hrefresh r2.st { h12.rel with started := rfl } _ h12.quiet, rfl⟩
  · have hf' : cfg.flushFix = false := by simpa using hf
    simp only [doStop, hst, hf', Bool.not_true, Bool.false_eq_true, if_false]
    exact ⟨_, none, hrefresh st (CtlEq.refl _) [] .nil, rfl⟩

theorem doStop_cleanup (cfg : Cfg) (fails : Nat → Bool) (st : St) (hst : st.started = true) (v : Bool) :
    CtlEq (doStop cfg fails st).st (cleanup { st with started := false }) ∧
      lastVis v (doStop cfg fails st).out = (if cfg.ansi then true else v) := by
  obtain ⟨r, alive, hk, e⟩ := doStop_tail cfg fails st hst
  rw [e]
  exact ⟨(stopTail_ctl cfg fails r hk.quiet v alive).1.trans (cleanup_ctl hk.rel), (stopTail_ctl cfg fails r hk.quiet v alive).2⟩

/-- `stop`: afterwards the display is not started and balanced, whatever failed; the cursor is shown
if it was started (on a terminal that hid it). -/
theorem doStop_ctl (cfg : Cfg) (fails : Nat → Bool) (st : St) (h : Bal cfg st) (v : Bool) :
    Bal cfg (doStop cfg fails st).st ∧ (doStop cfg fails st).st.started = false ∧
      lastVis v (doStop cfg fails st).out = (if st.started && cfg.ansi then true else v) := by
  cases hst : st.started
  · rw [doStop_idle hst]
    exact ⟨h, hst, rfl⟩
  · obtain ⟨hc, hv⟩ := doStop_cleanup cfg fails st hst v
    exact ⟨(cleanup_bal h hst).of_ctlEq hc, hc.started.trans (by rw [cleanup, disableRedirect_eq]), hv⟩

theorem doStop_vis (cfg : Cfg) (fails : Nat → Bool) (st : St) (h : Bal cfg st) (v : Bool) (hv : v = vis cfg st.started) :
    lastVis v (doStop cfg fails st).out = vis cfg (doStop cfg fails st).st.started := by
  rw [(doStop_ctl cfg fails st h v).2.2, (doStop_ctl cfg fails st h v).2.1, hv]
  unfold vis; cases st.started <;> cases cfg.ansi <;> rfl

theorem doStart_started {cfg : Cfg} {fails : Nat → Bool} {st : St} (h : st.started = true) :
    doStart cfg fails st = { st := st } := by
  rw [doStart, if_pos h]

theorem doStart_live {cfg : Cfg} {fails : Nat → Bool} {st : St} (h : st.started = false) (hk : cfg.kind ≠ .progress) :
    doStart cfg fails st =
      { st := { enableRedirect cfg st with started := true, hooks := st.hooks + 1 }, out := hideOp cfg } := by
  rw [doStart, if_neg (by rw [h]; nofun)]
  cases hk' : cfg.kind with
  | progress => exact absurd hk' hk
  | live => rfl
  | status => rfl

/-- A `start` that takes effect and raises nothing: io redirected, the hook pushed, the cursor hidden, and from that
state a Progress asks for a refresh, a Live / Status for nothing (`Ask`, as for the other operations). -/
theorem doStart_asks {cfg : Cfg} {fails : Nat → Bool} {st : St} (hst : st.started = false)
    (he : (doStart cfg fails st).err = none) :
    ∃ a : Ask, a.lines = [] ∧ redraws cfg st .start = a.draws ∧
      doStart cfg fails st =
        { a.res cfg fails { enableRedirect cfg st with started := true, hooks := st.hooks + 1 } with
          out := hideOp cfg ++ (a.res cfg fails { enableRedirect cfg st with started := true, hooks := st.hooks + 1 }).out } := by
  by_cases hk : cfg.kind = .progress
  · refine ⟨.refresh, rfl, by simp [redraws, hk, hst, Ask.draws], ?_⟩
    simp only [doStart, hst, hk, Bool.false_eq_true, if_false, Ask.res] at he ⊢
    generalize doRefresh cfg fails { enableRedirect cfg st with started := true, hooks := st.hooks + 1 } = r at he ⊢
    cases hre : r.err with
    | none => rfl
    | some e0 =>
      -- a failing refresh makes `start` fail, guarded or not: both branches answer `some _`
      rw [hre] at he
      simp only at he
      split at he <;> simp at he
  · refine ⟨.nothing, rfl, by simp [redraws, hk, Op.displays, Ask.draws], ?_⟩
    rw [doStart_live hst hk]
    exact congrArg (Res.mk _ · none) (List.append_nil _).symm

/-- `start`: balanced afterwards; the cursor is hidden exactly when the display ends up started; a failing
`start` leaves the display started only when the guard of `Progress.start` does not catch what was raised (`Cfg.guards`). -/
theorem doStart_ctl (cfg : Cfg) (fails : Nat → Bool) (st : St) (h : Bal cfg st) (v : Bool) (hv : v = vis cfg st.started) :
    Bal cfg (doStart cfg fails st).st ∧
      lastVis v (doStart cfg fails st).out = vis cfg (doStart cfg fails st).st.started ∧
      ((doStart cfg fails st).err = none → st.started = false → (doStart cfg fails st).st.started = true) ∧
      ((doStart cfg fails st).err ≠ none → (cfg.kind ≠ .progress ∨ cfg.guards = true) →
        (doStart cfg fails st).st.started = false) := by
  by_cases hst : st.started = true
  · rw [doStart_started hst]
    exact ⟨h, hv, fun _ hs => absurd hst (by rw [hs]; nofun), fun he => absurd rfl he⟩
  · have hst' : st.started = false := by simpa using hst
    have hb1 := enableRedirect_bal h hst'
    have hhide : lastVis v (hideOp cfg) = vis cfg true := by
      rw [lastVis_hideOp, hv, hst']; unfold vis; cases cfg.ansi <;> rfl
    by_cases hk : cfg.kind = .progress
    · simp only [doStart, hst', hk, Bool.false_eq_true, if_false]
      have hc := doRefresh_ctl cfg fails { enableRedirect cfg st with started := true, hooks := st.hooks + 1 }
      generalize doRefresh cfg fails { enableRedirect cfg st with started := true, hooks := st.hooks + 1 } = r at hc
      have hbr : Bal cfg r.st := Bal.of_ctlEq hb1 hc.rel
      have hsr : r.st.started = true := hc.rel.started
      have hvis : lastVis v (hideOp cfg ++ r.out) = vis cfg r.st.started := by
        rw [lastVis_append, hhide, lastVis_quiet hc.quiet, hsr]
      cases hre : r.err with
      | none => exact ⟨hbr, hvis, fun _ _ => hsr, fun he => absurd rfl he⟩
      | some e =>
        simp only
        by_cases hg : cfg.guards = true
        · simp only [hg, if_true]
          have hstop := doStop_ctl cfg fails r.st hbr v
          refine ⟨hstop.1, ?_, fun he => by simp at he, fun _ _ => hstop.2.1⟩
          show lastVis v (hideOp cfg ++ r.out ++ (doStop cfg fails r.st).out) = vis cfg (doStop cfg fails r.st).st.started
          rw [lastVis_append, hvis]
          exact doStop_vis cfg fails r.st hbr _ rfl
        · have hg' : cfg.guards = false := by simpa using hg
          simp only [hg', Bool.false_eq_true, if_false]
          refine ⟨hbr, hvis, fun he => by simp at he, fun _ hor => ?_⟩
          rcases hor with h1 | h1
          · exact absurd rfl h1
          · exact h1.elim
    · rw [doStart_live hst' hk]
      exact ⟨hb1, hhide, fun _ _ => rfl, fun he => absurd rfl he⟩

theorem step_ctl (cfg : Cfg) (fails : Nat → Bool) (st : St) (op : Op) (h : Bal cfg st) (v : Bool) (hv : v = vis cfg st.started) :
    Bal cfg (step cfg fails st op).st ∧ lastVis v (step cfg fails st op).out = vis cfg (step cfg fails st op).st.started := by
  by_cases hs : op = .start
  · subst hs
    exact ⟨(doStart_ctl cfg fails st h v hv).1, (doStart_ctl cfg fails st h v hv).2.1⟩
  by_cases hp : op = .stop
  · subst hp
    exact ⟨(doStop_ctl cfg fails st h v).1, doStop_vis cfg fails st h v hv⟩
  obtain ⟨he, hq⟩ := step_edits cfg fails st op hs hp
  exact ⟨Bal.of_ctlEq h he.ctl, by rw [lastVis_quiet hq, he.ctl.started, hv]⟩

theorem run_cons_out (cfg : Cfg) (fails : Nat → Bool) (st : St) (op : Op) (rest : List Op) :
    (run cfg fails st (op :: rest)).2.1 =
      (step cfg fails st op).out ++ (run cfg fails (step cfg fails st op).st rest).2.1 := by
  simp only [run]

theorem stop_visible (cfg : Cfg) (fails : Nat → Bool) (H : Nat) (ha : cfg.ansi = true) (pre : List Op) :
    ∀ (st : St) (s : Screen), (run cfg fails st pre).1.started = true →
      (replay H s (run cfg fails st (pre ++ [.stop])).2.1).visible = true := by
  induction pre with
  | nil =>
    intro st s hst
    rw [replay_visible]
    show lastVis _ ((doStop cfg fails st).out ++ []) = true
    rw [List.append_nil, (doStop_cleanup cfg fails st hst _).2, ha]; rfl
  | cons op rest ih =>
    intro st s hst
    rw [List.cons_append, run_cons_out, replay_append]
    exact ih _ _ hst

theorem run_ctl (cfg : Cfg) (fails : Nat → Bool) (ops : List Op) :
    ∀ (st : St) (v : Bool), Bal cfg st → v = vis cfg st.started →
      Bal cfg (run cfg fails st ops).1 ∧ lastVis v (run cfg fails st ops).2.1 = vis cfg (run cfg fails st ops).1.started := by
  induction ops with
  | nil => intro st v hb hv; exact ⟨hb, hv⟩
  | cons op rest ih =>
    intro st v hb hv
    have hs := step_ctl cfg fails st op hb v hv
    have := ih (step cfg fails st op).st _ hs.1 rfl
    exact ⟨this.1, by rw [run_cons_out, lastVis_append, hs.2]; exact this.2⟩

theorem runBody_ctl (cfg : Cfg) (fails : Nat → Bool) (body : List Op) :
    ∀ (st : St) (raiseAt : Option Nat) (v : Bool), Bal cfg st → v = vis cfg st.started →
      Bal cfg (runBody cfg fails st body raiseAt).1 ∧
      lastVis v (runBody cfg fails st body raiseAt).2.1 = vis cfg (runBody cfg fails st body raiseAt).1.started ∧
      (∀ j, raiseAt = some j → j ≤ body.length → (runBody cfg fails st body raiseAt).2.2 = true) := by
  induction body with
  | nil =>
    intro st raiseAt v h hv
    cases raiseAt with
    | none => exact ⟨h, hv, nofun⟩
    | some j =>
      cases j with
      | zero => exact ⟨h, hv, fun _ _ _ => rfl⟩
      | succ j => exact ⟨h, hv, fun j' hj hle => by cases hj; cases hle⟩
  | cons op rest ih =>
    intro st raiseAt v h hv
    by_cases h0 : raiseAt = some 0
    · subst h0; exact ⟨h, hv, fun _ _ _ => rfl⟩
    · rw [runBody]
      · have hs := step_ctl cfg fails st op h v hv
        cases (step cfg fails st op).err with
        | some e => exact ⟨hs.1, hs.2, fun _ _ _ => rfl⟩
        | none =>
          obtain ⟨i1, i2, i3⟩ := ih (step cfg fails st op).st (raiseAt.map (· - 1)) _ hs.1 rfl
          refine ⟨i1, by rw [lastVis_append, hs.2]; exact i2, fun j hj hle => i3 (j - 1) (by rw [hj]; rfl) ?_⟩
          exact Nat.sub_le_of_le_add hle
      · exact h0

theorem runWith_ctl (cfg : Cfg) (fails : Nat → Bool) (st : St) (body : List Op) (raiseAt : Option Nat)
    (h : Bal cfg st) (v : Bool) (hv : v = vis cfg st.started) :
    Bal cfg (runWith cfg fails st body raiseAt).1 ∧
      lastVis v (runWith cfg fails st body raiseAt).2.1 = vis cfg (runWith cfg fails st body raiseAt).1.started ∧
      ((cfg.kind ≠ .progress ∨ cfg.guards = true) → (runWith cfg fails st body raiseAt).1.started = false) ∧
      (∀ j, raiseAt = some j → j ≤ body.length → (runWith cfg fails st body raiseAt).2.2 = true) := by
  have hstart := doStart_ctl cfg fails st h v hv
  simp only [runWith]
  cases he : (doStart cfg fails st).err with
  | some e => exact ⟨hstart.1, hstart.2.1, hstart.2.2.2 (by rw [he]; nofun), fun _ _ _ => rfl⟩
  | none =>
    have hbody := runBody_ctl cfg fails body (doStart cfg fails st).st raiseAt _ hstart.1 rfl
    generalize runBody cfg fails (doStart cfg fails st).st body raiseAt = rb at hbody
    obtain ⟨st1, out1, raised1⟩ := rb
    have hstop := step_ctl cfg fails st1 .stop hbody.1 _ rfl
    refine ⟨hstop.1, ?_, fun _ => (doStop_ctl cfg fails st1 hbody.1 v).2.1, fun j hj hle => ?_⟩
    · show lastVis v ((doStart cfg fails st).out ++ out1 ++ (doStop cfg fails st1).out) = _
      rw [lastVis_append, lastVis_append, hstart.2.1, hbody.2.1]
      exact hstop.2
    · show (raised1 || _) = true
      rw [show raised1 = true from hbody.2.2 j hj hle]; rfl

end RichModel.Live
