import RichModel.Lemmas.AnsiRoundTrip
/-!
`legacy_windows=True` (property C19): `Style.render` writes no OSC 8 hyperlink, everything else is
unchanged — the encoder behaves as on the same segments with their links removed.
-/
namespace RichModel
namespace Ansi
open AsciiStr Style

def noLinkStyle (s : Style) : Style := { s with link := none }

/-- the segment with the link taken off its style -/
def stripLink (g : Seg) : Seg := { g with style := g.style.map noLinkStyle }

def Obs.dropLink (o : Obs) : Obs := { o with link := none }

theorem makeAnsiCodes_noLink (s : Style) : makeAnsiCodes (noLinkStyle s) = makeAnsiCodes s := rfl

theorem renderSeg_legacy (id : List Char) (s : Style) (t : List Char) :
    renderSeg true id s t = renderSeg false id (noLinkStyle s) t := by
  have : strTruthy (noLinkStyle s).link = false := rfl
  simp [renderSeg, makeAnsiCodes_noLink, this]

theorem encodeSeg_legacy (g : Seg) : encodeSeg true g = encodeSeg false (stripLink g) := by
  have hb : ∀ s : Style, (noLinkStyle s).toBool = s.toBool := fun _ => rfl
  cases hs : g.style <;> simp [encodeSeg, stripLink, hs, hb, renderSeg_legacy]

theorem encodeSegs_legacy (segs : List Seg) : encodeSegs true segs = encodeSegs false (segs.map stripLink) := by
  induction segs with
  | nil => rfl
  | cons g r ih => simp [encodeSegs, encodeSeg_legacy, ih]

theorem inv_noLinkStyle {s : Style} (hi : Inv s) : Inv (noLinkStyle s) :=
  ⟨hi.attrs_sub, hi.set_lt, fun hn => by
    obtain ⟨a, b, c, d, _⟩ := hi.null_empty hn
    exact ⟨a, b, c, d, rfl⟩⟩

theorem segOk_stripLink {g : Seg} (h : SegOk g) : SegOk (stripLink g) := by
  have key : ∀ s, (stripLink g).style = some s → ∃ s0, g.style = some s0 ∧ noLinkStyle s0 = s := fun s hs => by
    simpa [stripLink] using hs
  refine ⟨h.text, h.id, fun s hs => ?_, h.bel.1, fun s hs => ?_⟩
  · obtain ⟨s0, h0, rfl⟩ := key s hs
    exact ⟨inv_noLinkStyle (h.style s0 h0).1, (h.style s0 h0).2.1, rfl⟩
  · obtain ⟨s0, _, rfl⟩ := key s hs
    rfl

theorem obsOpt_stripLink (g : Seg) : obsOpt (stripLink g).style = (obsOpt g.style).dropLink := by
  cases hs : g.style with
  | none => simp [stripLink, hs, obsOpt, obs0, Obs.dropLink]
  | some s => simp [stripLink, hs, obsOpt, obsOf, Obs.dropLink, noLinkStyle, Style.attr, linkVal, strTruthy]

theorem expectedChars_stripLink (segs : List Seg) :
    expectedChars (segs.map stripLink) = (expectedChars segs).map fun p => (p.1, p.2.dropLink) := by
  induction segs with
  | nil => rfl
  | cons g r ih =>
    simp only [expectedChars, List.map_cons, List.flatMap_cons, List.map_append] at ih ⊢
    rw [ih, obsOpt_stripLink]
    simp [stripLink, List.map_map, Function.comp_def]

end Ansi
end RichModel
