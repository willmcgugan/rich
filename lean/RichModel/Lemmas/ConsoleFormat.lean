import RichModel.Model.ConsoleFormat
import RichModel.Lemmas.ConsoleDoc
/-!
`str.format` on `code_format` as a string (`Model/ConsoleFormat.lean`):

* what filling in answers when every field is one of the four keywords (`fill_template`), and when one is not: the first
  such field answers alone (`fill_first_bad`).  So the format succeeds exactly when the scan reaches the end of the string
  and every field is a keyword, and the result is then `formatTemplate` of `Model/Console` on the parsed items: every
  theorem about `List TItem` templates applies to format *strings*;
* doubling the braces of any text gives a format string that produces that text.
-/
namespace RichModel.ConsoleFormat
open RichModel RichModel.Console

/-! ## scanning -/

/-- Doubling every brace: the way to write literal text in a format string. -/
def doubleBraces (s : List Char) : List Char :=
  s.flatMap (fun c => if c = '{' ∨ c = '}' then [c, c] else [c])

theorem scan_doubleBraces (s : List Char) : scan .lit (doubleBraces s) = (s.map PItem.lit, Tail.done) := by
  induction s with
  | nil => rfl
  | cons c s ih =>
    have hcons : doubleBraces (c :: s) = (if c = '{' ∨ c = '}' then [c, c] else [c]) ++ doubleBraces s := by
      simp [doubleBraces]
    rw [hcons]
    by_cases h1 : c = '{'
    · subst h1
      simp [scan, ih]
    · by_cases h2 : c = '}'
      · subst h2
        simp [scan, ih]
      · simp [h1, h2, scan, ih]

theorem fill_lits (vals : Vals) (s : List Char) : fill vals (s.map PItem.lit) .done = .ok s := by
  induction s with
  | nil => rfl
  | cons c s ih => simp [fill, ih]

theorem formatStr_doubleBraces (vals : Vals) (s : List Char) : formatStr vals (doubleBraces s) = .ok s := by
  simp [formatStr, scan_doubleBraces, fill_lits]

/-! ## filling in: the success branch is `formatTemplate` -/

def optsOf (vals : Vals) (t : List TItem) : HtmlOpts :=
  { template := t, foreground := vals.foreground, background := vals.background }

/-- The item a field name stands for. -/
def fieldItem (n : List Char) : Option TItem :=
  if n = "code".toList then some .code
  else if n = "stylesheet".toList then some .stylesheet
  else if n = "foreground".toList then some .foreground
  else if n = "background".toList then some .background
  else none

theorem toTemplate_field (n : List Char) (r : List PItem) :
    toTemplate (.field n :: r) = (match fieldItem n, toTemplate r with
      | some i, some t => some (i :: t)
      | _, _ => none) := rfl

/-- `get_field_object` through `fieldItem`: a name made of digits (or empty) is positional, then come the four
keywords, any other name is a `KeyError`. -/
theorem lookup_eq (vals : Vals) (n : List Char) :
    lookup vals n =
      if n.all isAsciiDigit then (if n.length ≤ 18 then .err .indexError else .unmodelled)
      else match fieldItem n with
        | some i => .value (formatTemplate (optsOf vals [i]) vals.code vals.stylesheet)
        | none => .err (.keyError n) := by
  unfold lookup fieldItem
  -- the four keyword strings play no part: they are variables from here on
  generalize "code".toList = k1, "stylesheet".toList = k2, "foreground".toList = k3, "background".toList = k4
  -- the `match` moves into the chain of conditionals, where the branches agree one by one
  simp only [apply_ite (fun o : Option TItem => match o with
    | some i => Lookup.value (formatTemplate (optsOf vals [i]) vals.code vals.stylesheet)
    | none => Lookup.err (.keyError n))]
  simp [formatTemplate, optsOf]

theorem fieldItem_not_digits (n : List Char) (i : TItem) (h : fieldItem n = some i) : n.all isAsciiDigit = false := by
  have hk : "code".toList.all isAsciiDigit = false ∧ "stylesheet".toList.all isAsciiDigit = false ∧
      "foreground".toList.all isAsciiDigit = false ∧ "background".toList.all isAsciiDigit = false := by decide +kernel
  unfold fieldItem at h
  generalize "code".toList = k1, "stylesheet".toList = k2, "foreground".toList = k3, "background".toList = k4 at h hk
  by_cases e1 : n = k1; · rw [e1]; exact hk.1
  by_cases e2 : n = k2; · rw [e2]; exact hk.2.1
  by_cases e3 : n = k3; · rw [e3]; exact hk.2.2.1
  by_cases e4 : n = k4; · rw [e4]; exact hk.2.2.2
  rw [if_neg e1, if_neg e2, if_neg e3, if_neg e4] at h
  cases h

theorem lookup_of_fieldItem (vals : Vals) (n : List Char) (i : TItem) (h : fieldItem n = some i) :
    lookup vals n = .value (formatTemplate (optsOf vals [i]) vals.code vals.stylesheet) := by
  rw [lookup_eq, fieldItem_not_digits n i h, h]; rfl

/-- What a field answers when it is not a keyword. -/
def Lookup.res : Lookup → FmtRes
  | .err e => .error e
  | _ => .unmodelled

theorem lookup_not_value (vals : Vals) (n : List Char) (h : fieldItem n = none) (v : List Char) :
    lookup vals n ≠ .value v := by
  rw [lookup_eq, h]
  cases n.all isAsciiDigit
  · nofun
  · rw [if_pos rfl]; split <;> nofun

theorem toTemplate_lit (c : Char) (r : List PItem) : toTemplate (.lit c :: r) = (toTemplate r).map (TItem.lit [c] :: ·) := rfl

/-- Induction over the items that denote a template: literal characters, and fields that are keywords. -/
theorem toTemplate_induct {motive : List PItem → List TItem → Prop} (nil : motive [] [])
    (lit : ∀ c r t, motive r t → motive (.lit c :: r) (.lit [c] :: t))
    (field : ∀ n i r t, fieldItem n = some i → motive r t → motive (.field n :: r) (i :: t))
    (items : List PItem) : ∀ t, toTemplate items = some t → motive items t := by
  induction items with
  | nil => intro t h; cases h; exact nil
  | cons p r ih =>
    intro t h
    cases p with
    | lit c =>
      rw [toTemplate_lit, Option.map_eq_some_iff] at h
      obtain ⟨t', ht', rfl⟩ := h
      exact lit c r t' (ih t' ht')
    | field n =>
      rw [toTemplate_field] at h
      split at h
      · rename_i i t' hi ht'
        cases h
        exact field n i r t' hi (ih t' ht')
      · cases h

theorem fill_template (vals : Vals) (tl : Tail) : ∀ (items : List PItem) (t : List TItem), toTemplate items = some t →
    fill vals items tl = match tl with
      | .done => .ok (formatTemplate (optsOf vals t) vals.code vals.stylesheet)
      | .valueError => .error .valueError
      | .unmodelled => .unmodelled := by
  refine toTemplate_induct ?_ (fun c r t ih => ?_) (fun n i r t hi ih => ?_)
  · cases tl <;> rfl
  · rw [fill, ih]
    cases tl <;> rfl
  · rw [fill, lookup_of_fieldItem vals n i hi, ih]
    cases tl <;> simp [formatTemplate, optsOf]

/-- A list of items is a template, or has a first field that is not a keyword. -/
theorem toTemplate_none : ∀ (items : List PItem), toTemplate items = none →
    ∃ pre n post t, items = pre ++ PItem.field n :: post ∧ toTemplate pre = some t ∧ fieldItem n = none
  | [], h => by cases h
  | .lit c :: r, h => by
    rw [toTemplate_lit, Option.map_eq_none_iff] at h
    obtain ⟨pre, n, post, t, e, ht, hn⟩ := toTemplate_none r h
    exact ⟨.lit c :: pre, n, post, _, by rw [e]; rfl, by rw [toTemplate_lit, ht]; rfl, hn⟩
  | .field m :: r, h => by
    cases hi : fieldItem m with
    | none => exact ⟨[], m, r, [], rfl, rfl, hi⟩
    | some i =>
      have hr : toTemplate r = none := by
        rw [toTemplate_field, hi] at h
        cases hr : toTemplate r with
        | none => rfl
        | some t => rw [hr] at h; cases h
      obtain ⟨pre, n, post, t, e, ht, hn⟩ := toTemplate_none r hr
      exact ⟨.field m :: pre, n, post, i :: t, by rw [e]; rfl, by rw [toTemplate_field, hi, ht], hn⟩

/-- **The first field that is not a keyword answers alone**, whatever follows and however the scan ended: a name made of
digits is an `IndexError` (or outside the model), any other a `KeyError` of that name (`lookup_eq`). -/
theorem fill_first_bad (vals : Vals) (tl : Tail) (n : List Char) (post : List PItem) (hn : fieldItem n = none) :
    ∀ (pre : List PItem) (t : List TItem), toTemplate pre = some t →
      fill vals (pre ++ .field n :: post) tl = (lookup vals n).res := by
  refine toTemplate_induct ?_ (fun c r t ih => ?_) (fun m i r t hi ih => ?_)
  · rw [List.nil_append, fill]
    cases hl : lookup vals n with
    | value v => exact absurd hl (lookup_not_value vals n hn v)
    | _ => rfl
  · rw [List.cons_append, fill, ih]
    cases lookup vals n <;> rfl
  · rw [List.cons_append, fill, lookup_of_fieldItem vals m i hi, ih]
    cases lookup vals n <;> rfl

theorem fill_not_ok (vals : Vals) (items : List PItem) (tl : Tail) (h : tl ≠ .done ∨ toTemplate items = none)
    (s : List Char) : fill vals items tl ≠ .ok s := by
  cases ht : toTemplate items with
  | none =>
    obtain ⟨pre, n, post, t, rfl, hpre, hn⟩ := toTemplate_none items ht
    rw [fill_first_bad vals tl n post hn pre t hpre]
    cases lookup vals n <;> nofun
  | some t =>
    rw [fill_template vals tl items t ht]
    cases tl
    · simp [ht] at h
    · nofun
    · nofun

theorem formatStr_ok_iff (vals : Vals) (fmt : List Char) (s : List Char) :
    formatStr vals fmt = .ok s ↔
      (scan .lit fmt).2 = .done ∧ ∃ t, toTemplate (scan .lit fmt).1 = some t ∧
        s = formatTemplate (optsOf vals t) vals.code vals.stylesheet := by
  show fill vals (scan .lit fmt).1 (scan .lit fmt).2 = .ok s ↔ _
  constructor
  · intro h
    by_cases hd : (scan .lit fmt).2 = .done
    · cases ht : toTemplate (scan .lit fmt).1 with
      | none => exact absurd h (fill_not_ok vals _ _ (Or.inr ht) s)
      | some t =>
        rw [hd, fill_template vals .done _ t ht] at h
        cases h
        exact ⟨hd, t, rfl, rfl⟩
    · exact absurd h (fill_not_ok vals _ _ (Or.inl hd) s)
  · rintro ⟨hd, t, ht, rfl⟩
    rw [hd]
    exact fill_template vals .done _ t ht

theorem toTemplate_append (a b : List PItem) (ta tb : List TItem) (ha : toTemplate a = some ta)
    (hb : toTemplate b = some tb) : toTemplate (a ++ b) = some (ta ++ tb) := by
  refine toTemplate_induct (motive := fun a ta => toTemplate (a ++ b) = some (ta ++ tb)) hb (fun c r t ih => ?_)
    (fun n i r t hi ih => ?_) a ta ha
  · rw [List.cons_append, toTemplate_lit, ih]
    rfl
  · rw [List.cons_append, toTemplate_field, hi, ih]
    rfl

/-! ## the error branch -/

theorem fill_keyError (vals : Vals) (n : List Char) (items : List PItem) (tl : Tail)
    (h : fill vals items tl = .error (.keyError n)) :
    ∃ pre post, items = pre ++ PItem.field n :: post ∧ (∃ t, toTemplate pre = some t) ∧ fieldItem n = none ∧
      n.all isAsciiDigit = false := by
  cases ht : toTemplate items with
  | some t => rw [fill_template vals tl items t ht] at h; cases tl <;> cases h
  | none =>
    obtain ⟨pre, m, post, t, rfl, hpre, hm⟩ := toTemplate_none items ht
    rw [fill_first_bad vals tl m post hm pre t hpre, lookup_eq, hm] at h
    -- only a name that is not made of digits answers `KeyError`, and it answers its own name
    cases hd : m.all isAsciiDigit <;> rw [hd] at h
    · cases h
      exact ⟨pre, post, rfl, ⟨t, hpre⟩, hm, hd⟩
    · rw [if_pos rfl] at h
      split at h <;> cases h

end RichModel.ConsoleFormat
