import RichModel.Lemmas.TextSplit
import RichModel.Lemmas.WrapStages
/-!
`Text.split` at a one-character whitespace separator, separators excluded (`split_excl`), and its use by `Text.wrap`,
`split("\n", allow_blank=True)`: the paragraphs show exactly the non-whitespace characters of the text with their
styles (only newline characters disappear).
-/
namespace RichModel
namespace Wrap
open Text
variable {σ : Type}

theorem bne_singleton (d : Char) (l : List Char) (h : d ∉ l) : (l != [d]) = true := by
  rw [bne_iff_ne]
  intro e
  exact h (e ▸ List.mem_singleton.mpr rfl)

theorem nsv_flatMap_filter (ls : List (Text σ)) (q : Text σ → Bool)
    (hq : ∀ l ∈ ls, q l = false → nsv l.view = []) :
    nsv ((ls.filter q).flatMap Text.view) = nsv (ls.flatMap Text.view) := by
  induction ls with
  | nil => rfl
  | cons l ls ih =>
    have ih' := ih (fun x hx => hq x (List.mem_cons_of_mem _ hx))
    simp only [List.filter_cons]
    split
    · simp only [List.flatMap_cons, nsv_append, ih']
    · rename_i hf
      simp only [List.flatMap_cons, nsv_append, ih']
      rw [hq l (by simp) (by simpa using hf), List.nil_append]

/-- `text.split(d)` for a whitespace character `d`, separators excluded: before the final `dropLast` the parts are
`divide`'s lines at both ends of every `d`, without the lines `d` itself -/
theorem split_excl [BEq σ] (d : Char) (hd : pyIsSpace d = true) (t : Text σ) (h : Inv t) (allowBlank : Bool) :
    ∃ ls : List (Text σ),
      t.split Variant.repaired [d] false allowBlank =
        .ok (if !allowBlank && [d].isSuffixOf t.plain then ls.dropLast else ls) ∧
      ls.map (·.plain) =
        (pieces ((findAllAux [d] t.plain 0 0).flatMap (fun m => [m.1, m.2])) t.plain).filter (fun p => p != [d]) ∧
      nsv (ls.flatMap Text.view) = nsv t.view ∧
      ∀ l ∈ ls, Inv l ∧ l.style = t.style := by
  unfold Text.split
  simp only [List.isEmpty_cons, Bool.false_eq_true, if_false, findAll]
  split
  · rename_i hms
    rw [List.isEmpty_iff] at hms
    have hnd : d ∉ t.plain := (findAllAux_char_nil_iff d t.plain 0).mp hms
    have hsuf : [d].isSuffixOf t.plain = false := by
      rw [Bool.eq_false_iff]; intro hs
      obtain ⟨s', hs'⟩ := List.isSuffixOf_iff_suffix.mp hs
      exact hnd (by rw [← hs']; exact List.mem_append_right _ (List.mem_singleton.mpr rfl))
    refine ⟨[t], by rw [copy_eq_self t h, hsuf, Bool.and_false]; rfl, ?_, by rw [List.flatMap_singleton],
      fun l hl => by rw [List.mem_singleton.mp hl]; exact ⟨h, rfl⟩⟩
    rw [hms]
    show [t.plain] = List.filter _ [t.plain]
    rw [List.filter_cons, if_pos (bne_singleton d _ hnd), List.filter_nil]
  · obtain ⟨hasc, hb⟩ : AscFrom 0 ((findAllAux [d] t.plain 0 0).flatMap fun m => [m.1, m.2]) ∧
        ∀ o ∈ (findAllAux [d] t.plain 0 0).flatMap (fun m => [m.1, m.2]), o ≤ t.plain.length :=
      (findAll_strong [d] t.plain Nat.zero_lt_one).asc
    obtain ⟨lines, hdiv, hview, hplain, hall⟩ := divide_view t _ h hasc hb
    refine ⟨lines.filter (fun line => line.plain != [d]), ?_, ?_, ?_,
      fun l hl => ⟨(hall l (List.mem_filter.mp hl).1).1, (hall l (List.mem_filter.mp hl).1).2.1⟩⟩
    · rw [hdiv]
      simp only [bind, Except.bind, pure, Except.pure]
      split <;> rfl
    · rw [← hplain, List.filter_map]; rfl
    · rw [nsv_flatMap_filter, List.flatMap_def, hview, pieces_flatten _ _ hasc]
      intro l _ hq
      have hp : l.plain = [d] := by simpa using hq
      rw [view_eq_annot, hp]
      exact nsv_annot_space _ _ _ (fun c hc => List.mem_singleton.mp hc ▸ hd)

/-- `self.split(allow_blank=True)`: the paragraphs of a consistent text are consistent, carry its base style, are
made of its characters, and together show its non-whitespace characters with their styles -/
theorem split_newline_ink [BEq σ] (t : Text σ) (h : Inv t) :
    ∃ lines, t.split Variant.repaired ['\n'] false true = .ok lines ∧
      nsv (lines.flatMap Text.view) = nsv t.view ∧
      (∀ l ∈ lines, Inv l ∧ l.style = t.style ∧ '\n' ∉ l.plain) ∧ ∀ l ∈ lines, ∀ c ∈ l.plain, c ∈ t.plain := by
  obtain ⟨ls, hsplit, hplain, hink, hall⟩ := split_excl '\n' (by decide) t h true
  have hpiece : ∀ l ∈ ls, l.plain ∈ pieces _ t.plain ∧ (l.plain != ['\n']) = true := fun l hl =>
    List.mem_filter.mp (hplain ▸ List.mem_map_of_mem hl)
  refine ⟨ls, hsplit, hink, fun l hl => ⟨(hall l hl).1, (hall l hl).2, ?_⟩, fun l hl => mem_piecesFrom _ _ _ _ (hpiece l hl).1⟩
  rcases pieces_sep '\n' t.plain [] 0 (Nat.le_refl _) (fun _ hc => nomatch hc) l.plain (hpiece l hl).1 with h1 | h1
  · have := (hpiece l hl).2; rw [h1] at this; cases this
  · exact fun hin => h1 _ hin rfl

end Wrap
end RichModel
