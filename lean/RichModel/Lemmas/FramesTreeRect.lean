import RichModel.Lemmas.FramesTree
import RichModel.Lemmas.FramesRect
/-!
The rendered tree is a rectangle: every line the reference walk emits is a guide prefix of four
cells per level followed by the label's own line, `w` cells in all.
-/
namespace RichModel.Frames
open RichModel
variable {σ : Type}

/-- all guide strings `make_guide` can produce -/
def allGuideTexts : List (List Char) := asciiGuides ++ treeGuides.flatten

/-- the guide strings are four cells wide and contain no line feed (a fact about the width table) -/
def GuidesOk (cw : Char → Nat) : Prop := ∀ s ∈ allGuideTexts, cellLen cw s = 4 ∧ ∀ c ∈ s, c ≠ '\n'

theorem guideText_mem (env : Env) (g : Guide) (h : g.idx < 4) : guideText env g ∈ allGuideTexts := by
  obtain ⟨t, ht, hm⟩ := guideText_mem_set env g h
  rcases List.mem_cons.mp ht with rfl | ht
  · exact List.mem_append_left _ hm
  · exact List.mem_append_right _ (List.mem_flatten.mpr ⟨t, ht, hm⟩)

/-- `out` is a sequence of newline-free lines of exactly `n` cells, each followed by `Segment.line()`: `Emits out ls`
(`Emits.lines_id`) with every line `n` cells wide -/
def LinesOut (cw : Char → Nat) (n : Nat) (out : List (Segment σ)) : Prop :=
  ∃ ls : List (List (Segment σ)), (∀ l ∈ ls, NlFree l ∧ lineLength cw l = n) ∧ out = ls.flatMap (fun l => l ++ [nl])

theorem LinesOut.nil (cw : Char → Nat) (n : Nat) : LinesOut cw n ([] : List (Segment σ)) :=
  ⟨[], by simp, by simp⟩

theorem LinesOut.append {cw : Char → Nat} {n : Nat} {a b : List (Segment σ)} (ha : LinesOut cw n a) (hb : LinesOut cw n b) :
    LinesOut cw n (a ++ b) := by
  obtain ⟨la, h1, rfl⟩ := ha
  obtain ⟨lb, h2, rfl⟩ := hb
  refine ⟨la ++ lb, ?_, by simp⟩
  intro l hl
  rcases List.mem_append.mp hl with h | h
  · exact h1 l h
  · exact h2 l h

theorem LinesOut.lines {cw : Char → Nat} {n : Nat} {out : List (Segment σ)} (h : LinesOut cw n out) :
    ∀ l ∈ splitLines out, lineLength cw l = n := by
  obtain ⟨ls, h1, rfl⟩ := h
  rw [splitLines_lines ls (fun l hl => (h1 l hl).1)]
  intro l hl
  exact (h1 l hl).2

theorem guides_sum (cw : Char → Nat) (hg : GuidesOk cw) (env : Env) (gs : List Guide) (h : ∀ g ∈ gs, g.idx < 4) :
    (gs.map (fun g => cellLen cw (guideText env g))).sum = 4 * gs.length := by
  induction gs with
  | nil => rfl
  | cons g gs ih =>
    rw [List.map_cons, List.sum_cons, ih fun x hx => h x (List.mem_cons_of_mem _ hx),
      (hg _ (guideText_mem env g (h g List.mem_cons_self))).1, List.length_cons]
    omega

theorem lineLength_guides (cw : Char → Nat) (hg : GuidesOk cw) (env : Env) (gs : List Guide) (h : ∀ g ∈ gs, g.idx < 4) :
    lineLength cw (gs.map (guideSeg (σ := σ) env)) = 4 * gs.length := by
  rw [← guides_sum cw hg env gs h]
  simp only [lineLength, List.map_map]
  rfl

theorem nlFree_guides (cw : Char → Nat) (hg : GuidesOk cw) (env : Env) (gs : List Guide) (h : ∀ g ∈ gs, g.idx < 4) :
    NlFree (gs.map (guideSeg (σ := σ) env)) := by
  intro s hs
  obtain ⟨g, hgm, rfl⟩ := List.mem_map.mp hs
  exact nlFree_seg _ (hg _ (guideText_mem env g (h g hgm))).2 _ List.mem_cons_self

/-- the lines of one node: `n = (cells of the label's lines) + 4 * depth` -/
theorem emitNode_linesOut (cw : Char → Nat) (hg : GuidesOk cw) (env : Env) (pfx : List Guide) (cont : Guide)
    (lines : List (List (Segment σ))) (n : Nat) (hp : ∀ g ∈ pfx, g.idx < 4) (hc : cont.idx < 4)
    (hl : ∀ l ∈ lines, NlFree l ∧ lineLength cw l + 4 * pfx.length = n) :
    LinesOut cw n (emitNode env pfx cont lines) := by
  unfold emitNode
  cases lines with
  | nil => exact LinesOut.nil cw n
  | cons l ls =>
    simp only
    have hp2 : ∀ g ∈ pfx.dropLast ++ [cont], g.idx < 4 :=
      List.forall_mem_append.mpr ⟨fun g h => hp g (List.dropLast_subset pfx h), fun g h => List.mem_singleton.mp h ▸ hc⟩
    refine ⟨(pfx.map (guideSeg env) ++ l) :: ls.map (fun l =>
        (if pfx.isEmpty then [] else (pfx.dropLast ++ [cont]).map (guideSeg env)) ++ l), ?_, ?_⟩
    · intro x hx
      rcases List.mem_cons.mp hx with rfl | hx
      · have := hl l (by simp)
        exact ⟨(nlFree_guides cw hg env pfx hp).append this.1, by rw [lineLength_append, lineLength_guides cw hg env pfx hp]; omega⟩
      · simp only [List.mem_map] at hx
        obtain ⟨l0, hl0, rfl⟩ := hx
        have := hl l0 (by simp [hl0])
        split
        · rename_i he
          have : pfx = [] := List.isEmpty_iff.mp he
          subst this
          simpa using this
        · rename_i he
          have hne : pfx ≠ [] := by intro h; exact he (by simp [h])
          have hlen : (pfx.dropLast ++ [cont]).length = pfx.length := by
            simp only [List.length_append, List.length_dropLast, List.length_singleton]
            have : 0 < pfx.length := List.length_pos_iff.mpr hne
            omega
          refine ⟨(nlFree_guides cw hg env _ hp2).append this.1, ?_⟩
          rw [lineLength_append, lineLength_guides cw hg env _ hp2, hlen]; omega
    · simp [List.flatMap_cons, List.flatMap_map]

theorem hereOf_linesOut (cw : Char → Nat) (hsp : cw ' ' = 1) (h2 : ∀ c, cw c ≤ 2) (hg : GuidesOk cw) (env : Env) (w : Int)
    (pfx : List Guide) (cont : Guide) (l : Child σ) (hp : ∀ g ∈ pfx, g.idx < 4) (hc : cont.idx < 4) :
    LinesOut cw w.toNat (hereOf cw env w pfx cont l) := by
  unfold hereOf
  rw [guides_sum cw hg env pfx hp]
  by_cases hlt : w - ((4 * pfx.length : Nat) : Int) < 1
  · rw [linesAt_of_lt_one cw l _ true hlt]
    simp only [emitNode]
    exact LinesOut.nil cw _
  · apply emitNode_linesOut cw hg env pfx cont _ _ hp hc
    intro x hx
    refine ⟨linesAt_nlFree cw l _ true x hx, ?_⟩
    rw [renderLines_exact cw hsp h2 _ _ x hx]
    omega

mutual
theorem specNode_linesOut (cw : Char → Nat) (hsp : cw ' ' = 1) (h2 : ∀ c, cw c ≤ 2) (hg : GuidesOk cw) (env : Env) (w : Int) :
    ∀ (t : TreeN σ) (anc : List Guide) (own : Option GStyle) (last : Bool) (cur : GStyle), (∀ g ∈ anc, g.idx < 4) →
      LinesOut cw w.toNat (specNode cw env w anc own last cur t)
  | .node l ngs e cs, anc, own, last, cur, hanc => by
    have hk1 : (if last = true then 3 else 2) < 4 := by split <;> omega
    have hk0 : (if last = true then 0 else 1) < 4 := by split <;> omega
    cases own with
    | none =>
      rw [specNode_none]
      apply LinesOut.append
      · exact hereOf_linesOut cw hsp h2 hg env w [] _ l (by simp) hk0
      · cases e with
        | false => exact LinesOut.nil cw _
        | true => exact specNodes_linesOut cw hsp h2 hg env w cs [] _ _ (by simp)
    | some st =>
      rw [specNode_some]
      apply LinesOut.append
      · exact hereOf_linesOut cw hsp h2 hg env w _ _ l
          (List.forall_mem_append.mpr ⟨hanc, fun g h => List.mem_singleton.mp h ▸ hk1⟩) hk0
      · cases e with
        | false => exact LinesOut.nil cw _
        | true =>
          exact specNodes_linesOut cw hsp h2 hg env w cs _ _ _
            (List.forall_mem_append.mpr ⟨hanc, fun g h => List.mem_singleton.mp h ▸ hk0⟩)
theorem specNodes_linesOut (cw : Char → Nat) (hsp : cw ' ' = 1) (h2 : ∀ c, cw c ≤ 2) (hg : GuidesOk cw) (env : Env) (w : Int) :
    ∀ (ts : List (TreeN σ)) (anc : List Guide) (st cur : GStyle), (∀ g ∈ anc, g.idx < 4) →
      LinesOut cw w.toNat (specNodes cw env w anc st cur ts)
  | [], _, _, _, _ => by rw [specNodes]; exact LinesOut.nil cw _
  | t :: ts, anc, st, cur, hanc => by
    rw [specNodes]
    exact (specNode_linesOut cw hsp h2 hg env w t anc (some st) _ cur hanc).append
      (specNodes_linesOut cw hsp h2 hg env w ts anc st cur hanc)
end

theorem treeConsole_rect (cw : Char → Nat) (hsp : cw ' ' = 1) (h2 : ∀ c, cw c ≤ 2) (hg : GuidesOk cw) (env : Env)
    (root : TreeN σ) (w : Int) : ∀ l ∈ splitLines (treeConsole cw env root w), lineLength cw l = w.toNat := by
  rw [treeConsole_eq_spec]
  exact (specNode_linesOut cw hsp h2 hg env w root [] none true root.gs (by simp)).lines

end RichModel.Frames
