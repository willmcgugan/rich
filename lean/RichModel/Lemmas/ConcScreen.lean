import RichModel.Model.Conc
import RichModel.Lemmas.Live
/-!
The screen after a sequence of display writes that all erase and redraw `h` rows (`Model/Conc.lean`):
replaying them in file order leaves the printed lines (in file order) followed by the frame of the last
write.  Built on `run_hooked` (Lemmas/Live.lean, property C10): one write
`position_cursor ++ user lines ++ frame` maps a screen showing a frame of the erased height to a screen
showing the new frame.
-/
namespace RichModel.Conc
open RichModel RichModel.Screen
open RichModel.Live (Line Frame Shown ShapeOk region run_hooked region_length positionCursor emitLines emitFrame)

/-- The user lines a write carries. -/
def printedW (w : Write) : List Line :=
  w.items.flatMap (fun x => match x.body with | .user ls => ls | _ => [])

/-- The frame a write draws (the last one, if any). -/
def frameW (w : Write) : Option Frame :=
  w.items.foldl (fun acc x => match x.body with | .frame f => some f | _ => acc) none

/-- The user lines of the writes `ws`, in file order. -/
def printedOf (ws : List Write) : List Line := ws.flatMap printedW

/-- The frame the last of the writes `ws` that draws one draws; `F0` if none does. -/
def lastFrameOf (F0 : Frame) (ws : List Write) : Frame := ws.foldl (fun F w => (frameW w).getD F) F0

def writesOps (ws : List Write) : List TermOp := ws.flatMap (fun w => itemsOps w.items)

/-- A write of a hooked print / refresh whose erase height and frame height are both `h`. -/
def GoodWrite (h : Nat) (w : Write) : Prop :=
  ∃ (x1 x2 x3 : Item) (wd : Nat) (U : List Line) (F : Frame),
    w.items = [x1, x2, x3] ∧ x1.body = .pos (some (wd, h)) ∧
    (x2.body = .user U ∨ (U = [] ∧ ∃ c, x2.body = .ctl [] c)) ∧ x3.body = .frame F ∧ F.length = h

theorem goodWrite_ops {h : Nat} {w : Write} (g : GoodWrite h w) :
    ∃ wd F, itemsOps w.items = positionCursor (some (wd, h)) ++ emitLines (printedW w) ++ emitFrame F ∧
      frameW w = some F ∧ F.length = h := by
  obtain ⟨x1, x2, x3, wd, U, F, hi, h1, h2, h3, hF⟩ := g
  refine ⟨wd, F, ?_, ?_, hF⟩
  · rcases h2 with h2 | ⟨rfl, c, h2⟩
    · simp [itemsOps, printedW, hi, h1, h2, h3, Body.ops]
    · simp [itemsOps, printedW, hi, h1, h2, h3, Body.ops, emitLines]
  · rcases h2 with h2 | ⟨rfl, c, h2⟩ <;> simp [frameW, hi, h1, h2, h3]

theorem screen_of_writes {H h : Nat} (hH : 1 ≤ H) (hh : h ≤ H) :
    ∀ (ws : List Write) (s : Screen) (P : List Line) (F : Frame) (k : Nat),
      (∀ w ∈ ws, GoodWrite h w) → Shown s P F k → F.length = h → (region F).length + k ≤ H →
      ∃ k', Shown (replay H s (writesOps ws)) (P ++ printedOf ws) (lastFrameOf F ws) k' ∧
        (lastFrameOf F ws).length = h ∧ (region (lastFrameOf F ws)).length + k' ≤ H := by
  intro ws
  induction ws with
  | nil =>
    intro s P F k _ hs hF hfit
    exact ⟨k, by simpa [writesOps, printedOf, lastFrameOf, replay] using hs, by simpa [lastFrameOf] using hF,
      by simpa [lastFrameOf] using hfit⟩
  | cons w rest ih =>
    intro s P F k hg hs hF hfit
    obtain ⟨wd, F', hops, hfw, hF'⟩ := goodWrite_ops (hg w (List.mem_cons_self))
    obtain ⟨s', k', hrun, hshown, hfit', _⟩ :=
      run_hooked (H := H) (shape := some (wd, h)) hs (by simp [ShapeOk, hF]) hfit (printedW w) F'
    have hfit'' : (region F').length + k' ≤ H := by
      have := region_length F'
      omega
    obtain ⟨k'', h1, h2, h3⟩ := ih s' (P ++ printedW w) F' k' (fun w' hw' => hg w' (List.mem_cons_of_mem _ hw')) hshown hF' hfit''
    have e1 : replay H s (writesOps (w :: rest)) = replay H s' (writesOps rest) := by
      simp only [writesOps, List.flatMap_cons, hops]
      rw [replay_append, hrun.1]
    have e2 : lastFrameOf F (w :: rest) = lastFrameOf F' rest := by simp [lastFrameOf, hfw]
    rw [e1, e2]
    exact ⟨k'', by simpa [printedOf, List.append_assoc] using h1, h2, h3⟩

end RichModel.Conc
