import RichModel.Lemmas.SyntaxGuides
/-
For property C17: a highlighted line that lies in the selected window is the one marked row, for any options
(`highlighted_line_marked`); the excerpt `Traceback._render_stack` asks for contains the failing line.
-/
namespace RichModel.Syntax

/-- switching indent guides off and applying them afterwards is what `selectedLines` does -/
theorem selectedLines_guides (sr rp : Bool) (o : Opts) (found : Bool) (lex : List Char → List Line) (code : List Char) :
    selectedLines sr rp o found lex code =
      match selectedLines sr rp { o with indentGuides := false } found lex code with
      | .error e => .error e
      | .ok ls => if o.indentGuides && !o.asciiOnly then indentGuides rp o.tabSize ls else .ok ls := by
  unfold selectedLines
  have hsc : shownCode { o with indentGuides := false } code = shownCode o code := rfl
  simp only [linesOfText, lineOffset, hsc]
  cases highlight sr found (lex (expandTabs o.tabSize (shownCode o code))) (expandTabs o.tabSize (shownCode o code)) o.lineRange with
  | error e => rfl
  | ok text => simp

theorem expectedLines_noNL (range : Option (Int × Int)) (s : List Char) :
    ∀ l ∈ expectedLines range (splitNL s), '\n' ∉ l := by
  intro l hl
  unfold expectedLines at hl
  split at hl
  · exact splitNL_no_nl s l hl
  · exact splitNL_no_nl s l (List.mem_of_mem_take (List.mem_of_mem_drop hl))

/-- converse of `expectedLines_getElem?`: a line inside the window stands at its offset -/
theorem getElem?_expectedLines (o : Opts) (P : List Line) {i : Nat} {l : Line} (h : P[i]? = some l)
    (hlo : lineOffset o ≤ i) (hhi : ∀ a b, o.lineRange = some (a, b) → i < b.toNat) :
    (expectedLines o.lineRange P)[i - lineOffset o]? = some l := by
  unfold lineOffset at hlo ⊢
  cases hr : o.lineRange with
  | none => simpa [expectedLines] using h
  | some ab =>
    rw [hr] at hlo
    rw [expectedLines, List.getElem?_drop, Nat.add_sub_cancel' hlo, List.getElem?_take_of_lt (hhi _ _ hr), h]

/-- Guides off: a non-empty source line inside the selected window stands in the selection at its offset. -/
theorem selected_line (o : Opts) (found : Bool) (lex : List Char → List Line) (code : List Char)
    (hclean : Clean (shownCode o code))
    (hlex : found = true → (lex (expandTabs o.tabSize (shownCode o code))).flatten = pygPre false (expandTabs o.tabSize (shownCode o code)))
    (hg : (o.indentGuides && !o.asciiOnly) = false) (hb : ∀ a b, o.lineRange = some (a, b) → 0 ≤ b) {i : Nat} {l : Line}
    (hline : (splitNL (expandTabs o.tabSize (shownCode o code)))[i]? = some l) (hl : l ≠ [])
    (hlo : lineOffset o ≤ i) (hhi : ∀ a b, o.lineRange = some (a, b) → i < b.toNat) :
    ∃ sel, selectedLines false false o found lex code = .ok sel ∧ (∀ y ∈ sel, '\n' ∉ y) ∧
      sel[i - lineOffset o]? = some l := by
  obtain ⟨sel, hs, ht⟩ := selected_trail o found lex code hclean hlex hg hb
  exact ⟨sel, hs, fun y hy => expectedLines_noNL _ _ y (ht.prefix.subset hy),
    ht.getElem?_of_ne_nil (getElem?_expectedLines o _ hline hlo hhi) hl⟩

/-- The excerpt selected for a frame at `lineno` (guides off): it starts at an offset not beyond the failing line and
holds the failing line at the corresponding position. -/
theorem traceback_selected (lineno extra : Nat) (wordWrap : Bool) (maxWidth : Nat) (nw lw asc pad found : Bool)
    (lex : List Char → List Line) (code : List Char) (l : Line)
    (hclean : Clean code)
    (hlex : found = true → (lex (expandTabs 4 code)).flatten = pygPre false (expandTabs 4 code))
    (hpos : 1 ≤ lineno) (hline : (splitNL (expandTabs 4 code))[lineno - 1]? = some l) (hl : l ≠ []) :
    ∃ sel, selectedLines false false (tracebackOpts lineno extra wordWrap false maxWidth nw lw asc pad) found lex code = .ok sel ∧
      (∀ x ∈ sel, '\n' ∉ x) ∧
      1 + ((lineno : Int) - extra - 1).toNat ≤ lineno ∧
      sel[lineno - (1 + ((lineno : Int) - extra - 1).toNat)]? = some l := by
  obtain ⟨sel, hs, hno, hsel⟩ := selected_line (tracebackOpts lineno extra wordWrap false maxWidth nw lw asc pad) found lex code
    hclean hlex rfl (fun a b hab => by cases hab; exact Int.add_nonneg (Int.natCast_nonneg _) (Int.natCast_nonneg _)) hline hl
    (show ((lineno : Int) - extra - 1).toNat ≤ lineno - 1 by omega) (fun a b hab => by cases hab; omega)
  exact ⟨sel, hs, hno, by omega, by rwa [Nat.sub_add_eq]⟩

/-- For ANY options with one highlighted number `x`, on a clean source under the lexer contract (range end ≥ 0, room
under word wrap, `tab_size ≥ 1` for the guides): if line `x` (counting the first source line as `start_line`) lies in
the selected window and is not blank, exactly one row is marked; it carries the
number `x` and shows that line, fitted, with at most its leading spaces overdrawn by indent guides. -/
theorem highlighted_line_marked (cw : Char → Nat) (o : Opts) (found : Bool) (lex : List Char → List Line) (code : List Char)
    (x : Nat) (l : Line) (hclean : Clean (shownCode o code))
    (hlex : found = true → (lex (expandTabs o.tabSize (shownCode o code))).flatten = pygPre false (expandTabs o.tabSize (shownCode o code)))
    (hb : ∀ a b, o.lineRange = some (a, b) → 0 ≤ b)
    (hroom : (o.wordWrap && decide (codeWidthInt o code < 1)) = false) (hts : 1 ≤ o.tabSize) (hhl : o.highlightLines = [x])
    (hlo : o.startLine + lineOffset o ≤ x) (hhi : ∀ a b, o.lineRange = some (a, b) → x - o.startLine < b.toNat)
    (hline : (splitNL (expandTabs o.tabSize (shownCode o code)))[x - o.startLine]? = some l) (hl : ¬ Blank l) :
    ∃ rows g, numberedRows cw false false o found lex code = .ok rows ∧
      rows.filter (·.marked) =
        [{ num := x, marked := true,
           body := fitLine cw (codeWidthInt o code).toNat o.pad (!o.wordWrap && o.optNoWrap) g }] ∧
      (if o.indentGuides && !o.asciiOnly then GuideOf l g else g = l) := by
  obtain ⟨sel, hs, hno, hsel⟩ := selected_line { o with indentGuides := false } found lex code hclean hlex rfl hb hline
    (fun e => hl (by simp [e, Blank])) (show lineOffset o ≤ x - o.startLine by omega) hhi
  replace hsel : sel[x - (o.startLine + lineOffset o)]? = some l := by rw [Nat.sub_add_eq]; exact hsel
  have hsl := selectedLines_guides false false o found lex code
  rw [hs] at hsl
  -- the lines that are numbered, and the one at the highlighted line's position
  obtain ⟨lines, g, hlines, hg, hrel⟩ : ∃ lines g, selectedLines false false o found lex code = .ok lines ∧
      lines[x - (o.startLine + lineOffset o)]? = some g ∧ (if o.indentGuides && !o.asciiOnly then GuideOf l g else g = l) := by
    cases hga : (o.indentGuides && !o.asciiOnly) with
    | false =>
      simp only [hga, Bool.false_eq_true, if_false] at hsl ⊢
      exact ⟨sel, l, hsl, hsel, rfl⟩
    | true =>
      simp only [hga, if_true] at hsl ⊢
      obtain ⟨out, hout, hrel⟩ := indentGuides_spec o.tabSize hts sel hno
      obtain ⟨hj, hselj⟩ := List.getElem?_eq_some_iff.mp hsel
      have hjo := hrel.length_eq ▸ hj
      exact ⟨out, _, hsl.trans hout, List.getElem?_eq_getElem hjo, hselj ▸ hrel.shown _ hjo hj⟩
  -- with a single highlighted number, the marked rows are the row carrying it
  refine ⟨_, g, numberedRows_of_selected hlines hroom, ?_, hrel⟩
  rw [hhl, numberRows_filter_marked, if_pos hlo, List.getElem?_map, hg]
  rfl

end RichModel.Syntax
