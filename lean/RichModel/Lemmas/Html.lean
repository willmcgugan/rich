import RichModel.Model.Console
/-!
String-level facts about the HTML export of `Model/Console`:

* `unescape` — decoding of the three entities `export_html` can emit;  `unescape_escape`, and decoding a string around
  escaped text (`unescape_document_exact`);
* `stripTags` — removal of `<…>`, with the scanner state `tagState`;  `stripTagsAux_append`, `stripTags_flatFrags`.
`unescape` and `stripTags` are *specification* (what "tags removed and entities decoded" means); they are not part of the
model of the code.
-/
namespace RichModel.Console
open RichModel

/-! ## escape is a character-wise substitution -/

theorem replaceChar_nil (c : Char) (r : List Char) : replaceChar c r [] = [] := rfl

theorem replaceChar_cons (c : Char) (r : List Char) (x : Char) (s : List Char) :
    replaceChar c r (x :: s) = (if x == c then r else [x]) ++ replaceChar c r s := by
  simp [replaceChar]

theorem replaceChar_append (c : Char) (r a b : List Char) :
    replaceChar c r (a ++ b) = replaceChar c r a ++ replaceChar c r b := by
  simp [replaceChar]

theorem escape_nil : escape [] = [] := rfl

theorem escape_append (a b : List Char) : escape (a ++ b) = escape a ++ escape b := by
  simp only [escape, replaceChar_append]

theorem flatMap_escape {α : Type} (l : List α) (f : α → List Char) :
    l.flatMap (fun x => escape (f x)) = escape (l.flatMap f) := by
  simp only [escape, replaceChar, List.flatMap_assoc]

/-- What `escape` does to one character. -/
def esc1 (c : Char) : List Char :=
  if c = '&' then ['&', 'a', 'm', 'p', ';'] else if c = '<' then ['&', 'l', 't', ';']
  else if c = '>' then ['&', 'g', 't', ';'] else [c]

theorem escape_cons (x : Char) (s : List Char) : escape (x :: s) = esc1 x ++ escape s := by
  have h1 : escape [x] = esc1 x := by
    unfold esc1
    split; · rename_i e; subst e; decide +kernel
    split; · rename_i e; subst e; decide +kernel
    split; · rename_i e; subst e; decide +kernel
    rename_i h1 h2 h3
    have hne : ∀ c r, x ≠ c → replaceChar c r [x] = [x] := fun c r h => by simp [replaceChar, h]
    rw [escape, hne _ _ h1, hne _ _ h2, hne _ _ h3]
  rw [← h1, ← escape_append]; rfl

/-! ## characters that cannot occur in escaped text -/

/-- `replaceChar c r` brings in nothing but the characters of `r`, and takes `c` out. -/
theorem not_mem_replaceChar (c x : Char) (r s : List Char) (hr : x ∉ r) (hs : x ∉ s ∨ x = c) : x ∉ replaceChar c r s := by
  unfold replaceChar
  simp only [List.mem_flatMap, not_exists, not_and]
  intro y hy
  split
  · exact hr
  · rename_i hyc
    simp only [List.mem_singleton]
    intro e
    subst e
    exact hs.elim (· hy) (fun e => hyc (by simp [e]))

/-- Escaped text contains no `<`: the second `replace` removes it and the third brings none back. -/
theorem not_lt_mem_escape (s : List Char) : '<' ∉ escape s :=
  not_mem_replaceChar _ _ _ _ (by decide +kernel) (.inl (not_mem_replaceChar _ _ _ _ (by decide +kernel) (.inr rfl)))

theorem not_gt_mem_escape (s : List Char) : '>' ∉ escape s :=
  not_mem_replaceChar _ _ _ _ (by decide +kernel) (.inr rfl)

/-- `html.escape(link, quote=True)` leaves no `>` (so the `href` value cannot end the tag). -/
theorem not_gt_mem_escapeAttr (s : List Char) : '>' ∉ escapeAttr s :=
  not_mem_replaceChar _ _ _ _ (by decide +kernel)
    (.inl (not_mem_replaceChar _ _ _ _ (by decide +kernel) (.inl (not_gt_mem_escape s))))

/-- …and no `"` (so it cannot end the attribute value). -/
theorem not_quote_mem_escapeAttr (s : List Char) : '"' ∉ escapeAttr s :=
  not_mem_replaceChar _ _ _ _ (by decide +kernel) (.inl (not_mem_replaceChar _ _ _ _ (by decide +kernel) (.inr rfl)))

/-! ## decoding entities -/

/-- One step of the right-to-left entity decoder: `acc` is the already decoded rest. -/
def unescStep (c : Char) (acc : List Char) : List Char :=
  if c == '&' then
    match acc with
    | 'a' :: 'm' :: 'p' :: ';' :: r => '&' :: r
    | 'l' :: 't' :: ';' :: r => '<' :: r
    | 'g' :: 't' :: ';' :: r => '>' :: r
    | _ => '&' :: acc
  else c :: acc

/-- Decode `&amp;` `&lt;` `&gt;` (one pass; nothing else is an entity). -/
def unescape (s : List Char) : List Char := s.foldr unescStep []

theorem unescape_append (a b : List Char) : unescape (a ++ b) = a.foldr unescStep (unescape b) := by
  simp [unescape, List.foldr_append]

theorem unescape_esc1 (c : Char) (rest : List Char) : (esc1 c).foldr unescStep rest = c :: rest := by
  unfold esc1
  split; · rename_i e; subst e; rfl
  split; · rename_i e; subst e; rfl
  split; · rename_i e; subst e; rfl
  rename_i h _ _
  simp [unescStep, h]

theorem foldr_unesc_escape (s rest : List Char) : (escape s).foldr unescStep rest = s ++ rest := by
  induction s with
  | nil => rfl
  | cons x s ih => rw [escape_cons, List.foldr_append, ih, unescape_esc1]; rfl

theorem unescape_escape (s : List Char) : unescape (escape s) = s :=
  (foldr_unesc_escape s []).trans (List.append_nil s)

/-! ## removing tags -/

/-- `inTag = true`: skipping up to and including the next `>`. -/
def stripTagsAux : Bool → List Char → List Char
  | _, [] => []
  | false, c :: r => if c == '<' then stripTagsAux true r else c :: stripTagsAux false r
  | true, c :: r => if c == '>' then stripTagsAux false r else stripTagsAux true r

/-- Remove every `<…>`. -/
def stripTags (s : List Char) : List Char := stripTagsAux false s

/-- "Tags removed and entities decoded". -/
def htmlDecode (s : List Char) : List Char := unescape (stripTags s)

/-- Scanner state (inside a tag?) after reading `s`. -/
def tagState : Bool → List Char → Bool
  | b, [] => b
  | false, c :: r => tagState (c == '<') r
  | true, c :: r => tagState (!(c == '>')) r

theorem stripTagsAux_append (b : Bool) (x y : List Char) :
    stripTagsAux b (x ++ y) = stripTagsAux b x ++ stripTagsAux (tagState b x) y := by
  induction x generalizing b with
  | nil => cases b <;> simp [stripTagsAux, tagState]
  | cons c x ih =>
    cases b
    · by_cases h : (c == '<') = true <;> simp [stripTagsAux, tagState, h, ih]
    · by_cases h : (c == '>') = true <;> simp [stripTagsAux, tagState, h, ih]

theorem tagState_append (b : Bool) (x y : List Char) : tagState b (x ++ y) = tagState (tagState b x) y := by
  induction x generalizing b with
  | nil => cases b <;> rfl
  | cons c x ih => cases b <;> simp [tagState, ih]

theorem stripTagsAux_sublist (b : Bool) (s : List Char) : (stripTagsAux b s).Sublist s := by
  fun_induction stripTagsAux b s with
  | case1 => exact .slnil
  | case2 c r h ih => exact ih.cons _
  | case3 c r h ih => exact ih.cons_cons _
  | case4 c r h ih => exact ih.cons _
  | case5 c r h ih => exact ih.cons _

theorem not_mem_stripTags (c : Char) (s : List Char) (h : c ∉ s) : c ∉ stripTags s :=
  fun hm => h ((stripTagsAux_sublist false s).subset hm)

theorem scan_text (t : List Char) (h : '<' ∉ t) : stripTagsAux false t = t ∧ tagState false t = false := by
  induction t with
  | nil => exact ⟨rfl, rfl⟩
  | cons c t ih =>
    have hc : (c == '<') = false := beq_false_of_ne fun e => h (List.mem_cons.mpr (.inl e.symm))
    obtain ⟨h1, h2⟩ := ih fun hm => h (List.mem_cons_of_mem _ hm)
    simp only [stripTagsAux, tagState, hc, Bool.false_eq_true, if_false, h1, h2, and_self]

theorem stripTagsAux_text (t rest : List Char) (h : '<' ∉ t) :
    stripTagsAux false (t ++ rest) = t ++ stripTagsAux false rest := by
  rw [stripTagsAux_append, (scan_text t h).1, (scan_text t h).2]

theorem tagState_text (t : List Char) (h : '<' ∉ t) : tagState false t = false := (scan_text t h).2

theorem stripTagsAux_tagBody (b rest : List Char) (h : '>' ∉ b) :
    stripTagsAux true (b ++ '>' :: rest) = stripTagsAux false rest := by
  induction b with
  | nil => simp [stripTagsAux]
  | cons c b ih =>
    have hc : (c == '>') = false := beq_false_of_ne fun e => h (List.mem_cons.mpr (.inl e.symm))
    simp only [List.cons_append, stripTagsAux, hc, Bool.false_eq_true, if_false, ih (fun hm => h (List.mem_cons_of_mem _ hm))]

/-- The text of a fragment list: the (escaped) text fragments, in order. -/
def fragsText (fs : List Frag) : List Char :=
  fs.flatMap (fun | .text t => t | .tag _ => [])

/-- A fragment list whose tag bodies contain no `>` and whose texts contain no `<`. -/
def FragsOk (fs : List Frag) : Prop :=
  ∀ f ∈ fs, match f with
    | .tag b => '>' ∉ b
    | .text t => '<' ∉ t

theorem FragsOk.append {a b : List Frag} (ha : FragsOk a) (hb : FragsOk b) : FragsOk (a ++ b) := by
  intro f hf
  rcases List.mem_append.mp hf with h | h
  · exact ha f h
  · exact hb f h

theorem FragsOk.nil : FragsOk [] := nofun

theorem stripTagsAux_flatFrags (fs : List Frag) (h : FragsOk fs) (rest : List Char) :
    stripTagsAux false (flatFrags fs ++ rest) = fragsText fs ++ stripTagsAux false rest := by
  induction fs with
  | nil => rfl
  | cons f fs ih =>
    have hfs : FragsOk fs := fun g hg => h g (List.mem_cons_of_mem _ hg)
    have hf := h f (List.mem_cons_self ..)
    simp only [flatFrags, List.flatMap_cons, fragsText, List.append_assoc] at ih ⊢
    cases f with
    | tag b =>
      rw [Frag.chars, List.cons_append, stripTagsAux, if_pos (beq_self_eq_true _), List.append_assoc,
        List.singleton_append, stripTagsAux_tagBody _ _ hf]
      exact ih hfs
    | text t => rw [Frag.chars, stripTagsAux_text _ _ hf, ih hfs]

theorem stripTags_flatFrags (fs : List Frag) (h : FragsOk fs) : stripTags (flatFrags fs) = fragsText fs := by
  simpa [stripTags, stripTagsAux] using stripTagsAux_flatFrags fs h []

theorem fragsText_append (a b : List Frag) : fragsText (a ++ b) = fragsText a ++ fragsText b := by
  simp [fragsText]

/-! ## decoding entities around escaped text -/

theorem foldr_unesc_noamp (a rest : List Char) (h : '&' ∉ a) : a.foldr unescStep rest = a ++ rest := by
  induction a with
  | nil => rfl
  | cons c a ih =>
    have hc : (c == '&') = false := beq_false_of_ne fun e => h (List.mem_cons.mpr (.inl e.symm))
    simp only [List.foldr_cons, ih (fun hm => h (List.mem_cons_of_mem _ hm)), unescStep, hc, Bool.false_eq_true,
      if_false, List.cons_append]

/-- Decoding `a ++ escape s ++ p` for arbitrary `a` and `p`: the middle decodes to `s`, what follows is decoded on its
own, what precedes in the context of both. -/
theorem unescape_document_exact (a s p : List Char) :
    unescape (a ++ escape s ++ p) = a.foldr unescStep (s ++ unescape p) := by
  unfold unescape
  rw [List.append_assoc, List.foldr_append, List.foldr_append, foldr_unesc_escape]

theorem unescape_document (a s p : List Char) (ha : '&' ∉ a) :
    unescape (a ++ escape s ++ p) = a ++ s ++ unescape p := by
  rw [unescape_document_exact, foldr_unesc_noamp a _ ha, List.append_assoc]

theorem unescape_around (a s p : List Char) (ha : '&' ∉ a) (hp : '&' ∉ p) :
    unescape (a ++ escape s ++ p) = a ++ s ++ p := by
  rw [unescape_document a s p ha, show unescape p = p from (foldr_unesc_noamp p [] hp).trans (List.append_nil p)]

end RichModel.Console
