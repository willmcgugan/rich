import RichModel.Lemmas.SyntaxGuides
import RichModel.Model.PrettyConsole
/-!
`Text.with_indent_guides` as `Pretty.__rich_console__` applies it (property C16): for a positive indent size the new
indent has the length of the old one and consists of blanks and guide characters; on a text without blank lines the
loop is a `map`.
-/
namespace RichModel.Pretty
open RichModel

theorem newIndent_length (ts n : Nat) (_ : 0 < ts) : (Syntax.newIndent ts n).length = n :=
  Syntax.newIndent_length ts n

theorem newIndent_chars (ts n : Nat) : ∀ c ∈ Syntax.newIndent ts n, c = ' ' ∨ c = Syntax.guideChar :=
  Syntax.newIndent_onlyGuide ts n

/-- what the loop does to one non-blank line. -/
def guideLine (k : Int) (l : Str) : Str :=
  newIndentI k (Syntax.leadSpaces l) ++ l.drop (newIndentI k (Syntax.leadSpaces l)).length

/-- no line is blank (every line has a character that is not a leading blank) -/
def noBlankLine (ls : List Str) : Prop := ∀ l ∈ ls, (l.drop (Syntax.leadSpaces l)).isEmpty = false

theorem guideLoopI_noBlank (k : Int) (hk : k ≠ 0) (ls : List Str) (h : noBlankLine ls) :
    guideLoopI k 0 ls = .ok (ls.map (guideLine k)) := by
  induction ls with
  | nil => rfl
  | cons l rest ih =>
    have hk' : (k == 0) = false := by simpa using hk
    rw [guideLoopI]
    simp only [h l List.mem_cons_self, Bool.false_eq_true, if_false, hk', ih fun x hx => h x (List.mem_cons_of_mem _ hx),
      List.replicate_zero, List.nil_append, List.map_cons, guideLine]
theorem guideLine_eq (k : Int) (hk : 0 < k) (l : Str) :
    guideLine k l = Syntax.newIndent k.toNat (Syntax.leadSpaces l) ++ l.drop (Syntax.leadSpaces l) := by
  rw [guideLine, newIndentI, if_pos hk, Syntax.newIndent_length _ _]

theorem guideLine_length (k : Int) (hk : 0 < k) (l : Str) : (guideLine k l).length = l.length := by
  rw [guideLine_eq k hk, List.length_append, Syntax.newIndent_length _ _, List.length_drop]
  exact Nat.add_sub_cancel' (List.takeWhile_prefix _).length_le

theorem guideLine_rest (k : Int) (hk : 0 < k) (l : Str) :
    (guideLine k l).drop (Syntax.leadSpaces l) = l.drop (Syntax.leadSpaces l) := by
  rw [guideLine_eq k hk, List.drop_left' (Syntax.newIndent_length _ _)]

theorem guideLine_indent (k : Int) (hk : 0 < k) (l : Str) :
    (guideLine k l).take (Syntax.leadSpaces l) = Syntax.newIndent k.toNat (Syntax.leadSpaces l) := by
  rw [guideLine_eq k hk, List.take_left' (Syntax.newIndent_length _ _)]

end RichModel.Pretty
