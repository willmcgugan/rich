import RichModel.Lemmas.ProgressSeq
/-!
The operation lists issued by `Progress.track` / `_TrackThread`: what they set and how far they advance;
and `track()` on a started task: every element advances it by exactly one, the total never moves, and
the task is finished exactly from the first advance on that leaves `completed ≥ total`.
-/
namespace RichModel.Progress

theorem lastSet_advances (id : Nat) (v : Int) (l : List Op) (h : ∀ op ∈ l, ∃ a, op = .advance id a) :
    lastSet id v l = v := by
  induction l generalizing v with
  | nil => rfl
  | cons op r ih =>
    obtain ⟨a, rfl⟩ := h _ List.mem_cons_self
    rw [lastSet_cons]
    simp only [setValue, Option.getD_none]
    exact ih v (fun o ho => h o (List.mem_cons_of_mem _ ho))

theorem trackWakes_advances (id : Nat) (last : Int) (seen : List Int) :
    ∀ op ∈ trackWakes id last seen, ∃ a, op = .advance id a := by
  induction seen generalizing last with
  | nil => intro op h; cases h
  | cons c cs ih =>
    intro op h
    simp only [trackWakes] at h
    split at h
    · rcases List.mem_cons.mp h with rfl | h
      · exact ⟨_, rfl⟩
      · exact ih c op h
    · exact ih c op h

/-- the helper thread's advances telescope: after the wake-ups `seen` it has advanced by
(last value seen − start value) -/
theorem advSince_trackWakes (id : Nat) (a last : Int) (seen : List Int) :
    advSince id a (trackWakes id last seen) = a + (seen.getLast?.getD last - last) := by
  induction seen generalizing a last with
  | nil => simp [trackWakes, advSince]
  | cons c cs ih =>
    rw [trackWakes, List.getLast?_cons, Option.getD_some]
    split
    · rw [advSince_cons]
      simp only [setValue, Option.isSome_none, advValue, if_true, Bool.false_eq_true, if_false]
      rw [ih (a + (c - last)) c]; omega
    · next heq =>
      rw [Decidable.not_not.mp heq]
      exact ih a c

theorem run_addTask_completed (cfg : Cfg) (clock : Clock) (st : State) (hwf : WF st) (a : AddArgs) (ops : List Op)
    (hno : ∀ op ∈ ops, op ≠ .removeTask st.nextId) :
    ∃ t, lookup (run cfg clock (.addTask a :: ops) st).tasks st.nextId = some t ∧
      t.completed = lastSet st.nextId a.completed ops + advSince st.nextId 0 ops := by
  have hl := step_addTask_lookup cfg clock st hwf a
  have hwf' := step_WF cfg clock (.addTask a) st hwf
  obtain ⟨t, ht⟩ := run_lookup_some cfg clock ops _ st.nextId _ hl hno
  exact ⟨t, ht, completed_eq_lastSet_add_advSince cfg clock st.nextId ops _ (hwf'.lt_nextId hl) _ t hl ht a.completed 0 (Int.add_zero _).symm⟩

/-- `n` advances of task `id` by one, between any operations that do not address it (on other tasks, of the
display) -/
theorem run_advances_one (cfg : Cfg) (clock : Clock) (id : Nat) : ∀ (ops : List Op) (st : State), id < st.nextId →
    ∀ t t', lookup st.tasks id = some t → lookup (run cfg clock ops st).tasks id = some t' →
      (∀ op ∈ ops, op.target = some id → op = .advance id 1) → t.startTime.isSome →
      ∀ n : Nat, n = ops.countP (·.target == some id) →
      t'.startTime.isSome ∧ t'.total = t.total ∧ t'.completed = t.completed + n ∧
      (t'.finishedTime.isSome ↔ (t.finishedTime.isSome ∨ (0 < n ∧ t.total ≤ t.completed + n))) := by
  refine run_lookup_induction cfg clock id (fun t _ hs n hn => by subst hn; exact ⟨hs, rfl, by simp, by simp⟩) ?_ ?_
  · intro op ops o k t t' htg ih hall hs n hn
    obtain rfl := hall op List.mem_cons_self htg
    rw [List.countP_cons_of_pos (by simp [Op.target])] at hn
    -- one element: start time kept, counters by `aEffect`, then the finish check
    obtain ⟨hst, hfin⟩ := taskEffect_progresses (op := .advance id 1) rfl cfg clock o t k hs rfl
    have ha := absTask_taskEffect cfg clock (.advance id 1) none o t k
    have htot : (taskEffect cfg clock (.advance id 1) none o t k).1.total = t.total := congrArg ATask.total ha
    have hcomp : (taskEffect cfg clock (.advance id 1) none o t k).1.completed = t.completed + 1 :=
      congrArg ATask.completed ha
    obtain ⟨hs', ht', hc', hf'⟩ := ih (fun o ho => hall o (List.mem_cons_of_mem _ ho)) (hst ▸ hs) _ rfl
    rw [htot] at ht'
    rw [hcomp] at hc'
    rw [hfin, htot, hcomp, or_assoc] at hf'
    refine ⟨hs', ht', by rw [hc', hn]; omega, hf'.trans (or_congr_right ?_)⟩
    rw [hn]; omega
  · intro op ops t t' hne ih hall hs n hn
    rw [List.countP_cons_of_neg (by simpa using hne)] at hn
    exact ih (fun o ho => hall o (List.mem_cons_of_mem _ ho)) hs n hn

end RichModel.Progress
