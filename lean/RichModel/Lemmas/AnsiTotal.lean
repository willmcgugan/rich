import RichModel.Lemmas.AnsiTables
import RichModel.Lemmas.AnsiProxy
/-!
The decoder never raises in the repaired variant (property C19; C14 cites it): every table entry parses, so the only
exception left is `int()`'s.  This is the hypothesis `Total` of the proxy lemmas (`Lemmas/AnsiProxy.lean`).
-/
namespace RichModel
namespace Ansi
open AsciiStr Style

/-- With `intRaises = false` every branch of the comprehension returns. -/
theorem codesLoop_total (cfg : Cfg) (h : cfg.intRaises = false) (l : List (List Char)) :
    ∃ codes, codesLoop cfg l = .ok codes := by
  induction l with
  | nil => exact ⟨[], rfl⟩
  | cons c r ih =>
    obtain ⟨cs, hcs⟩ := ih
    simp only [codesLoop, hcs, h, Except.map, Bool.false_eq_true, if_false]
    repeat' split
    all_goals exact ⟨_, rfl⟩

theorem sgrLookup_parse_ok {code : Nat} {d : List Char} (h : sgrLookup code = some d) :
    ∃ s, Style.parse StyleVariant.fixed d = .ok s := by
  have ht := tablesOk_unpack.entries
  simp only [entriesOk, List.all_eq_true] at ht
  have hp := ht _ (sgrLookup_mem h)
  cases hps : Style.parse StyleVariant.fixed d with
  | ok s => exact ⟨s, rfl⟩
  | error e => simp [hps] at hp

theorem sgrLookupV_parse_ok (cfg : Cfg) {code : Nat} {d : List Char} (h : sgrLookupV cfg code = some d) :
    ∃ s, Style.parse cfg.sv d = .ok s := by
  by_cases hc : code = 24 ∨ code = 25
  · -- the two rows that come from the variant flag, in both forms
    have lit : ∀ b : Bool, ∀ k ∈ [24, 25], ((sgrLookupV { Cfg.repaired with offSingle := b } k).map fun d =>
        (Style.parse StyleVariant.fixed d).toBool) = some true := by decide +kernel
    have e : sgrLookupV { Cfg.repaired with offSingle := cfg.offSingle } code = sgrLookupV cfg code := by
      rcases hc with rfl | rfl <;> rfl
    have := lit cfg.offSingle code (by simpa using hc)
    rw [e, h] at this
    cases hp : Style.parse StyleVariant.fixed d with
    | ok s => exact ⟨s, rfl⟩
    | error e => simp [hp, Except.toBool] at this
  · have h24 : code ≠ 24 := fun e => hc (Or.inl e)
    have h25 : code ≠ 25 := fun e => hc (Or.inr e)
    simp only [sgrLookupV, h24, h25, if_false] at h
    exact sgrLookup_parse_ok h

/-- The only branch of the loop that raises is a table entry that does not parse, and every entry parses. -/
theorem applyCodes_noerr (cfg : Cfg) (codes : List Nat) (st : Style) (k : Nat) :
    (applyCodes cfg st codes k).2 = none := by
  fun_induction applyCodes cfg st codes k
  -- `case5`: the table entry for the code does not parse
  case case5 hd _ hp => obtain ⟨s, hs⟩ := sgrLookupV_parse_ok cfg hd; rw [hs] at hp; cases hp
  all_goals first | rfl | assumption

/-- Text and OSC tokens never raise; an SGR token only through its codes or the loop, which do not. -/
theorem decodeTok_noerr (cfg : Cfg) (h : cfg.intRaises = false) (st : Style) (t : Token) :
    (decodeTok cfg st t).2.2 = none := by
  cases t with
  | sgr s =>
    obtain ⟨codes, hc⟩ := codesLoop_total cfg h (splitOn ';' s)
    simp only [decodeTok, sgrCodes, hc]
    split
    · rfl
    · exact applyCodes_noerr cfg codes st 0
  | _ =>
    simp only [decodeTok]
    repeat' split
    all_goals rfl

theorem decodeToks_total (cfg : Cfg) (h : cfg.intRaises = false) (toks : List Token) (st : Style) :
    ∃ st' runs, decodeToks cfg st toks = (st', .ok runs) := by
  induction toks generalizing st with
  | nil => exact ⟨st, [], rfl⟩
  | cons t r ih =>
    have hne := decodeTok_noerr cfg h st t
    rcases hd : decodeTok cfg st t with ⟨s1, run, e⟩
    rw [hd] at hne
    simp only at hne
    subst hne
    obtain ⟨s2, runs, h2⟩ := ih s1
    exact ⟨s2, run.toList ++ runs, by simp [decodeToks, hd, h2, Except.map]⟩

theorem decodeLine_total (cfg : Cfg) (h : cfg.intRaises = false) : Total cfg :=
  fun st _ => decodeToks_total cfg h _ st

end Ansi
end RichModel
