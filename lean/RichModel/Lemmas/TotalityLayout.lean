import RichModel.Lemmas.TotalityText
import RichModel.Lemmas.LayoutMeasure
import RichModel.Lemmas.LayoutColumnsGrid
import RichModel.Lemmas.LayoutTableCols
import RichModel.Lemmas.TableTotal
import RichModel.Lemmas.FramesColumns
/-!
Property C14 over the composition layer (`Model/Layout.lean`, C01/C09).  `render` / `measure` are total functions that map a
branch in which Python would raise to `cfg.poison`; `AllOk` lists per kind of node what keeps the scrutinee of such a branch
from being an error (texts wrap and render, paddings unpack, the table solver returns, `Columns` lays out), and `allOk` shows
it for every tree with `Valid` options — at any node, at any width a parent may hand down, under any options in force.  The
conditions are local to a node; the children enter only as oracles that measure `0 ≤ maximum`.
-/
namespace RichModel.Layout
open RichModel RichModel.Frames RichModel.Text

/-- what `Padding.unpack` accepts: an int (one-element list) or a tuple of 1, 2 or 4 ints -/
def PadOk (l : List Nat) : Prop := l.length = 1 ∨ l.length = 2 ∨ l.length = 4

theorem unpackPad_ok (l : List Nat) (hp : PadOk l) : ∃ p, unpackPad l = .ok p :=
  match l, hp with
  | [_], _ => ⟨_, rfl⟩
  | [_, _], _ => ⟨_, rfl⟩
  | [_, _, _, _], _ => ⟨_, rfl⟩

theorem panelConsole_ok {σ : Type} (cw : Char → Nat) (env : Env) (v : Frames.Variant) (o : PanelOpts) (c : Child σ) (w : Int)
    {p : PadDims} (hp : unpackPad o.padding = .ok p) : ∃ r, panelConsole cw env v o c w = .ok r := by
  fun_cases panelConsole cw env v o c w
  · rename_i he; exact absurd (hp.symm.trans he) nofun
  all_goals exact ⟨_, rfl⟩

theorem panelRichMeasure_ok {σ : Type} (cw : Char → Nat) (o : PanelOpts) (c : Child σ) (mw : Int)
    {p : PadDims} (hp : unpackPad o.padding = .ok p) : ∃ m, panelRichMeasure cw o c mw = .ok m := by
  fun_cases panelRichMeasure cw o c mw
  · rename_i he; exact absurd (hp.symm.trans he) nofun
  all_goals exact ⟨_, rfl⟩

theorem toTable_widths_total (cfg : Cfg) (h1 : cfg.fl.noColumnsAsserts = false) (h2 : cfg.fl.flexNegative = false)
    (o : TableOpts) (cols : List ColS) (h : ∀ c ∈ cols, ColMeasNonneg c) (maxWidth : Int) :
    ∃ ws, (toTable cfg o cols).calcWidths cfg.fl maxWidth = some ws :=
  calcWidths_total cfg.fl h1 h2 _ (tb_toTable_sane cfg o cols h) maxWidth

theorem tableRichMeasure_total (fl : Flags) (t : Table) (maxWidth : Int)
    (h : ∃ ws, t.calcWidths fl (t.width.getD maxWidth - t.extraWidth) = some ws) : ∃ m, tableRichMeasure fl t maxWidth = some m :=
  richMeasure_some fl t maxWidth h

/-- an optional title / caption is consistent -/
def OptInv : Option T → Prop
  | none => True
  | some t => Text.Inv t

mutual
/-- Valid options: every text in the tree is a consistent `Text` (what the constructor and every public operation
produce, C05), every `padding` option is an int or a tuple of 1, 2 or 4 ints.  Everything else is valid by type: widths,
ratios, paddings are naturals, alignments / justify / overflow are enumerations.  A box is an index into `Gen.boxes` and
nothing is asked of it (see `PanelOk`). -/
def Valid : R → Prop
  | .text t => Text.Inv t
  | .str t => Text.Inv t
  | .padding _ _ c => Valid c
  | .panel o c => PadOk o.padding ∧ Valid c
  | .align _ c => Valid c
  | .constrain _ c => Valid c
  | .styled c => Valid c
  | .cast c => Valid c
  | .opaque c => Valid c
  | .group _ items => ValidL items
  | .rule _ => True
  | .bar _ => True
  | .progressBar _ => True
  | .table o cols => OptInv o.title ∧ OptInv o.caption ∧ ValidCols cols
  | .columns o items => PadOk o.lay.padding ∧ OptInv o.title ∧ ValidL items
  | .tree root => ValidNode root
def ValidL : List R → Prop
  | [] => True
  | r :: rs => Valid r ∧ ValidL rs
def ValidCol : Col → Prop
  | .mk _ h f cells => Valid h ∧ Valid f ∧ ValidL cells
def ValidCols : List Col → Prop
  | [] => True
  | c :: cs => ValidCol c ∧ ValidCols cs
def ValidNode : TNode → Prop
  | .mk label _ _ ch => Valid label ∧ ValidNodes ch
def ValidNodes : List TNode → Prop
  | [] => True
  | n :: ns => ValidNode n ∧ ValidNodes ns
end

/-- `Text.__rich_console__` does not raise, whatever options are in force and whatever width is handed down -/
def TextOk (cfg : Cfg) (t : T) : Prop := ∀ (o : Opts) (w : Nat), ∃ s, textConsoleE cfg t o w = .ok s

/-- an optional title / caption renders without raising -/
def AnnOk (cfg : Cfg) : Option T → Prop
  | none => True
  | some t => TextOk cfg t

/-- C08's `Panel.__rich_console__` / `__rich_measure__` (`Frames.panelConsole` / `panelRichMeasure`) do not raise: the
padding unpacks.  `render` / `measure` match on the title-aware `panelConsoleL` / `panelRichMeasureL`, which unpack the same
padding and also answer `none` for a box index outside `Gen.boxes` or a raising `panelTitleL`; of those this says nothing. -/
def PanelOk (cfg : Cfg) (po : PanelOpts) (c : R) : Prop := ∀ (o : Opts) (w : Nat),
  (∃ r, panelConsole cfg.cw cfg.env cfg.v po ⟨fun x => measure cfg c x, fun x => render cfg c o x⟩ (w : Int) = .ok r) ∧
  (∃ m, panelRichMeasure cfg.cw po (mCh (fun x => measure cfg c x)) (w : Int) = .ok m)

/-- the `Text` a `Rule` yields renders without raising -/
def RuleOk (cfg : Cfg) (ro : RuleOpts) : Prop := ∀ (w : Nat),
  TextOk cfg (Text.new cfg.wv.text (ruleText cfg.cw cfg.env cfg.v ro (w : Int)).1 [0] [] none none none
    (ruleText cfg.cw cfg.env cfg.v ro (w : Int)).2)

/-- `Table.__rich_console__` / `__rich_measure__`: `_calculate_column_widths` returns (no `AssertionError`), the title and
the caption render -/
def TableOk (cfg : Cfg) (to : TableOpts) (colsRender colsMeasure : List ColS) : Prop :=
  (∀ w : Nat, ∃ ws, (toTable cfg to colsRender).calcWidths cfg.fl
      ((toTable cfg to colsRender).width.getD (w : Int) - (toTable cfg to colsRender).extraWidth) = some ws) ∧
  (∀ w : Nat, ∃ m, tableRichMeasure cfg.fl (toTable cfg to colsMeasure) (w : Int) = some m) ∧
  AnnOk cfg to.title ∧ AnnOk cfg to.caption

/-- `Columns.__rich_console__`: the padding unpacks, the layout is computed (no `ZeroDivisionError` of a zero column
count), the inner grid's widths are computed, the blank filler cells and the title render -/
def ColumnsOk (cfg : Cfg) (co : ColsOpts) (items : List Ch) : Prop := ∀ (w : Nat),
  ∃ p, unpackPad co.lay.padding = .ok p ∧
    ∃ L, columnsLayout cfg.v co.lay (items.map (fun c => (c.measureAt (w : Int)).maximum)) (w : Int) = .ok L ∧
      (∀ lay, L = some lay → ∃ ws, (toTable cfg (co.grid p) (gridCols cfg co items w lay)).calcWidths cfg.fl
        ((toTable cfg (co.grid p) (gridCols cfg co items w lay)).width.getD (w : Int)
          - (toTable cfg (co.grid p) (gridCols cfg co items w lay)).extraWidth) = some ws) ∧
      TextOk cfg (emptyText cfg) ∧ AnnOk cfg co.title

mutual
/-- At every node of the tree, for every options in force and every width (any natural number: whatever a parent hands
down, however far below the structural minimum), the conditions written out per kind of node below hold: the texts wrap and
render, paddings unpack, the table solver returns, `Columns` lays out.  They are chosen after the `Except` / `Option`
scrutinees of `render` / `measure`, not read off them: a table's are about `o` where `render` applies `o.subst cfg.env` first
(they hold for every `o`), a rule's fix one of the two end strings (`textOk_new` covers both), a panel's are `PanelOk`. -/
def AllOk (cfg : Cfg) : R → Prop
  | .text t => TextOk cfg t
  | .str t => TextOk cfg t
  | .padding _ _ c => AllOk cfg c
  | .panel o c => PanelOk cfg o c ∧ AllOk cfg c
  | .align _ c => AllOk cfg c
  | .constrain _ c => AllOk cfg c
  | .styled c => AllOk cfg c
  | .cast c => AllOk cfg c
  | .opaque c => AllOk cfg c
  | .group _ items => AllOkL cfg items
  | .rule o => RuleOk cfg o
  | .bar _ => True
  | .progressBar _ => True
  | .table o cols => TableOk cfg o (colsR cfg cols) (colsM cfg cols) ∧ AllOkCols cfg cols
  | .columns o items => ColumnsOk cfg o (chsR cfg items ({} : ColOpts).cellOpts) ∧ AllOkL cfg items
  | .tree root => AllOkNode cfg root
def AllOkL (cfg : Cfg) : List R → Prop
  | [] => True
  | r :: rs => AllOk cfg r ∧ AllOkL cfg rs
def AllOkCol (cfg : Cfg) : Col → Prop
  | .mk _ h f cells => AllOk cfg h ∧ AllOk cfg f ∧ AllOkL cfg cells
def AllOkCols (cfg : Cfg) : List Col → Prop
  | [] => True
  | c :: cs => AllOkCol cfg c ∧ AllOkCols cfg cs
def AllOkNode (cfg : Cfg) : TNode → Prop
  | .mk label _ _ ch => AllOk cfg label ∧ AllOkNodes cfg ch
def AllOkNodes (cfg : Cfg) : List TNode → Prop
  | [] => True
  | n :: ns => AllOkNode cfg n ∧ AllOkNodes cfg ns
end

theorem annOk_of_optInv (cfg : Cfg) (hwv : ∃ chars, cfg.wv = Wrap.WVariant.fixed chars) :
    ∀ t : Option T, OptInv t → AnnOk cfg t
  | none, _ => trivial
  | some t, h => textConsoleE_total cfg hwv t h

theorem textOk_new (cfg : Cfg) (hwv : ∃ chars, cfg.wv = Wrap.WVariant.fixed chars) (s : List Char) (j : Option Justify)
    (o : Option Overflow) (nw : Option Bool) (e : List Char) (ts : Option Nat) :
    TextOk cfg (Text.new cfg.wv.text s [0] [] j o nw e ts) := by
  obtain ⟨chars, h⟩ := hwv
  rw [h]
  exact textConsoleE_total cfg ⟨chars, h⟩ _ (inv_new_nil ..)

theorem chsR_measureAt_le (cfg : Cfg) (o : Opts) (w : Nat) (rs : List R) :
    ∀ c ∈ chsR cfg rs o, (c.measureAt (w : Int)).maximum ≤ (w : Int) := by
  intro c hc
  obtain ⟨r, rfl⟩ := chsR_mem cfg rs o c hc
  exact Int.le_trans (chOf_measureAt cfg r o w).2 (Int.max_le.mpr ⟨Int.le_refl _, Int.natCast_nonneg w⟩)

theorem columnsOk (cfg : Cfg) (hc : CfgRepaired cfg) (co : ColsOpts) (items : List R) (hp : PadOk co.lay.padding)
    (ht : OptInv co.title) : ColumnsOk cfg co (chsR cfg items ({} : ColOpts).cellOpts) := by
  intro w
  obtain ⟨p, hpp⟩ := unpackPad_ok _ hp
  obtain ⟨L, hL⟩ := columnsLayout_ok_of_repaired cfg.v hc.colsZero co.lay
    ((chsR cfg items ({} : ColOpts).cellOpts).map (fun c => (c.measureAt (w : Int)).maximum)) (w : Int) p hpp
    (Int.natCast_nonneg w) (fun _ => List.forall_mem_map.mpr (chsR_measureAt_le cfg _ w items))
  refine ⟨p, hpp, L, hL, fun lay _ => ?_, textOk_new cfg hc.wv _ _ _ _ _ _, annOk_of_optInv cfg hc.wv _ ht⟩
  exact toTable_widths_total cfg hc.noCols hc.flexNeg _ _
    (gridCols_eq_colsGrid cfg co _ w lay ▸ colsGrid_measOk cfg co _ w lay (chsR_meas cfg items _)) _

theorem panelOk (cfg : Cfg) (po : PanelOpts) (c : R) (hp : PadOk po.padding) : PanelOk cfg po c :=
  have ⟨_, hu⟩ := unpackPad_ok po.padding hp
  fun _ _ => ⟨panelConsole_ok cfg.cw cfg.env cfg.v po _ _ hu, panelRichMeasure_ok cfg.cw po _ _ hu⟩

theorem tableOk (cfg : Cfg) (hc : CfgRepaired cfg) (o : TableOpts) (cols : List Col) (ht : OptInv o.title)
    (hcap : OptInv o.caption) : TableOk cfg o (colsR cfg cols) (colsM cfg cols) :=
  ⟨fun _ => toTable_widths_total cfg hc.noCols hc.flexNeg o _ (colsR_meas cfg cols) _,
    fun _ => tableRichMeasure_total cfg.fl _ _ (toTable_widths_total cfg hc.noCols hc.flexNeg o _ (colsM_meas cfg cols) _),
    annOk_of_optInv cfg hc.wv _ ht, annOk_of_optInv cfg hc.wv _ hcap⟩

mutual
theorem allOk (cfg : Cfg) (hc : CfgRepaired cfg) : ∀ r : R, Valid r → AllOk cfg r
  | .text t, h => textConsoleE_total cfg hc.wv t h
  | .str t, h => textConsoleE_total cfg hc.wv t h
  | .padding _ _ c, h => allOk cfg hc c h
  | .panel o c, h => ⟨panelOk cfg o c h.1, allOk cfg hc c h.2⟩
  | .align _ c, h => allOk cfg hc c h
  | .constrain _ c, h => allOk cfg hc c h
  | .styled c, h => allOk cfg hc c h
  | .cast c, h => allOk cfg hc c h
  | .opaque c, h => allOk cfg hc c h
  | .group _ items, h => allOkL cfg hc items h
  | .rule _, _ => fun _ => textOk_new cfg hc.wv _ _ _ _ _ _
  | .bar _, _ => trivial
  | .progressBar _, _ => trivial
  | .table o cols, h => ⟨tableOk cfg hc o cols h.1 h.2.1, allOkCols cfg hc cols h.2.2⟩
  | .columns o items, h => ⟨columnsOk cfg hc o items h.1 h.2.1, allOkL cfg hc items h.2.2⟩
  | .tree root, h => allOkNode cfg hc root h
theorem allOkL (cfg : Cfg) (hc : CfgRepaired cfg) : ∀ rs : List R, ValidL rs → AllOkL cfg rs
  | [], _ => trivial
  | r :: rs, h => ⟨allOk cfg hc r h.1, allOkL cfg hc rs h.2⟩
theorem allOkCol (cfg : Cfg) (hc : CfgRepaired cfg) : ∀ c : Col, ValidCol c → AllOkCol cfg c
  | .mk _ hd f cells, h => ⟨allOk cfg hc hd h.1, allOk cfg hc f h.2.1, allOkL cfg hc cells h.2.2⟩
theorem allOkCols (cfg : Cfg) (hc : CfgRepaired cfg) : ∀ cs : List Col, ValidCols cs → AllOkCols cfg cs
  | [], _ => trivial
  | c :: cs, h => ⟨allOkCol cfg hc c h.1, allOkCols cfg hc cs h.2⟩
theorem allOkNode (cfg : Cfg) (hc : CfgRepaired cfg) : ∀ n : TNode, ValidNode n → AllOkNode cfg n
  | .mk label _ _ ch, h => ⟨allOk cfg hc label h.1, allOkNodes cfg hc ch h.2⟩
theorem allOkNodes (cfg : Cfg) (hc : CfgRepaired cfg) : ∀ ns : List TNode, ValidNodes ns → AllOkNodes cfg ns
  | [], _ => trivial
  | n :: ns, h => ⟨allOkNode cfg hc n h.1, allOkNodes cfg hc ns h.2⟩
end

end RichModel.Layout
