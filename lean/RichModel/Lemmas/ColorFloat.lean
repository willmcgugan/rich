import RichModel.Model.ColorMore
/-!
`blend_rgb` (property C18), over rationals and in IEEE doubles.  Over rationals the blend is a truncated weighted mean
(`tdiv_mix_bounds`; the dyadic model is the case `den = 2^n`).  In doubles: round-to-nearest-even to 53 bits never crosses a
representable number (`rnd53_lower` / `rnd53_upper`) and fixes one (`rnd53_repr`); so for every finite double
`cross_fade` in [0, 1] neither of the two roundings of a blend leaves the interval between the two channels
(`blendChannelF_mem`), and at 0 and 1 nothing is rounded.  Core Lean only.
-/
namespace RichModel

/-- The numerator is the weighted mean `a * (D - w) + b * w`: it lies between `lo * D` and `hi * D`. -/
theorem tdiv_mix_bounds (a b lo hi w D : Int) (hD : 0 < D) (hw0 : 0 ≤ w) (hw1 : w ≤ D) (h0 : 0 ≤ lo)
    (hla : lo ≤ a) (hlb : lo ≤ b) (hah : a ≤ hi) (hbh : b ≤ hi) :
    lo ≤ Int.tdiv (a * D + (b - a) * w) D ∧ Int.tdiv (a * D + (b - a) * w) D ≤ hi := by
  have e : a * D + (b - a) * w = a * (D - w) + b * w := by
    rw [Int.sub_mul, Int.mul_sub]; omega
  have hv : (0 : Int) ≤ D - w := Int.sub_nonneg_of_le hw1
  have hlo := Int.add_le_add (Int.mul_le_mul_of_nonneg_right hla hv) (Int.mul_le_mul_of_nonneg_right hlb hw0)
  have hhi := Int.add_le_add (Int.mul_le_mul_of_nonneg_right hah hv) (Int.mul_le_mul_of_nonneg_right hbh hw0)
  rw [← Int.mul_add, Int.sub_add_cancel] at hlo hhi
  rw [e, Int.tdiv_eq_ediv_of_nonneg (Int.le_trans (Int.mul_nonneg h0 (Int.le_of_lt hD)) hlo)]
  exact ⟨(Int.le_ediv_iff_mul_le hD).2 hlo, Int.ediv_le_of_le_mul hD hhi⟩

theorem blendChannelQ_zero (c1 c2 den : Nat) (hden : 0 < den) : blendChannelQ c1 c2 0 den = c1 := by
  rw [blendChannelQ, Int.mul_zero, Int.add_zero]
  exact Int.mul_tdiv_cancel _ (Int.natCast_ne_zero.2 (Nat.ne_of_gt hden))

theorem blendChannelQ_one (c1 c2 den : Nat) (hden : 0 < den) : blendChannelQ c1 c2 den den = c2 := by
  rw [blendChannelQ, ← Int.add_mul, Int.add_comm, Int.sub_add_cancel]
  exact Int.mul_tdiv_cancel _ (Int.natCast_ne_zero.2 (Nat.ne_of_gt hden))

theorem rnd53_of_lt (n : Nat) (h : n < 2 ^ 53) : rnd53 n = n :=
  if_pos h

/-- At or above `2^53` the rounding goes to the multiple of `2^k` just below `n` or, only if `n` is not one
itself, to the next one, where `k = ⌊log₂ n⌋ - 52`. -/
theorem rnd53_cases (n : Nat) (hn : ¬ n < 2 ^ 53) : ∃ k, 2 ^ (52 + k) ≤ n ∧
    (rnd53 n = n / 2 ^ k * 2 ^ k ∨ (rnd53 n = (n / 2 ^ k + 1) * 2 ^ k ∧ 0 < n % 2 ^ k)) := by
  have hne : n ≠ 0 := fun h => hn (h ▸ Nat.two_pow_pos 53)
  have h53 : 53 ≤ Nat.log2 n := (Nat.le_log2 hne).2 (Nat.le_of_not_lt hn)
  refine ⟨Nat.log2 n - 52, ?_, ?_⟩
  · rw [Nat.add_sub_cancel' (Nat.le_trans (by decide) h53)]; exact Nat.log2_self_le hne
  · have hpos : 0 < 2 ^ (Nat.log2 n - 52) := Nat.two_pow_pos _
    unfold rnd53
    simp only [hn, if_false]
    split
    · exact Or.inl rfl
    · split
      · exact Or.inr ⟨rfl, by omega⟩
      · split
        · exact Or.inl rfl
        · exact Or.inr ⟨rfl, by omega⟩

theorem mul_two_pow_split (A : Nat) {k s : Nat} (h : k ≤ s) : A * 2 ^ s = A * 2 ^ (s - k) * 2 ^ k := by
  rw [Nat.mul_assoc, ← Nat.pow_add, Nat.sub_add_cancel h]

theorem rnd53_lower (A s n : Nat) (hA : A < 2 ^ 53) (h : A * 2 ^ s ≤ n) : A * 2 ^ s ≤ rnd53 n := by
  by_cases hn : n < 2 ^ 53
  · rw [rnd53_of_lt n hn]; exact h
  · obtain ⟨k, hlo, hc⟩ := rnd53_cases n hn
    have hpos : 0 < 2 ^ k := Nat.two_pow_pos _
    have hfloor : A * 2 ^ s ≤ n / 2 ^ k * 2 ^ k := by
      by_cases hks : k ≤ s
      · rw [mul_two_pow_split A hks] at h ⊢
        exact Nat.mul_le_mul_right _ ((Nat.le_div_iff_mul_le hpos).2 h)
      · have h52 : 2 ^ 52 ≤ n / 2 ^ k := (Nat.le_div_iff_mul_le hpos).2 (by rw [← Nat.pow_add]; exact hlo)
        have h1 : A * 2 ^ s ≤ 2 ^ 53 * 2 ^ s := Nat.mul_le_mul_right _ (Nat.le_of_lt hA)
        have h2 : 2 ^ 53 * 2 ^ s ≤ 2 ^ 52 * 2 ^ k := by
          rw [← Nat.pow_add, ← Nat.pow_add]; exact Nat.pow_le_pow_right (by omega) (by omega)
        exact Nat.le_trans h1 (Nat.le_trans h2 (Nat.mul_le_mul_right _ h52))
    rcases hc with hc | ⟨hc, _⟩ <;> rw [hc]
    · exact hfloor
    · exact Nat.le_trans hfloor (Nat.mul_le_mul_right _ (Nat.le_succ _))

theorem rnd53_upper (B s n : Nat) (hB : B < 2 ^ 53) (h : n ≤ B * 2 ^ s) : rnd53 n ≤ B * 2 ^ s := by
  by_cases hn : n < 2 ^ 53
  · rw [rnd53_of_lt n hn]; exact h
  · obtain ⟨k, hlo, hc⟩ := rnd53_cases n hn
    have hks : k ≤ s := by
      have h1 : 2 ^ (52 + k) < 2 ^ (53 + s) := by
        calc 2 ^ (52 + k) ≤ n := hlo
          _ ≤ B * 2 ^ s := h
          _ < 2 ^ 53 * 2 ^ s := Nat.mul_lt_mul_of_pos_right hB (Nat.two_pow_pos _)
          _ = 2 ^ (53 + s) := (Nat.pow_add ..).symm
      have := (Nat.pow_lt_pow_iff_right (by omega : 1 < 2)).1 h1
      omega
    rw [mul_two_pow_split B hks] at h ⊢
    rcases hc with hc | ⟨hc, hr⟩ <;> rw [hc]
    · exact Nat.le_trans (Nat.div_mul_le_self n (2 ^ k)) h
    · apply Nat.mul_le_mul_right
      -- `n / 2^k * 2^k < n ≤ B * 2^(s-k) * 2^k`, hence `n / 2^k < B * 2^(s-k)`
      have hlt : 2 ^ k * (n / 2 ^ k) < n :=
        Nat.lt_of_lt_of_eq (Nat.lt_add_of_pos_right hr) (Nat.div_add_mod n (2 ^ k))
      exact Nat.lt_of_mul_lt_mul_right (Nat.lt_of_lt_of_le (Nat.mul_comm _ _ ▸ hlt) h)

theorem rnd53_repr (A s : Nat) (hA : A < 2 ^ 53) : rnd53 (A * 2 ^ s) = A * 2 ^ s :=
  Nat.le_antisymm (rnd53_upper A s _ hA (Nat.le_refl _)) (rnd53_lower A s _ hA (Nat.le_refl _))

theorem rndI_natCast (n : Nat) : rndI (n : Int) = ((rnd53 n : Nat) : Int) := by
  unfold rndI
  rw [if_neg (Int.not_lt.2 (Int.natCast_nonneg n)), Int.natAbs_natCast]

theorem rndI_neg_natCast (n : Nat) : rndI (-(n : Int)) = -((rnd53 n : Nat) : Int) := by
  unfold rndI
  by_cases h : n = 0
  · subst h; simp [rnd53]
  · have : (-(n : Int) < 0) := by omega
    simp only [this, if_true, Int.natAbs_neg, Int.natAbs_natCast]

theorem tdiv_rndI_bounds (lo hi cs m : Nat) (hhi : hi < 2 ^ 53) (h1 : lo * 2 ^ cs ≤ m) (h2 : m ≤ hi * 2 ^ cs) :
    (lo : Int) ≤ Int.tdiv (rndI m) ((2 ^ cs : Nat) : Int) ∧ Int.tdiv (rndI m) ((2 ^ cs : Nat) : Int) ≤ hi := by
  have hpos : 0 < 2 ^ cs := Nat.two_pow_pos cs
  have hle : lo ≤ hi := Nat.le_of_mul_le_mul_right (Nat.le_trans h1 h2) hpos
  have hlo := rnd53_lower lo cs m (Nat.lt_of_le_of_lt hle hhi) h1
  have hhi' := rnd53_upper hi cs m hhi h2
  rw [rndI_natCast, ← Int.ofNat_tdiv]
  exact ⟨Int.ofNat_le.2 ((Nat.le_div_iff_mul_le hpos).2 hlo),
    Int.ofNat_le.2 (Nat.div_le_of_le_mul (Nat.mul_comm hi _ ▸ hhi'))⟩

theorem rndI_repr (x : Int) (s : Nat) (h : x.natAbs < 2 ^ 53) :
    rndI (x * ((2 ^ s : Nat) : Int)) = x * ((2 ^ s : Nat) : Int) := by
  obtain ⟨n, rfl | rfl⟩ := Int.eq_nat_or_neg x
  · rw [← Int.natCast_mul, rndI_natCast, rnd53_repr n s h]
  · rw [Int.neg_mul, ← Int.natCast_mul, rndI_neg_natCast, rnd53_repr n s (by rwa [Int.natAbs_neg] at h)]

theorem rndI_of_small (x : Int) (h : x.natAbs < 2 ^ 53) : rndI x = x := by
  have := rndI_repr x 0 h
  rwa [Nat.pow_zero, Int.natCast_one, Int.mul_one] at this

/-- For `cross_fade = k / 2^cs` in [0, 1] the exact product lies between `0` and `|c2 - c1|`, both representable, so
its rounding does; then the exact sum lies between the two channels, so its rounding does. -/
theorem blendChannelF_mem (c1 c2 k cs : Nat) (h1 : c1 < 2 ^ 53) (h2 : c2 < 2 ^ 53) (hk : k ≤ 2 ^ cs) :
    ((min c1 c2 : Nat) : Int) ≤ blendChannelF c1 c2 k cs ∧ blendChannelF c1 c2 k cs ≤ ((max c1 c2 : Nat) : Int) := by
  rcases Nat.le_total c1 c2 with hle | hle
  · obtain ⟨d, rfl⟩ := Nat.exists_eq_add_of_le hle
    have hx : (((c1 + d : Nat) : Int) - (c1 : Int)) * (k : Int) = ((d * k : Nat) : Int) := by
      rw [Int.natCast_add, Int.add_comm, Int.add_sub_cancel, Int.natCast_mul]
    have hp := rnd53_upper d cs (d * k) (Nat.lt_of_le_of_lt (Nat.le_add_left d c1) h2) (Nat.mul_le_mul_left d hk)
    rw [Nat.min_eq_left hle, Nat.max_eq_right hle]
    simp only [blendChannelF, hx, rndI_natCast, ← Int.natCast_mul, ← Int.natCast_add]
    exact tdiv_rndI_bounds c1 (c1 + d) cs _ h2 (Nat.le_add_right _ _)
      (Nat.add_mul c1 d _ ▸ Nat.add_le_add_left hp _)
  · obtain ⟨e, rfl⟩ := Nat.exists_eq_add_of_le hle
    have hx : ((c2 : Int) - ((c2 + e : Nat) : Int)) * (k : Int) = -((e * k : Nat) : Int) := by
      rw [Int.natCast_add, Int.natCast_mul, ← Int.neg_mul]; congr 1; omega
    have hp := rnd53_upper e cs (e * k) (Nat.lt_of_le_of_lt (Nat.le_add_left e c2) h1) (Nat.mul_le_mul_left e hk)
    rw [Nat.min_eq_right hle, Nat.max_eq_left hle]
    simp only [blendChannelF, hx, rndI_neg_natCast]
    -- the rounded product `p` is subtracted: the sum is the natural number `c2 * 2^cs + (e * 2^cs - p)`
    rw [← Int.natCast_mul, Nat.add_mul, Int.natCast_add, Int.add_assoc, ← Int.sub_eq_add_neg, ← Int.natCast_sub hp,
      ← Int.natCast_add]
    exact tdiv_rndI_bounds c2 (c2 + e) cs _ h1 (Nat.le_add_right _ _)
      (Nat.add_mul c2 e _ ▸ Nat.add_le_add_left (Nat.sub_le _ _) _)

theorem blendChannelF_at_zero (c1 c2 cs : Nat) (h : c1 < 2 ^ 53) : blendChannelF c1 c2 0 cs = c1 := by
  simp only [blendChannelF, Int.mul_zero, rndI_of_small 0 (by decide), Int.add_zero]
  rw [rndI_repr (c1 : Int) cs h]
  exact Int.mul_tdiv_cancel _ (Int.natCast_ne_zero.2 (Nat.ne_of_gt (Nat.two_pow_pos cs)))

theorem blendChannelF_at_one (c1 c2 cs : Nat) (h1 : c1 < 2 ^ 53) (h2 : c2 < 2 ^ 53) :
    blendChannelF c1 c2 ((2 ^ cs : Nat) : Int) cs = c2 := by
  simp only [blendChannelF]
  rw [rndI_repr _ cs (by omega), ← Int.add_mul, Int.add_comm, Int.sub_add_cancel, rndI_repr (c2 : Int) cs h2]
  exact Int.mul_tdiv_cancel _ (Int.natCast_ne_zero.2 (Nat.ne_of_gt (Nat.two_pow_pos cs)))

theorem channel_lt_two_pow_53 {x : Nat} (h : x ≤ 255) : x < 2 ^ 53 :=
  Nat.lt_of_le_of_lt h (by decide)

theorem blendChannelF_zero (c1 c2 cs : Nat) (h : c1 ≤ 255) (hcs : cs ≤ 44) : blendChannelF c1 c2 0 cs = c1 :=
  blendChannelF_at_zero c1 c2 cs (channel_lt_two_pow_53 h)

end RichModel
