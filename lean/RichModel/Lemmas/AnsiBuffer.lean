import RichModel.Lemmas.AnsiRender
/-!
Lemmas for property C03: `Segment.remove_color` and the whole of `_render_buffer` (repaired code, sound
heap).  Core Lean only.

The call is described in two steps: it writes the tokens of the cache-free specification `specToks` (every styled
run as a brand-new `Style` object would render it, `renderBuffer_toks`), and those tokens mean `expectedCells`
to the terminal (`specToks_means`).  Both loops are `forE` of their body (`removeColorStep`, `renderStep`), so each
loop fact is a fact about one step under an invariant over the segments consumed, the output so far and the heap.
-/
namespace RichModel.AnsiRender
open RichModel RichModel.AnsiTerm

variable {cc : Cfg} {P : Palettes}

/-- The tokens of one segment; `strip`: the style goes through `without_color` first (NO_COLOR). -/
def segToks (cc : Cfg) (P : Palettes) (cfg : Config) (strip : Bool) (heap : Heap) (seg : Seg) : List Tok :=
  match segStyle heap seg with
  | none => [.text seg.text]
  | some s =>
    if s.isNull then [.text seg.text]
    else freshToks cc P (if strip then Style.withoutColor StyleVariant.fixed s else s) seg.text cfg.colorSystem cfg.legacyWindows

/-- The tokens of the segments that are shown: `specToks` with `strip` as a parameter. -/
def loopToks (cc : Cfg) (P : Palettes) (cfg : Config) (strip : Bool) (heap : Heap) (segs : List Seg) : List Tok :=
  (segs.filter (segVisible cfg)).flatMap (segToks cc P cfg strip heap)

/-- The cache-free specification of what `_render_buffer` writes. -/
def specToks (cc : Cfg) (P : Palettes) (cfg : Config) (heap : Heap) (segs : List Seg) : List Tok :=
  loopToks cc P cfg (cfg.noColor && cfg.colorSystem.isSome) heap segs

theorem segToks_plain {cfg : Config} {strip : Bool} {heap : Heap} {seg : Seg}
    (h : segStyle heap seg = none ∨ ∃ s, segStyle heap seg = some s ∧ s.isNull = true) :
    segToks cc P cfg strip heap seg = [.text seg.text] := by
  rcases h with h | ⟨s, h, hn⟩ <;> simp [segToks, *]

theorem segToks_styled {cfg : Config} {strip : Bool} {heap : Heap} {seg : Seg} {s : Style}
    (h : segStyle heap seg = some s) (hn : s.isNull = false) :
    segToks cc P cfg strip heap seg =
      freshToks cc P (if strip then Style.withoutColor StyleVariant.fixed s else s) seg.text cfg.colorSystem
        cfg.legacyWindows := by
  simp [segToks, h, hn]

theorem segToks_congr (cc : Cfg) (P : Palettes) (cfg : Config) (strip : Bool) {heap heap' : Heap} {seg : Seg}
    (h : segStyle heap' seg = segStyle heap seg) :
    segToks cc P cfg strip heap' seg = segToks cc P cfg strip heap seg := by
  simp only [segToks, h]

theorem segToks_cases (cc : Cfg) (P : Palettes) (cfg : Config) (strip : Bool) (heap : Heap) (seg : Seg) :
    segToks cc P cfg strip heap seg = [.text seg.text] ∨ ∃ o ∈ heap, segToks cc P cfg strip heap seg =
      freshToks cc P (if strip then Style.withoutColor StyleVariant.fixed o.style else o.style) seg.text
        cfg.colorSystem cfg.legacyWindows := by
  cases hss : segStyle heap seg with
  | none => exact .inl (segToks_plain (.inl hss))
  | some s =>
    obtain ⟨o, ho, rfl⟩ := segStyle_mem hss
    by_cases hn : o.style.isNull = true
    · exact .inl (segToks_plain (.inr ⟨_, hss, hn⟩))
    · exact .inr ⟨o, ho, segToks_styled hss (by simpa using hn)⟩

theorem loopToks_congr (cc : Cfg) (P : Palettes) (cfg : Config) (strip : Bool) {heap heap' : Heap}
    (h : heap'.map (·.style) = heap.map (·.style)) (segs : List Seg) :
    loopToks cc P cfg strip heap' segs = loopToks cc P cfg strip heap segs := by
  unfold loopToks
  congr 1
  funext seg
  exact segToks_congr cc P cfg strip (segStyle_congr h seg)

theorem loopToks_append_heap (cc : Cfg) (P : Palettes) (cfg : Config) (strip : Bool) {heap : Heap} {segs : List Seg}
    (h : RefsOK heap segs) (extra : Heap) :
    loopToks cc P cfg strip (heap ++ extra) segs = loopToks cc P cfg strip heap segs := by
  unfold loopToks
  rw [List.flatMap_def, List.flatMap_def, List.map_congr_left fun seg hs =>
    segToks_congr cc P cfg strip (segStyle_append heap extra seg (h seg (List.mem_filter.mp hs).1))]

theorem loopToks_snoc {cfg : Config} {strip : Bool} {heap : Heap} {done : List Seg} {seg : Seg} :
    loopToks cc P cfg strip heap (done ++ [seg]) =
      loopToks cc P cfg strip heap done ++ (if segVisible cfg seg = true then segToks cc P cfg strip heap seg else []) := by
  unfold loopToks
  rw [List.filter_append, List.flatMap_append, List.filter_cons]
  split <;> simp

/-- `style.without_color` as a new object (empty cache). -/
def colourless (s : Style) : StyleObj := { style := Style.withoutColor StyleVariant.fixed s, ansi := none }

/-- What `remove_color` does with one segment: its image, and the dict afterwards (a truthy style seen for the first
time appends its colourless copy). -/
def removeColorStep (heap : Heap) (st : List Style × Heap) (seg : Seg) :
    Except RenderErr (List Seg × (List Style × Heap)) :=
  match segObj heap seg with
  | .error e => .error e
  | .ok none => .ok ([{ seg with style := none }], st)
  | .ok (some (_, o)) =>
    match st.1.findIdx? (fun k => Style.eq k o.style) with
    | some k => .ok ([{ seg with style := some k }], st)
    | none => .ok ([{ seg with style := some st.1.length }], (st.1 ++ [o.style], st.2 ++ [colourless o.style]))

theorem removeColorLoop_eq_forE (heap : Heap) (segs : List Seg) :
    ∀ keys tmp, removeColorLoop heap segs keys tmp =
      (forE (removeColorStep heap) (keys, tmp) segs).map fun r => (r.1, r.2.2) := by
  induction segs with
  | nil => intro keys tmp; rfl
  | cons seg rest ih =>
    intro keys tmp
    rw [removeColorLoop, forE, removeColorStep]
    simp only [ih]
    unfold segObj
    -- in every branch the recursive call is the same on both sides
    have hb : ∀ (x : Except RenderErr (List Seg × List Style × Heap)) (s : Seg),
        (do let (segs', tmp') ← x.map fun r => (r.1, r.2.2); .ok (s :: segs', tmp') : Except RenderErr (List Seg × Heap)) =
          (x.bind fun q => .ok ([s] ++ q.1, q.2)).map fun r => (r.1, r.2.2) := by
      intro x s; cases x <;> rfl
    cases seg.style with
    | none => exact hb _ _
    | some i =>
      dsimp only
      cases heap[i]? with
      | none => rfl
      | some o =>
        dsimp only
        split
        · dsimp only
          cases keys.findIdx? (fun k => Style.eq k o.style) <;> exact hb _ _
        · exact hb _ _

theorem removeColorStep_cases (heap : Heap) (st : List Style × Heap) (seg : Seg) :
    (removeColorStep heap st seg).Post (fun r => r.2.2 = st.2 ∨ ∃ s, r.2.2 = st.2 ++ [colourless s]) (· = .badRef) := by
  unfold removeColorStep
  rcases segObj_cases heap seg with ⟨e, _⟩ | ⟨i, o, e, _⟩ | ⟨e, _⟩ <;> rw [e]
  · exact .inl rfl
  · dsimp only
    cases st.1.findIdx? (fun k => Style.eq k o.style) with
    | some k => exact .inl rfl
    | none => exact .inr ⟨_, rfl⟩
  · exact rfl

/-- Truthy styles that are equal (`==`) write the same tokens once their colours are stripped: why `remove_color` may
look a style up in its dict by `==`. -/
theorem freshToks_withoutColor_of_eq {k s : Style} (hk : k.isNull = false) (hs : s.isNull = false)
    (h : Style.eq k s = true) (text : List Char) (cs : Option ColorSystem) (lw : Bool) :
    freshToks cc P (Style.withoutColor StyleVariant.fixed k) text cs lw =
      freshToks cc P (Style.withoutColor StyleVariant.fixed s) text cs lw := by
  simp only [Style.eq, decide_eq_true_eq] at h
  obtain ⟨_, _, e3, e4, e5⟩ := h
  apply freshToks_congr <;> simp [Style.withoutColor_of_not_null _ hk, Style.withoutColor_of_not_null _ hs, e3, e4, e5]

/-- One step when the dict is `keys.map colourless` with truthy keys, which is how `remove_color` builds it: it does not
raise and only appends keys, truthy again; the reference it returns is in range, and the segment carrying it is
rendered as the original segment is with its colours stripped. -/
theorem removeColorStep_spec (cc : Cfg) (P : Palettes) (cfg : Config) (heap : Heap) (seg : Seg)
    (hr : ∀ i, seg.style = some i → i < heap.length) (keys : List Style) (hk : ∀ s ∈ keys, s.isNull = false) :
    ∃ st ex, removeColorStep heap (keys, keys.map colourless) seg =
        .ok ([{ seg with style := st }], keys ++ ex, (keys ++ ex).map colourless) ∧
      (∀ s ∈ ex, s.isNull = false) ∧ (∀ i, st = some i → i < (keys ++ ex).length) ∧
      segToks cc P cfg false ((keys ++ ex).map colourless) { seg with style := st } = segToks cc P cfg true heap seg := by
  unfold removeColorStep
  rcases segObj_cases heap seg with ⟨e, hp⟩ | ⟨i, o, e, hst, ho, hnn⟩ | ⟨_, i, hi, hn⟩
  · rw [e]
    exact ⟨none, [], by simp, by simp, fun i h => (by cases h), (segToks_plain (.inl rfl)).trans (segToks_plain hp).symm⟩
  · have himg : ∀ (ks : List Style) (j : Nat) (k : Style), ks[j]? = some k → k.isNull = false →
        Style.eq k o.style = true →
          segToks cc P cfg false (ks.map colourless) { seg with style := some j } = segToks cc P cfg true heap seg := by
      intro ks j k h1 h2 h3
      rw [segToks_styled (s := Style.withoutColor StyleVariant.fixed k) (by simp [segStyle, h1, colourless])
          (by rw [Style.withoutColor_of_not_null _ h2]),
        segToks_styled (s := o.style) (segStyle_of_get hst ho) hnn]
      exact freshToks_withoutColor_of_eq h2 hnn h3 _ _ _
    rw [e]
    dsimp only
    cases hf : keys.findIdx? (fun k => Style.eq k o.style) with
    | some k =>
      obtain ⟨hklt, hp, _⟩ := List.findIdx?_eq_some_iff_getElem.mp hf
      exact ⟨some k, [], by simp, by simp, by simpa using hklt,
        by simpa using himg keys k keys[k] (by simp) (hk _ (List.getElem_mem hklt)) hp⟩
    | none =>
      exact ⟨some keys.length, [o.style], by simp, by simpa using hnn, by simp,
        himg _ _ o.style (by simp) hnn (Style.eq_refl _)⟩
  · exact absurd (hr i hi) (by simpa using hn)

theorem styleWF_withoutColor (s : Style) (hn : s.isNull = false) : StyleWF (Style.withoutColor StyleVariant.fixed s) := by
  rw [Style.withoutColor_of_not_null _ hn]
  constructor <;> simp

theorem heapOK_tmp (cc : Cfg) (P : Palettes) (keys : List Style) (hk : ∀ s ∈ keys, s.isNull = false) :
    HeapOK cc P (keys.map colourless) := by
  intro o ho
  obtain ⟨s, hs, rfl⟩ := List.mem_map.mp ho
  exact objOK_fresh (styleWF_withoutColor s (hk s hs))

/-- `remove_color` with in-range references does not raise; the objects of its dict are sound (brand-new colourless
copies of truthy styles), and rendering its result over them writes what rendering the original segments with colours
stripped writes. -/
theorem removeColorLoop_spec (cc : Cfg) (P : Palettes) (cfg : Config) (heap : Heap) (segs : List Seg)
    (hrefs : RefsOK heap segs) :
    ∃ segs' tmp', removeColorLoop heap segs [] [] = .ok (segs', tmp') ∧ HeapOK cc P tmp' ∧ RefsOK tmp' segs' ∧
      loopToks cc P cfg false tmp' segs' = loopToks cc P cfg true heap segs := by
  obtain ⟨r, h1, h2, h3, h4, h5⟩ := (forE_post (removeColorStep heap)
    (fun done out st => st.2 = st.1.map colourless ∧ (∀ s ∈ st.1, s.isNull = false) ∧ RefsOK st.2 out ∧
      loopToks cc P cfg false st.2 out = loopToks cc P cfg true heap done) (fun _ => False) segs
    (fun seg hs done out ⟨keys, tmp⟩ ⟨q0, q1, q2, q3⟩ => by
      obtain rfl : tmp = keys.map colourless := q0
      obtain ⟨st, ex, g1, g2, g3, g4⟩ := removeColorStep_spec cc P cfg heap seg (hrefs seg hs) keys q1
      rw [g1]
      refine ⟨rfl, List.forall_mem_append.2 ⟨q1, g2⟩, ?_, ?_⟩ <;> dsimp only <;> rw [List.map_append]
      · exact List.forall_mem_append.2 ⟨refsOK_append q2 _, List.forall_mem_singleton.2 (by simpa using g3)⟩
      · -- the segments already written do not see what the step appended to the dict
        rw [loopToks_snoc, loopToks_snoc, loopToks_append_heap cc P cfg false q2, q3, ← List.map_append, g4]
        rfl)
    ([], []) ⟨rfl, by simp, (by intro s hs; cases hs), rfl⟩).returns
  exact ⟨r.1, r.2.2, by rw [removeColorLoop_eq_forE, h1]; rfl, h2 ▸ heapOK_tmp cc P r.2.1 h3, h4, h5⟩

theorem renderStep_toks (hP : P.ok = true) (cfg : Config) (heap : Heap) (hok : HeapOK cc P heap) (seg : Seg)
    (hr : ∀ i, seg.style = some i → i < heap.length) :
    ∃ heap', renderStep .repaired cc P cfg heap seg =
        .ok (if segVisible cfg seg = true then segToks cc P cfg false heap seg else [], heap') ∧
      HeapOK cc P heap' ∧ heap'.map (·.style) = heap.map (·.style) := by
  -- the repaired code skips exactly the segments that are not to be shown
  have hvis : (!RVariant.repaired.styledControlKept && !cfg.isTerminal && seg.control) = !segVisible cfg seg := by
    simp [segVisible, RVariant.repaired]
  rcases renderStep_cases .repaired cc P cfg heap seg with ⟨hs, e⟩ | ⟨hs, ⟨hst, e⟩ | ⟨i, o, hst, ho, hnn, e⟩ | ⟨⟨i, hi, hn⟩, _⟩⟩
  · rw [e, if_neg (by simpa [hs] using hvis.symm)]
    exact ⟨heap, rfl, hok, rfl⟩
  · have hv : segVisible cfg seg = true := by simpa [hs] using hvis.symm
    have hp : (!cfg.isTerminal && seg.control) = false := by simpa [RVariant.repaired] using hs
    refine ⟨heap, ?_, hok, rfl⟩
    rw [e, if_pos hv, hp, segToks_plain hst]
    rfl
  · obtain ⟨o', hr, hs', hok'⟩ := styleRender_eq_fresh .repaired rfl hP o (hok o (List.mem_of_getElem? ho)) seg.text
      cfg.colorSystem cfg.legacyWindows
    refine ⟨heap.set i o', ?_, forall_mem_set hok i hok', map_style_set ho hs'⟩
    rw [e, if_pos (by simpa [hs] using hvis.symm), segToks_styled (s := o.style) (segStyle_of_get hst ho) hnn, hr]
    rfl
  · exact absurd (hr i hi) (by simpa using hn)

theorem renderLoop_toks (cc : Cfg) (hP : P.ok = true) (cfg : Config) (segs : List Seg) (heap : Heap) (hok : HeapOK cc P heap)
    (hrefs : RefsOK heap segs) :
      ∃ heap', renderLoop .repaired cc P cfg heap segs = .ok (loopToks cc P cfg false heap segs, heap') ∧
        HeapOK cc P heap' ∧ heap'.map (·.style) = heap.map (·.style) := by
  obtain ⟨r, h1, h2, h3, h4⟩ := (forE_post (renderStep .repaired cc P cfg)
    (fun done out heap' => HeapOK cc P heap' ∧ heap'.map (·.style) = heap.map (·.style) ∧
      out = loopToks cc P cfg false heap done) (fun _ => False) segs
    (fun seg hs done out heap1 ⟨q1, q2, q3⟩ => by
      have hl : heap1.length = heap.length := by simpa using congrArg List.length q2
      obtain ⟨heap', g1, g2, g3⟩ := renderStep_toks hP cfg heap1 q1 seg (hl ▸ hrefs seg hs)
      rw [g1]
      exact ⟨g2, g3.trans q2, by rw [loopToks_snoc, q3, segToks_congr cc P cfg false (segStyle_congr q2 seg)]⟩)
    heap ⟨hok, rfl, rfl⟩).returns
  exact ⟨r.2, by rw [renderLoop_eq_forE, h1, ← h4], h2, h3⟩

theorem renderBuffer_plain {v : RVariant} {cfg : Config} (h : (cfg.noColor && cfg.colorSystem.isSome) = false)
    (heap : Heap) (segs : List Seg) : renderBuffer v cc P cfg heap segs = renderLoop v cc P cfg heap segs := by
  simp [renderBuffer, h]

theorem renderBuffer_strip {v : RVariant} {cfg : Config} (h : (cfg.noColor && cfg.colorSystem.isSome) = true)
    (heap : Heap) (segs : List Seg) :
    renderBuffer v cc P cfg heap segs =
      (removeColorLoop heap segs [] []).bind fun r => (renderLoop v cc P cfg r.2 r.1).bind fun q => .ok (q.1, heap) := by
  simp only [renderBuffer, h, if_true]
  rfl

/-- Under NO_COLOR with colour enabled nothing is asked of the objects of the heap, sound or not: the loop runs over the
brand-new colourless objects only, and the heap comes back as it was. -/
theorem renderBuffer_toks_strip (hP : P.ok = true) (cfg : Config) (hc : (cfg.noColor && cfg.colorSystem.isSome) = true)
    (heap : Heap) (segs : List Seg) (hrefs : RefsOK heap segs) :
    renderBuffer .repaired cc P cfg heap segs = .ok (specToks cc P cfg heap segs, heap) := by
  obtain ⟨segs', tmp', h1, h2, h4, h5⟩ := removeColorLoop_spec cc P cfg heap segs hrefs
  obtain ⟨tmp'', g1, _, _⟩ := renderLoop_toks cc hP cfg segs' tmp' h2 h4
  rw [renderBuffer_strip hc, h1, specToks, hc, ← h5]
  simp [Except.bind, g1]

theorem renderBuffer_toks (hP : P.ok = true) (cfg : Config) (heap : Heap) (segs : List Seg)
    (hok : HeapOK cc P heap) (hrefs : RefsOK heap segs) :
    ∃ heap', renderBuffer .repaired cc P cfg heap segs = .ok (specToks cc P cfg heap segs, heap') ∧ HeapOK cc P heap' ∧
      heap'.map (·.style) = heap.map (·.style) := by
  by_cases hc : (cfg.noColor && cfg.colorSystem.isSome) = true
  · exact ⟨heap, renderBuffer_toks_strip hP cfg hc heap segs hrefs, hok, rfl⟩
  · rw [renderBuffer_plain (by simpa using hc)]
    obtain ⟨heap', g1, g2, g3⟩ := renderLoop_toks cc hP cfg segs heap hok hrefs
    exact ⟨heap', by simpa [specToks, hc] using g1, g2, g3⟩

theorem expected_withoutColor (cc : Cfg) (P : Palettes) (cfg : Config) (hnc : cfg.noColor = true)
    (s : Style) (hn : s.isNull = false) :
    expected cc P cfg (some (Style.withoutColor StyleVariant.fixed s)) = expected cc P cfg (some s) := by
  unfold expected
  cases cfg.colorSystem with
  | none => rfl
  | some cs => simp [Style.withoutColor_of_not_null _ hn, hnc]

theorem segToks_means (cc : Cfg) (hP : P.ok = true) (cfg : Config) (heap : Heap)
    (hwf : ∀ o ∈ heap, StyleWF o.style) (seg : Seg) :
    interpFrom {} (segToks cc P cfg (cfg.noColor && cfg.colorSystem.isSome) heap seg) =
      ({}, seg.text.map fun c =>
        ⟨c, (expected cc P cfg (segStyle heap seg)).1, (expected cc P cfg (segStyle heap seg)).2⟩) := by
  cases hss : segStyle heap seg with
  | none => rw [segToks_plain (.inl hss), interpFrom_text, expected_none]
  | some s =>
    have hs : StyleWF s := by obtain ⟨o, ho, rfl⟩ := segStyle_mem hss; exact hwf o ho
    by_cases hn : s.isNull = true
    · rw [segToks_plain (.inr ⟨s, hss, hn⟩), interpFrom_text, expected_null cc P cfg s hs hn]
    · have hn' : s.isNull = false := by simpa using hn
      rw [segToks_styled hss hn']
      by_cases hc : (cfg.noColor && cfg.colorSystem.isSome) = true
      · -- NO_COLOR: the colourless copy is rendered, and must look like the style itself
        simp only [hc, if_true]
        rw [freshToks_means cc hP cfg _ (styleWF_withoutColor s hn') seg.text
            (fun _ _ => by simp [Style.withoutColor_of_not_null _ hn']),
          expected_withoutColor cc P cfg (Bool.and_eq_true _ _ ▸ hc).1 s hn']
      · simp only [hc, Bool.false_eq_true, if_false]
        exact freshToks_means cc hP cfg s hs seg.text
          (fun h1 h2 => absurd (by simp [h1, Option.isSome_iff_ne_none.mpr h2]) hc)

theorem specToks_means (cc : Cfg) (hP : P.ok = true) (cfg : Config) (heap : Heap)
    (hwf : ∀ o ∈ heap, StyleWF o.style) (segs : List Seg) :
    interpFrom {} (specToks cc P cfg heap segs) = ({}, expectedCells cc P cfg heap segs) :=
  interpFrom_flatMap _ _ _ _ fun seg _ => segToks_means cc hP cfg heap hwf seg

theorem renderBuffer_means (hP : P.ok = true) (cfg : Config) (heap : Heap) (segs : List Seg)
    (hok : HeapOK cc P heap) (hrefs : RefsOK heap segs) :
    ∃ toks heap', renderBuffer .repaired cc P cfg heap segs = .ok (toks, heap') ∧ HeapOK cc P heap' ∧
      heap'.map (·.style) = heap.map (·.style) ∧
      interpFrom {} toks = ({}, expectedCells cc P cfg heap segs) := by
  obtain ⟨heap', h1, h2, h3⟩ := renderBuffer_toks hP cfg heap segs hok hrefs
  exact ⟨_, heap', h1, h2, h3, specToks_means cc hP cfg heap (fun o ho => (hok o ho).1) segs⟩

/-- A sound heap that, under NO_COLOR with colour enabled, holds colourless objects only: what the heap `remove_color`
builds satisfies (`heapOK_tmp`, `colourless`).  No lemma about the loop takes it as a hypothesis; `freshToks_means`
asks for the colourless part of the one style it speaks of. -/
structure LoopInv (cc : Cfg) (P : Palettes) (cfg : Config) (heap : Heap) : Prop where
  ok : HeapOK cc P heap
  /-- under NO_COLOR (with colour enabled) the loop only ever sees colourless objects -/
  nc : cfg.noColor = true → cfg.colorSystem ≠ none → ∀ o ∈ heap, o.style.color = none ∧ o.style.bgcolor = none

theorem heapOK_of_loopInv {cc : Cfg} {P : Palettes} {cfg : Config} {heap : Heap} (h : LoopInv cc P cfg heap) : HeapOK cc P heap := h.ok

end RichModel.AnsiRender
