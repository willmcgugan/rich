import Mathlib.Data.Rat.Floor
import RichModel.Lemmas.ProgressTask
/-!
The `(numerator, denominator)` pairs of the progress model read as rational numbers (Mathlib's `ℚ` is
core's `Rat`): the clamp of `percentage` is `min 100 (max 0 _)`, and `ceilDiv` is the exact ceiling.
The model itself stays import-free; this file only interprets its pairs.
-/
namespace RichModel.Progress

theorem clampPair_eq_min_max {n d : Int} (hd : 0 < d) :
    ((clampPair n d).1 : ℚ) / ((clampPair n d).2 : ℚ) = min 100 (max 0 ((n : ℚ) / d)) := by
  have hq : (0 : ℚ) < d := by exact_mod_cast hd
  unfold clampPair
  split
  · next h =>
    have : (n : ℚ) / d < 0 := div_neg_of_neg_of_pos (by exact_mod_cast h) hq
    rw [max_eq_left this.le, min_eq_right (by norm_num)]; simp
  · next h =>
    have h0 : 0 ≤ (n : ℚ) / d := div_nonneg (by exact_mod_cast Int.not_lt.mp h) hq.le
    split
    · next h' =>
      have : 100 ≤ (n : ℚ) / d := by rw [le_div_iff₀ hq]; exact_mod_cast h'.le
      rw [max_eq_right h0, min_eq_left this]; simp
    · next h' =>
      have : (n : ℚ) / d ≤ 100 := by rw [div_le_iff₀ hq]; exact_mod_cast Int.not_lt.mp h'
      rw [max_eq_right h0, min_eq_right this]

theorem ceilDiv_eq_ceil (a b : Int) (hb : 0 < b) : ceilDiv a b = ⌈(a : ℚ) / (b : ℚ)⌉ := by
  have hb' : ((b.toNat : ℕ) : ℤ) = b := Int.toNat_of_nonneg hb.le
  have := Rat.ceil_intCast_div_natCast a b.toNat
  rw [← Int.cast_natCast, hb'] at this
  rw [this]; rfl

/-- `Task.timeRemaining` makes the divisor positive before it takes the ceiling -/
theorem ceilDiv_signed (a b : Int) (hb : b ≠ 0) :
    (if 0 < b then ceilDiv a b else ceilDiv (-a) (-b)) = ⌈(a : ℚ) / (b : ℚ)⌉ := by
  split
  · next h => exact ceilDiv_eq_ceil a b h
  · rw [ceilDiv_eq_ceil _ _ (by omega)]; push_cast; rw [neg_div_neg_eq]

/-- `time_remaining` with the exact ceiling, the speed read as a rational number of amount units per tick (its
denominator is never zero: `speed_eq_some`); any non-zero number of ticks per second, of either sign -/
theorem timeRemaining_eq_ceil (cfg : Cfg) (htps : cfg.tps ≠ 0) (t : Task) :
    t.timeRemaining cfg =
      if t.finishedTime.isSome then some 0
      else match t.speed.map (fun p => (p.1 : ℚ) / (p.2 : ℚ)) with
        | none => none
        | some v => if v = 0 then none else some ⌈(t.remaining : ℚ) / (v * (cfg.tps : ℚ))⌉ := by
  unfold Task.timeRemaining
  split
  · rfl
  · cases hs : t.speed with
    | none => rfl
    | some p =>
      obtain ⟨n, d⟩ := p
      obtain ⟨_, _, hsp⟩ := speed_eq_some hs
      have hd : (d : ℚ) ≠ 0 := Int.cast_ne_zero.mpr hsp.den_ne
      simp only [Option.map_some]
      by_cases hn : n = 0
      · rw [if_pos hn, if_pos (by rw [hn, Int.cast_zero, zero_div])]
      · rw [if_neg hn, if_neg (div_ne_zero (Int.cast_ne_zero.mpr hn) hd),
          ceilDiv_signed _ _ (Int.mul_ne_zero hn htps),
          Int.cast_mul, Int.cast_mul, div_mul_eq_mul_div, div_div_eq_mul_div]

end RichModel.Progress
