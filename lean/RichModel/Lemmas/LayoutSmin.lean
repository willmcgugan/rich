import RichModel.Lemmas.LayoutBase
/-!
Small facts about the structural minimum: it is positive, and bounds the minimum of every child, item, column.
-/
namespace RichModel.Layout
open RichModel RichModel.Frames

theorem charRoom_pos (cw : Char → Nat) (s : List Char) : 1 ≤ charRoom cw s := by
  unfold charRoom; split <;> omega

mutual
theorem smin_pos (cw : Char → Nat) : ∀ r : R, 1 ≤ smin cw r := by
  intro r
  cases r with
  | text t | str t => unfold smin; exact charRoom_pos cw _
  | padding p e c => unfold smin; have := smin_pos cw c; omega
  | panel o c => unfold smin; simp only; split <;> omega
  | align _ c | constrain _ c | styled c | cast c | «opaque» c => unfold smin; exact smin_pos cw c
  | columns o items => unfold smin; simp only; omega
  | tree root => unfold smin; exact sminNode_pos cw 0 root
  -- group, rule, bar, progress bar, table: `1` or `max 1 …`
  | _ => unfold smin; omega
theorem sminNode_pos (cw : Char → Nat) (d : Nat) : ∀ n : TNode, 1 ≤ sminNode cw d n
  | .mk label gs e ch => by unfold sminNode; have := smin_pos cw label; omega
end

theorem sminMax_mem (cw : Char → Nat) : ∀ (rs : List R) (r : R), r ∈ rs → smin cw r ≤ sminMax cw rs
  | [], _, h => by cases h
  | x :: xs, r, h => by
    unfold sminMax
    rcases List.mem_cons.mp h with rfl | h
    · omega
    · have := sminMax_mem cw xs r h; omega

theorem sminSum_ge_length (cw : Char → Nat) : ∀ rs : List R, rs.length ≤ sminSum cw rs
  | [] => by simp [sminSum]
  | x :: xs => by unfold sminSum; have := sminSum_ge_length cw xs; simp only [List.length_cons]; omega

theorem sminCol_pos (cw : Char → Nat) (o : TableOpts) : ∀ c : Col, 1 ≤ sminCol cw o c
  | .mk co h f cells => by unfold sminCol; omega

theorem sminCols_ge_length (cw : Char → Nat) (o : TableOpts) : ∀ cs : List Col, cs.length ≤ sminCols cw o cs
  | [] => by simp [sminCols]
  | c :: cs => by
    unfold sminCols; have := sminCols_ge_length cw o cs; have := sminCol_pos cw o c
    simp only [List.length_cons]; omega

end RichModel.Layout
