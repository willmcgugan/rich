import RichModel.Lemmas.LayoutTable
import RichModel.Lemmas.LayoutColumnsGrid
/-!
**`Columns` never overflows** (segment level): the inner `Table.grid` of `columnsConsole` is a table with at
least one and at most `len(items)` columns (`colsGrid`, Lemmas/LayoutColumnsGrid.lean), all free to wrap (no `Columns(width=…)`: the
grid's columns have no `width`; they never have a ratio), so `tableConsole_decomp_any` applies.
-/
namespace RichModel.Layout
open RichModel RichModel.Frames

theorem tb_dfltCh_ok : MeasNonneg dfltCh.measure := by
  intro k; exact Int.le_refl 0

theorem tb_textChild_ok (cfg : Cfg) (t : T) (o : Opts) : MeasNonneg (textChild cfg t o).measure := by
  intro k
  exact (normal_getPost k _).max_nonneg

theorem tb_getD_items_ok (items : List Ch) (h : ∀ ch ∈ items, MeasNonneg ch.measure) (i : Nat) : MeasNonneg (items.getD i dfltCh).measure := by
  rcases tb_getD_mem_or items i dfltCh with h0 | h0
  · rw [h0]; exact tb_dfltCh_ok
  · exact h _ h0

theorem colsGrid_measOk (cfg : Cfg) (o : ColsOpts) (items : List Ch) (w : Nat) (lay : ColumnsLayout)
    (h : ∀ ch ∈ items, MeasNonneg ch.measure) :
    ∀ c ∈ colsGrid cfg o items w lay, ColMeasNonneg c := by
  intro c hc ch hch
  obtain ⟨j, _, rfl⟩ := List.mem_map.mp hc
  simp only [List.mem_cons, List.mem_map] at hch
  rcases hch with rfl | rfl | ⟨row, _, rfl⟩
  · exact tb_textChild_ok _ _ _
  · exact tb_textChild_ok _ _ _
  · unfold colsCell
    cases row.getD j none with
    | none => exact tb_textChild_ok _ _ _
    | some i =>
      simp only
      cases o.align with
      | some a => exact tb_asChild_ok _ _
      | none =>
        simp only
        split
        · exact tb_asChild_ok _ _
        · exact tb_getD_items_ok items h i

/-- **Columns, at ANY width** (no explicit `width`, items that never measure a negative maximum): the output is the poison (bad `padding` tuple),
nothing (no items), or title ++ body where the body is a sequence of complete lines, none wider than the available width or — when
that is smaller than the number of items — than one cell per item. -/
theorem columnsConsole_decomp_any (cfg : Cfg) (hcw : cfg.cw = cwD) (hfl : cfg.fl.leadingRepeat = false)
    (o : ColsOpts) (opts : Opts) (items : List Ch) (w : Nat) (hwn : o.lay.width = none)
    (hmeas : ∀ ch ∈ items, MeasNonneg ch.measure) :
    columnsConsole cfg o opts items w = cfg.poison ∨ columnsConsole cfg o opts items w = [] ∨
    ∃ (tw : Int) (body : List Seg), tw ≤ ((max w items.length : Nat) : Int) ∧
      columnsConsole cfg o opts items w = annotation cfg o.title Justify.center opts tw ++ body ∧
      (∀ l ∈ splitLines body, lineLength cfg.cw l ≤ max w items.length) ∧ Closed body := by
  cases hp : unpackPad o.lay.padding with
  | error e => left; rw [columnsConsole_eq, hp]
  | ok p =>
    cases hlay : columnsLayout cfg.v o.lay (items.map (fun c => (c.measureAt (w : Int)).maximum)) (w : Int) with
    | error e => left; rw [columnsConsole_eq, hp, hlay]
    | ok r =>
      cases r with
      | none => right; left; rw [columnsConsole_eq, hp, hlay]
      | some lay =>
        right; right
        rw [columnsConsole_eq_grid cfg o opts items w p lay hp hlay]
        obtain ⟨hpos, hle⟩ := columnsLayout_count_le cfg.v o.lay _ _ lay hwn hlay
        rw [List.length_map] at hle
        have hcl := colsGrid_length cfg o items w lay
        have hne : colsGrid cfg o items w lay ≠ [] := fun h0 => by rw [h0] at hcl; simp at hcl; omega
        obtain ⟨tw, body, h1, h2, h3, h4⟩ := tableConsole_decomp_any cfg hcw hfl (o.grid p) opts _ w hne
          (fun c hc => by
            obtain ⟨j, _, rfl⟩ := List.mem_map.mp hc
            exact ⟨⟨by show o.lay.width.map Int.toNat = none; rw [hwn]; rfl, rfl, rfl⟩, Or.inr (Or.inr nofun)⟩)
          (colsGrid_measOk cfg o items w lay hmeas)
          (fun tw' htw => nomatch htw)
        rw [show tableExtra (o.grid p) (colsGrid cfg o items w lay).length = 0 by simp [tableExtra, ColsOpts.grid]] at h1 h3
        refine ⟨tw, body, by omega, ?_, fun l hl => by have := h3 l hl; omega, h4⟩
        rw [h2]
        exact List.append_nil _

/-- **Columns.**  No explicit `width`, items with sound measurements (`0 ≤ maximum ≤ available`), at least one cell per item
available: the output is the poison (bad `padding` tuple), nothing (no items), or title ++ body where the body is a sequence of
complete lines none wider than the available width. -/
theorem columnsConsole_decomp (cfg : Cfg) (hcw : cfg.cw = cwD) (hfl : cfg.fl.leadingRepeat = false)
    (o : ColsOpts) (opts : Opts) (items : List Ch) (w : Nat) (hw1 : 1 ≤ w) (hwn : o.lay.width = none)
    (hmeas : ∀ ch ∈ items, ∀ k : Nat, 0 ≤ (ch.measure k).maximum ∧ (ch.measure k).maximum ≤ (k : Int))
    (hlen : items.length ≤ w) :
    columnsConsole cfg o opts items w = cfg.poison ∨ columnsConsole cfg o opts items w = [] ∨
    ∃ (tw : Int) (body : List Seg), tw ≤ (w : Int) ∧
      columnsConsole cfg o opts items w = annotation cfg o.title Justify.center opts tw ++ body ∧
      (∀ l ∈ splitLines body, lineLength cfg.cw l ≤ w) ∧ Closed body := by
  have _ := hw1
  have hmax : max w items.length = w := Nat.max_eq_left hlen
  have h := columnsConsole_decomp_any cfg hcw hfl o opts items w hwn (fun ch hch k => (hmeas ch hch k).1)
  rwa [hmax] at h

end RichModel.Layout
