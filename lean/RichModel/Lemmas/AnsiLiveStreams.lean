import RichModel.Lemmas.AnsiProxy
import RichModel.Lemmas.LiveWrite
import RichModel.Lemmas.LiveOp
/-!
The FileProxy of property C19 inside the live display of property C10 (read-only import of C10's model
and lemmas): the `Op.write` of `Model/Live.lean` is the `FileProxy.write` of `Model/Ansi.lean` — the same
function on the same inputs — so the two models cannot drift apart.

Then, per stream under a running display: the lines printed on a stream's behalf are the complete lines of that stream's
own character stream — C19's specification — and its unterminated rest is what stays pending for the repaired `stop` to
place above the last frame.
-/
namespace RichModel
namespace Ansi
open RichModel.Live

theorem cutNL_eq_completeLines (cur : List Char) (cs : List Char) : Live.cutNL cur cs = completeLines cs cur := by
  induction cs generalizing cur with
  | nil => rfl
  | cons c r ih =>
    by_cases hc : c = '\n'
    · simp [Live.cutNL, completeLines, hc, ih]
    · simp [Live.cutNL, completeLines, hc, ih]

/-- One write as C10 describes it — already cut into complete lines and an unterminated tail — is, as a
character string, `flatW`.  C19's `FileProxy.write` on that string, from a buffer holding C10's pending
text, hands the console exactly C10's lines and keeps exactly C10's pending text. -/
theorem writeLoop_eq_pw (buf : List (List Char)) (w : List Live.Line × Live.Line)
    (h : (∀ l ∈ w.1, '\n' ∉ l) ∧ '\n' ∉ w.2) :
    (writeLoop (Live.flatW w) [] buf []).1 = (Live.pw buf.flatten w).1 ∧
    (writeLoop (Live.flatW w) [] buf []).2.flatten = (Live.pw buf.flatten w).2 := by
  obtain ⟨h1, h2, _⟩ := writeLoop_spec (Live.flatW w) [] buf []
  simp only [List.nil_append, List.append_nil] at h1 h2
  rw [unitsAux_map_ch] at h1 h2
  rw [Live.pw_eq_cut buf.flatten w h, cutNL_eq_completeLines]
  exact ⟨h1, h2⟩

/-- **C10's `Op.write` is C19's `FileProxy.write`** (`C19.live_write_is_proxy_write`). -/
theorem doWrite_eq_proxy (cfg : Live.Cfg) (fails : Nat → Bool) (st : Live.St) (e : Bool) (lines : List Live.Line)
    (tail : Live.Line) (hp : Live.proxied st e = true) (hnl : (∀ l ∈ lines, '\n' ∉ l) ∧ '\n' ∉ tail)
    (buf : List (List Char)) (hb : buf.flatten = Live.getBuf st e) :
    Live.doWrite cfg fails st e lines tail =
      (match (writeLoop (Live.flatW (lines, tail)) [] buf []).1 with
       | [] => { st := Live.setBuf st e (writeLoop (Live.flatW (lines, tail)) [] buf []).2.flatten }
       | ls => Live.doPrint cfg fails (Live.setBuf st e (writeLoop (Live.flatW (lines, tail)) [] buf []).2.flatten) ls) := by
  obtain ⟨h1, h2⟩ := writeLoop_eq_pw buf (lines, tail) hnl
  rw [Live.doWrite_pw cfg fails st e lines tail hp, h1, h2, hb]
  cases (Live.pw (Live.getBuf st e) (lines, tail)).1 <;> rfl

/-- no newline inside the pieces of a write (C10 gives a write as complete lines + tail) -/
def writeOk : Live.Op → Prop
  | .write _ lines tail => (∀ l ∈ lines, '\n' ∉ l) ∧ '\n' ∉ tail
  | _ => True

/-- what the console is asked to print on behalf of one operation (`J`: in the joint model of C10's display and C19's
proxy): for a write to a redirected stream, the lines C19's `FileProxy.write` completes from the pending text and the
written string -/
def printedByJ (st : Live.St) : Live.Op → List Live.Line
  | .print ls => ls
  | .printBare => [[]]
  | .write e lines tail =>
    if Live.proxied st e then (writeLoop (Live.flatW (lines, tail)) [] [Live.getBuf st e] []).1 else []
  | _ => []

theorem viewStep_printed (cfg : Live.Cfg) (st : Live.St) (v : Live.View) (op : Live.Op) (hok : writeOk op) :
    (Live.viewStep cfg st v op).printed = v.printed ++ printedByJ st op := by
  cases op with
  | write e lines tail =>
    have h := (writeLoop_eq_pw [Live.getBuf st e] (lines, tail) hok).1
    simp only [List.flatten_cons, List.flatten_nil, List.append_nil] at h
    cases lines with
    | nil => simp [Live.viewStep, printedByJ, h, Live.pw]
    | cons l rest =>
      by_cases hp : Live.proxied st e = true
      · simp [Live.viewStep, printedByJ, h, Live.pw, hp]
      · simp [Live.viewStep, printedByJ, hp]
  | _ => simp [Live.viewStep, printedByJ]

/-- the operations "under a running display" that `body_stream_lines` and `C19.live_screen_with_proxied_streams` speak of
(no start / stop, no task bookkeeping) -/
def isBody : Live.Op → Bool
  | .print _ | .printBare | .refresh | .update _ _ | .write _ _ _ | .resize _ => true
  | _ => false

/-- the characters a body writes to stream `e` -/
def streamText (e : Bool) : List Live.Op → List Char
  | [] => []
  | .write e' lines tail :: rest => (if e' = e then Live.flatW (lines, tail) else []) ++ streamText e rest
  | _ :: rest => streamText e rest

/-- the lines the display prints on behalf of stream `e` over a body, in order (`printedByJ` of its writes) -/
def streamLines (cfg : Live.Cfg) (e : Bool) : Live.St → List Live.Op → List Live.Line
  | _, [] => []
  | st, op :: rest =>
    (match op with
     | .write e' _ _ => if e' = e then printedByJ st op else []
     | _ => []) ++ streamLines cfg e (Live.step cfg Live.noFault st op).st rest

def runBody (cfg : Live.Cfg) : Live.St → List Live.Op → Live.St
  | st, [] => st
  | st, op :: rest => runBody cfg (Live.step cfg Live.noFault st op).st rest

/-- No body operation touches the redirection (C10's `step_edits`). -/
theorem step_proxied (cfg : Live.Cfg) (st : Live.St) (op : Live.Op) (hb : isBody op = true) (e : Bool) :
    Live.proxied (Live.step cfg Live.noFault st op).st e = Live.proxied st e :=
  Live.proxied_of_ctlEq
    (Live.step_edits cfg Live.noFault st op (by rintro rfl; cases hb) (by rintro rfl; cases hb)).1.ctl e

theorem step_other_bufs (cfg : Live.Cfg) (st : Live.St) (op : Live.Op) (hb : isBody op = true)
    (hw : ∀ e l t, op ≠ .write e l t) (e : Bool) :
    Live.getBuf (Live.step cfg Live.noFault st op).st e = Live.getBuf st e :=
  Live.getBuf_of_bufs (Live.step_bufs cfg Live.noFault st op (by rintro rfl; cases hb) (by rintro rfl; cases hb) hw) e

/-- A write to a redirected stream `e'` leaves both buffers as they are with the proxy's new buffer pending on `e'`,
whether or not lines were printed. -/
theorem step_write_bufs (cfg : Live.Cfg) (st : Live.St) (e' : Bool) (lines : List Live.Line) (tail : Live.Line)
    (hp : Live.proxied st e' = true) (hnl : (∀ l ∈ lines, '\n' ∉ l) ∧ '\n' ∉ tail) (e : Bool) :
    Live.getBuf (Live.step cfg Live.noFault st (.write e' lines tail)).st e =
      Live.getBuf (Live.setBuf st e' (writeLoop (Live.flatW (lines, tail)) [] [Live.getBuf st e'] []).2.flatten) e := by
  have hw := doWrite_eq_proxy cfg Live.noFault st e' lines tail hp hnl [Live.getBuf st e'] (by simp)
  simp only [Live.step]
  rw [hw]
  generalize (writeLoop (Live.flatW (lines, tail)) [] [Live.getBuf st e'] []) = r
  cases hr : r.1 with
  | nil => rfl
  | cons l ls => exact Live.getBuf_of_bufs (Live.doPrint_bufs ..) e

/-- One body operation seen from stream `e`, both streams being redirected: the lines printed on `e`'s behalf and the
text `e` has pending afterwards are the complete lines and the rest of what `e` had pending followed by what the
operation writes to `e` (nothing, unless it is a write to `e`). -/
theorem step_stream (cfg : Live.Cfg) (st : Live.St) (op : Live.Op) (hb : isBody op = true) (hok : writeOk op)
    (hp : ∀ e', Live.proxied st e' = true) (e : Bool) :
    streamLines cfg e st [op] = (unitsAux ((streamText e [op]).map .ch) (Live.getBuf st e)).1 ∧
    Live.getBuf (Live.step cfg Live.noFault st op).st e = (unitsAux ((streamText e [op]).map .ch) (Live.getBuf st e)).2 := by
  by_cases hw : ∃ e' l t, op = .write e' l t
  · obtain ⟨e', l, t, rfl⟩ := hw
    obtain ⟨w1, w2, _⟩ := writeLoop_spec (Live.flatW (l, t)) [] [Live.getBuf st e'] []
    rw [step_write_bufs cfg st e' l t (hp e') hok e]
    by_cases he : e' = e
    · subst he
      exact ⟨by simpa [streamLines, streamText, printedByJ, hp e'] using w1,
        by simpa [streamText, Live.getBuf_setBuf_same] using w2⟩
    · obtain rfl : e = !e' := by cases e <;> cases e' <;> first | rfl | exact absurd rfl he
      simp [streamLines, streamText, unitsAux, Live.getBuf_setBuf_other]
  · have hw' : ∀ e' l t, op ≠ .write e' l t := fun e' l t h => hw ⟨e', l, t, h⟩
    have h0 : streamLines cfg e st [op] = [] ∧ streamText e [op] = [] := by
      cases op <;> first | exact ⟨rfl, rfl⟩ | exact absurd rfl (hw' _ _ _)
    simp [h0, unitsAux, step_other_bufs cfg st op hb hw' e]

/-- **Per stream, under a running display.**  For every body of prints / refreshes / updates / resizes / writes
from a state in which both streams are redirected: the lines the display prints on behalf of stream `e` are the
complete lines of `e`'s own flattened character stream, starting from what `e` had pending (C19's `unitsAux` —
each once, in order, nothing from the other stream), and what `e` has pending afterwards is the unterminated rest. -/
theorem body_stream_lines (cfg : Live.Cfg) (e : Bool) (b : List Live.Op) (st : Live.St)
    (hb : ∀ op ∈ b, isBody op = true ∧ writeOk op) (hp : ∀ e', Live.proxied st e' = true) :
    streamLines cfg e st b = (unitsAux ((streamText e b).map .ch) (Live.getBuf st e)).1 ∧
    Live.getBuf (runBody cfg st b) e = (unitsAux ((streamText e b).map .ch) (Live.getBuf st e)).2 := by
  induction b generalizing st with
  | nil => exact ⟨by simp [streamLines, streamText, unitsAux], by simp [runBody, streamText, unitsAux]⟩
  | cons op rest ih =>
    obtain ⟨s1, s2⟩ := step_stream cfg st op (hb op (by simp)).1 (hb op (by simp)).2 hp e
    obtain ⟨i1, i2⟩ := ih _ (fun o ho => hb o (by simp [ho])) fun e' =>
      (step_proxied cfg st op (hb op (by simp)).1 e').trans (hp e')
    have hst : streamText e (op :: rest) = streamText e [op] ++ streamText e rest := by cases op <;> simp [streamText]
    have hsl : streamLines cfg e st (op :: rest) =
        streamLines cfg e st [op] ++ streamLines cfg e (Live.step cfg Live.noFault st op).st rest := by simp [streamLines]
    refine ⟨?_, ?_⟩
    · rw [hsl, hst, List.map_append, unitsAux_append, s1, i1, s2]
    · simp only [runBody]
      rw [hst, List.map_append, unitsAux_append, i2, s2]

/-- everything the display prints over a body, operation by operation in program order -/
def bodyPrinted (cfg : Live.Cfg) : Live.St → List Live.Op → List Live.Line
  | _, [] => []
  | st, op :: rest => printedByJ st op ++ bodyPrinted cfg (Live.step cfg Live.noFault st op).st rest

/-- C10's specification of what is printed, over a body and the `stop` that follows it: operation by operation what
C19's proxy hands over, then the pending text the repaired `stop` completes. -/
theorem specRun_body_stop (cfg : Live.Cfg) (b : List Live.Op) (hb : ∀ op ∈ b, isBody op = true ∧ writeOk op)
    (st : Live.St) (v : Live.View) :
    (Live.specRun cfg st v (b ++ [.stop])).2.printed =
      v.printed ++ (bodyPrinted cfg st b ++
        (if (runBody cfg st b).started then Live.pendLines cfg (runBody cfg st b) else [])) := by
  induction b generalizing st v with
  | nil =>
    simp only [List.nil_append, Live.specRun, if_true, Live.viewStop, bodyPrinted, runBody]
    split <;> simp [*]
  | cons op rest ih =>
    have hne : op ≠ .stop := by
      intro h; have := (hb op (by simp)).1; rw [h] at this; cases this
    simp only [List.cons_append, Live.specRun, hne, if_false, bodyPrinted, runBody]
    rw [ih (fun o ho => hb o (by simp [ho])), viewStep_printed cfg st v op (hb op (by simp)).2, List.append_assoc,
      List.append_assoc]
    rfl

end Ansi
end RichModel
