import RichModel.Lemmas.TextAppend
/-!
A part of `Text.expand_tabs` (text.py:631-663) that ends in a tab, with the tab replaced by a blank (`detab`): what C05's
`Lemmas/TextTabs` builds `expandTabs_view` on.
-/
namespace RichModel
namespace Wrap
open Text
variable {σ : Type}

theorem tab_isSpace : pyIsSpace '\t' = true := by decide

/-- a part ending in a tab, the tab replaced by a blank -/
def detab (part : Text σ) : Text σ := { part with plain := part.plain.dropLast ++ [' '] }

theorem detab_spec (part : Text σ) (h : Inv part) (hs : ['\t'].isSuffixOf part.plain = true) :
    Inv (detab part) := by
  obtain ⟨s, hs⟩ := List.isSuffixOf_iff_suffix.mp hs
  obtain ⟨hl, hc, hsp⟩ := (inv_iff _).1 h
  have hpl : (detab part).plain = s ++ [' '] := by
    simp only [detab, ← hs, List.dropLast_concat]
  refine ⟨?_, ?_, ?_⟩
  · rw [hpl]
    have : (detab part).length = part.length := rfl
    rw [this, hl, ← hs]; simp
  · rw [hpl]
    intro c hc'
    rcases List.mem_append.mp hc' with hc' | hc'
    · exact hc c (by rw [← hs]; exact List.mem_append_left _ hc')
    · simp only [List.mem_singleton] at hc'
      subst hc'; exact noCtl_space
  · exact hsp

theorem appendT_style (t u : Text σ) : (t.appendT u).style = t.style := Text.appendT_style t u

theorem appendStr_style (t : Text σ) (s : List Char) (st : Option σ) : (t.appendStr s st).style = t.style :=
  Text.appendStr_style t s st

end Wrap
end RichModel
