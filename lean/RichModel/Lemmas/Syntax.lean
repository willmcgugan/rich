import RichModel.Model.Syntax
import RichModel.Lemmas.Lines
/-
Strings and lines for property C17: `splitNL` and `joinNL` (the general split and join of Lemmas/Lines.lean at the
newline) undo each other on newline-free lines, so `Text.split` of joined lines gives the lines back (less an empty
last one without `allow_blank`: `popBlank`); `takeThroughNL` on terminated lines (`unlinesT`); and "equal up to empty
lines at the very end" (`Trail`).
-/
namespace RichModel.Syntax

/-- Each line followed by a newline. -/
def unlinesT (L : List Line) : List Char := L.flatMap (· ++ ['\n'])

/-- The prefix of `s` up to and including its `k`-th newline (all of `s` if it has fewer). -/
def takeThroughNL : Nat → List Char → List Char
  | 0, _ => []
  | _ + 1, [] => []
  | k + 1, c :: rest => if c = '\n' then c :: takeThroughNL k rest else c :: takeThroughNL (k + 1) rest

/-- `ensurenl` -/
def ensureNL (s : List Char) : List Char := if endsNL s then s else s ++ ['\n']

/-- What `remove_suffix("\n")` followed by `Text.split("\n")` keeps of a list of lines: the last line goes
when it is empty and not the only one. -/
def popBlank (M : List Line) : List Line :=
  if 2 ≤ M.length ∧ M.getLast? = some [] then M.dropLast else M

/-- `D` is `P` except for at most `n` empty lines missing at the very end. -/
def Trail (n : Nat) (D P : List Line) : Prop := ∃ k, k ≤ n ∧ D ++ List.replicate k ([] : Line) = P

@[simp] theorem endsNL_nil : endsNL [] = false := by simp [endsNL]

@[simp] theorem endsNL_append_singleton (a : List Char) (c : Char) : endsNL (a ++ [c]) = (c == '\n') := by
  simp [endsNL]

theorem endsNL_iff {s : List Char} : endsNL s = true ↔ ∃ s0, s = s0 ++ ['\n'] := by
  unfold endsNL
  constructor
  · intro h
    have h' : s.getLast? = some '\n' := by simpa using h
    exact List.getLast?_eq_some_iff.mp h'
  · rintro ⟨s0, rfl⟩
    simp

theorem endsNL_false_of_not_mem {s : List Char} (h : '\n' ∉ s) : endsNL s = false := by
  cases hx : endsNL s with
  | false => rfl
  | true =>
    obtain ⟨s0, rfl⟩ := endsNL_iff.mp hx
    exact absurd (by simp) h

/-- `str.split("\n")` and `"\n".join` are the general split and join (Lemmas/Lines.lean) at the newline -/
theorem splitNL_eq (s : List Char) : splitNL s = Lines.split (· == '\n') s := by
  fun_induction splitNL s <;> simp_all [Lines.split]

theorem joinNL_eq (M : List Line) : joinNL M = Lines.join '\n' M := by
  fun_induction joinNL M <;> simp_all [Lines.join]

theorem splitNL_ne_nil (s : List Char) : splitNL s ≠ [] := splitNL_eq s ▸ Lines.split_ne_nil _ s

theorem splitNL_no_nl (s : List Char) : ∀ l ∈ splitNL s, '\n' ∉ l :=
  fun l hl => Lines.free_iff.mp (Lines.split_free _ s l (splitNL_eq s ▸ hl))

theorem splitNL_infix (s : List Char) : ∀ l ∈ splitNL s, l <:+: s :=
  fun l hl => Lines.split_infix _ s l (splitNL_eq s ▸ hl)

@[simp] theorem splitNL_nil : splitNL [] = [[]] := rfl

@[simp] theorem unlinesT_nil : unlinesT [] = [] := rfl

@[simp] theorem unlinesT_cons (l : Line) (L : List Line) : unlinesT (l :: L) = l ++ '\n' :: unlinesT L := by
  simp [unlinesT]

theorem unlinesT_append (A B : List Line) : unlinesT (A ++ B) = unlinesT A ++ unlinesT B := by
  simp [unlinesT]

theorem append_nl_eq_unlinesT (s : List Char) : s ++ ['\n'] = unlinesT (splitNL s) := by
  fun_induction splitNL s <;> simp_all

@[simp] theorem takeThroughNL_zero (s : List Char) : takeThroughNL 0 s = [] := by
  cases s <;> rfl

@[simp] theorem takeThroughNL_nil (k : Nat) : takeThroughNL k [] = [] := by
  cases k <;> rfl

theorem takeThroughNL_noNL_append (x r : List Char) (k : Nat) (h : '\n' ∉ x) :
    takeThroughNL (k + 1) (x ++ r) = x ++ takeThroughNL (k + 1) r := by
  induction x <;> simp_all [takeThroughNL, eq_comm (a := '\n')]

theorem takeThroughNL_line (x r : List Char) (k : Nat) (hx : '\n' ∉ x) :
    takeThroughNL (k + 1) (x ++ '\n' :: r) = x ++ '\n' :: takeThroughNL k r := by
  rw [takeThroughNL_noNL_append x _ k hx]
  simp [takeThroughNL]

theorem takeThroughNL_unlinesT (L : List Line) (m : Nat) (h : ∀ l ∈ L, '\n' ∉ l) :
    takeThroughNL m (unlinesT L) = unlinesT (L.take m) := by
  induction L generalizing m with
  | nil => simp
  | cons l L ih =>
    obtain ⟨hl, hL⟩ := List.forall_mem_cons.mp h
    cases m with
    | zero => simp
    | succ m =>
      rw [unlinesT_cons, takeThroughNL_line l _ m hl, ih m hL]
      simp

theorem takeThroughNL_prefix (k : Nat) (s : List Char) : takeThroughNL k s <+: s := by
  fun_induction takeThroughNL k s <;> simp_all

theorem removeSuffix_ensureNL (s : List Char) : removeSuffixNL (ensureNL s) = removeSuffixNL s := by
  unfold ensureNL
  by_cases h : endsNL s = true
  · simp [h]
  · have h' : endsNL s = false := by simpa using h
    simp [h', removeSuffixNL]

theorem stripCtl_eq_self {s : List Char} (h : ∀ c ∈ s, isStripCtl c = false) : stripCtl s = s :=
  List.filter_eq_self.mpr (fun c hc => by simp [h c hc])

theorem removeSuffixNL_append_nl (a : List Char) : removeSuffixNL (a ++ ['\n']) = a := by
  unfold removeSuffixNL
  rw [endsNL_append_singleton]
  simp

theorem unlinesT_eq_joinNL (X : List Line) (h : X ≠ []) : unlinesT X = joinNL X ++ ['\n'] := by
  fun_induction joinNL X <;> simp_all

theorem removeSuffixNL_unlinesT (M : List Line) (h : M ≠ []) : removeSuffixNL (unlinesT M) = joinNL M := by
  rw [unlinesT_eq_joinNL M h, removeSuffixNL_append_nl]

theorem joinNL_snoc (M : List Line) (x : Line) : joinNL (M ++ [x]) = unlinesT M ++ x :=
  List.append_cancel_right (by simpa [unlinesT_append] using (unlinesT_eq_joinNL (M ++ [x]) (by simp)).symm)

theorem splitNL_joinNL (M : List Line) (hne : M ≠ []) (hM : ∀ l ∈ M, '\n' ∉ l) : splitNL (joinNL M) = M := by
  rw [splitNL_eq, joinNL_eq]
  exact Lines.split_join (by rfl) hne fun l hl => Lines.free_iff.mpr (hM l hl)

theorem popBlank_snoc (M0 : List Line) (x : Line) :
    popBlank (M0 ++ [x]) = if !M0.isEmpty && x.isEmpty then M0 else M0 ++ [x] := by
  rcases List.eq_nil_or_concat M0 with rfl | ⟨M1, y, rfl⟩
  · simp [popBlank]
  · cases x <;> simp [popBlank]

theorem endsNL_unlinesT_append (M : List Line) {x : Line} (hx : '\n' ∉ x) :
    endsNL (unlinesT M ++ x) = (!M.isEmpty && x.isEmpty) := by
  rcases List.eq_nil_or_concat x with rfl | ⟨x0, c, rfl⟩
  · rcases List.eq_nil_or_concat M with rfl | ⟨M1, y, rfl⟩
    · rfl
    · simp [unlinesT_append, ← List.append_assoc]
  · have hc : c ≠ '\n' := fun e => hx (by simp [e])
    rw [List.concat_eq_append, ← List.append_assoc, endsNL_append_singleton, beq_false_of_ne hc]
    cases x0 <;> simp

theorem textSplit_allow_joinNL (X : List Line) (hne : X ≠ []) (hX : ∀ l ∈ X, '\n' ∉ l) :
    textSplit (joinNL X) true = X := by
  simp [textSplit, splitNL_joinNL X hne hX]

/-- `Text("\n").join(X).split("\n")` without `allow_blank`: `[""]` for no lines, otherwise `X` without an empty last line. -/
theorem textSplit_joinNL (X : List Line) (hX : ∀ l ∈ X, '\n' ∉ l) :
    textSplit (joinNL X) false = if X = [] then [[]] else popBlank X := by
  rcases List.eq_nil_or_concat X with rfl | ⟨X0, x, rfl⟩
  · simp [joinNL, textSplit]
  · rw [List.concat_eq_append] at hX ⊢
    unfold textSplit
    rw [splitNL_joinNL _ (by simp) hX, joinNL_snoc, endsNL_unlinesT_append X0 (hX x (by simp)), popBlank_snoc]
    simp

theorem Trail.refl (n : Nat) (D : List Line) : Trail n D D := ⟨0, Nat.zero_le _, by simp⟩

theorem Trail.snoc (D : List Line) : Trail 1 D (D ++ [[]]) := ⟨1, Nat.le_refl _, rfl⟩

theorem Trail.mono {n m : Nat} {D P : List Line} (h : Trail n D P) (hnm : n ≤ m) : Trail m D P := by
  obtain ⟨k, hk, e⟩ := h
  exact ⟨k, Nat.le_trans hk hnm, e⟩

theorem Trail.trans {a b : Nat} {X Y Z : List Line} (h1 : Trail a X Y) (h2 : Trail b Y Z) : Trail (a + b) X Z := by
  obtain ⟨k1, hk1, e1⟩ := h1
  obtain ⟨k2, hk2, e2⟩ := h2
  refine ⟨k1 + k2, by omega, ?_⟩
  rw [← e2, ← e1, List.append_assoc, List.replicate_append_replicate]

theorem Trail.take {n : Nat} {D P : List Line} (h : Trail n D P) (b : Nat) : Trail n (D.take b) (P.take b) := by
  obtain ⟨k, hk, e⟩ := h
  refine ⟨min (b - D.length) k, by omega, ?_⟩
  rw [← e, List.take_append, List.take_replicate]

theorem Trail.drop {n : Nat} {D P : List Line} (h : Trail n D P) (t : Nat) : Trail n (D.drop t) (P.drop t) := by
  obtain ⟨k, hk, e⟩ := h
  refine ⟨k - (t - D.length), by omega, ?_⟩
  rw [← e, List.drop_append, List.drop_replicate]

theorem Trail.prefix {n : Nat} {D P : List Line} (h : Trail n D P) : D <+: P := by
  obtain ⟨k, _, e⟩ := h
  exact ⟨_, e⟩

theorem Trail.length_le {n : Nat} {D P : List Line} (h : Trail n D P) : P.length ≤ D.length + n := by
  obtain ⟨k, hk, rfl⟩ := h
  rw [List.length_append, List.length_replicate]
  exact Nat.add_le_add_left hk _

theorem Trail.getElem?_of_ne_nil {n : Nat} {D P : List Line} (h : Trail n D P) {i : Nat} {l : Line}
    (hP : P[i]? = some l) (hl : l ≠ []) : D[i]? = some l := by
  obtain ⟨k, _, rfl⟩ := h
  rcases Nat.lt_or_ge i D.length with hi | hi
  · rwa [List.getElem?_append_left hi] at hP
  · rw [List.getElem?_append_right hi, List.getElem?_replicate] at hP
    split at hP
    · cases hP; exact absurd rfl hl
    · cases hP

theorem Trail.rest_blank {n : Nat} {D P : List Line} (h : Trail n D P) : ∀ l ∈ P.drop D.length, l = [] := by
  obtain ⟨k, _, e⟩ := h
  rw [← e]
  intro l hl
  simp at hl
  exact hl.2

theorem popBlank_trail (M : List Line) : Trail 1 (popBlank M) M := by
  rcases List.eq_nil_or_concat M with rfl | ⟨M0, x, rfl⟩
  · exact Trail.refl _ _
  · rw [List.concat_eq_append, popBlank_snoc]
    split
    · next h =>
      obtain rfl : x = [] := by simpa using (Bool.and_eq_true_iff.mp h).2
      exact Trail.snoc _
    · exact Trail.refl _ _

theorem popBlank_prefix (X : List Line) : popBlank X <+: X := (popBlank_trail X).prefix

theorem popBlank_noNL {X : List Line} (hX : ∀ l ∈ X, '\n' ∉ l) : ∀ l ∈ popBlank X, '\n' ∉ l :=
  fun l hl => hX l ((popBlank_prefix X).subset hl)

theorem splitNL_snoc_nl (s : List Char) : splitNL (s ++ ['\n']) = splitNL s ++ [[]] := by
  rw [splitNL_eq, splitNL_eq, Lines.split_append_sep (by rfl)]; rfl

theorem splitNL_decomp (s : List Char) :
    ∃ init last, splitNL s = init ++ [last] ∧ s = unlinesT init ++ last ∧ '\n' ∉ last := by
  have hne := splitNL_ne_nil s
  have hsp := (List.dropLast_concat_getLast hne).symm
  refine ⟨_, _, hsp, ?_, splitNL_no_nl s _ (List.getLast_mem hne)⟩
  have h := append_nl_eq_unlinesT s
  rw [hsp, unlinesT_append] at h
  exact List.append_cancel_right (by simpa using h)

/-- `textSplitC` (`Text.split` since b61fef8) pops a last line that is empty AFTER control characters are stripped,
`textSplit` (`Text.split` before it) one that is empty: when no line has anything to strip they agree. -/
theorem textSplitC_eq (s : List Char) (b : Bool) (h : ∀ l ∈ splitNL s, ∀ c ∈ l, isStripCtl c = false) :
    textSplitC s b = textSplit s b := by
  obtain ⟨init, last, hsp, rfl, hl⟩ := splitNL_decomp s
  have hstrip : stripCtl last = last := stripCtl_eq_self (h last (by simp [hsp]))
  have hcont : (unlinesT init ++ last).contains '\n' = !init.isEmpty := by cases init <;> simp [hl]
  unfold textSplitC textSplit
  rw [hsp, hcont, endsNL_unlinesT_append init hl]
  simp [hstrip, and_assoc]

theorem pySlice_nonneg (lines : List α) (lo : Nat) (hi : Int) (h : 0 ≤ hi) :
    pySlice lines lo hi = (lines.take hi.toNat).drop lo := by
  simp [pySlice, Int.not_lt.mpr h, Nat.min_comm, ← List.take_eq_take_min]

end RichModel.Syntax
