import RichModel.Lemmas.LayoutFits
import RichModel.Lemmas.LayoutTableCols
import RichModel.Lemmas.LayoutTableNil
/-!
The table and columns cases of the induction behind C01 — the three regimes of a table, and `Columns`, each as a theorem about `render` at
its own bound — the induction itself (`good`, `goodL`), and what it gives: `render_fits`, `render_at_fits`.
-/
namespace RichModel.Layout
open RichModel RichModel.Frames

theorem ann_fits (cfg : Cfg) (ok : CfgOk cfg) (t : Option T) (j : Justify) (o : Opts) (tw : Int) (w : Nat) (htw : tw ≤ (w : Int))
    (hd : annDom t o) : Fits cfg.cw w (annotation cfg t j o tw) ∧ Closed (annotation cfg t j o tw) := by
  unfold annotation
  cases t with
  | none => exact ⟨fits_nil _ _, closed_nil⟩
  | some t =>
    simp only
    unfold annDom at hd
    simp only at hd
    split
    · exact ⟨fits_nil _ _, closed_nil⟩
    · split
      · exact ⟨fits_nil _ _, closed_nil⟩
      · rename_i _ h1
        have h1' : 1 ≤ tw.toNat := by omega
        refine ⟨fits_mono _ tw.toNat w _ (text_fits cfg ok.hsp ok.h2 ok.hel ok.hp t _ tw.toNat h1' ?_ (Or.inl hd.2)) (by omega),
          text_closed cfg ok.hp t _ tw.toNat hd.2⟩
        exact hd.1

/-- title ++ body ++ caption, the title and the caption rendered at a width `tw ≤ B` and the body complete lines of at most `B`
cells: every line fits `B`, and the whole ends its last line -/
theorem ann_body_fits (cfg : Cfg) (ok : CfgOk cfg) (to : TableOpts) (o : Opts) (tw : Int) (B : Nat) (body : List Seg)
    (htw : tw ≤ (B : Int)) (ht : annDom to.title o) (hc : annDom to.caption o)
    (hlines : ∀ l ∈ splitLines body, lineLength cfg.cw l ≤ B) (hclosed : Closed body) :
    Fits cfg.cw B (annotation cfg to.title to.titleJustify o tw ++ body ++ annotation cfg to.caption to.captionJustify o tw) ∧
    Closed (annotation cfg to.title to.titleJustify o tw ++ body ++ annotation cfg to.caption to.captionJustify o tw) := by
  obtain ⟨hf1, hc1⟩ := ann_fits cfg ok to.title to.titleJustify o tw B htw ht
  obtain ⟨hf2, hc2⟩ := ann_fits cfg ok to.caption to.captionJustify o tw B htw hc
  have hcb := closed_append _ _ hc1 hclosed
  exact ⟨fits_append _ _ _ _ hcb (fits_append _ _ _ _ hc1 hf1 (fits_of_lines_le _ _ _ hlines)) hf2, closed_append _ _ hcb hc2⟩

theorem tableExtra_subst (env : Env) (o : TableOpts) (n : Nat) : tableExtra (o.subst env) n = tableExtra o n := by
  unfold tableExtra TableOpts.subst
  simp only [Option.isSome_map]

theorem colsR_nil (cfg : Cfg) : colsR cfg [] = [] := by unfold colsR; rfl

theorem colsR_ne_nil (cfg : Cfg) (cols : List Col) (h : cols ≠ []) : colsR cfg cols ≠ [] := by
  rw [colsR_eq_map]
  simpa using h

theorem colsR_o (cfg : Cfg) (cols : List Col) : ∀ c ∈ colsR cfg cols, ∃ x ∈ cols, c.o = colOptsOf x := by
  intro c hc
  obtain ⟨x, hx, rfl⟩ := colsR_mem cfg cols c hc
  exact ⟨x, hx, colR_o cfg x⟩

/-- a table is laid out for its own `Table(width=…)`, else for the width on offer (`Table.__rich_console__`: `max_width =
options.max_width`, then `self.width` if that is not `None`): rendering it at `w` is rendering it at that width — with an explicit
width nothing depends on the width on offer -/
theorem table_laidOut (cfg : Cfg) (to : TableOpts) (opts : Opts) (cols : List ColS) (w : Nat) :
    (∀ tw, to.width = some tw → tw ≤ to.width.getD w) ∧
    tableConsole cfg (to.subst cfg.env) opts cols w = tableConsole cfg (to.subst cfg.env) opts cols (to.width.getD w) ∧
    (tableBudget cfg (to.subst cfg.env) cols w → tableBudget cfg (to.subst cfg.env) cols (to.width.getD w)) := by
  cases hwd : to.width with
  | none => simp
  | some tw =>
    have hw : ∀ x : Nat, (toTable cfg (to.subst cfg.env) cols).width.getD (x : Int) = (tw : Int) := by
      intro x
      rw [show (toTable cfg (to.subst cfg.env) cols).width = to.width.map Int.ofNat from rfl, hwd]; rfl
    refine ⟨fun tw' h => by cases h; exact Nat.le_refl _, ?_, ?_⟩
    · unfold tableConsole
      simp only [hw]
    · unfold tableBudget
      simp only [hw]
      exact id

theorem laidOut_le (to : TableOpts) (w : Nat) : to.width.getD w ≤ max w (to.width.getD 0) := by
  cases to.width <;> simp only [Option.getD_none, Option.getD_some] <;> omega

/-! The three regimes of a table, each at its own bound: no columns, columns free to wrap (at ANY width), arbitrary columns within
`tableBudget`. -/

/-- **A table without columns**: never wider than its two corner characters. -/
theorem table_nil_fits (cfg : Cfg) (ok : CfgOk cfg) (to : TableOpts) (o : Opts) (w : Nat) (ht : annDom to.title o)
    (hc : annDom to.caption o) :
    Fits cfg.cw (tableExtra to 0) (render cfg (.table to []) o w) ∧ Closed (render cfg (.table to []) o w) := by
  unfold render
  rw [colsR_nil]
  rcases tableConsole_nil_any cfg ok.hcw (to.subst cfg.env) o w with h | ⟨tw, body, h1, h2, h3, h4⟩
  · rw [h, ok.hp]; exact ⟨fits_nil _ _, closed_nil⟩
  · rw [tableExtra_subst] at h1 h3
    rw [h2]
    exact ann_body_fits cfg ok to o tw _ body h1 ht hc h3 h4

/-- **Columns free to wrap (any number of them, also none), at EVERY width**: no line is wider than the width the table is laid out for
(`w`, or its own `width`), or, when that leaves less than one cell per column, than its borders plus ONE cell per column. -/
theorem table_free_fits (cfg : Cfg) (ok : CfgOk cfg) (to : TableOpts) (cols : List Col) (o : Opts) (w : Nat)
    (ht : annDom to.title o) (hc : annDom to.caption o)
    (hfree : ∀ c ∈ cols, (colOptsOf c).wrappable ∧ ((cfg.fl.flexNegative = false ∧ cfg.fl.flexClampZero = false) ∨
      (to.expand || to.width.isSome) = false ∨ (colOptsOf c).ratio ≠ some 0)) :
    Fits cfg.cw (max (to.width.getD w) (tableExtra to cols.length + cols.length)) (render cfg (.table to cols) o w) ∧
    Closed (render cfg (.table to cols) o w) := by
  by_cases hne : cols = []
  · subst hne
    obtain ⟨hf, hcl⟩ := table_nil_fits cfg ok to o w ht hc
    exact ⟨fits_mono _ _ _ _ hf (Nat.le_max_right _ _), hcl⟩
  unfold render
  obtain ⟨hWtw, hcon, _⟩ := table_laidOut cfg to o (colsR cfg cols) w
  rw [hcon]
  generalize to.width.getD w = W at hWtw ⊢
  obtain ⟨tw, body, h1, h2, h3, h4⟩ := tableConsole_decomp_any cfg ok.hcw ok.hfl (to.subst cfg.env) o (colsR cfg cols) W
    (colsR_ne_nil cfg cols hne) (fun c hc => by obtain ⟨x, hx, e⟩ := colsR_o cfg cols c hc; rw [e]; exact hfree x hx) (colsR_meas cfg cols) hWtw
  rw [colsR_length, tableExtra_subst] at h1 h3
  rw [h2]
  exact ann_body_fits cfg ok to o tw _ body h1 ht hc h3 h4

/-- **Arbitrary columns within `tableBudget`, a binding `min_width` included**: no line of the table is wider than the width it is laid
out for (`w`, or its own `width`) plus `floorSum` — the `min_width + padding` floors of the columns that have a `min_width` and no fixed
`width` (C07 `min_width_overflows` shows the bound attained). -/
theorem table_general_fits (cfg : Cfg) (ok : CfgOk cfg) (to : TableOpts) (cols : List Col) (o : Opts) (w : Nat)
    (hne : cols ≠ []) (ht : annDom to.title o) (hc : annDom to.caption o)
    (hr : (cfg.fl.flexNegative = false ∧ cfg.fl.flexClampZero = false) ∨ (toTable cfg (to.subst cfg.env) (colsR cfg cols)).NoRatio)
    (hb : tableBudget cfg (to.subst cfg.env) (colsR cfg cols) w) :
    Fits cfg.cw (to.width.getD w + (toTable cfg (to.subst cfg.env) (colsR cfg cols)).floorSum.toNat)
      (render cfg (.table to cols) o w) ∧
    Closed (render cfg (.table to cols) o w) := by
  unfold render
  obtain ⟨hWtw, hcon, hbW⟩ := table_laidOut cfg to o (colsR cfg cols) w
  rw [hcon]
  obtain ⟨ws0, h0, hbud⟩ := hbW hb
  generalize to.width.getD w = W at hWtw h0 hbud ⊢
  have hmeas := colsR_meas cfg cols
  obtain ⟨ws0', h0', hl, hp⟩ := tb_firstWidths_exists cfg (to.subst cfg.env) (colsR cfg cols)
    ((toTable cfg (to.subst cfg.env) (colsR cfg cols)).width.getD (W : Int) - (toTable cfg (to.subst cfg.env) (colsR cfg cols)).extraWidth)
    hmeas hr
  rw [h0] at h0'
  cases h0'
  obtain ⟨tw, body, htw, heq, hlines, hclosed⟩ := tableConsole_decomp_general cfg ok.hcw ok.hfl (to.subst cfg.env) o (colsR cfg cols) W
    (colsR_ne_nil cfg cols hne) hmeas hWtw ws0 h0 (hl.trans (tb_toTable_columns_length _ _ _)) hp hbud
  have hF := Dep.floorSum_nonneg (toTable cfg (to.subst cfg.env) (colsR cfg cols))
  generalize (toTable cfg (to.subst cfg.env) (colsR cfg cols)).floorSum = F at htw hlines hF ⊢
  rw [heq]
  exact ann_body_fits cfg ok to o tw (W + F.toNat) body (by omega) ht hc (fun l hl => by have := hlines l hl; omega) hclosed

theorem table_general_bound (cfg : Cfg) (ok : CfgOk cfg) (to : TableOpts) (cols : List Col) (o : Opts) (w : Nat)
    (hne : cols ≠ []) (hwd : ∀ tw, to.width = some tw → tw ≤ w)
    (ht : annDom to.title o) (hc : annDom to.caption o)
    (hr : (cfg.fl.flexNegative = false ∧ cfg.fl.flexClampZero = false) ∨ (toTable cfg (to.subst cfg.env) (colsR cfg cols)).NoRatio)
    (hb : tableBudget cfg (to.subst cfg.env) (colsR cfg cols) w) :
    Fits cfg.cw (w + (toTable cfg (to.subst cfg.env) (colsR cfg cols)).floorSum.toNat) (render cfg (.table to cols) o w) := by
  -- an explicit `Table(width=…)` within the width on offer: the table is laid out for at most `w`
  have hW : to.width.getD w ≤ w := by
    cases h : to.width with
    | none => exact Nat.le_refl _
    | some tw => exact hwd tw h
  exact fits_mono _ _ _ _ (table_general_fits cfg ok to cols o w hne ht hc hr hb).1 (by omega)

theorem good_table (cfg : Cfg) (ok : CfgOk cfg) (to : TableOpts) (cols : List Col) : Good cfg (.table to cols) := by
  intro o w _ hd
  unfold Dom at hd
  obtain ⟨ht, hc, hcase⟩ := hd
  -- the structural minimum holds the table's own `width` and its borders plus one cell per column
  have hB : to.width.getD w ≤ max w (smin cfg.cw (.table to cols)) ∧
      tableExtra to cols.length + cols.length ≤ max w (smin cfg.cw (.table to cols)) := by
    have := laidOut_le to w
    have := sminCols_ge_length cfg.cw to cols
    unfold smin
    omega
  rcases hcase with hfree | ⟨hne, hmin, hr, hb⟩
  · obtain ⟨hf, hcl⟩ := table_free_fits cfg ok to cols o w ht hc hfree
    exact ⟨fits_mono _ _ _ _ hf (Nat.max_le.mpr hB), fun _ => hcl⟩
  · obtain ⟨hf, hcl⟩ := table_general_fits cfg ok to cols o w hne ht hc hr hb
    rw [tb_floorSum_zero cfg (to.subst cfg.env) (colsR cfg cols)
      (fun c hc => by obtain ⟨x, hx, e⟩ := colsR_o cfg cols c hc; rw [e]; exact hmin x hx)] at hf
    exact ⟨fits_mono _ _ _ _ hf hB.1, fun _ => hcl⟩

/-- **`Columns` without an explicit `width`, at EVERY width**: no line is wider than the width on offer or, when that is less than one
cell per item, than one cell per item (the inner grid has at most one column per item, all free to wrap: `table_free_fits`' regime). -/
theorem columns_fits (cfg : Cfg) (ok : CfgOk cfg) (co : ColsOpts) (items : List R) (o : Opts) (w : Nat)
    (ht : annDom co.title o) (hwn : co.lay.width = none) :
    Fits cfg.cw (max w items.length) (render cfg (.columns co items) o w) ∧ Closed (render cfg (.columns co items) o w) := by
  unfold render
  rcases columnsConsole_decomp_any cfg ok.hcw ok.hfl co o (chsR cfg items ({} : ColOpts).cellOpts) w hwn
      (chsR_meas cfg items _) with h | h | ⟨tw, body, htw, heq, hlines, hclosed⟩
  · rw [h, ok.hp]; exact ⟨fits_nil _ _, closed_nil⟩
  · rw [h]; exact ⟨fits_nil _ _, closed_nil⟩
  · rw [heq]
    rw [chsR_length] at htw hlines
    obtain ⟨hf1, hc1⟩ := ann_fits cfg ok co.title Justify.center o tw _ htw ht
    exact ⟨fits_append _ _ _ _ hc1 hf1 (fits_of_lines_le _ _ _ hlines), closed_append _ _ hc1 hclosed⟩

theorem good_columns (cfg : Cfg) (ok : CfgOk cfg) (co : ColsOpts) (items : List R) : Good cfg (.columns co items) := by
  intro o w _ hd
  unfold Dom at hd
  obtain ⟨hf, hc⟩ := columns_fits cfg ok co items o w hd.1 hd.2
  refine ⟨fits_mono _ _ _ _ hf ?_, fun _ => hc⟩
  -- one column per item is part of the structural minimum
  unfold smin
  have := sminSum_ge_length cfg.cw items
  simp only
  omega

mutual
theorem good (cfg : Cfg) (ok : CfgOk cfg) : ∀ r : R, Good cfg r
  | .text t => (good_text_str cfg ok t).1
  | .str t => (good_text_str cfg ok t).2
  | .padding p e c => good_padding cfg ok p e c
  | .panel po c => good_panel cfg ok po c
  | .align ao c => good_align cfg ok ao c (good cfg ok c)
  | .constrain k c => good_constrain cfg k c (good cfg ok c)
  | .styled c => (good_wrapper cfg c (good cfg ok c)).1
  | .cast c => (good_wrapper cfg c (good cfg ok c)).2.1
  | .opaque c => (good_wrapper cfg c (good cfg ok c)).2.2
  | .group fit items => good_group cfg fit items (goodL cfg ok items)
  | .rule ro => good_rule cfg ok ro
  | .bar bo => good_bar cfg ok bo
  | .progressBar po => good_progress cfg ok po
  | .table to cols => good_table cfg ok to cols
  | .columns co items => good_columns cfg ok co items
  | .tree root => good_tree cfg ok root
theorem goodL (cfg : Cfg) (ok : CfgOk cfg) : ∀ rs : List R, GoodL cfg rs
  | [] => goodL_nil cfg
  | r :: rs => goodL_cons cfg r rs (good cfg ok r) (goodL cfg ok rs)
end

/-- at or above the structural minimum no line of `Console.render(tree, options)` occupies more than `w` cells -/
theorem render_fits (cfg : Cfg) (ok : CfgOk cfg) (r : R) (o : Opts) (w : Nat)
    (hs : smin cfg.cw r ≤ w) (hd : Dom cfg r o w) : Fits cfg.cw w (render cfg r o w) := by
  have h := (good cfg ok r o w (Nat.le_trans (smin_pos cfg.cw r) hs) hd).1
  rwa [Nat.max_eq_left hs] at h

/-- Through `Console.render` (nothing is rendered below one cell): a bound on the lines of `render` at every width of at least one cell
is a bound on the rendered lines at any Python int `m`. -/
theorem rendered_lines_le (cfg : Cfg) (r : R) (o : Opts) (m : Int) (B : Nat) (h : 1 ≤ m → Fits cfg.cw B (render cfg r o m.toNat)) :
    ∀ l ∈ renderedLines cfg r o m, lineLength cfg.cw l ≤ B := by
  intro l hl
  unfold renderedLines consoleRender at hl
  by_cases hm : m < 1
  · rw [if_pos hm] at hl
    cases hl
  · rw [if_neg hm] at hl
    exact (fits_iff_lines cfg.cw B _).mp (h (by omega)) l hl

/-- rendering at ANY value `m`, inside the domain at `m`: no line is wider than `m` or, below the structural minimum, than that -/
theorem render_at_fits_any (cfg : Cfg) (ok : CfgOk cfg) (r : R) (o : Opts) (m : Int) (hd : Dom cfg r o m.toNat) :
    ∀ l ∈ renderedLines cfg r o m, (lineLength cfg.cw l : Int) ≤ max m (smin cfg.cw r) := by
  intro l hl
  have := rendered_lines_le cfg r o m _ (fun hm => (good cfg ok r o m.toNat (by omega) hd).1) l hl
  omega

theorem render_at_fits (cfg : Cfg) (ok : CfgOk cfg) (r : R) (o : Opts) (m : Int) (hs : (smin cfg.cw r : Int) ≤ m)
    (hd : Dom cfg r o m.toNat) : ∀ l ∈ renderedLines cfg r o m, (lineLength cfg.cw l : Int) ≤ m := by
  intro l hl
  have := render_at_fits_any cfg ok r o m hd l hl
  omega

end RichModel.Layout
