import RichModel.Lemmas.ConcEff
import RichModel.Lemmas.ConcScreen
/-!
Constant-height sessions of a Live display under every schedule (`Model/Conc.lean`): the display is
started, its recorded shape has height `h`, every renderable ever set has `h` lines, no thread starts or
stops the display.  Then every write that reaches the file is a `GoodWrite h`.  Names ending in `S` belong to these
stable sessions: a second static check `SimS` (over `stepS`, as `Sim` is over `absAct`) with its soundness `execS`.
-/
namespace RichModel.Conc
open RichModel RichModel.Screen
open RichModel.Live (Line Frame liveFrame getShape Shown region shown_rows)

/-- What a buffered piece is to the screen: `mid` stands between `position_cursor` and the frame, the user's lines or the
empty `Control("")` a refresh pushes in their place. -/
inductive BK where
  | pos | mid | frame | other
deriving DecidableEq, Repr

def Body.kind : Body → BK
  | .pos _ => .pos
  | .user _ => .mid
  | .frame _ => .frame
  | .ctl o _ => if o.isEmpty then .mid else .other

def kinds (l : List Item) : List BK := l.map (·.body.kind)

/-- A buffered piece has the height of the session: it erases `h` rows, or draws a frame of `h` rows. -/
def GoodItem (h : Nat) (x : Item) : Prop :=
  match x.body with
  | .pos s => ∃ w, s = some (w, h)
  | .frame f => f.length = h
  | _ => True

/-- The operations of a constant-height session: print / log, a line written through the redirected stdout (`proxyPrint`),
refresh, and update to a frame of `h` rows. -/
def StableOp (h : Nat) : Op → Bool
  | .print _ => true
  | .proxyPrint _ => true
  | .refresh => true
  | .update f _ => f.length == h
  | _ => false

/-- Abstract state of a thread in a constant-height session: the kinds of the buffered pieces, the buffer
depth, whether the running print found the hook, whether the copy of the renderable has `h` rows. -/
structure AbsS where
  ks : List BK
  d : Nat
  hk : Bool
  rc : Bool

/-- Abstract effect of an action in a constant-height session (`none`: not allowed there). -/
def stepS (h : Nat) (a : AbsS) : Act → Option AbsS
  | .acq _ | .rel _ => some a
  | .enter => some { a with d := a.d + 1 }
  | .exitDec => if a.d = 0 then none else some { a with d := a.d - 1 }
  | .readHooks => some { a with hk := true }
  | .hookPos => some { a with ks := a.ks ++ [.pos] }
  | .pushUser _ => some { a with ks := a.ks ++ [.mid] }
  | .pushCtl o _ => if o.isEmpty then some { a with ks := a.ks ++ [.mid] } else none
  | .readRenderable => some { a with rc := true }
  | .renderFrame => if a.rc then some { a with ks := a.ks ++ [.frame] } else none
  | .write => if a.ks = [.pos, .mid, .frame] then some { a with ks := [] } else none
  | .setRenderable f => if f.length = h then some a else none
  | _ => none

/-- The guards as `SimS` reads them off `AbsS`; `topRecord` never gets here (see `neutral`). -/
def onS (g : Guard) (a : AbsS) : Bool :=
  match g with
  | .hooked => a.hk
  | .top => a.d == 0
  | _ => true

/-- `SimS` has no `cfg` and cannot tell whether a `topRecord` action runs: it asks such an action to be one of the record
steps of a flush, which change nothing `AbsS` sees whether they run or not. -/
def neutral : Act → Bool
  | .acq .record | .recAppend | .rel .record => true
  | _ => false

/-- Static check of a continuation for constant-height sessions; a flush at depth 0 must find exactly
`[pos, mid, frame]` in the buffer. -/
def SimS (h : Nat) : List GAct → AbsS → Bool
  | [], a => a.ks.isEmpty && a.d == 0
  | ⟨g, act⟩ :: r, a =>
    match g with
    | .topRecord => neutral act && SimS h r a
    | _ =>
      if onS g a then
        match stepS h a act with
        | some a' => SimS h r a'
        | none => false
      else SimS h r a

/-! The code of the operations of a constant-height session passes the check, block by block as for `Sim`
(and run by `simp` in the same way). -/

section
attribute [local simp] ga gh SimS stepS onS

theorem simS_flush (h : Nat) (r : List GAct) (ks : List BK) (d : Nat) (hk rc : Bool) :
    SimS h (flushCode ++ r) ⟨ks, d, hk, rc⟩ =
      if d = 0 then decide (ks = [.pos, .mid, .frame]) && SimS h r ⟨[], 0, hk, rc⟩ else SimS h r ⟨ks, d, hk, rc⟩ := by
  cases d <;> by_cases hks : ks = [.pos, .mid, .frame] <;> simp [flushCode, neutral, hks]

theorem simS_print (h : Nat) {push : Act} (hp : (∃ ls, push = .pushUser ls) ∨ ∃ c, push = .pushCtl [] c)
    (r : List GAct) (d : Nat) (hk rc : Bool) :
    SimS h (printBody .live push ++ r) ⟨[], d, hk, rc⟩ =
      SimS h (flushCode ++ r) { ks := [.pos, .mid, .frame], d, hk := true, rc := true } := by
  rcases hp with ⟨ls, rfl⟩ | ⟨c, rfl⟩ <;> simp [printBody, hookCode, frameCode]

theorem simS_code (cfg : Cfg) (hk : cfg.kind = .live) (h : Nat) (op : Op) (hop : StableOp h op = true) (hkd rc : Bool)
    (r : List GAct) (hr : ∀ hkd rc, SimS h r ⟨[], 0, hkd, rc⟩ = true) :
    SimS h (code cfg op ++ r) ⟨[], 0, hkd, rc⟩ = true := by
  cases op with
  | print ls => simp [code, hk, simS_print h (.inl ⟨_, rfl⟩), simS_flush, hr]
  | proxyPrint ls => simp [code, hk, simS_print h (.inl ⟨_, rfl⟩), simS_flush, hr]
  | refresh => simp [code, hk, refreshCode, simS_print h (.inr ⟨_, rfl⟩), simS_flush, hr]
  | update f rf =>
    simp only [StableOp, beq_iff_eq] at hop
    cases rf <;> simp [code, hk, refreshCode, simS_print h (.inr ⟨_, rfl⟩), simS_flush, hop, hr]
  | _ => simp [StableOp] at hop

end

theorem codeS_ok (cfg : Cfg) (hk : cfg.kind = .live) (h : Nat) (op : Op) (hop : StableOp h op = true) (hkd rc : Bool) :
    SimS h (code cfg op) ⟨[], 0, hkd, rc⟩ = true := by
  simpa using simS_code cfg hk h op hop hkd rc [] (fun _ _ => rfl)

def absS (h : Nat) (l : Local) : AbsS := ⟨kinds l.buffer, l.depth, l.hooked, decide (l.rcopy.length = h)⟩

/-- The display of a constant-height session: installed, `h` rows recorded, `h` rows to render. -/
structure ShS (h : Nat) (sh : Shared) : Prop where
  hooks : 0 < sh.hooks
  shape : ∃ w, sh.shape = some (w, h)
  rend : sh.renderable.length = h

/-- A thread of a constant-height session: its continuation passes `SimS`, what it has buffered has the height, its
program consists of stable operations. -/
structure ThS (h : Nat) (l : Local) : Prop where
  sim : SimS h l.cont (absS h l) = true
  good : ∀ x ∈ l.buffer, GoodItem h x
  prog : ∀ op ∈ l.prog, StableOp h op = true

/-- The invariant of a constant-height session; `file0` is the file at its start. -/
structure Stb (h : Nat) (file0 : List Write) (s : State) : Prop where
  sh : ShS h s.sh
  th : ∀ t, ThS h (s.th t)
  file : ∃ ws, s.sh.file = file0 ++ ws ∧ ∀ w ∈ ws, GoodWrite h w

/-- What the file of a constant-height session shows when replayed: what was on the screen at its start (`P0`, then the frame
`F0`), with the lines printed since appended to `P0`, followed by the frame of the last write. -/
theorem Stb.rows {H h : Nat} {file0 : List Write} {s : State} (st : Stb h file0 s) (hH : 1 ≤ H) (hh : h ≤ H)
    {P0 : List Line} {F0 : Frame} {k0 : Nat} (hshown : Shown (replay H Screen.init (writesOps file0)) P0 F0 k0)
    (hF0 : F0.length = h) (hroom : (region F0).length + k0 ≤ H) :
    ∃ ws k, s.sh.file = file0 ++ ws ∧
      (replay H Screen.init (fileOps s)).rows = P0 ++ printedOf ws ++ lastFrameOf F0 ws ++ List.replicate k [] := by
  obtain ⟨ws, hfile, hgood⟩ := st.file
  obtain ⟨k', hs, -, -⟩ := screen_of_writes hH hh ws _ P0 F0 k0 hgood hshown hF0 hroom
  obtain ⟨k, hrows⟩ := shown_rows hs
  refine ⟨ws, k, hfile, ?_⟩
  rw [show fileOps s = writesOps file0 ++ writesOps ws by simp only [fileOps, writesOps, hfile, List.flatMap_append],
    replay_append]
  exact hrows

theorem Body.kind_pos {b : Body} (h : b.kind = .pos) : ∃ s, b = .pos s := by
  cases b with
  | pos s => exact ⟨s, rfl⟩
  | ctl o c => rw [Body.kind] at h; split at h <;> nomatch h
  | _ => nomatch h

theorem Body.kind_frame {b : Body} (h : b.kind = .frame) : ∃ f, b = .frame f := by
  cases b with
  | frame f => exact ⟨f, rfl⟩
  | ctl o c => rw [Body.kind] at h; split at h <;> nomatch h
  | _ => nomatch h

theorem Body.kind_mid {b : Body} (h : b.kind = .mid) : (∃ ls, b = .user ls) ∨ ∃ c, b = .ctl [] c := by
  cases b with
  | user ls => exact .inl ⟨ls, rfl⟩
  | ctl o c =>
    rw [Body.kind] at h
    split at h
    · next ho => exact .inr ⟨c, by rw [List.isEmpty_iff.mp ho]⟩
    · nomatch h
  | _ => nomatch h

theorem goodWrite_of_kinds {h t op : Nat} {buf : List Item} (hk : kinds buf = [.pos, .mid, .frame])
    (hg : ∀ x ∈ buf, GoodItem h x) : GoodWrite h ⟨t, op, buf⟩ := by
  obtain ⟨x1, r1, rfl, k1, hk⟩ := List.map_eq_cons_iff.mp hk
  obtain ⟨x2, r2, rfl, k2, hk⟩ := List.map_eq_cons_iff.mp hk
  obtain ⟨x3, r3, rfl, k3, hk⟩ := List.map_eq_cons_iff.mp hk
  cases List.map_eq_nil_iff.mp hk
  obtain ⟨s, b1⟩ := Body.kind_pos k1
  obtain ⟨f, b3⟩ := Body.kind_frame k3
  have g1 := hg x1 (by simp)
  have g3 := hg x3 (by simp)
  simp only [GoodItem, b1] at g1
  simp only [GoodItem, b3] at g3
  obtain ⟨wd, rfl⟩ := g1
  rcases Body.kind_mid k2 with ⟨ls, b2⟩ | ⟨c, b2⟩
  · exact ⟨x1, x2, x3, wd, ls, f, rfl, b1, .inl b2, b3, g3⟩
  · exact ⟨x1, x2, x3, wd, [], f, rfl, b1, .inr ⟨rfl, c, b2⟩, b3, g3⟩

/-- The check at the head of a thread's continuation, in terms of the thread's own guard. -/
theorem simS_cons {cfg : Cfg} (h : Nat) (l : Local) (g : Guard) (act : Act) (r : List GAct) :
    SimS h (⟨g, act⟩ :: r) (absS h l) =
      if g = .topRecord then neutral act && SimS h r (absS h l)
      else if guardOn cfg l.depth l.hooked g then
        match stepS h (absS h l) act with
        | some a' => SimS h r a'
        | none => false
      else SimS h r (absS h l) := by
  cases g <;> rfl

theorem simS_head {cfg : Cfg} {h : Nat} {l : Local} {g : Guard} {act : Act} {r : List GAct}
    (hs : SimS h (⟨g, act⟩ :: r) (absS h l) = true) (hg : guardOn cfg l.depth l.hooked g = true) :
    (neutral act = true ∧ SimS h r (absS h l) = true) ∨ ∃ a', stepS h (absS h l) act = some a' ∧ SimS h r a' = true := by
  rw [simS_cons (cfg := cfg), hg, if_pos rfl] at hs
  split at hs
  · exact .inl (by simpa only [Bool.and_eq_true] using hs)
  · split at hs
    · exact .inr ⟨_, ‹_›, hs⟩
    · nomatch hs

theorem kinds_append (a : List Item) (x : Item) : kinds (a ++ [x]) = kinds a ++ [x.body.kind] := by simp [kinds]

/-- Soundness of `SimS`, as `exec_eff` is that of `Sim`.  It walks over the actions of `exec` a second time: `stb_run` is
stated without `Inv` and `SimS` does not imply `Sim`, so `exec_eff` cannot be called; and `stepS` follows the thread's control
state action by action, which the classes of `Eff` do not record. -/
theorem execS {cfg : Cfg} (hkind : cfg.kind = .live) {h : Nat} (hfit : h ≤ cfg.height)
    {t : Nat} {sh sh' : Shared} {l l' : Local} {g : Guard} {act : Act} {r : List GAct}
    (hsh : ShS h sh)
    (hs : SimS h (⟨g, act⟩ :: r) (absS h l) = true)
    (hgood : ∀ x ∈ l.buffer, GoodItem h x)
    (hg : guardOn cfg l.depth l.hooked g = true)
    (he : exec cfg t sh { l with cont := r } act = some (sh', l')) :
    ShS h sh' ∧ SimS h l'.cont (absS h l') = true ∧
      (∀ x ∈ l'.buffer, GoodItem h x) ∧ l'.prog = l.prog ∧
      (sh'.file = sh.file ∨ ∃ w, sh'.file = sh.file ++ [w] ∧ GoodWrite h w) := by
  have hs' := simS_head hs hg
  -- a piece of the right height is pushed
  have push : ∀ (b : Body), GoodItem h ⟨t, l.nops - 1, l.emitted.length, b⟩ →
      SimS h r { absS h l with ks := (absS h l).ks ++ [b.kind] } = true →
      SimS h r (absS h (({ l with cont := r } : Local).push t b)) = true ∧
        ∀ x ∈ (({ l with cont := r } : Local).push t b).buffer, GoodItem h x := by
    intro b hb hsim
    exact ⟨by simp only [absS, Local.push, kinds_append]; exact hsim,
      List.forall_mem_append.mpr ⟨hgood, List.forall_mem_singleton.mpr hb⟩⟩
  cases act <;>
    simp only [neutral, stepS, Bool.false_eq_true, false_and, false_or, or_false, reduceCtorEq, exists_false,
      Option.some.injEq, Option.ite_none_right_eq_some, Option.ite_none_left_eq_some, and_assoc, exists_and_left, exists_eq_left',
      true_and] at hs'
  -- In every case left `hs'` now reads: the condition under which `stepS` allows the action, if it has one, ∧ `SimS h r` of
  -- the abstract state `stepS` answers (`exitDec`: `¬ d = 0 ∧ SimS h r { … d := d - 1 … }`); for `acq` / `rel` still the
  -- disjunction, both sides giving `SimS h r (absS h l)`.
  case acq lk =>
    rw [exec_acq] at he
    split at he
    · cases he
      exact ⟨⟨hsh.hooks, hsh.shape, hsh.rend⟩, hs'.elim (·.2) id, hgood, rfl, .inl rfl⟩
    · nomatch he
  all_goals dsimp only [exec] at he
  case rel lk =>
    split at he <;> cases he <;> exact ⟨⟨hsh.hooks, hsh.shape, hsh.rend⟩, hs'.elim (·.2) id, hgood, rfl, .inl rfl⟩
  case recAppend =>
    cases he
    exact ⟨⟨hsh.hooks, hsh.shape, hsh.rend⟩, hs', hgood, rfl, .inl rfl⟩
  case enter =>
    cases he
    exact ⟨hsh, hs', hgood, rfl, .inl rfl⟩
  case exitDec =>
    rw [if_neg (show ¬ l.depth = 0 from hs'.1)] at he
    cases he
    exact ⟨hsh, hs'.2, hgood, rfl, .inl rfl⟩
  case readHooks =>
    cases he
    refine ⟨hsh, ?_, hgood, rfl, .inl rfl⟩
    have : decide (0 < sh.hooks) = true := by simpa using hsh.hooks
    simpa only [absS, this] using hs'
  case readRenderable =>
    cases he
    refine ⟨hsh, ?_, hgood, rfl, .inl rfl⟩
    have : decide (sh.renderable.length = h) = true := by simpa using hsh.rend
    simpa only [absS, this] using hs'
  case hookPos =>
    cases he
    obtain ⟨k1, k2⟩ := push (.pos sh.shape) hsh.shape hs'
    exact ⟨hsh, k1, k2, rfl, .inl rfl⟩
  case pushUser ls =>
    cases he
    obtain ⟨k1, k2⟩ := push (.user ls) trivial hs'
    exact ⟨hsh, k1, k2, rfl, .inl rfl⟩
  case pushCtl o c =>
    cases he
    obtain ⟨k1, k2⟩ := push (.ctl o c) trivial (by simpa only [Body.kind, hs'.1, if_true] using hs'.2)
    exact ⟨hsh, k1, k2, rfl, .inl rfl⟩
  case renderFrame =>
    simp only [hkind] at he
    cases he
    have hlen : (liveFrame cw1 cfg.width cfg.height sh.overflow l.rcopy).length = h := by
      have hrc : l.rcopy.length = h := by simpa [absS] using hs'.1
      rw [Live.liveFrame_length _ _ _ _ _ (hrc ▸ hfit)]; exact hrc
    obtain ⟨k1, k2⟩ := push (.frame (liveFrame cw1 cfg.width cfg.height sh.overflow l.rcopy)) hlen hs'.2
    exact ⟨⟨hsh.hooks, ⟨Live.maxWidth cw1 (liveFrame cw1 cfg.width cfg.height sh.overflow l.rcopy), by simp only [getShape, hlen]⟩, hsh.rend⟩,
      k1, k2, rfl, .inl rfl⟩
  case write =>
    cases he
    refine ⟨⟨hsh.hooks, hsh.shape, hsh.rend⟩, hs'.2, nofun, rfl, ?_⟩
    by_cases hany : l.buffer.any nonEmpty = true
    · exact .inr ⟨⟨t, l.nops - 1, l.buffer⟩, by simp only [hany, if_true], goodWrite_of_kinds hs'.1 hgood⟩
    · exact .inl (if_neg hany)
  case setRenderable f =>
    cases he
    exact ⟨⟨hsh.hooks, hsh.shape, hs'.1⟩, hs'.2, hgood, rfl, .inl rfl⟩

theorem stb_step {cfg : Cfg} (hkind : cfg.kind = .live) {h : Nat} (hfit : h ≤ cfg.height) {file0 : List Write}
    {s s' : State} {t : Nat} (st : Stb h file0 s) (hstep : stepT cfg s t = some s') : Stb h file0 s' := by
  obtain ⟨sh', l', rfl, how⟩ := stepT_some hstep
  have ht := st.th t
  have hsim := ht.sim
  have others : ThS h l' → ∀ u, ThS h (upd s.th t l' u) := fun hl u => by
    by_cases hu : u = t
    · subst hu; rw [upd_same]; exact hl
    · rw [upd_other _ _ hu]; exact st.th u
  cases how with
  | load op rest hc hp =>
    simp only [hc, SimS, absS, Bool.and_eq_true, List.isEmpty_iff, beq_iff_eq] at hsim
    refine ⟨st.sh, others ⟨?_, ht.good, fun o ho => ht.prog o (hp ▸ List.mem_cons_of_mem _ ho)⟩, st.file⟩
    simp only [absS, hsim.1, hsim.2]
    exact codeS_ok cfg hkind h op (ht.prog op (hp ▸ List.mem_cons_self)) _ _
  | skip g act r hc hg =>
    refine ⟨st.sh, others ⟨?_, ht.good, ht.prog⟩, st.file⟩
    rw [hc, simS_cons (cfg := cfg), hg, if_neg Bool.false_ne_true] at hsim
    split at hsim
    · exact (Bool.and_eq_true _ _ ▸ hsim).2
    · exact hsim
  | exec g act r hc hg he =>
    rw [hc] at hsim
    obtain ⟨k1, k2, k3, k4, k5⟩ := execS hkind hfit st.sh hsim ht.good hg he
    refine ⟨k1, others ⟨k2, k3, k4 ▸ ht.prog⟩, ?_⟩
    obtain ⟨ws, hf, hgw⟩ := st.file
    rcases k5 with k5 | ⟨w, k5, hw⟩
    · exact ⟨ws, k5.trans hf, hgw⟩
    · exact ⟨ws ++ [w], by simp only [k5, hf, List.append_assoc],
        List.forall_mem_append.mpr ⟨hgw, List.forall_mem_singleton.mpr hw⟩⟩

theorem stb_init {h : Nat} {sh : Shared} (hsh : ShS h sh) {progs : List (List Op)}
    (hops : ∀ t, ∀ op ∈ progs.getD t [], StableOp h op = true) : Stb h sh.file (initState sh progs) := by
  refine ⟨hsh, fun t => ⟨?_, ?_, hops t⟩, ⟨[], by simp [initState], by simp⟩⟩
  · simp [initState, SimS, absS, kinds]
  · intro x hx; simp [initState] at hx

theorem stb_run {cfg : Cfg} (hkind : cfg.kind = .live) {h : Nat} (hfit : h ≤ cfg.height) {file0 : List Write}
    (sched : List Nat) : ∀ {s : State}, Stb h file0 s → Stb h file0 (run cfg s sched) :=
  run_induction (P := Stb h file0) (stb_step hkind hfit) sched

end RichModel.Conc
