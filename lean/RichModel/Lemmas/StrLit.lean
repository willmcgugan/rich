/-! `"…".toList` for a string literal, without running the UTF-8 decoder. -/
namespace RichModel

/-- `h` is closed by `rfl`: a literal is `String.ofList` of its characters by the literal-to-constructor rule, so neither
the elaborator nor the kernel decodes the bytes (slow: thousands of reduction steps per character).  Rewrite test
vectors with `simp only [toList_lit rfl]` before evaluating them. -/
theorem toList_lit {s : String} {l : List Char} (h : s = String.ofList l) : s.toList = l :=
  h ▸ String.toList_ofList

end RichModel
