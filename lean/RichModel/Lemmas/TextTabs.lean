import RichModel.Lemmas.TextSplit
import RichModel.Lemmas.TextDetab
/-!
`expand_tabs` at full strength: every tab becomes 1 … `tab_size` blanks up to the next multiple of the tab
size (columns counted from the last newline), the first blank in the tab's style, the others in the base
style; every other character stays, in order, with its effective style (under one more application of the
base style, because the text is rebuilt with `append`).
-/
namespace RichModel
namespace Text
variable {σ : Type}

/-- a piece that ends with its only separator -/
def EndsWithOnly (d : Char) (p : List Char) : Prop := ∃ w, p = w ++ [d] ∧ d ∉ w

/-- every piece but the last ends with its only separator; the last one does too, or has none -/
def Shape (d : Char) : List (List Char) → Prop
  | [] => True
  | p :: ps => (EndsWithOnly d p ∨ ps = [] ∧ d ∉ p) ∧ Shape d ps

theorem shape_append (d : Char) : ∀ (init rest : List (List Char)), (∀ p ∈ init, EndsWithOnly d p) → Shape d rest →
    Shape d (init ++ rest)
  | [], _, _, hr => hr
  | p :: ps, rest, h, hr =>
    ⟨.inl (h p (by simp)), shape_append d ps rest (fun x hx => h x (List.mem_cons_of_mem _ hx)) hr⟩

/-- cut after every occurrence of `d`: every piece but the last ends with its only `d`, the last has none -/
theorem strongMs_char_pieces (d : Char) (s : List Char) : ∀ (ms : List (Nat × Nat)) (start : Nat), StrongMs [d] s start ms →
    ∃ init, piecesFrom start (ms.map (·.2)) s = init ++ [s.drop (lastEnd start ms)] ∧
      (∀ p ∈ init, EndsWithOnly d p) ∧ d ∉ s.drop (lastEnd start ms)
  | [], start, h => by
    refine ⟨[], rfl, by simp, ?_⟩
    have := noOcc_char d s start s.length (h s.length)
    rwa [List.take_of_length_le (by simp)] at this
  | m :: rest, start, ⟨h1, h2, h3, h4, h5, h6⟩ => by
    obtain ⟨init, e, hc, hl⟩ := strongMs_char_pieces d s rest m.2 h6
    refine ⟨((s.drop start).take (m.1 - start) ++ [d]) :: init, ?_, ?_, hl⟩
    · simp only [List.map_cons, piecesFrom, lastEnd, e, List.cons_append, List.cons.injEq, and_true]
      have h2' : m.2 - start = (m.1 - start) + 1 := by simp only [List.length_singleton] at h2; omega
      rw [h2', List.take_add, List.drop_drop, Nat.add_sub_cancel' h1]
      exact congrArg _ h5
    · intro p hp
      rcases List.mem_cons.1 hp with rfl | hp
      · exact ⟨_, rfl, noOcc_char d s start m.1 h4⟩
      · exact hc p hp

/-- `text.split(d, include_separator=True)` at one character (the last-line rule as found: a character cannot overlap
itself): consistent parts under the same base style that concatenate to the text, every part but the last ending with
its only `d` -/
theorem split_char_shape [BEq σ] (d : Char) (t : Text σ) (h : Inv t) :
    ∃ parts, t.split Variant.repaired [d] true = .ok parts ∧
      parts.flatMap Text.view = t.view ∧ (∀ l ∈ parts, Inv l ∧ l.style = t.style) ∧
      Shape d (parts.map (·.plain)) := by
  obtain ⟨parts, e, hv, hpl, hall⟩ := split_view_all t [d] true false h (by simp)
  rw [← splitW_released_eq t [d] true false h (unbordered_singleton d)] at e
  have hms := findAll_strong [d] t.plain (by simp)
  obtain ⟨init, hp, hcl, hlast⟩ := strongMs_char_pieces d t.plain _ 0 hms
  refine ⟨parts, e, ?_, hall, ?_⟩
  · rw [List.flatMap_def, hv]
    split
    · simp
    · rw [if_pos rfl, dropBlank_flatten]
      exact pieces_flatten _ _ (ascFrom_ends _ 0 hms.asc.1)
  · rw [hpl]
    by_cases hemp : (findAll [d] t.plain).isEmpty = true
    · rw [if_pos hemp]
      rw [List.isEmpty_iff.1 hemp] at hlast
      exact ⟨.inr ⟨rfl, hlast⟩, trivial⟩
    · rw [if_neg hemp, if_pos rfl, pieces, hp, dropBlank_concat]
      split
      · exact List.append_nil init ▸ shape_append d init [] hcl trivial
      · exact shape_append d init _ hcl ⟨.inr ⟨rfl, hlast⟩, trivial⟩

/-- column after the styled characters `v`, starting in column `col` (a newline resets it, a tab moves to the
next multiple of `ts`) -/
def colAfter {β : Type} (ts : Nat) : List (Char × β) → Nat → Nat
  | [], col => col
  | (c, _) :: rest, col =>
    if c = '\t' then colAfter ts rest (col + (ts - col % ts))
    else colAfter ts rest (if c = '\n' then 0 else col + 1)

/-- **Reference semantics of `expand_tabs(ts)`** on a styled string under base style `b`: a tab in column `col`
becomes `ts - col % ts` blanks (1 … `ts`, up to the next multiple of `ts`) — the first with the tab's style, the
others in the bare base style (applied twice: once as the text's base, once by the `append`) —, every other
character stays with its style under one more application of the base style. -/
def expRef (ts : Nat) (b : σ) : List (Char × List σ) → Nat → List (Char × List σ)
  | [], _ => []
  | (c, ids) :: rest, col =>
    if c = '\t' then
      (' ', b :: ids) :: (List.replicate (ts - col % ts - 1) (' ', [b, b]) ++ expRef ts b rest (col + (ts - col % ts)))
    else (c, b :: ids) :: expRef ts b rest (if c = '\n' then 0 else col + 1)

theorem expRef_append (ts : Nat) (b : σ) : ∀ (a r : List (Char × List σ)) (col : Nat),
    expRef ts b (a ++ r) col = expRef ts b a col ++ expRef ts b r (colAfter ts a col)
  | [], r, col => rfl
  | (c, ids) :: a, r, col => by
    simp only [List.cons_append, expRef, colAfter]
    split
    · rw [expRef_append ts b a r]; simp
    · rw [expRef_append ts b a r]; simp

theorem colAfter_append {β : Type} (ts : Nat) : ∀ (a r : List (Char × β)) (col : Nat),
    colAfter ts (a ++ r) col = colAfter ts r (colAfter ts a col)
  | [], r, col => rfl
  | (c, x) :: a, r, col => by
    simp only [List.cons_append, colAfter]
    split <;> rw [colAfter_append ts a r]

theorem expRef_notab (ts : Nat) (b : σ) : ∀ (a : List (Char × List σ)) (col : Nat), (∀ p ∈ a, p.1 ≠ '\t') →
    expRef ts b a col = a.map (fun p => (p.1, b :: p.2))
  | [], _, _ => rfl
  | (c, ids) :: a, col, h => by
    have hc : c ≠ '\t' := h (c, ids) (by simp)
    simp only [expRef, hc, if_false, List.map_cons]
    rw [expRef_notab ts b a _ (fun p hp => h p (List.mem_cons_of_mem _ hp))]

theorem expRef_mem (ts : Nat) (b : σ) : ∀ (v : List (Char × List σ)) (col : Nat) (p : Char × List σ),
    p ∈ expRef ts b v col → p.1 = ' ' ∨ (p.1 ≠ '\t' ∧ ∃ q ∈ v, q.1 = p.1)
  | [], _, p, h => by simp [expRef] at h
  | (c, ids) :: rest, col, p, h => by
    have tail : ∀ col', p ∈ expRef ts b rest col' → p.1 = ' ' ∨ (p.1 ≠ '\t' ∧ ∃ q ∈ (c, ids) :: rest, q.1 = p.1) :=
      fun col' h => (expRef_mem ts b rest col' p h).imp_right fun ⟨h1, q, hq, hq1⟩ => ⟨h1, q, List.mem_cons_of_mem _ hq, hq1⟩
    simp only [expRef] at h
    split at h
    · simp only [List.mem_cons, List.mem_append, List.mem_replicate] at h
      rcases h with h | h | h
      · left; rw [h]
      · left; rw [h.2]
      · exact tail _ h
    · rename_i hc
      rcases List.mem_cons.1 h with h | h
      · right; rw [h]; exact ⟨hc, (c, ids), by simp, rfl⟩
      · exact tail _ h

theorem colAfter_plain {β : Type} (ts : Nat) : ∀ (a : List (Char × β)) (col : Nat),
    (∀ p ∈ a, p.1 ≠ '\t' ∧ p.1 ≠ '\n') → colAfter ts a col = col + a.length
  | [], _, _ => rfl
  | (c, x) :: a, col, h => by
    obtain ⟨h1, h2⟩ := h (c, x) (by simp)
    simp only [colAfter, h1, h2, if_false, List.length_cons]
    rw [colAfter_plain ts a _ (fun p hp => h p (List.mem_cons_of_mem _ hp))]
    omega

theorem next_tab_stop (ts col : Nat) (hts : 0 < ts) : (col + (ts - col % ts)) % ts = 0 := by
  have h1 := Nat.div_add_mod col ts
  have h2 := Nat.mod_lt col hts
  have : col + (ts - col % ts) = ts * (col / ts + 1) := by
    rw [Nat.mul_add, Nat.mul_one]; omega
  rw [this, Nat.mul_mod_right]

/-- a stretch without tab and newline, then a tab: the stretch under one more base style, then the tab's blanks up to
the next tab stop -/
theorem expRef_then_tab (ts : Nat) (b : σ) (a : List (Char × List σ)) (ids : List σ) (col : Nat)
    (ha : ∀ p ∈ a, p.1 ≠ '\t' ∧ p.1 ≠ '\n') :
    expRef ts b (a ++ [('\t', ids)]) col =
      a.map (fun p => (p.1, b :: p.2)) ++
        ((' ', b :: ids) :: List.replicate (ts - (col + a.length) % ts - 1) (' ', [b, b])) := by
  rw [expRef_append, expRef_notab ts b _ _ (fun p hp => (ha p hp).1), colAfter_plain ts _ _ ha]
  simp [expRef]

/-- …and the column after it is a tab stop -/
theorem colAfter_then_tab {β : Type} (ts : Nat) (hts : 0 < ts) (a : List (Char × β)) (x : β) (col : Nat)
    (ha : ∀ p ∈ a, p.1 ≠ '\t' ∧ p.1 ≠ '\n') : colAfter ts (a ++ [('\t', x)]) col % ts = 0 := by
  rw [colAfter_append, colAfter_plain ts _ _ ha]
  simp only [colAfter, if_true]
  exact next_tab_stop ts _ hts

/-- the arithmetic of one tab: after `n` characters and the tab, starting at a multiple `ts * q` of the tab size,
`expand_tabs` adds `ts - n % ts - 1` further blanks and ends at a multiple of the tab size again -/
theorem tab_fill (ts : Nat) (hts : 0 < ts) (q : Int) (n : Nat) :
    (ts : Int) - ((ts : Int) * q + ((n : Int) + 1) - 1) % (ts : Int) - 1 = ((ts - n % ts - 1 : Nat) : Int) ∧
    (ts : Int) * q + ((n : Int) + 1) + ((ts - n % ts - 1 : Nat) : Int) = (ts : Int) * (q + 1 + ((n / ts : Nat) : Int)) := by
  have hlt := Nat.mod_lt n hts
  have hdm : ((n : Nat) : Int) = (ts : Int) * ((n / ts : Nat) : Int) + ((n % ts : Nat) : Int) := by
    exact_mod_cast (Nat.div_add_mod n ts).symm
  have e1 : (ts : Int) * q + ((n : Int) + 1) - 1 = (n : Int) + (ts : Int) * q := by omega
  rw [e1, Int.add_mul_emod_self_left, ← Int.natCast_emod, Int.mul_add, Int.mul_add, Int.mul_one]
  omega

/-- a part `w ++ "\t"` (no other tab, no newline) appended in column `col`, with `pos` and `col` multiples of the tab size -/
theorem expandPart_tab (ts : Nat) (hts : 0 < ts) (base : σ) (result : Text σ) (rv : List (Char × List σ)) (pos : Int)
    (col : Nat) (part : Text σ) (w : List Char) (h : Shows result base rv) (hp : Inv part)
    (hw : part.plain = w ++ ['\t']) (hwt : '\t' ∉ w) (hwn : '\n' ∉ w)
    (hpos : ∃ q : Int, pos = (ts : Int) * q) (hcol : col % ts = 0) :
    Shows (expandPart ts base (result, pos) part).1 base (rv ++ expRef ts base part.view col) ∧
    (∃ q : Int, (expandPart ts base (result, pos) part).2 = (ts : Int) * q) ∧
    colAfter ts part.view col % ts = 0 := by
  have hsuf : ['\t'].isSuffixOf part.plain = true := by
    rw [List.isSuffixOf_iff_suffix, hw]; exact List.suffix_append _ _
  have hd := Wrap.detab_spec part hp hsuf
  have hpv : part.view = annot w part.effStyle 0 ++ [('\t', part.effStyle w.length)] := by
    rw [view_eq_annot, hw, annot_snoc]
  have hdv : (Wrap.detab part).view = annot w part.effStyle 0 ++ [(' ', part.effStyle w.length)] := by
    have hpl : (Wrap.detab part).plain = w ++ [' '] := by simp [Wrap.detab, hw]
    have he : (Wrap.detab part).effStyle = part.effStyle := rfl
    rw [view_eq_annot, hpl, he, annot_snoc]
  have hvw : ∀ p ∈ annot w part.effStyle 0, p.1 ≠ '\t' ∧ p.1 ≠ '\n' := by
    intro p hp'
    have := annot_mem_fst w _ _ p hp'
    exact ⟨fun e => hwt (e ▸ this), fun e => hwn (e ▸ this)⟩
  have href := expRef_then_tab ts base _ (part.effStyle w.length) col hvw
  rw [annot_length, ← hpv] at href
  have hcolA : colAfter ts part.view col % ts = 0 := hpv ▸ colAfter_then_tab ts hts _ _ col hvw
  obtain ⟨q, rfl⟩ := hpos
  have hmod : (col + w.length) % ts = w.length % ts := by
    rw [Nat.add_mod, hcol, Nat.zero_add, Nat.mod_mod]
  rw [hmod] at href
  have hplen : part.length = (w.length : Int) + 1 := by
    rw [hp.1, hw, List.length_append]; rfl
  obtain ⟨hsp, hnext⟩ := tab_fill ts hts q w.length
  have h1 := h.appendT (Inv.shows hd)
  rw [hdv, List.map_append, ← List.append_assoc] at h1
  unfold expandPart
  simp only [hsuf, if_true]
  have hdet : ({ part with plain := part.plain.dropLast ++ [' '] } : Text σ) = Wrap.detab part := rfl
  rw [hdet, hplen, hsp]
  generalize ts - w.length % ts - 1 = k at href hnext ⊢
  by_cases hk0 : ((k : Int) != 0) = true
  · simp only [hk0, if_true, Int.toNat_natCast]
    refine ⟨?_, ⟨_, hnext⟩, hcolA⟩
    have h2 := h1.appendStr (List.replicate k ' ') (some base)
    rw [stripControl_id _ (NoCtl.replicate k ' ' noCtl_space)] at h2
    rw [href]
    simpa [List.map_replicate] using h2
  · have hkz : k = 0 := by simpa using hk0
    subst hkz
    simp only [hk0, Bool.false_eq_true, if_false]
    refine ⟨?_, ⟨_, by rw [← hnext]; simp⟩, hcolA⟩
    rw [href]
    simpa using h1

theorem expandPart_tail (ts : Nat) (base : σ) (result : Text σ) (rv : List (Char × List σ)) (pos : Int) (col : Nat)
    (part : Text σ) (h : Shows result base rv) (hp : Inv part) (hnt : '\t' ∉ part.plain) :
    Shows (expandPart ts base (result, pos) part).1 base (rv ++ expRef ts base part.view col) ∧
    (expandPart ts base (result, pos) part).2 = pos := by
  have hsuf : ['\t'].isSuffixOf part.plain = false := by
    apply Bool.eq_false_iff.2
    intro hs
    obtain ⟨s, hs⟩ := List.isSuffixOf_iff_suffix.mp hs
    exact hnt (by rw [← hs]; simp)
  unfold expandPart
  simp only [hsuf, Bool.false_eq_true, if_false]
  refine ⟨?_, trivial⟩
  rw [expRef_notab]
  · exact h.appendT (Inv.shows hp)
  intro p hp' e
  rw [view_eq_annot] at hp'
  exact hnt (e ▸ annot_mem_fst _ _ _ p hp')

/-- the inner loop over the parts of one line appends `expRef` of the parts' views from column `col`, and leaves `pos` a
multiple of the tab size -/
theorem expandParts_full (ts : Nat) (hts : 0 < ts) (base : σ) (parts : List (Text σ)) (result : Text σ)
    (rv : List (Char × List σ)) (pos : Int) (col : Nat) (h : Shows result base rv) (hp : ∀ l ∈ parts, Inv l)
    (hsh : Shape '\t' (parts.map (·.plain))) (hnl : ∀ p ∈ parts, ∀ w, p.plain = w ++ ['\t'] → '\n' ∉ w)
    (hpos : ∃ q : Int, pos = (ts : Int) * q) (hcol : col % ts = 0) :
    Shows (parts.foldl (expandPart ts base) (result, pos)).1 base (rv ++ expRef ts base (parts.flatMap Text.view) col) ∧
      ∃ q : Int, (parts.foldl (expandPart ts base) (result, pos)).2 = (ts : Int) * q := by
  induction parts generalizing result rv pos col with
  | nil => simpa [expRef] using And.intro h hpos
  | cons part ps ih =>
    simp only [List.foldl_cons, List.flatMap_cons]
    have hpart := hp part (by simp)
    rcases hsh.1 with ⟨w, (hw : part.plain = w ++ ['\t']), hwt⟩ | ⟨hnil, hnt⟩
    · obtain ⟨a1, a4, a5⟩ :=
        expandPart_tab ts hts base result rv pos col part w h hpart hw hwt (hnl part List.mem_cons_self w hw) hpos hcol
      have := ih _ _ _ (colAfter ts part.view col) a1 (fun l hl => hp l (List.mem_cons_of_mem _ hl)) hsh.2
        (fun p hp => hnl p (List.mem_cons_of_mem _ hp)) a4 a5
      rwa [expRef_append, ← List.append_assoc]
    · cases List.map_eq_nil_iff.mp hnil
      obtain ⟨a1, a4⟩ := expandPart_tail ts base result rv pos col part h hpart hnt
      simp only [List.foldl_nil, List.flatMap_nil, List.append_nil]
      exact ⟨a1, by rw [a4]; exact hpos⟩

theorem colAfter_newline_last {β : Type} (ts : Nat) (a : List (Char × β)) (x : β) (col : Nat) :
    colAfter ts (a ++ [('\n', x)]) col = 0 := by
  rw [colAfter_append]
  simp [colAfter]

/-- the outer loop over the lines succeeds and appends `expRef` of the lines' views from column `col` -/
theorem expandLines_full [BEq σ] (ts : Nat) (hts : 0 < ts) (base : σ) (lines : List (Text σ)) (result : Text σ)
    (rv : List (Char × List σ)) (pos : Int) (col : Nat) (h : Shows result base rv) (hl : ∀ l ∈ lines, Inv l)
    (hsh : Shape '\n' (lines.map (·.plain))) (hpos : ∃ q : Int, pos = (ts : Int) * q) (hcol : col % ts = 0) :
    ∃ r, lines.foldlM (fun (acc : Text σ × Int) line => do
        let parts ← line.split Variant.repaired ['\t'] true
        pure (parts.foldl (expandPart ts base) acc)) (result, pos) = Except.ok r ∧
      Shows r.1 base (rv ++ expRef ts base (lines.flatMap Text.view) col) := by
  induction lines generalizing result rv pos col with
  | nil => exact ⟨(result, pos), rfl, by simpa [expRef] using h⟩
  | cons line ls ih =>
    have hline := hl line (by simp)
    obtain ⟨parts, hsp, hflat, hall, hshape⟩ := split_char_shape '\t' line hline
    -- the line has a newline at most at its very end
    have hlineShape : EndsWithOnly '\n' line.plain ∨ '\n' ∉ line.plain := hsh.1.imp_right (·.2)
    have hplain : (parts.map (·.plain)).flatten = line.plain := by
      rw [flatten_plains, hflat, view_map_fst]
    -- a part `w ++ "\t"` lies in the line with something after `w`, so `w` has none of the line's newlines
    have hnl : ∀ p ∈ parts, ∀ w, p.plain = w ++ ['\t'] → '\n' ∉ w := by
      intro p hp w hw hm
      obtain ⟨P1, P2, rfl⟩ := List.append_of_mem hp
      have hmem : '\n' ∈ line.plain.dropLast := by
        rw [← hplain, List.map_append, List.map_cons, List.flatten_append, List.flatten_cons, hw, List.append_assoc,
          List.dropLast_append_of_ne_nil (by simp), List.dropLast_append_of_ne_nil (by simp)]
        exact List.mem_append_right _ (List.mem_append_left _ hm)
      rcases hlineShape with ⟨u, hu, hun⟩ | hn
      · rw [hu, List.dropLast_concat] at hmem; exact hun hmem
      · exact hn (List.dropLast_subset _ hmem)
    obtain ⟨a1, a4⟩ := expandParts_full ts hts base parts result rv pos col h (fun l hl' => (hall l hl').1)
      hshape hnl hpos hcol
    rw [hflat] at a1
    simp only [List.foldlM_cons, hsp, bind, Except.bind, pure, Except.pure, List.flatMap_cons]
    cases ls with
    | nil => exact ⟨_, rfl, by simpa using a1⟩
    | cons l2 ls2 =>
      obtain ⟨w, (hw : line.plain = w ++ ['\n']), _⟩ := hsh.1.resolve_right fun h => nomatch h.1
      have hcol' : colAfter ts line.view col % ts = 0 := by
        rw [view_eq_annot, hw, annot_snoc, colAfter_newline_last]
        exact Nat.zero_mod _
      obtain ⟨r, hr, b1⟩ := ih _ _ _ (colAfter ts line.view col) a1
        (fun l hl' => hl l (List.mem_cons_of_mem _ hl')) hsh.2 a4 hcol'
      exact ⟨r, hr, by rwa [expRef_append, ← List.append_assoc]⟩

/-- **`expand_tabs` at full strength.**  With effective tab size `ts ≥ 1` (the argument, else the text's own
`tab_size`): no tab → the text is returned untouched; otherwise the call succeeds, the result is consistent, keeps
the base style, and its styled string is `expRef ts base (view t) 0`. -/
theorem expandTabs_view [BEq σ] (t : Text σ) (h : Inv t) (tabSize : Option Nat) (ts : Nat) (hts : 0 < ts)
    (heff : tabSize.orElse (fun _ => t.tabSize) = some ts) :
    ∃ q, t.expandTabs Variant.repaired tabSize = .ok q ∧ Inv q ∧ q.style = t.style ∧
      (t.plain.contains '\t' = false → q = t) ∧
      (t.plain.contains '\t' = true → q.view = expRef ts t.style t.view 0) := by
  unfold expandTabs
  by_cases hc : t.plain.contains '\t' = true
  · simp only [hc, Bool.not_true, Bool.false_eq_true, if_false, heff]
    obtain ⟨n, rfl⟩ : ∃ n, ts = n + 1 := ⟨ts - 1, by omega⟩
    simp only
    obtain ⟨lines, hsplit, hview, hall, hshape⟩ := split_char_shape '\n' t h
    obtain ⟨r, hr, ⟨g1, g2, g3⟩⟩ := expandLines_full (n + 1) hts t.style lines (t.blankCopy Variant.repaired) [] 0 0
      ⟨inv_blankCopy t, rfl, rfl⟩ (fun l hl => (hall l hl).1) hshape ⟨0, by simp⟩ (Nat.zero_mod _)
    rw [hsplit]
    simp only [bind, Except.bind, pure, Except.pure] at hr ⊢
    rw [hr]
    obtain ⟨hl, hcc, hsp⟩ := (inv_iff _).1 g1
    refine ⟨_, rfl, ⟨rfl, hcc, ?_⟩, rfl, fun hf => Bool.noConfusion hf, fun _ => ?_⟩
    · intro sp hsp'
      have := hsp sp hsp'
      simp only []; omega
    · have hv : (view { t with plain := r.1.plain, length := (r.1.plain.length : Int), spans := r.1.spans }) = r.1.view := by
        rw [view_eq_annot, view_eq_annot]
        apply annot_congr
        intro i _ _
        simp only [effStyle, g2]
      rw [hv, g3, hview]; rfl
  · have hf : t.plain.contains '\t' = false := by simpa using hc
    simp only [hf, Bool.not_false, if_true]
    exact ⟨t, rfl, h, rfl, fun _ => rfl, fun ht => by simp at ht⟩

theorem expandTabs_ok [BEq σ] (t q : Text σ) (tabSize : Option Nat) (h : Inv t)
    (hs : t.expandTabs Variant.repaired tabSize = .ok q) : Inv q ∧ q.style = t.style := by
  cases hc : t.plain.contains '\t' with
  | false =>
    unfold expandTabs at hs
    simp only [hc, Bool.not_false, if_true] at hs
    cases hs
    exact ⟨h, rfl⟩
  | true =>
    match hts : tabSize.orElse (fun _ => t.tabSize) with
    | some (n + 1) =>
      have := Except.Returns.of_eq (expandTabs_view t h tabSize (n + 1) (Nat.succ_pos _) hts) hs
      exact ⟨this.1, this.2.1⟩
    | some 0 | none =>
      unfold expandTabs at hs
      simp only [hc, Bool.not_true, Bool.false_eq_true, if_false, hts] at hs
      cases hs

theorem expandTabs_fields [BEq σ] (t q : Text σ) (v : Variant) (h : t.expandTabs v none = .ok q) :
    q.endStr = t.endStr ∧ q.overflow = t.overflow := by
  unfold expandTabs at h
  split at h
  · cases h; exact ⟨rfl, rfl⟩
  · simp only [Option.orElse] at h
    split at h
    · cases h
    · cases h
    · obtain ⟨a, _, h⟩ := bind_ok.mp h
      obtain ⟨r, _, h⟩ := bind_ok.mp h
      cases h
      exact ⟨rfl, rfl⟩

end Text
end RichModel
