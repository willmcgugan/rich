/-!
"Does not raise" for `Except` computations: `x.Returns p` says that `x` is `.ok a` for some `a` with `p a` — the shape
the specifications of `Text.divide`, `expand_tabs`, `split` (C02/C05) have, which is why it is an abbreviation.  It is
closed under `.ok` and `>>=`, so a model function written as a chain of binds is shown not to raise step by step,
carrying the invariant of the intermediate value along.  `ok_or_error` is the shape of "returns, or raises the one
documented exception".

`x.Post A E` is the shape with an exception branch: `x` returns a value with `A` or raises an exception with `E`
(`Returns` is the case `E = False`).  `forE` is the loop form the encoder models of C03 share (`renderLoop`,
`removeColorLoop`, `applyStyleHeap`): a body run over a list, threading a state, appending what each element writes,
the first exception ending it; `forE_post` is its rule, with an invariant `Q done out s` over what has been consumed,
what has been written and the state, so that a fact about such a loop is a fact about one step.

`inv_of_run`: a property that every step keeps inside its domain is kept by any run that stops at the first error (the
history theorems of C05).  Core Lean only.
-/
namespace Except
variable {ε α β : Type} {x : Except ε α} {p q : α → Prop}

abbrev Returns (x : Except ε α) (p : α → Prop) : Prop := ∃ a, x = .ok a ∧ p a

theorem Returns.ok {a : α} (h : p a) : (Except.ok a : Except ε α).Returns p := ⟨a, rfl, h⟩

theorem Returns.of_ok (h : ∃ a, x = .ok a) : x.Returns fun _ => True :=
  let ⟨a, ha⟩ := h; ⟨a, ha, trivial⟩

/-- what `x` returned has the property -/
theorem Returns.of_eq {a : α} (h : x.Returns p) (hx : x = .ok a) : p a := by
  obtain ⟨b, rfl, hb⟩ := h; cases hx; exact hb

theorem Returns.mono (h : x.Returns p) (hpq : ∀ a, p a → q a) : x.Returns q :=
  let ⟨a, ha, hp⟩ := h; ⟨a, ha, hpq a hp⟩

theorem Returns.bind {f : α → Except ε β} {q : β → Prop} (hx : x.Returns p) (hf : ∀ a, p a → (f a).Returns q) :
    (x >>= f).Returns q := by
  obtain ⟨a, rfl, ha⟩ := hx
  exact hf a ha

/-- the last link of a chain, where only "does not raise" is left to show -/
theorem Returns.bind_ok {f : α → Except ε β} (hx : x.Returns p) (hf : ∀ a, p a → ∃ b, f a = .ok b) :
    ∃ b, x >>= f = .ok b := by
  obtain ⟨a, rfl, ha⟩ := hx
  exact hf a ha

/-- "returns, or raises the one documented exception", from "raises nothing else" -/
theorem ok_or_error {e₀ : ε} (h : ∀ e, x = .error e → e = e₀) : (∃ a, x = .ok a) ∨ x = .error e₀ :=
  match x, h with
  | .ok a, _ => .inl ⟨a, rfl⟩
  | .error e, h => .inr (congrArg Except.error (h e rfl))

/-- `x` returns a value satisfying `A`, or raises an exception satisfying `E`. -/
def Post (x : Except ε α) (A : α → Prop) (E : ε → Prop) : Prop :=
  match x with
  | .ok a => A a
  | .error e => E e

variable {A A' : α → Prop} {B : β → Prop} {E E' : ε → Prop}

theorem Post.of_ok {a : α} (h : x.Post A E) (hx : x = .ok a) : A a := by
  subst hx; exact h

theorem Post.of_error {e : ε} (h : x.Post A E) (hx : x = .error e) : E e := by
  subst hx; exact h

theorem Post.returns (h : x.Post A fun _ => False) : x.Returns A := by
  cases x with
  | ok a => exact ⟨a, rfl, h⟩
  | error e => exact h.elim

theorem Returns.post {p : α → Prop} (h : x.Returns p) : x.Post p E := by
  obtain ⟨a, rfl, h⟩ := h; exact h

/-- "if it returns": nothing is asked of an exception -/
theorem Post.of_forall (h : ∀ a, x = .ok a → A a) : x.Post A fun _ => True := by
  cases x with
  | ok a => exact h a rfl
  | error e => trivial

theorem Post.imp (h : x.Post A E) (hA : ∀ a, A a → A' a) (hE : ∀ e, E e → E' e) : x.Post A' E' := by
  cases x with
  | ok a => exact hA a h
  | error e => exact hE e h

theorem Post.bind {f : α → Except ε β} (hx : x.Post A E) (hf : ∀ a, A a → (f a).Post B E) : (x.bind f).Post B E := by
  cases x with
  | ok a => exact hf a hx
  | error e => exact hx

theorem Post.map {f : α → β} (h : x.Post (fun a => B (f a)) E) : (x.map f).Post B E := by
  cases x <;> exact h

end Except

namespace RichModel

/-- `for a in l: bs, s = step(s, a); out.extend(bs)`. -/
def forE {σ α β ε : Type} (step : σ → α → Except ε (List β × σ)) : σ → List α → Except ε (List β × σ)
  | s, [] => .ok ([], s)
  | s, a :: l => (step s a).bind fun r => (forE step r.2 l).bind fun q => .ok (r.1 ++ q.1, q.2)

variable {σ α β ε : Type} (step : σ → α → Except ε (List β × σ))

theorem forE_post_from (Q : List α → List β → σ → Prop) (E : ε → Prop) (l : List α)
    (hstep : ∀ a ∈ l, ∀ done out s, Q done out s → (step s a).Post (fun r => Q (done ++ [a]) (out ++ r.1) r.2) E) :
    ∀ done out s, Q done out s → (forE step s l).Post (fun r => Q (done ++ l) (out ++ r.1) r.2) E := by
  induction l with
  | nil => intro done out s hQ; simpa [forE, Except.Post] using hQ
  | cons a l ih =>
    intro done out s hQ
    refine (hstep a (by simp) done out s hQ).bind fun r hr => ?_
    refine (ih (fun x hx => hstep x (by simp [hx])) _ _ _ hr).bind fun q hq => ?_
    simpa [Except.Post] using hq

/-- The loop rule.  `Q done out s`: the elements consumed so far, what has been written for them, the state reached;
`E`: what holds of an exception.  Each step takes `Q` one element further, or raises within `E`. -/
theorem forE_post (Q : List α → List β → σ → Prop) (E : ε → Prop) (l : List α)
    (hstep : ∀ a ∈ l, ∀ done out s, Q done out s → (step s a).Post (fun r => Q (done ++ [a]) (out ++ r.1) r.2) E)
    (s : σ) (h0 : Q [] [] s) : (forE step s l).Post (fun r => Q l r.1 r.2) E := by
  simpa using forE_post_from step Q E l hstep [] [] s h0

/-- Elements whose step writes nothing and keeps the state can be left out. -/
theorem forE_filter (p : α → Bool) (l : List α) (h : ∀ a ∈ l, p a = false → ∀ s, step s a = .ok ([], s)) :
    ∀ s, forE step s (l.filter p) = forE step s l := by
  induction l with
  | nil => intro s; rfl
  | cons a l ih =>
    intro s
    have ih' := ih fun x hx => h x (by simp [hx])
    cases hp : p a with
    | true => rw [List.filter_cons_of_pos hp, forE, forE]; simp only [ih']
    | false =>
      rw [List.filter_cons_of_neg (by simp [hp]), forE, h a (by simp) hp s, ih']
      dsimp only [Except.bind]
      cases forE step s l <;> rfl

/-- A property that every step keeps inside its domain is kept by a run that stops at the first error.  `run` and `Hist`
are any functions with the three defining equations of such a run and of "every operation is inside its domain when it is
applied". -/
theorem inv_of_run {α β ε : Type} {step : α → β → Except ε α} {run : α → List β → Except ε α}
    {Pre : α → β → Prop} {Hist : α → List β → Prop} {I : α → Prop}
    (run_nil : ∀ a, run a [] = .ok a)
    (run_ok : ∀ a op rest a1, step a op = .ok a1 → run a (op :: rest) = run a1 rest)
    (run_error : ∀ a op rest e, step a op = .error e → run a (op :: rest) = .error e)
    (hist_cons : ∀ a op rest, Hist a (op :: rest) → Pre a op ∧ ∀ a', step a op = .ok a' → Hist a' rest)
    (hstep : ∀ a a' op, I a → Pre a op → step a op = .ok a' → I a')
    (ops : List β) (a a' : α) (h : I a) (hp : Hist a ops) (hr : run a ops = .ok a') : I a' := by
  induction ops generalizing a with
  | nil => rw [run_nil] at hr; cases hr; exact h
  | cons op rest ih =>
    cases hs : step a op with
    | error e => rw [run_error a op rest e hs] at hr; cases hr
    | ok a1 =>
      rw [run_ok a op rest a1 hs] at hr
      exact ih a1 (hstep a a1 op h (hist_cons a op rest hp).1 hs) ((hist_cons a op rest hp).2 a1 hs) hr

/-- reads an `.ok` result off the `Option` view, where equality is decidable -/
theorem eq_ok_of_toOption {ε α : Type} {x : Except ε α} {a : α} (h : x.toOption = some a) : x = .ok a := by
  cases x <;> simp_all [Except.toOption]

/-- a bind returns exactly when both steps do -/
theorem bind_ok {ε α β : Type} {x : Except ε α} {f : α → Except ε β} {b : β} :
    (x >>= f) = .ok b ↔ ∃ a, x = .ok a ∧ f a = .ok b := by
  cases x with
  | error e => simp [bind, Except.bind]
  | ok a => simp [bind, Except.bind]

end RichModel
