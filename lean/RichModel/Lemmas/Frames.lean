import RichModel.Model.FramesStyled
import RichModel.Lemmas.Cells
import RichModel.Lemmas.Segment
/-!
Helper lemmas for `Model/Frames`: the pieces of a frame's output as whole lines (`Emits` of `Lemmas/Segment.lean`),
newline-freeness of shaped lines, cell arithmetic of the pieces.
-/
namespace RichModel.Frames
open RichModel
variable {σ : Type}

theorem ite_ind {α : Type} (P : α → Prop) {p : Prop} [Decidable p] {a b : α} (ha : P a) (hb : P b) :
    P (if p then a else b) := by
  split <;> assumption

@[simp] theorem lineLength_segS (cw : Char → Nat) (st : Option σ) (t : List Char) :
    lineLength cw ([segS st t] : List (Segment σ)) = cellLen cw t := by
  simp [lineLength, segS, Segment.cellLength]

@[simp] theorem lineLength_seg (cw : Char → Nat) (t : List Char) :
    lineLength cw ([seg t] : List (Segment σ)) = cellLen cw t :=
  lineLength_segS cw none t

theorem cellLen_rep (cw : Char → Nat) (n : Int) (c : Char) (h : cw c = 1) : cellLen cw (rep n c) = n.toNat := by
  simp [rep, cellLen_replicate, h]

@[simp] theorem rep_length (n : Int) (c : Char) : (rep n c).length = n.toNat := by simp [rep]

@[simp] theorem cellLen_nil (cw : Char → Nat) : cellLen cw [] = 0 := RichModel.cellLen_nil cw

theorem nlFree_segS (st : Option σ) (t : List Char) (h : ∀ c ∈ t, c ≠ '\n') : NlFree ([segS st t] : List (Segment σ)) := by
  intro s hs
  rw [List.mem_singleton.mp hs]
  exact (nlFree_seg_iff rfl).mpr h

theorem nlFree_seg (t : List Char) (h : ∀ c ∈ t, c ≠ '\n') : NlFree ([seg t] : List (Segment σ)) :=
  nlFree_segS none t h

theorem nlFree_seg_rep (n : Int) (c : Char) (h : c ≠ '\n') : NlFree ([seg (rep n c)] : List (Segment σ)) := by
  apply nlFree_seg
  intro d hd
  simp only [rep, List.mem_replicate] at hd
  rw [hd.2]; exact h

theorem _root_.RichModel.Emits.line {l : List (Segment σ)} (h : NlFree l) : Emits (l ++ [nl]) [l] := by
  intro acc
  rw [List.foldl_append, foldl_step_nlFree l [] acc h]
  exact splitLinesStep_text_nl none [] (fun _ hc => nomatch hc) l acc

/-- the blank line of `Padding` -/
theorem _root_.RichModel.Emits.textNl (st : Option σ) {t : List Char} (h : ∀ c ∈ t, c ≠ '\n') :
    Emits ([segS st (t ++ ['\n'])] : List (Segment σ)) [if t.isEmpty then [] else [segS st t]] := by
  intro acc
  rw [List.foldl_cons, List.foldl_nil]
  exact (splitLinesStep_text_nl st t h [] acc).trans (by split <;> rfl)

theorem _root_.RichModel.Emits.lines {α : Type} {xs : List α} {f : α → List (Segment σ)} (h : ∀ x ∈ xs, NlFree (f x)) :
    Emits (xs.flatMap fun x => f x ++ [nl]) (xs.map f) := by
  rw [← List.flatMap_singleton' (l := xs.map f), List.flatMap_map]
  exact Emits.flatMap fun x hx => Emits.line (h x hx)

theorem _root_.RichModel.Emits.lines_id {ls : List (List (Segment σ))} (h : ∀ l ∈ ls, NlFree l) :
    Emits (ls.flatMap fun l => l ++ [nl]) ls := by
  simpa using Emits.lines (f := id) h

theorem splitLines_lines (ls : List (List (Segment σ))) (h : ∀ l ∈ ls, NlFree l) :
    splitLines (ls.flatMap (fun l => l ++ [nl])) = ls :=
  (Emits.lines_id h).splitLines

theorem renderLines_nlFree (cw : Char → Nat)
    (rendered : List (Segment σ)) (w : Int) (pad : Bool) : ∀ l ∈ renderLines cw rendered w pad, NlFree l :=
  splitAndCrop_nlFree cw rendered w.toNat none pad

theorem renderLines_exact (cw : Char → Nat) (hsp : cw ' ' = 1) (h2 : ∀ c, cw c ≤ 2)
    (rendered : List (Segment σ)) (w : Int) : ∀ l ∈ renderLines cw rendered w true, lineLength cw l = w.toNat :=
  splitAndCrop_exact cw hsp h2 rendered w.toNat none

theorem renderLines_le (cw : Char → Nat) (hsp : cw ' ' = 1) (h2 : ∀ c, cw c ≤ 2)
    (rendered : List (Segment σ)) (w : Int) (pad : Bool) : ∀ l ∈ renderLines cw rendered w pad, lineLength cw l ≤ w.toNat :=
  splitAndCrop_le cw hsp h2 rendered w.toNat none pad

end RichModel.Frames
