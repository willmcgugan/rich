/-!
Splitting a list at separators and joining pieces with a separator, once, for any element type.

`split p s` are the pieces of `s` between the elements that satisfy `p` (at least one piece; two separators in a row, or
one at either end, give an empty piece), `join sep M` puts `sep` between the pieces of `M`.  Splitting what was joined
gives separator-free pieces back (`split_join`); splitting commutes with `++` up to gluing the two pieces at the seam
(`split_append`); the pieces are exactly the maximal separator-free stretches (`split_free`, `split_infix`, `free_infix`).
The model's splitters and joiners are these functions: `Syntax.splitNL` / `joinNL` and `Cfg.splitNL` / `Theme.joinNL` at
the newline, `Ansi.splitOn` / `joinWith` and `AnsiTerm.splitSemi` / `joinSemi` at `;`, `Layout.splitOnP` and
`Totality.splitNLPy` in the accumulator spelling (`splitAcc`, `splitAcc_eq`); each region's lemma file has the one-line bridge.
-/
namespace RichModel.Lines
variable {α : Type}

/-- the pieces of a list between the elements satisfying `p` -/
def split (p : α → Bool) : List α → List (List α)
  | [] => [[]]
  | c :: rest =>
    if p c then [] :: split p rest
    else match split p rest with
      | [] => [[c]]            -- unreachable: a split is never empty
      | l :: ls => (c :: l) :: ls

/-- the pieces with `sep` between them -/
def join (sep : α) : List (List α) → List α
  | [] => []
  | [l] => l
  | l :: ls => l ++ sep :: join sep ls

/-- `split` with the piece under construction carried along, reversed -/
def splitAcc (p : α → Bool) : List α → List α → List (List α)
  | [], cur => [cur.reverse]
  | c :: rest, cur => if p c then cur.reverse :: splitAcc p rest [] else splitAcc p rest (c :: cur)

theorem free_iff [BEq α] [LawfulBEq α] {sep : α} {l : List α} : (∀ c ∈ l, (c == sep) = false) ↔ sep ∉ l :=
  ⟨fun h hm => by simpa using h sep hm, fun h c hc => beq_false_of_ne fun e => h (e ▸ hc)⟩

theorem split_ne_nil (p : α → Bool) (s : List α) : split p s ≠ [] := by
  fun_induction split p s <;> simp_all

@[simp] theorem split_nil (p : α → Bool) : split p [] = [[]] := rfl

theorem split_cons_sep {p : α → Bool} {c : α} (hc : p c = true) (s : List α) : split p (c :: s) = [] :: split p s := by
  rw [split, if_pos hc]

theorem split_cons_free {p : α → Bool} {c : α} (hc : p c = false) (s : List α) :
    split p (c :: s) = (split p s).modifyHead (c :: ·) := by
  rw [split, if_neg (by simp [hc])]
  cases h : split p s with
  | nil => exact absurd h (split_ne_nil p s)
  | cons l ls => rfl

theorem split_free (p : α → Bool) (s : List α) : ∀ l ∈ split p s, ∀ c ∈ l, p c = false := by
  fun_induction split p s with
  | case1 => simp
  | case2 c rest hc ih => simpa using ih
  | case3 c rest hc h0 ih => exact absurd h0 (split_ne_nil p rest)
  | case4 c rest hc l ls h0 ih =>
    rw [h0] at ih
    simp only [List.forall_mem_cons] at ih ⊢
    exact ⟨⟨by simpa using hc, ih.1⟩, ih.2⟩

theorem length_split (p : α → Bool) (s : List α) : (split p s).length = s.countP p + 1 := by
  fun_induction split p s <;> simp_all

theorem flatten_split (p : α → Bool) (s : List α) : (split p s).flatten = s.filter (!p ·) := by
  fun_induction split p s <;> simp_all

theorem split_of_free {p : α → Bool} {x : List α} (h : ∀ c ∈ x, p c = false) : split p x = [x] := by
  induction x with
  | nil => rfl
  | cons c x ih =>
    rw [split_cons_free (h c List.mem_cons_self), ih fun d hd => h d (List.mem_cons_of_mem _ hd)]
    rfl

/-- Splitting commutes with `++`, up to gluing the last piece of the left part to the first piece of the right part. -/
theorem split_append (p : α → Bool) (a b : List α) :
    ∃ ia la hb tb, split p a = ia ++ [la] ∧ split p b = hb :: tb ∧ split p (a ++ b) = ia ++ (la ++ hb) :: tb := by
  induction a with
  | nil =>
    obtain ⟨hb, tb, e⟩ := List.exists_cons_of_ne_nil (split_ne_nil p b)
    exact ⟨[], [], hb, tb, rfl, e, by simpa using e⟩
  | cons c a ih =>
    obtain ⟨ia, la, hb, tb, e1, e2, e3⟩ := ih
    cases hc : p c with
    | true => exact ⟨[] :: ia, la, hb, tb, by rw [split_cons_sep hc, e1]; rfl, e2, by
        rw [List.cons_append, split_cons_sep hc, e3]; rfl⟩
    | false =>
      rw [List.cons_append, split_cons_free hc, split_cons_free hc, e1, e3]
      cases ia with
      | nil => exact ⟨[], c :: la, hb, tb, rfl, e2, rfl⟩
      | cons i ia => exact ⟨(c :: i) :: ia, la, hb, tb, rfl, e2, rfl⟩

theorem split_append_sep {p : α → Bool} {c : α} (hc : p c = true) (x t : List α) :
    split p (x ++ c :: t) = split p x ++ split p t := by
  obtain ⟨ia, la, hb, tb, e1, e2, e3⟩ := split_append p x (c :: t)
  rw [split_cons_sep hc] at e2
  cases e2
  rw [e3, e1]
  simp

theorem split_prefix_infix (p : α → Bool) (s : List α) :
    ∃ l ls, split p s = l :: ls ∧ l <+: s ∧ ∀ x ∈ ls, x <:+: s := by
  induction s with
  | nil => exact ⟨[], [], rfl, List.prefix_refl _, fun _ h => nomatch h⟩
  | cons c s ih =>
    obtain ⟨l, ls, e, hl, hls⟩ := ih
    have later : ∀ x, x <:+: s → x <:+: c :: s := fun x h => h.trans (List.suffix_cons c s).isInfix
    cases hc : p c with
    | true =>
      refine ⟨[], l :: ls, by rw [split_cons_sep hc, e], List.nil_prefix, fun x hx => later x ?_⟩
      rcases List.mem_cons.mp hx with rfl | hx
      · exact hl.isInfix
      · exact hls x hx
    | false =>
      exact ⟨c :: l, ls, by rw [split_cons_free hc, e]; rfl, List.cons_prefix_cons.mpr ⟨rfl, hl⟩,
        fun x hx => later x (hls x hx)⟩

theorem split_infix (p : α → Bool) (s : List α) : ∀ x ∈ split p s, x <:+: s := by
  obtain ⟨l, ls, e, hl, hls⟩ := split_prefix_infix p s
  rw [e]
  exact List.forall_mem_cons.mpr ⟨hl.isInfix, hls⟩

theorem free_infix {p : α → Bool} {x s : List α} (hx : ∀ c ∈ x, p c = false) (h : x <:+: s) :
    ∃ q ∈ split p s, x <:+: q := by
  obtain ⟨a, b, rfl⟩ := h
  obtain ⟨ia, la, hb, tb, _, e2, e3⟩ := split_append p a (x ++ b)
  obtain ⟨ia', la', hb', tb', e1', _, e3'⟩ := split_append p x b
  rw [split_of_free hx] at e1'
  obtain ⟨rfl, rfl⟩ : ia' = [] ∧ x = la' := by cases ia' <;> simp_all
  rw [e3'] at e2
  cases e2
  exact ⟨la ++ (x ++ hb'), by rw [List.append_assoc, e3]; simp, ⟨la, hb', by simp⟩⟩

theorem split_congr {p q : α → Bool} {s : List α} (h : ∀ c ∈ s, p c = q c) : split p s = split q s := by
  induction s with
  | nil => rfl
  | cons c s ih =>
    rw [split, split, h c List.mem_cons_self, ih fun d hd => h d (List.mem_cons_of_mem _ hd)]

theorem mem_join {sep c : α} {M : List (List α)} (hc : c ∈ join sep M) : c = sep ∨ ∃ l ∈ M, c ∈ l := by
  fun_induction join sep M with
  | case1 => cases hc
  | case2 l => exact .inr ⟨l, List.mem_singleton_self l, hc⟩
  | case3 l ls _ ih =>
    rcases List.mem_append.mp hc with h | h
    · exact .inr ⟨l, List.mem_cons_self, h⟩
    · rcases List.mem_cons.mp h with h | h
      · exact .inl h
      · exact (ih h).imp_right fun ⟨x, hx, hcx⟩ => ⟨x, List.mem_cons_of_mem _ hx, hcx⟩

theorem join_eq_nil {sep : α} {M : List (List α)} (h : join sep M = []) (hne : ∀ l ∈ M, l ≠ []) : M = [] := by
  fun_induction join sep M with
  | case1 => rfl
  | case2 l => exact absurd h (hne l (List.mem_singleton_self l))
  | case3 l ls _ _ => exact absurd (List.append_eq_nil_iff.mp h).2 (List.cons_ne_nil _ _)

theorem split_join {p : α → Bool} {sep : α} (hsep : p sep = true) {M : List (List α)} (hne : M ≠ [])
    (hM : ∀ l ∈ M, ∀ c ∈ l, p c = false) : split p (join sep M) = M := by
  induction M with
  | nil => exact absurd rfl hne
  | cons l M ih =>
    obtain ⟨hl, hM⟩ := List.forall_mem_cons.mp hM
    cases M with
    | nil => exact split_of_free hl
    | cons l' M =>
      show split p (l ++ sep :: join sep (l' :: M)) = _
      rw [split_append_sep hsep, split_of_free hl, ih (List.cons_ne_nil _ _) hM]; rfl

theorem splitAcc_eq (p : α → Bool) (s cur : List α) : splitAcc p s cur = (split p s).modifyHead (cur.reverse ++ ·) := by
  induction s generalizing cur with
  | nil => simp [splitAcc]
  | cons c s ih =>
    cases hc : p c with
    | true => rw [splitAcc, if_pos hc, ih, split_cons_sep hc]; cases split p s <;> simp
    | false =>
      rw [splitAcc, if_neg (by simp [hc]), ih, split_cons_free hc]
      cases split p s <;> simp

end RichModel.Lines
