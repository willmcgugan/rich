import RichModel.Lemmas.AnsiColor
import RichModel.Lemmas.AnsiTok
/-!
The round trip (property C19).  `Reads`: what the decoder's loop does on a prefix of its input, whatever follows — closed
under append, one lemma per kind of token (text, SGR, OSC 8; other CSI in `AnsiCsi`).  `Decodes`: the same for what is observed
per character, which is how one segment, and one line of segments, as `_render_buffer` writes them are read.
-/
namespace RichModel
namespace Ansi
open AsciiStr Style

/-- The 13 attributes that are on, the colours without their names, the link (`""` counts as none). -/
structure Obs where
  on : List Bool
  fg : Option (ColorType × Option Nat × Option Triplet)
  bg : Option (ColorType × Option Nat × Option Triplet)
  link : Option (List Char)
deriving DecidableEq, Repr

def obsOf (s : Style) : Obs :=
  ⟨(List.range 13).map (fun i => s.attr i == some true), s.color.map colorKey, s.bgcolor.map colorKey, linkVal s.link⟩

def obs0 : Obs := ⟨List.replicate 13 false, none, none, none⟩

/-- a run without a span shows as nothing set -/
def obsOpt : Option Style → Obs
  | none => obs0
  | some s => obsOf s

/-- Per character: the character and what is observed of its style. -/
def charsOf (runs : List Run) : List (Char × Obs) := runs.flatMap fun r => r.text.map (·, obsOpt r.style)

theorem charsOf_append (a b : List Run) : charsOf (a ++ b) = charsOf a ++ charsOf b := by
  simp [charsOf]

theorem obsOf_plain_of_empty {s : Style} (hA : s.attributes &&& s.setAttributes = 0) (hc : s.color = none)
    (hg : s.bgcolor = none) (hl : strTruthy s.link = false) : obsOf s = obs0 := by
  simp only [obsOf, obs0, hc, hg, Option.map_none, linkVal, hl, Bool.false_eq_true, if_false, Obs.mk.injEq, and_true]
  have : ∀ i, (s.attr i == some true) = false := by
    intro i; rw [attr_on_eq, hA, Nat.zero_testBit]
  simp only [this]
  decide

/-- Nothing is set (the state of the decoder between the segments the encoder writes). -/
structure Blank (s : Style) : Prop where
  inv : Inv s
  color : s.color = none
  bgcolor : s.bgcolor = none
  set0 : s.setAttributes = 0
  link : strTruthy s.link = false

/-- Nothing is set but, possibly, the link (the state of the decoder inside an OSC 8 hyperlink, between SGR layers). -/
structure Unset (s : Style) : Prop where
  inv : Inv s
  color : s.color = none
  bgcolor : s.bgcolor = none
  set0 : s.setAttributes = 0

theorem Blank.unset {s : Style} (h : Blank s) : Unset s := ⟨h.inv, h.color, h.bgcolor, h.set0⟩

/-- `self.style or None` -/
def orNone (st : Style) : Option Style := if st.toBool then some st else none

/-- the run (if any) the pending text `acc` becomes when the next match is reached -/
def flushRuns (st : Style) (acc : List Char) : List Run :=
  if acc.isEmpty || (removeCsi acc).isEmpty then [] else [⟨stripCtl (removeCsi acc), orNone st⟩]

/-- the runs `pre` put in front of what `x` returns -/
def push (pre : List Run) (x : Style × Except DecErr (List Run)) : Style × Except DecErr (List Run) :=
  (x.1, x.2.map (pre ++ ·))

theorem push_nil (x : Style × Except DecErr (List Run)) : push [] x = x := by
  obtain ⟨s, r⟩ := x
  cases r <;> simp [push, Except.map]

theorem push_push (a b : List Run) (x : Style × Except DecErr (List Run)) : push a (push b x) = push (a ++ b) x := by
  obtain ⟨s, r⟩ := x
  cases r <;> simp [push, Except.map]

/-- the decoder's loop from state `st` on input `s` with pending text `acc` -/
def R (cfg : Cfg) (st : Style) (s acc : List Char) : Style × Except DecErr (List Run) :=
  decodeToks cfg st (tokAux cfg.sgrLazy (!cfg.oscStOnly) s 0 acc)

theorem decodeToks_flush (cfg : Cfg) (st : Style) (acc : List Char) (toks : List Token) :
    decodeToks cfg st (flushPlain acc ++ toks) = push (flushRuns st acc) (decodeToks cfg st toks) := by
  by_cases ha : acc.isEmpty
  · simp [flushPlain, flushRuns, ha, push_nil]
  · by_cases hp : (removeCsi acc).isEmpty
    · simp only [flushPlain, ha, Bool.false_eq_true, if_false, List.singleton_append, decodeToks, decodeTok, hp,
        if_true, flushRuns, Bool.or_true]
      rw [← push_nil (decodeToks cfg st toks)]
      simp [push]
    · simp only [flushPlain, ha, Bool.false_eq_true, if_false, List.singleton_append, decodeToks, decodeTok, hp,
        flushRuns, Bool.or_false, orNone, push]
      simp

/-- Reading `x`, whatever follows it, takes the decoder's loop from style `st` with pending text `acc` to style `st'`
with pending text `acc'`, and adds the runs `pre` to the text. -/
def Reads (cfg : Cfg) (st : Style) (acc x : List Char) (pre : List Run) (st' : Style) (acc' : List Char) : Prop :=
  ∀ rest, R cfg st (x ++ rest) acc = push pre (R cfg st' rest acc')

section
variable {cfg : Cfg} {st st1 st2 : Style} {acc acc1 acc2 x y : List Char} {p q : List Run}

theorem Reads.append (h1 : Reads cfg st acc x p st1 acc1) (h2 : Reads cfg st1 acc1 y q st2 acc2) :
    Reads cfg st acc (x ++ y) (p ++ q) st2 acc2 := fun rest => by
  rw [List.append_assoc, h1, h2, push_push]

theorem Reads.text {t : List Char} (ht : ∀ c ∈ t, c ≠ ESC) : Reads cfg st acc t [] st (acc ++ t) := fun rest => by
  simp [R, tokAux_plain cfg.sgrLazy (!cfg.oscStOnly) t rest acc ht, push_nil]

/-- A match of `re_ansi`: the pending text is flushed with the style in force, then the token is read. -/
theorem Reads.token {t : Token} (hd : decodeTok cfg st t = (st1, none, none))
    (ht : ∀ rest, tokAux cfg.sgrLazy (!cfg.oscStOnly) (x ++ rest) 0 acc =
      flushPlain acc ++ t :: tokAux cfg.sgrLazy (!cfg.oscStOnly) rest 0 []) :
    Reads cfg st acc x (flushRuns st acc) st1 [] := fun rest => by
  unfold R
  rw [ht, decodeToks_flush]
  congr 1
  simp only [decodeToks, hd]
  exact push_nil _

theorem Reads.sgr {body : List Char} {codes : List Nat} (hb : ∀ c ∈ body, isSgrParam c = true) (hne : body ≠ [])
    (hc : sgrCodes cfg body = .ok codes) (ha : applyCodes cfg st codes 0 = (st1, none)) :
    Reads cfg st acc (sgrOpen body) (flushRuns st acc) st1 [] := by
  have hemp : body.isEmpty = false := by cases body <;> simp at hne ⊢
  refine Reads.token (t := .sgr body) (by simp only [decodeTok, hemp, hc, ha]; rfl) fun rest => ?_
  simpa [sgrOpen] using tokAux_sgr cfg.sgrLazy (!cfg.oscStOnly) body rest acc hb

theorem Reads.osc8 {params link term : List Char} (ht : OscEnd (!cfg.oscStOnly) term)
    (hp : ∀ c ∈ params, c ≠ ESC ∧ c ≠ '\n' ∧ c ≠ ';' ∧ c ≠ BEL) (hl : ∀ c ∈ link, c ≠ ESC ∧ c ≠ '\n' ∧ c ≠ BEL) :
    Reads cfg st acc ([ESC, ']', '8', ';'] ++ params ++ ';' :: link ++ term) (flushRuns st acc)
      (Style.updateLink cfg.sv st (linkOrNone link)) [] := by
  have hbody : ∀ c ∈ '8' :: ';' :: (params ++ ';' :: link), c ≠ ESC ∧ c ≠ '\n' ∧ c ≠ BEL := by
    intro c hc
    simp only [List.mem_cons, List.mem_append] at hc
    rcases hc with rfl | rfl | hc | rfl | hc
    · decide
    · decide
    · exact ⟨(hp c hc).1, (hp c hc).2.1, (hp c hc).2.2.2⟩
    · decide
    · exact hl c hc
  refine Reads.token (t := .osc ('8' :: ';' :: (params ++ ';' :: link))) ?_ fun rest => ?_
  · simp only [decodeTok, List.isEmpty_cons, Bool.false_eq_true, if_false, dropPrefix?, beq_self_eq_true, if_true,
      partitionAt_sep fun c hc => (hp c hc).2.2.1]
  · simpa using tokAux_osc cfg.sgrLazy (!cfg.oscStOnly) ('8' :: ';' :: (params ++ ';' :: link)) term rest acc ht hbody

theorem Reads.line {l : List Char} (h : Reads cfg st [] l p st1 acc1) (hcr : ∀ c ∈ l, c ≠ '\r') :
    decodeLine cfg st l = (st1, .ok (p ++ flushRuns st1 acc1)) := by
  have hnil : R cfg st1 [] acc1 = (st1, .ok (flushRuns st1 acc1)) := by
    simpa [R, tokAux, decodeToks, push, Except.map] using decodeToks_flush cfg st1 acc1 []
  have := h []
  rw [List.append_nil, hnil] at this
  simpa [decodeLine, R, tokenize, afterLastCR_noCR cfg.crErases l hcr, push, Except.map] using this

end

/-- characters that reach the decoded text unchanged -/
def textOk (t : List Char) : Bool :=
  t.all fun c => c != ESC && c != '\r' && !Gen.stripControlCodes.contains c.toNat

theorem textOk_append {a b : List Char} (ha : textOk a = true) (hb : textOk b = true) : textOk (a ++ b) = true := by
  simp only [textOk, List.all_append, Bool.and_eq_true] at *
  exact ⟨ha, hb⟩

theorem textOk_unpack {t : List Char} (h : textOk t = true) :
    ∀ c ∈ t, c ≠ ESC ∧ c ≠ '\r' ∧ (!Gen.stripControlCodes.contains c.toNat) = true := by
  simp only [textOk, List.all_eq_true, Bool.and_eq_true, bne_iff_ne, ne_eq] at h
  exact fun c hc => ⟨(h c hc).1.1, (h c hc).1.2, (h c hc).2⟩

theorem textOk_noEsc {t : List Char} (h : textOk t = true) : ∀ c ∈ t, c ≠ ESC := fun c hc => (textOk_unpack h c hc).1

theorem textOk_noCR {t : List Char} (h : textOk t = true) : ∀ c ∈ t, c ≠ '\r' := fun c hc => (textOk_unpack h c hc).2.1

theorem stripCtl_textOk {t : List Char} (h : textOk t = true) : stripCtl t = t := by
  simp only [stripCtl, List.filter_eq_self]
  exact fun c hc => (textOk_unpack h c hc).2.2

theorem charsOf_flushRuns (st : Style) (acc : List Char) :
    charsOf (flushRuns st acc) = (stripCtl (removeCsi acc)).map (·, obsOpt (orNone st)) := by
  unfold flushRuns
  split
  · rename_i h
    rcases Bool.or_eq_true_iff.mp h with h | h <;> rw [List.isEmpty_iff.mp h] <;> rfl
  · simp [charsOf]

theorem plainOf_charsOf (runs : List Run) : plainOf runs = (charsOf runs).map (·.1) := by
  simp [plainOf, charsOf, List.map_flatMap, Function.comp_def]

/-- No control sequence that `re_csi` removes is left open at the end of `acc`. -/
def NoOpenCsi (acc : List Char) : Prop := ∀ rest, removeCsi (acc ++ rest) = removeCsi acc ++ removeCsi rest

theorem NoOpenCsi.nil : NoOpenCsi [] := fun _ => rfl

theorem NoOpenCsi.append {a b : List Char} (ha : NoOpenCsi a) (hb : NoOpenCsi b) : NoOpenCsi (a ++ b) := fun rest => by
  rw [List.append_assoc, ha, hb, ha, List.append_assoc]

theorem NoOpenCsi.text {t : List Char} (h : ∀ c ∈ t, c ≠ ESC) : NoOpenCsi t := fun rest => by
  rw [removeCsi_text t rest h, removeCsi_noEsc t h]

/-- `self.style or None` loses nothing that is observed: a null style shows as no style. -/
theorem obsOpt_orNone {st : Style} (h : Inv st) : obsOpt (orNone st) = obsOf st := by
  unfold orNone
  by_cases hn : st.isNull = true
  · obtain ⟨h1, h2, _, h4, h5⟩ := h.null_empty hn
    simp [Style.toBool, hn, obsOpt, obsOf_plain_of_empty (by rw [h4]; exact Nat.zero_and _) h1 h2 h5]
  · simp [Style.toBool, hn, obsOpt]

theorem obsOpt_orNone_blank {st : Style} (h : Blank st) : obsOpt (orNone st) = obs0 :=
  (obsOpt_orNone h.inv).trans (obsOf_plain_of_empty (by rw [h.set0]; exact Nat.and_zero _) h.color h.bgcolor h.link)

def linkOk (l : List Char) : Bool := l.all fun c => c != ESC && c != '\n' && c != '\r'
def idOk (l : List Char) : Bool := l.all fun c => c != ESC && c != '\n' && c != '\r' && c != ';'
def noBel (l : List Char) : Bool := l.all fun c => c != BEL

/-- The hypothesis of the round trip on one segment (`textOk`, `idOk`, `linkOk`, `noBel`): no escape character, no
carriage return and no stripped control code in the text, no escape / line break in the link and its id, no `;` in the
id, no BEL in either, colours in the form the public constructors build, a style that kept the constructors' invariant. -/
structure SegOk (g : Seg) : Prop where
  text : textOk g.text = true
  id : idOk g.linkId = true
  style : ∀ s, g.style = some s → Inv s ∧ canonStyle s = true ∧ linkOk (s.link.getD []) = true
  /-- no BEL in the link and its id (BEL ends an OSC string in the repaired tokenizer) -/
  bel : noBel g.linkId = true ∧ ∀ s, g.style = some s → noBel (s.link.getD []) = true

theorem linkOk_unpack {l : List Char} (h : linkOk l = true) : ∀ c ∈ l, c ≠ ESC ∧ c ≠ '\n' ∧ c ≠ '\r' := by
  simp only [linkOk, List.all_eq_true, Bool.and_eq_true, bne_iff_ne, ne_eq] at h
  exact fun c hc => ⟨(h c hc).1.1, (h c hc).1.2, (h c hc).2⟩

theorem idOk_unpack {l : List Char} (h : idOk l = true) : ∀ c ∈ l, c ≠ ESC ∧ c ≠ '\n' ∧ c ≠ '\r' ∧ c ≠ ';' := by
  simp only [idOk, List.all_eq_true, Bool.and_eq_true, bne_iff_ne, ne_eq] at h
  exact fun c hc => ⟨(h c hc).1.1.1, (h c hc).1.1.2, (h c hc).1.2, (h c hc).2⟩

/-- The layer `makeAnsiCodes_spec` speaks of, over a state with nothing set but the link of `s`, shows as `s` does. -/
theorem obsOf_tracks {s sa st' : Style} (hcan : canonStyle s = true) (hsa : Unset sa)
    (o : Over (fun j => if (s.attributes &&& s.setAttributes).testBit j then some true else none)
      (s.color.map decColor) (s.bgcolor.map decColor) sa st')
    (hl : linkVal sa.link = linkVal s.link) : obsOf st' = obsOf s := by
  simp only [canonStyle, Bool.and_eq_true] at hcan
  simp only [obsOf, Obs.mk.injEq]
  have key : ∀ oc : Option Color, (match oc with | some c => canon c | none => true) = true →
      (oc.map decColor).map colorKey = oc.map colorKey := by
    rintro (_ | c) h
    · rfl
    · simp [colorKey_decColor h]
  refine ⟨?_, by rw [o.color, hsa.color, Option.or_none, key _ hcan.1],
    by rw [o.bgcolor, hsa.bgcolor, Option.or_none, key _ hcan.2], o.link.trans hl⟩
  apply List.map_congr_left
  intro i _
  have : sa.attr i = none := attr_of_set_zero hsa.set0 i
  rw [attr_on_eq s i, o.attr, this, Option.or_none]
  cases (s.attributes &&& s.setAttributes).testBit i <;> rfl

theorem resetOf_keeps_link (cfg : Cfg) (hr : cfg.resetDropsLink = false) (st : Style) :
    resetOf cfg st = if strTruthy st.link then linkOnly st.link else Style.null := by
  simp [resetOf, hr]

theorem unset_resetOf (cfg : Cfg) (st : Style) : Unset (resetOf cfg st) := by
  unfold resetOf
  split
  · exact ⟨inv_null, rfl, rfl, rfl⟩
  · split
    · exact ⟨⟨by simp [linkOnly], by simp [linkOnly], by intro h; cases h⟩, rfl, rfl, rfl⟩
    · exact ⟨inv_null, rfl, rfl, rfl⟩

theorem resetOf_nolink (cfg : Cfg) {st : Style} (h : strTruthy st.link = false) : resetOf cfg st = Style.null := by
  unfold resetOf
  split
  · rfl
  · simp [h]

theorem Unset.updateLink (v : StyleVariant) {st : Style} (h : Unset st) (l : Option (List Char)) :
    Unset (updateLink v st l) := ⟨inv_updateLink v h.inv l, h.color, h.bgcolor, h.set0⟩

theorem Blank.of_unset {st : Style} (h : Unset st) (hl : strTruthy st.link = false) : Blank st :=
  ⟨h.inv, h.color, h.bgcolor, h.set0, hl⟩

theorem blank_updateLink_none (v : StyleVariant) {st : Style} (h : Unset st) : Blank (updateLink v st none) :=
  .of_unset (h.updateLink v none) <| by
    show strTruthy (storedLink v none) = false
    unfold storedLink; split <;> rfl

theorem flushRuns_nil (st : Style) : flushRuns st [] = [] := by simp [flushRuns]

/-- `x` has no carriage return, and reading it from style `st`, no control sequence being open in the pending text, adds
the characters `cs` with what is observed of their styles to the text and leaves the decoder at style `st'`, again
with no control sequence open.  (Pending text comes out with the style current when it is flushed, and only SGR and OSC
change the style, after flushing: so it can be counted as soon as it is read.) -/
structure Decodes (cfg : Cfg) (st : Style) (x : List Char) (cs : List (Char × Obs)) (st' : Style) : Prop where
  noCR : ∀ c ∈ x, c ≠ '\r'
  reads : ∀ acc, NoOpenCsi acc → ∃ pre acc', NoOpenCsi acc' ∧ Reads cfg st acc x pre st' acc' ∧
    charsOf (pre ++ flushRuns st' acc') = charsOf (flushRuns st acc) ++ cs

section
variable {cfg : Cfg} {st st1 st2 : Style} {x y : List Char} {cs ds : List (Char × Obs)}

theorem Decodes.append (h1 : Decodes cfg st x cs st1) (h2 : Decodes cfg st1 y ds st2) : Decodes cfg st (x ++ y) (cs ++ ds) st2 := by
  refine ⟨List.forall_mem_append.mpr ⟨h1.noCR, h2.noCR⟩, fun acc hacc => ?_⟩
  obtain ⟨p, a1, ha1, r1, c1⟩ := h1.reads acc hacc
  obtain ⟨q, a2, ha2, r2, c2⟩ := h2.reads a1 ha1
  refine ⟨p ++ q, a2, ha2, r1.append r2, ?_⟩
  rw [charsOf_append] at c1 c2
  rw [List.append_assoc, charsOf_append, charsOf_append, c2, ← List.append_assoc, c1, List.append_assoc]

/-- input that joins the pending text, leaving no control sequence open -/
theorem Decodes.joins (hcr : ∀ c ∈ x, c ≠ '\r') (hx : NoOpenCsi x) (h : ∀ acc, Reads cfg st acc x [] st (acc ++ x)) :
    Decodes cfg st x ((stripCtl (removeCsi x)).map (·, obsOpt (orNone st))) st :=
  ⟨hcr, fun acc hacc => ⟨[], acc ++ x, hacc.append hx, h acc, by
    rw [List.nil_append, charsOf_flushRuns, charsOf_flushRuns, hacc, stripCtl, List.filter_append, ← stripCtl, ← stripCtl,
      List.map_append]⟩⟩

theorem Decodes.text {t : List Char} (ht : textOk t = true) : Decodes cfg st t (t.map (·, obsOpt (orNone st))) st := by
  simpa [removeCsi_noEsc t (textOk_noEsc ht), stripCtl_textOk ht] using
    Decodes.joins (textOk_noCR ht) (.text (textOk_noEsc ht)) fun _ => Reads.text (cfg := cfg) (st := st) (textOk_noEsc ht)

theorem Decodes.nil : Decodes cfg st [] [] st := by simpa using Decodes.text (cfg := cfg) (st := st) (t := []) rfl

/-- a sequence that flushes the pending text and only changes the style -/
theorem Decodes.ctl (hcr : ∀ c ∈ x, c ≠ '\r') (h : ∀ acc, Reads cfg st acc x (flushRuns st acc) st1 []) : Decodes cfg st x [] st1 :=
  ⟨hcr, fun acc _ => ⟨_, [], .nil, h acc, by simp [flushRuns_nil]⟩⟩

theorem Decodes.line {l : List Char} (h : Decodes cfg st l cs st1) :
    ∃ runs, decodeLine cfg st l = (st1, .ok runs) ∧ charsOf runs = cs := by
  obtain ⟨p, a, _, r, c⟩ := h.reads [] .nil
  exact ⟨_, r.line h.noCR, by simpa [flushRuns_nil, charsOf] using c⟩

theorem Decodes.plain_line {l : List Char} (h : Decodes cfg st l cs st1) :
    ∃ runs, decodeLine cfg st l = (st1, .ok runs) ∧ plainOf runs = cs.map (·.1) := by
  obtain ⟨runs, hd, hc⟩ := h.line
  exact ⟨runs, hd, by rw [plainOf_charsOf, hc]⟩

theorem Decodes.sgr {body : List Char} {codes : List Nat} (hb : ∀ c ∈ body, isSgrParam c = true) (hne : body ≠ [])
    (hc : sgrCodes cfg body = .ok codes) (ha : applyCodes cfg st codes 0 = (st1, none)) :
    Decodes cfg st (sgrOpen body) [] st1 := by
  refine Decodes.ctl ?_ fun _ => Reads.sgr hb hne hc ha
  rintro c hc rfl
  simp [sgrOpen, ESC] at hc
  exact absurd (hb _ hc) (by decide)

theorem Decodes.reset : Decodes cfg st sgrReset [] (resetOf cfg st) :=
  Decodes.sgr (body := ['0']) (codes := [0]) (by decide) (by simp) (sgrCodes_natStr cfg [0] (by simp) (by simp))
    (by simp [applyCodes])

theorem Decodes.oscClose : Decodes cfg st oscClose [] (updateLink cfg.sv st none) :=
  Decodes.ctl (by decide) fun acc => by
    simpa [Ansi.oscClose, linkOrNone] using
      Reads.osc8 (cfg := cfg) (st := st) (acc := acc) (params := []) (link := []) (Or.inl rfl) (by simp) (by simp)

theorem Decodes.oscOpen {id link : List Char} (hid : idOk id = true) (hl : linkOk link = true) (hne : link ≠ [])
    (hidb : noBel id = true) (hlb : noBel link = true) :
    Decodes cfg st (oscOpen id link) [] (updateLink cfg.sv st (some link)) := by
  have hidb' : ∀ c ∈ id, c ≠ BEL := by simpa [noBel] using hidb
  have hlb' : ∀ c ∈ link, c ≠ BEL := by simpa [noBel] using hlb
  have hp : ∀ c ∈ ['i', 'd', '='] ++ id, c ≠ ESC ∧ c ≠ '\n' ∧ c ≠ ';' ∧ c ≠ BEL := by
    intro c hc
    simp only [List.mem_append, List.mem_cons, List.not_mem_nil, or_false] at hc
    rcases hc with (rfl | rfl | rfl) | hc
    · decide
    · decide
    · decide
    · obtain ⟨h1, h2, _, h4⟩ := idOk_unpack hid c hc
      exact ⟨h1, h2, h4, hidb' c hc⟩
  have hl' : ∀ c ∈ link, c ≠ ESC ∧ c ≠ '\n' ∧ c ≠ BEL := fun c hc =>
    ⟨(linkOk_unpack hl c hc).1, (linkOk_unpack hl c hc).2.1, hlb' c hc⟩
  have hlo : linkOrNone link = some link := by
    cases link with
    | nil => exact absurd rfl hne
    | cons _ _ => rfl
  refine Decodes.ctl ?_ fun acc => by
    simpa [Ansi.oscOpen, hlo] using Reads.osc8 (cfg := cfg) (st := st) (acc := acc) (term := [ESC, '\\']) (Or.inl rfl) hp hl'
  rintro c hc rfl
  simp [Ansi.oscOpen, ESC] at hc
  rcases hc with h | h
  · exact (idOk_unpack hid _ h).2.2.1 rfl
  · exact (linkOk_unpack hl _ h).2.2 rfl

end

/-- The SGR layer of `Style.render`: the text `t` inside `ESC [ attrs m … ESC [ 0 m`, or bare when `s` has no
attribute on and no colour, read from a state `sa` with nothing set but, possibly, the link of `s`. -/
theorem styled_roundtrip (cfg : Cfg) {s : Style} (hinv : Inv s) (hcan : canonStyle s = true) {sa : Style}
    (hsa : Unset sa) (hl : linkVal sa.link = linkVal s.link) {t : List Char} (ht : textOk t = true) :
    ∃ attrs, makeAnsiCodes s = .ok attrs ∧ ∃ st1, Unset st1 ∧ (strTruthy sa.link = false → strTruthy st1.link = false) ∧
      Decodes cfg sa (if attrs.isEmpty then t else sgrOpen attrs ++ t ++ sgrReset) (t.map (·, obsOf s)) st1 := by
  obtain ⟨ps, hm, hpl, hsets⟩ := makeAnsiCodes_spec cfg s hinv hcan
  obtain ⟨st', happ, o⟩ := hsets.run hsa.inv
  have hobs : obsOpt (orNone st') = obsOf s := (obsOpt_orNone o.inv).trans (obsOf_tracks hcan hsa o hl)
  refine ⟨_, hm, ?_⟩
  by_cases hps : ps = []
  · -- nothing to write: the decoder stays where it is
    subst hps
    obtain rfl : sa = st' := by simpa [applyCodes] using happ
    exact ⟨sa, hsa, id, by simpa [joinWith, hobs] using Decodes.text (cfg := cfg) (st := sa) ht⟩
  · have hne : joinWith ';' (ps.map (·.1)) ≠ [] := fun h =>
      hps (by simpa using joinWith_eq_nil h (paramTexts_nonempty ps hpl))
    refine ⟨_, unset_resetOf cfg st', fun hsl => ?_, ?_⟩
    · have : strTruthy st'.link = false := strTruthy_of_linkVal_none (by rw [o.link]; exact linkVal_of_falsy hsl)
      rw [resetOf_nolink cfg this]; rfl
    · simpa [hne, hobs] using
        (Decodes.sgr (paramTexts_body_ok ps hpl) hne (sgrCodes_paramTexts cfg ps hpl hps) happ).append ((Decodes.text ht).append Decodes.reset)

/-- Reading what `Style.render` wrote (no legacy console): the decoder goes from a blank state to a blank state, and the
characters of the text come out with what is observed of the style. -/
theorem render_roundtrip (cfg : Cfg) {s : Style} (hinv : Inv s) (hcan : canonStyle s = true)
    (hlink : linkOk (s.link.getD []) = true) (hbel : noBel (s.link.getD []) = true) {id : List Char}
    (hid : idOk id = true) (hidb : noBel id = true) {t : List Char} (ht : textOk t = true) {st : Style} (hst : Blank st) :
    ∃ x, renderSeg false id s t = .ok x ∧ ∃ st1, Blank st1 ∧ Decodes cfg st x (t.map (·, obsOf s)) st1 := by
  by_cases hte : t = []
  · subst hte
    exact ⟨[], rfl, st, hst, .nil⟩
  have htE : t.isEmpty = false := by cases t <;> simp at hte ⊢
  by_cases hlk : strTruthy s.link = true
  · -- a link: OSC 8 open, the SGR layer, OSC 8 close
    obtain ⟨link, hlinkeq, hlne⟩ : ∃ l, s.link = some l ∧ l ≠ [] := by
      match h : s.link with
      | some (a :: b) => exact ⟨a :: b, rfl, by simp⟩
      | none | some [] => simp [h, strTruthy] at hlk
    rw [hlinkeq] at hlink hbel hlk
    have hsalink : (updateLink cfg.sv st (some link)).link = some link := by
      simp [updateLink, storedLink, linkVal, hlk]
    obtain ⟨attrs, hm, st1, u1, _, hd⟩ :=
      styled_roundtrip cfg hinv hcan (hst.unset.updateLink cfg.sv (some link)) (by rw [hsalink, hlinkeq]) ht
    exact ⟨oscOpen id link ++ (if attrs.isEmpty then t else sgrOpen attrs ++ t ++ sgrReset) ++ oscClose,
      by simp [renderSeg, htE, hm, hlk, hlinkeq], _, blank_updateLink_none cfg.sv u1,
      by simpa using ((Decodes.oscOpen hid hlink hlne hidb hbel).append hd).append Decodes.oscClose⟩
  · -- no link: the SGR layer alone
    have hlkF : strTruthy s.link = false := by simpa using hlk
    obtain ⟨attrs, hm, st1, u1, hl1, hd⟩ :=
      styled_roundtrip cfg hinv hcan hst.unset (by rw [linkVal_of_falsy hst.link, linkVal_of_falsy hlkF]) ht
    exact ⟨if attrs.isEmpty then t else sgrOpen attrs ++ t ++ sgrReset, by simp [renderSeg, htE, hm, hlkF], st1,
      .of_unset u1 (hl1 hst.link), hd⟩

/-- The same for one segment as `_render_buffer` writes it. -/
theorem seg_roundtrip (cfg : Cfg) (g : Seg) (hg : SegOk g) (st : Style) (hst : Blank st) :
    ∃ x, encodeSeg false g = .ok x ∧ ∃ st1, Blank st1 ∧ Decodes cfg st x (g.text.map (·, obsOpt g.style)) st1 := by
  -- the text of a segment written bare, when nothing is observed of its style
  have bare : ∀ o : Option Style, obsOpt o = obs0 → Decodes cfg st g.text (g.text.map (·, obsOpt o)) st := fun o ho => by
    simpa [ho, obsOpt_orNone_blank hst] using Decodes.text (cfg := cfg) (st := st) hg.text
  cases hsty : g.style with
  | none => exact ⟨g.text, by simp [encodeSeg, hsty], st, hst, bare _ rfl⟩
  | some s =>
    obtain ⟨hinv, hcan, hlink⟩ := hg.style s hsty
    by_cases hb : s.toBool = true
    · obtain ⟨x, hx, r⟩ := render_roundtrip cfg hinv hcan hlink (hg.bel.2 s hsty) hg.id hg.bel.1 hg.text hst
      exact ⟨x, by simp [encodeSeg, hsty, hb, hx], r⟩
    · -- a null style is observed as no style
      exact ⟨g.text, by simp [encodeSeg, hsty, hb], st, hst,
        bare _ (by simpa [orNone, hb, obsOpt] using (obsOpt_orNone hinv).symm)⟩

/-- what the segments say, per character -/
def expectedChars (segs : List Seg) : List (Char × Obs) :=
  segs.flatMap fun g => g.text.map (·, obsOpt g.style)

theorem segs_roundtrip (cfg : Cfg) (segs : List Seg) (hok : ∀ g ∈ segs, SegOk g) (st : Style) (hst : Blank st) :
    ∃ x, encodeSegs false segs = .ok x ∧ ∃ st2, Blank st2 ∧ Decodes cfg st x (expectedChars segs) st2 := by
  induction segs generalizing st with
  | nil => exact ⟨[], rfl, st, hst, .nil⟩
  | cons g gs ih =>
    obtain ⟨x, hx, st1, hb1, d1⟩ := seg_roundtrip cfg g (hok g (by simp)) st hst
    obtain ⟨xs, hxs, st2, hb2, d2⟩ := ih (fun y hy => hok y (by simp [hy])) st1 hb1
    exact ⟨x ++ xs, by simp [encodeSegs, hx, hxs, Except.map], st2, hb2, by simpa [expectedChars] using d1.append d2⟩

end Ansi
end RichModel
