import RichModel.Model.SyntaxTrace
/-
For property C17: `Traceback.extract` / `__rich_console__` show the exception chain oldest first
with the sentence that matches each link; `_render_stack` shows every frame in call order, and the per-call cache of
`read_code` is transparent (whether or not `open` may fail), so what a traceback shows depends only on the files' contents
at the moment it is rendered.
-/
namespace RichModel.Syntax

/-- what is shown for ONE exception: its panel (when it has frames), the SyntaxError panel, `Type: message` -/
def excBlock (frames : List Frame) (name : Nat) (isSyn : Bool) : List Item :=
  (if frames.isEmpty then [] else [Item.panel frames]) ++ (if isSyn then [Item.synPanel] else []) ++ [Item.excLine name isSyn]

/-- The expected rendering, by Python's own chaining rule (`traceback.TracebackException`): `__cause__` when it is set
("direct cause"), else `__context__` unless `__suppress_context__` ("during handling"); the OLDER exception's rendering
comes first, then the sentence, then this exception's own block. -/
def expectedChain : Exc → List Item
  | .mk name frames _ _ suppress isSyn cause context =>
    match cause, context with
    | some c, _ => expectedChain c ++ Item.link true :: excBlock frames name isSyn
    | none, some x => if suppress then excBlock frames name isSyn else expectedChain x ++ Item.link false :: excBlock frames name isSyn
    | none, none => excBlock frames name isSyn

/-- every exception Python's rule designates below `e` is truthy and carries a traceback (it was raised) -/
def AllUsable : Exc → Prop
  | .mk _ _ _ _ suppress _ cause context =>
    match cause, context with
    | some c, _ => c.usable = true ∧ AllUsable c
    | none, some x => suppress = true ∨ (x.usable = true ∧ AllUsable x)
    | none, none => True

theorem renderStacks_single (s : Stack) : renderStacks [s] = excBlock s.frames s.name s.isSyn := by
  simp [renderStacks, excBlock]

theorem renderStacks_snoc (s t : Stack) (L : List Stack) :
    renderStacks (L ++ [t] ++ [s]) = renderStacks (L ++ [t]) ++ Item.link t.isCause :: renderStacks [s] := by
  induction L <;> simp_all [renderStacks]

theorem extract_cons (f : Bool) (e : Exc) :
    ∃ tl, extract f e = { name := e.name, isCause := f, isSyn := e.isSyn, frames := e.frames } :: tl := by
  fun_induction extract f e <;> exact ⟨_, rfl⟩

theorem renderTrace_step (k : Bool) (older : Exc) (s : Stack) :
    renderStacks ((s :: extract k older).reverse) =
      renderStacks ((extract k older).reverse) ++ Item.link k :: excBlock s.frames s.name s.isSyn := by
  obtain ⟨tl, htl⟩ := extract_cons k older
  rw [htl, List.reverse_cons, List.reverse_cons, renderStacks_snoc, renderStacks_single]

theorem renderTrace_extract (f : Bool) (e : Exc) (h : AllUsable e) :
    renderStacks ((extract f e).reverse) = expectedChain e := by
  -- the cases are the branches of `extract`, in the order of its text
  fun_induction extract f e <;> simp only [AllUsable] at h
  -- `__cause__` set and usable: the walk goes on into it, as Python's rule does
  case case1 st c ctx hu ih => rw [renderTrace_step, ih h.2]; simp [expectedChain, st]
  -- `__cause__` set but not usable (the walk would fall back to `__context__`, or stop): `AllUsable` says it is usable
  case case2 hu _ _ _ => exact absurd h.1 hu
  case case3 hu _ _ => exact absurd h.1 hu
  case case4 hu => exact absurd h.1 hu
  -- no cause, `__context__` usable and not suppressed: the walk goes on into it
  case case5 suppress _ st x hx ih =>
    simp only [Bool.and_eq_true, Bool.not_eq_true'] at hx
    rcases h with h | h
    · rw [h] at hx; exact absurd hx.2 (by simp)
    · rw [renderTrace_step, ih h.2]; simp [expectedChain, hx.2, st]
  -- no cause, `__context__` there but suppressed or not usable: the walk stops; `AllUsable` leaves only suppressed
  case case6 suppress _ st x hx =>
    rcases h with h | h
    · subst h; simp [expectedChain, renderStacks, excBlock, st]
    · rw [h.1] at hx
      have hs : suppress = true := by cases suppress <;> simp_all
      subst hs; simp [expectedChain, renderStacks, excBlock, st]
  -- neither cause nor context
  case case7 st => simp [expectedChain, renderStacks, excBlock, st]

/-- what one frame contributes, read off the file system as it is (no cache) -/
def frameSpec (g : Bool) (special known : FileId → Bool) (fs : FileId → Option (List Char)) (first : Bool) (fr : Frame) :
    List FrameItem :=
  (if !special fr.file && !first then [FrameItem.blank] else []) ++ FrameItem.header fr.file fr.lineno ::
  (if special fr.file then []
   else match fs fr.file with
     | none => [FrameItem.error]
     | some code =>
       if !known fr.file && g then [FrameItem.error]
       else [FrameItem.blank, FrameItem.syntax code fr.lineno (known fr.file)])

/-- … and a stack: its frames in call order, the first without the blank separator -/
def stackSpec (g : Bool) (special known : FileId → Bool) (fs : FileId → Option (List Char)) : Bool → List Frame → List FrameItem
  | _, [] => []
  | first, fr :: rest => frameSpec g special known fs first fr ++ stackSpec g special known fs false rest

/-- every cached entry is what the file system holds now (files that cannot be opened are never cached) -/
def CacheInvOpt (fs : FileId → Option (List Char)) (cache : List (FileId × List Char)) : Prop :=
  ∀ p ∈ cache, fs p.1 = some p.2

/-- Under the invariant a read answers what the file system holds now, and keeps the invariant. -/
theorem readCodeOpt_spec (fs : FileId → Option (List Char)) (cache : List (FileId × List Char)) (h : CacheInvOpt fs cache)
    (f : FileId) : ∃ c', CacheInvOpt fs c' ∧ readCodeOpt fs cache f = (fs f).map (·, c') := by
  unfold readCodeOpt
  cases hf : cache.find? (fun p => p.1 == f) with
  | some p =>
    have hp := h p (List.mem_of_find?_eq_some hf)
    rw [show p.1 = f by simpa using List.find?_some hf] at hp
    exact ⟨cache, h, by simp [hp]⟩
  | none =>
    cases hc : fs f with
    | none => exact ⟨cache, h, rfl⟩
    | some code =>
      refine ⟨(f, code) :: cache, fun p hp => ?_, rfl⟩
      rcases List.mem_cons.mp hp with rfl | hp
      · exact hc
      · exact h p hp

theorem cacheInvOpt_nil (fs : FileId → Option (List Char)) : CacheInvOpt fs [] := nofun

/-! `read_code` where `open` cannot fail (`readCode`, `stackCodesFrom` of Model/Syntax.lean): the same read under the same
invariant. -/

/-- every cached entry is what the file system holds now -/
def CacheInv (fs : FileId → List Char) (cache : List (FileId × List Char)) : Prop := ∀ p ∈ cache, p.2 = fs p.1

theorem cacheInv_iff (fs : FileId → List Char) (cache : List (FileId × List Char)) :
    CacheInv fs cache ↔ CacheInvOpt (fun f => some (fs f)) cache :=
  forall₂_congr fun _ _ => ⟨fun e => congrArg some e.symm, fun e => (Option.some.inj e).symm⟩

theorem readCodeOpt_some (fs : FileId → List Char) (cache : List (FileId × List Char)) (f : FileId) :
    readCodeOpt (fun f => some (fs f)) cache f = some (readCode fs cache f) := by
  unfold readCodeOpt readCode
  cases (cache.find? fun p => p.1 == f).map (·.2) <;> rfl

theorem readCode_spec (fs : FileId → List Char) (cache : List (FileId × List Char)) (h : CacheInv fs cache) (f : FileId) :
    (readCode fs cache f).1 = fs f ∧ CacheInv fs (readCode fs cache f).2 := by
  obtain ⟨c', hc', hr⟩ := readCodeOpt_spec _ cache ((cacheInv_iff fs cache).mp h) f
  rw [readCodeOpt_some, Option.map_some, Option.some.injEq] at hr
  rw [hr]
  exact ⟨rfl, (cacheInv_iff fs c').mpr hc'⟩

theorem stackCodesFrom_spec (fs : FileId → List Char) : ∀ (frames : List FileId) (cache : List (FileId × List Char)),
    CacheInv fs cache → (stackCodesFrom fs cache frames).1 = frames.map fs ∧ CacheInv fs (stackCodesFrom fs cache frames).2
  | [], cache, h => ⟨rfl, h⟩
  | f :: rest, cache, h => by
    obtain ⟨h1, h2⟩ := readCode_spec fs cache h f
    obtain ⟨h3, h4⟩ := stackCodesFrom_spec fs rest _ h2
    exact ⟨by simp [stackCodesFrom, h1, h3], by simpa [stackCodesFrom] using h4⟩

theorem cacheInv_nil (fs : FileId → List Char) : CacheInv fs [] := by intro p hp; cases hp

theorem renderStackFrom_spec (g : Bool) (special known : FileId → Bool) (fs : FileId → Option (List Char))
    (frames : List Frame) (cache : List (FileId × List Char)) (first : Bool) (h : CacheInvOpt fs cache) :
    renderStackFrom g special known fs cache first frames = stackSpec g special known fs first frames := by
  induction frames generalizing cache first with
  | nil => rfl
  | cons fr rest ih =>
    obtain ⟨c', hc', hr⟩ := readCodeOpt_spec fs cache h fr.file
    unfold renderStackFrom stackSpec frameSpec
    by_cases hs : special fr.file = true
    · simp only [hs, if_true]
      rw [ih cache false h]
    · simp only [hs, Bool.false_eq_true, if_false, hr]
      cases fs fr.file with
      | none => simp [ih cache false h]
      | some code =>
        simp only [Option.map_some]
        rw [ih c' false hc']
        by_cases hk : (!known fr.file && g) = true <;> simp [hk]

theorem stackSpec_infix (g : Bool) (special known : FileId → Bool) (fs : FileId → Option (List Char)) (fr : Frame)
    (frames : List Frame) (first : Bool) (h : fr ∈ frames) :
    ∃ fst, frameSpec g special known fs fst fr <:+: stackSpec g special known fs first frames := by
  induction frames generalizing first with
  | nil => cases h
  | cons a rest ih =>
    rcases List.mem_cons.mp h with rfl | h
    · exact ⟨first, by unfold stackSpec; exact (List.prefix_append _ _).isInfix⟩
    · obtain ⟨fst, hin⟩ := ih false h
      refine ⟨fst, ?_⟩
      unfold stackSpec
      exact hin.trans (List.suffix_append _ _).isInfix

end RichModel.Syntax
