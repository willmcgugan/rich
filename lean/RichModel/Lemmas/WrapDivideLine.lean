import RichModel.Lemmas.WrapStrings
import RichModel.Lemmas.Pieces
import RichModel.Lemmas.CellsChop
/-!
`divide_line` (_wrap.py:20-47) for an arbitrary cell-width function `cw`: three claims under the single hypothesis
`∀ c, cw c ≤ w` (every character fits a line).  (B1), `divideLine_offsets`: the offsets are strictly increasing and strictly
inside the text.  (B2), `divideLine_pieces_fit`: with `fold` every piece between consecutive offsets fits once stripped.
(B3), `break_only_when_too_wide`: an offset between two non-whitespace characters lies inside a word wider than the line,
and only with `fold`.  The idea: a round of the
loop cuts its word into chunks (`Chunked`), so the loop lays the text out in lines (`LaidOut`) and the offsets are the
ends of these lines (`divideLine_lines`, at every width); (B1)-(B3) are read off the lines, and so is what holds without
the hypothesis: the offsets increase strictly and lie before the end of the text (`divideLine_bounds`, of which (B1) and
`divideLine_weak` are readings).
-/
namespace RichModel
namespace Wrap
open Text

theorem dropWhile_head {α : Type} (p : α → Bool) (l : List α) :
    l.dropWhile p = [] ∨ ∃ c r, l.dropWhile p = c :: r ∧ p c = false := by
  have := List.head?_dropWhile_not p l
  cases h : l.dropWhile p with
  | nil => exact Or.inl rfl
  | cons c r => rw [h] at this; exact Or.inr ⟨c, r, rfl, by simpa using this⟩

/-- shape of one `re_word` match -/
def IsWord (word lead body trail : List Char) : Prop :=
  word = lead ++ body ++ trail ∧ (∀ c ∈ lead, pyIsSpace c = true) ∧ (∀ c ∈ trail, pyIsSpace c = true) ∧
    body ≠ [] ∧ ∀ c ∈ body, pyIsSpace c = false

theorem matchWord_none (s : List Char) (h : matchWord s = none) : ∀ c ∈ s, pyIsSpace c = true := by
  unfold matchWord at h
  simp only at h
  split at h
  · rename_i hb
    intro c hc
    rw [← List.takeWhile_append_dropWhile (p := pyIsSpace) (l := s)] at hc
    rcases List.mem_append.mp hc with hc | hc
    · exact mem_takeWhile_true _ _ c hc
    · exfalso
      rcases dropWhile_head pyIsSpace s with h0 | ⟨d, r, h0, hd⟩
      · rw [h0] at hc; simp at hc
      · rw [h0, List.takeWhile_cons_of_pos (by simp [hd])] at hb
        simp at hb
  · cases h

theorem matchWord_some (s word rest : List Char) (h : matchWord s = some (word, rest)) :
    s = word ++ rest ∧
    (∃ body trail, IsWord word (s.takeWhile pyIsSpace) body trail ∧ (rest ≠ [] → trail ≠ [])) ∧
    (rest = [] ∨ ∃ c r, rest = c :: r ∧ pyIsSpace c = false) := by
  unfold matchWord at h
  simp only at h
  split at h
  · cases h
  · rename_i hb
    simp only [Option.some.injEq, Prod.mk.injEq] at h
    obtain ⟨h1, h2⟩ := h
    generalize hr1 : s.dropWhile pyIsSpace = r1 at *
    generalize hr2 : r1.dropWhile (fun c => !pyIsSpace c) = r2 at *
    have e1 : s = s.takeWhile pyIsSpace ++ r1 := by rw [← hr1, List.takeWhile_append_dropWhile]
    have e2 : r1 = r1.takeWhile (fun c => !pyIsSpace c) ++ r2 := by rw [← hr2, List.takeWhile_append_dropWhile]
    have e3 : r2 = r2.takeWhile pyIsSpace ++ rest := by rw [← h2, List.takeWhile_append_dropWhile]
    refine ⟨?_, ⟨r1.takeWhile (fun c => !pyIsSpace c), r2.takeWhile pyIsSpace, ⟨?_, ?_, ?_, ?_, ?_⟩, ?_⟩, ?_⟩
    · rw [← h1]; simp only [List.append_assoc]; rw [← e3, ← e2, ← e1]
    · rw [← h1]; simp
    · exact mem_takeWhile_true _ _
    · exact mem_takeWhile_true _ _
    · intro h0; rw [h0] at hb; simp at hb
    · intro c hc; have := mem_takeWhile_true _ _ c hc; simpa using this
    · intro hne htr
      apply hne
      rcases dropWhile_head (fun c => !pyIsSpace c) r1 with h0 | ⟨d, r, h0, hd⟩
      · rw [hr2] at h0; rw [← h2, h0]; rfl
      · rw [hr2] at h0
        have hd' : pyIsSpace d = true := by simpa using hd
        rw [h0, List.takeWhile_cons_of_pos hd'] at htr; simp at htr
    · rw [← h2]; exact dropWhile_head pyIsSpace r2

/-! ### the structure of `words text` -/

/-- `(a, b, w)` is a match of `re_word` in `text`: `w` stands at `[a, b)`, is indented only at the beginning of the
text, and past the beginning follows a whitespace character -/
structure WordAt (text : List Char) (a b : Nat) (w : List Char) : Prop where
  stop : b = a + w.length
  cut : text.drop a = w ++ text.drop b
  word : ∃ lead body trail, IsWord w lead body trail ∧ (lead ≠ [] → a = 0)
  before : a ≠ 0 → ∃ c, text[a - 1]? = some c ∧ pyIsSpace c = true

/-- what `words` guarantees about the triples from position `pos` on: each a match, each beginning where the one before
ends, nothing but whitespace behind the last -/
def WordsAt (text : List Char) : Nat → List (Nat × Nat × List Char) → Prop
  | pos, [] => ∀ c ∈ text.drop pos, pyIsSpace c = true
  | pos, (a, b, w) :: ws => a = pos ∧ WordAt text a b w ∧ WordsAt text b ws

theorem last_of_append (pre trail : List Char) (P : Char → Prop) (hne : trail ≠ []) (hP : ∀ c ∈ trail, P c) :
    ∃ c, (pre ++ trail)[(pre ++ trail).length - 1]? = some c ∧ P c := by
  rw [← List.getLast?_eq_getElem?, List.getLast?_append, List.getLast?_eq_some_getLast hne]
  exact ⟨_, rfl, hP _ (List.getLast_mem hne)⟩

theorem IsWord.nonspace {w lead body trail : List Char} (h : IsWord w lead body trail) :
    ∃ c ∈ w, pyIsSpace c = false := by
  obtain ⟨h1, _, _, h4, h5⟩ := h
  cases body with
  | nil => exact absurd rfl h4
  | cons c r => exact ⟨c, by rw [h1]; simp, h5 c (by simp)⟩

theorem IsWord.ne_nil {w lead body trail : List Char} (h : IsWord w lead body trail) : w ≠ [] := by
  obtain ⟨c, hc, _⟩ := h.nonspace
  exact List.ne_nil_of_mem hc

theorem WordAt.eq_take {text : List Char} {a b : Nat} {w : List Char} (h : WordAt text a b w) :
    w = (text.drop a).take (b - a) := by
  rw [h.cut, List.take_left' (by rw [h.stop, Nat.add_sub_cancel_left])]

theorem WordAt.stop_le {text : List Char} {a b : Nat} {w : List Char} (h : WordAt text a b w) : b ≤ text.length := by
  obtain ⟨_, _, _, hw, _⟩ := h.word
  have := List.length_pos_iff.mpr hw.ne_nil
  have := congrArg List.length h.cut
  have := h.stop
  rw [List.length_drop, List.length_append, List.length_drop] at *; omega

/-- The loop of `words` from `pos` on, `s` being what is left of the text.  The third hypothesis is its invariant: past
position 0 the rest is empty, or starts with a non-whitespace character that follows a whitespace character (a match
swallows all the whitespace behind its word).  `s.length ≤ fuel`: every match consumes at least one character. -/
theorem wordsFrom_at (text : List Char) : ∀ (fuel pos : Nat) (s : List Char), s = text.drop pos → s.length ≤ fuel →
    (pos ≠ 0 → s = [] ∨ ((∃ c r, s = c :: r ∧ pyIsSpace c = false) ∧
      ∃ c, text[pos - 1]? = some c ∧ pyIsSpace c = true)) →
    WordsAt text pos (wordsFrom fuel pos s)
  | 0, pos, s, hs, hf, _ => by
    have : s = [] := List.eq_nil_of_length_eq_zero (by omega)
    simp only [wordsFrom, WordsAt]
    rw [← hs, this]; simp
  | fuel + 1, pos, s, hs, hf, hp => by
    simp only [wordsFrom]
    cases hm : matchWord s with
    | none =>
      simp only [WordsAt]; rw [← hs]; exact matchWord_none s hm
    | some wr =>
      obtain ⟨w, rest⟩ := wr
      obtain ⟨h1, ⟨body, trail, hw, htr⟩, h3⟩ := matchWord_some s w rest hm
      have hwne : w ≠ [] := hw.ne_nil
      have hwl : 0 < w.length := List.length_pos_iff.mpr hwne
      have hrest : rest = text.drop (pos + w.length) := by
        rw [← List.drop_drop, ← hs, h1, List.drop_left]
      -- a match is found, so `s` is not empty: past position 0 it starts with a non-whitespace character
      have hp' := fun hpos => (hp hpos).resolve_left
        (fun h0 => hwne (List.append_eq_nil_iff.mp (h1.symm.trans h0)).1)
      simp only [WordsAt]
      refine ⟨trivial, ⟨rfl, ?_, ⟨_, body, trail, hw, ?_⟩, fun hpos => (hp' hpos).2⟩, ?_⟩
      · rw [← hrest, ← hs, h1]
      · intro hl
        apply Classical.byContradiction
        intro hpos
        obtain ⟨⟨c, r, h0, hc⟩, _⟩ := hp' hpos
        rw [h0, List.takeWhile_cons_of_neg (by simp [hc])] at hl; exact hl rfl
      · apply wordsFrom_at text fuel (pos + w.length) rest hrest
        · have := congrArg List.length h1
          rw [List.length_append] at this; omega
        · intro _
          rcases h3 with h3 | h3
          · exact Or.inl h3
          · refine Or.inr ⟨h3, ?_⟩
            have hne : rest ≠ [] := by obtain ⟨c, r, h, _⟩ := h3; rw [h]; simp
            have htne := htr hne
            obtain ⟨hw1, _, hw3, _, _⟩ := hw
            obtain ⟨c, hc1, hc2⟩ := last_of_append (s.takeWhile pyIsSpace ++ body) trail
              (fun c => pyIsSpace c = true) htne hw3
            refine ⟨c, ?_, hc2⟩
            rw [← hw1] at hc1
            rw [Nat.add_sub_assoc hwl, ← List.getElem?_drop, ← hs, h1,
              List.getElem?_append_left (Nat.sub_lt hwl Nat.one_pos)]
            exact hc1

theorem words_at (text : List Char) : WordsAt text 0 (words text) :=
  wordsFrom_at text text.length 0 text (by simp) (Nat.le_refl _) (fun h => absurd rfl h)

/-! ### the offsets of a list of chunks -/

theorem getLast?_cons_concat {α : Type} (f : α) (init : List α) (lst : α) :
    (f :: (init ++ [lst])).getLast? = some lst := by
  rw [← List.cons_append, List.getLast?_concat]

theorem chunkOffsets_cons_ne (s : Nat) (c : List Char) (rest : List (List Char)) (h : rest ≠ []) :
    chunkOffsets s (c :: rest) = (s + c.length) :: chunkOffsets (s + c.length) rest := by
  cases rest with
  | nil => exact absurd rfl h
  | cons _ _ => rfl

/-- the offsets advance by the lengths of the chunks; only the chunks after the first need to be non-empty -/
theorem chunkOffsets_bounds : ∀ (c : List Char) (cs : List (List Char)) (s : Nat), (∀ q ∈ cs, q ≠ []) →
    (chunkOffsets s (c :: cs)).Pairwise (· < ·) ∧
    ∀ o ∈ chunkOffsets s (c :: cs), s + c.length ≤ o ∧ o < s + (c :: cs).flatten.length
  | c, [], s, _ => ⟨List.Pairwise.nil, fun _ ho => nomatch ho⟩
  | c, c' :: rest, s, h => by
    have hc' : 0 < c'.length := List.length_pos_iff.mpr (h c' (List.mem_cons_self ..))
    obtain ⟨ih1, ih2⟩ := chunkOffsets_bounds c' rest (s + c.length) (fun x hx => h x (List.mem_cons_of_mem _ hx))
    rw [chunkOffsets_cons_ne s c (c' :: rest) (List.cons_ne_nil _ _)]
    have hl : (c :: c' :: rest).flatten.length = c.length + (c' :: rest).flatten.length := by
      rw [List.flatten_cons, List.length_append]
    have hl' : c'.length ≤ (c' :: rest).flatten.length := by
      rw [List.flatten_cons, List.length_append]; exact Nat.le_add_right _ _
    refine ⟨List.pairwise_cons.mpr ⟨fun o ho => Nat.lt_of_lt_of_le (Nat.lt_add_of_pos_right hc') (ih2 o ho).1, ih1⟩, ?_⟩
    intro o ho
    rcases List.mem_cons.mp ho with rfl | ho
    · exact ⟨Nat.le_refl _, by omega⟩
    · have := ih2 o ho; omega

/-- `chop_cells` on a word wider than the line (`chop_first`: C13's description at every width and position) -/
theorem chop_shape (cw : Char → Nat) (w : Nat) (lp : Nat) (word : List Char)
    (h : w < cellLen cw (pyRstrip word)) :
    ∃ f init lst, chopCells cw word w lp = f :: (init ++ [lst]) ∧ f ++ (init ++ [lst]).flatten = word ∧
      (f ≠ [] → lp + cellLen cw f ≤ w) ∧ (∀ q ∈ init ++ [lst], q ≠ []) ∧
      ((∀ c, cw c ≤ w) → (f = [] → 0 < lp) ∧ ∀ q ∈ init ++ [lst], cellLen cw q ≤ w) := by
  have hlen := cellLen_pyRstrip_le cw word
  obtain ⟨f, tl, e, hf, hok, hmax⟩ := chop_first cw word w lp
  have hcat := chop_concat cw word w lp
  rw [e, List.flatten_cons] at hcat
  rcases List.eq_nil_or_concat tl with rfl | ⟨init, lst, rfl⟩
  · -- one chunk only: the word would fit
    rw [List.flatten_nil, List.append_nil] at hcat
    subst hcat
    rcases hf with rfl | hf
    · rw [cellLen_nil] at hlen; omega
    · omega
  · rw [List.concat_eq_append] at e hcat hok hmax
    refine ⟨f, init, lst, e, hcat, fun hne => hf.resolve_left hne, fun q hq => (hok q hq).1, fun hw => ⟨fun h0 => ?_, fun q hq => ?_⟩⟩
    · -- the first character of the second chunk did not fit behind the empty first one
      obtain ⟨q', rest, hq'⟩ := List.exists_cons_of_ne_nil (List.append_ne_nil_of_right_ne_nil init (List.cons_ne_nil lst []))
      rw [hq', h0] at hmax
      obtain ⟨⟨c, t, _, hlt⟩, _⟩ := hmax
      have := hw c
      rw [cellLen_nil] at hlt; omega
    · exact (hok q hq).2.resolve_right fun ⟨c, _, hc⟩ => Nat.not_le.mpr hc (hw c)

/-- two lists of chunks one after the other, the line going on after the last chunk of the first -/
theorem chunkOffsets_glue (x : List Char) (rest : List (List Char)) :
    ∀ (init : List (List Char)) (l : List Char) (s : Nat),
    chunkOffsets s (init ++ [l]) ++ chunkOffsets (s + (init ++ [l]).flatten.length) (x :: rest) =
      chunkOffsets s (init ++ (l ++ x) :: rest)
  | [], l, s => by
    cases rest with
    | nil => rfl
    | cons r rest =>
      simp only [List.nil_append, List.flatten_cons, List.flatten_nil, List.append_nil, chunkOffsets,
        List.length_append, Nat.add_assoc]
  | c :: init, l, s => by
    rw [List.cons_append, List.cons_append, chunkOffsets_cons_ne s c _ (by simp), chunkOffsets_cons_ne s c _ (by simp),
      List.cons_append, ← chunkOffsets_glue x rest init l (s + c.length), List.flatten_cons, List.length_append,
      Nat.add_assoc]

/-! ### one round of the loop, and the loop -/

theorem divideStep_fit (cw : Char → Nat) (w : Nat) (fold : Bool) (lp a b : Nat) (word : List Char)
    (h : lp + cellLen cw (pyRstrip word) ≤ w) :
    divideStep cw w fold lp (a, b, word) = (lp + cellLen cw word, []) := by
  simp only [divideStep]; rw [if_neg (Nat.not_lt.mpr h)]

/-- What one round of the loop does with `word` at `a` when the line holds `lp` cells, `r` being the new line position
and the offsets: the word is cut into chunks `f :: cs`; `f` goes on the line, every chunk of `cs` starts a line of its
own.  `[word]`: the word joins the line; `[[], word]`: it starts the next one; `chop_cells`' chunks: it is folded.
This much at every width; when every character fits a line, no line is left empty (`first`) and with `fold` every
chunk fits (`fit`). -/
structure Chunked (cw : Char → Nat) (w : Nat) (fold : Bool) (lp a : Nat) (word : List Char) (r : Nat × List Nat)
    (f : List Char) (cs : List (List Char)) : Prop where
  cat : f ++ cs.flatten = word
  offs : r.2 = chunkOffsets a (f :: cs)
  pos : r.1 = match cs.getLast? with
    | some l => cellLen cw l
    | none => lp + cellLen cw word
  ne : ∀ q ∈ cs, q ≠ []
  why : ∀ o ∈ r.2, o = a ∨ (fold = true ∧ w < cellLen cw (pyRstrip word))
  first : (∀ c, cw c ≤ w) → cs ≠ [] → f = [] → 0 < a
  fit : (∀ c, cw c ≤ w) → fold = true → (cs = [] → lp + cellLen cw (pyRstrip word) ≤ w) ∧
    (cs ≠ [] → f ≠ [] → lp + cellLen cw f ≤ w) ∧ ∀ q ∈ cs, cellLen cw (pyRstrip q) ≤ w

theorem Chunked.join (cw : Char → Nat) (w : Nat) (fold : Bool) (lp a : Nat) (word : List Char)
    (hfit : fold = true → lp + cellLen cw (pyRstrip word) ≤ w) :
    Chunked cw w fold lp a word (lp + cellLen cw word, []) word [] :=
  ⟨List.append_nil _, rfl, rfl, fun _ h => (nomatch h), fun _ h => (nomatch h), fun _ h => absurd rfl h,
    fun _ hf => ⟨fun _ => hfit hf, fun h => absurd rfl h, fun _ h => (nomatch h)⟩⟩

theorem Chunked.newline (cw : Char → Nat) (w : Nat) (fold : Bool) (lp a : Nat) (word : List Char) (hne : word ≠ [])
    (ha : 0 < a) (hfit : fold = true → cellLen cw (pyRstrip word) ≤ w) :
    Chunked cw w fold lp a word (cellLen cw word, [a]) [] [word] :=
  ⟨by simp, rfl, rfl, fun q hq => List.mem_singleton.mp hq ▸ hne, fun o ho => Or.inl (List.mem_singleton.mp ho),
    fun _ _ _ => ha, fun _ hf => ⟨fun h => absurd h (by simp), fun _ h => absurd rfl h,
      fun q hq => List.mem_singleton.mp hq ▸ hfit hf⟩⟩

theorem divideStep_chunks (cw : Char → Nat) (w : Nat) (fold : Bool) (lp a b : Nat)
    (word : List Char) (hne : word ≠ []) (h0 : a = 0 → lp = 0) :
    ∃ f cs, Chunked cw w fold lp a word (divideStep cw w fold lp (a, b, word)) f cs := by
  fun_cases divideStep cw w fold lp (a, b, word)
  next _ h2 hf _ =>
    -- wider than the line, `fold`: the chunks of `chop_cells`
    subst hf
    obtain ⟨f, init, lst, e1, e2, e3, e4, e5⟩ := chop_shape cw w lp word h2
    refine ⟨f, init ++ [lst], e2, congrArg (chunkOffsets a) e1, ?_, e4, fun _ _ => Or.inr ⟨rfl, h2⟩,
      fun hw _ hf => Nat.pos_of_ne_zero fun h => Nat.ne_of_gt ((e5 hw).1 hf) (h0 h),
      fun hw _ => ⟨fun h => absurd h (by simp), fun _ => e3,
        fun q hq => Nat.le_trans (cellLen_pyRstrip_le cw q) ((e5 hw).2 q hq)⟩⟩
    show (match (chopCells cw word w lp).getLast? with | some l => cellLen cw l | none => lp) = _
    rw [e1, getLast?_cons_concat, List.getLast?_concat]
  next _ h2 hf =>
    -- wider than the line, no `fold`: a break before the word unless it is the first
    have hf : fold = false := by simpa using hf
    subst hf
    by_cases ha : a = 0
    · have := Chunked.join cw w false 0 0 word (fun h => nomatch h)
      rw [Nat.zero_add] at this
      subst ha
      rw [h0 rfl]
      exact ⟨_, _, this⟩
    · show ∃ f cs, Chunked cw w false lp a word (cellLen cw word, if (a != 0) = true then [a] else []) f cs
      rw [if_pos (by simpa using ha)]
      exact ⟨_, _, .newline cw w false lp a word hne (Nat.pos_of_ne_zero ha) (fun h => nomatch h)⟩
  next _ h2 h3 =>
    -- fits a line but not this one: it starts the next
    have ha : a ≠ 0 := by simp at h3; exact h3.2
    exact ⟨_, _, .newline cw w fold lp a word hne (Nat.pos_of_ne_zero ha) (fun _ => Nat.le_of_not_lt h2)⟩
  next h1 h2 h3 =>
    -- (the word does not fit behind an empty line, or is the first word on a line that is not empty: neither happens)
    exfalso
    have hlp : lp ≠ 0 := fun h => h2 (by rw [h, Nat.zero_add] at h1; exact h1)
    exact h3 (by simpa using ⟨hlp, fun h => hlp (h0 h)⟩)
  -- the word joins the line
  next h1 => exact ⟨_, _, .join cw w fold lp a word (fun _ => Nat.le_of_not_lt h1)⟩

theorem WordsAt_mem (text : List Char) : ∀ (ws : List (Nat × Nat × List Char)) (pos : Nat), WordsAt text pos ws →
    ∀ a b word, (a, b, word) ∈ ws → pos ≤ a ∧ WordAt text a b word
  | [], _, _, a, b, word, hm => by simp at hm
  | (a', b', w') :: ws, pos, h, a, b, word, hm => by
    obtain ⟨h1, h2, h6⟩ := h
    rcases List.mem_cons.mp hm with hm | hm
    · simp only [Prod.mk.injEq] at hm
      obtain ⟨rfl, rfl, rfl⟩ := hm
      exact ⟨Nat.le_of_eq h1.symm, h2⟩
    · have ih := WordsAt_mem text ws b' h6 a b word hm
      have := h2.stop
      exact ⟨by omega, ih.2⟩

theorem words_mem {text : List Char} {a b : Nat} {word : List Char} (h : (a, b, word) ∈ words text) :
    WordAt text a b word :=
  (WordsAt_mem text (words text) 0 (words_at text) a b word h).2

/-- What the loop makes of the text from `pos` on (the words `ws`) when the line holds `lp` cells: `x` goes on the line,
every chunk of `rest` is a line of its own; `first` and `fit` as for `Chunked`. -/
structure LaidOut (cw : Char → Nat) (w : Nat) (fold : Bool) (text : List Char) (pos lp : Nat)
    (ws : List (Nat × Nat × List Char)) (x : List Char) (rest : List (List Char)) : Prop where
  cat : (x :: rest).flatten = text.drop pos
  offs : divideGo cw w fold lp ws = chunkOffsets pos (x :: rest)
  ne : ∀ q ∈ rest, q ≠ []
  why : ∀ o ∈ divideGo cw w fold lp ws, ∃ a b word, (a, b, word) ∈ ws ∧ a ≤ o ∧ o < b ∧
    (o = a ∨ (fold = true ∧ w < cellLen cw (pyRstrip word)))
  first : (∀ c, cw c ≤ w) → rest ≠ [] → x = [] → 0 < pos
  fit : (∀ c, cw c ≤ w) → fold = true →
    (∀ cur, lp = cellLen cw cur → cellLen cw (pyRstrip cur) ≤ w → cellLen cw (pyRstrip (cur ++ x)) ≤ w) ∧
    ∀ q ∈ rest, cellLen cw (pyRstrip q) ≤ w

theorem divideGo_lines (cw : Char → Nat) (w : Nat) (fold : Bool) (text : List Char) :
    ∀ (ws : List (Nat × Nat × List Char)) (pos lp : Nat), WordsAt text pos ws → (pos = 0 → lp = 0) →
    ∃ x rest, LaidOut cw w fold text pos lp ws x rest
  | [], pos, lp, h, _ =>
    ⟨text.drop pos, [], by simp, rfl, fun _ hq => (nomatch hq), fun _ ho => (nomatch ho), fun _ h => absurd rfl h,
      fun _ _ => ⟨fun cur _ hfit => by rw [pyRstrip_append_space cur _ h]; exact hfit, fun _ hq => (nomatch hq)⟩⟩
  | (a, b, word) :: ws, pos, lp, h, h0 => by
    obtain ⟨rfl, ⟨h2, h3, ⟨lead, body, trail, h4, _⟩, _⟩, h6⟩ := h
    have hne : word ≠ [] := h4.ne_nil
    have hab : a < b := h2 ▸ Nat.lt_add_of_pos_right (List.length_pos_iff.mpr hne)
    obtain ⟨f, cs, st⟩ := divideStep_chunks cw w fold lp a b word hne h0
    obtain ⟨x', rest', L⟩ := divideGo_lines cw w fold text ws b (divideStep cw w fold lp (a, b, word)).1 h6
      (fun hb0 => absurd hb0 (Nat.ne_of_gt (Nat.zero_lt_of_lt hab)))
    have hb : b = a + (f :: cs).flatten.length := by rw [List.flatten_cons, st.cat, h2]
    obtain ⟨s1, s2⟩ := chunkOffsets_bounds f cs a st.ne
    have hwhy : ∀ o ∈ divideGo cw w fold lp ((a, b, word) :: ws), ∃ a' b' word', (a', b', word') ∈ (a, b, word) :: ws ∧
        a' ≤ o ∧ o < b' ∧ (o = a' ∨ (fold = true ∧ w < cellLen cw (pyRstrip word'))) := by
      intro o ho
      rcases List.mem_append.mp ho with ho | ho
      · obtain ⟨o1, o2⟩ := s2 o (st.offs ▸ ho)
        exact ⟨a, b, word, List.mem_cons_self .., Nat.le_trans (Nat.le_add_right _ _) o1, hb ▸ o2, st.why o ho⟩
      · obtain ⟨a', b', word', j1, j2⟩ := L.why o ho
        exact ⟨a', b', word', List.mem_cons_of_mem _ j1, j2⟩
    rcases List.eq_nil_or_concat cs with rfl | ⟨init, l, rfl⟩
    · -- the word joins the line
      obtain rfl : f = word := by simpa using st.cat
      refine ⟨f ++ x', rest', ?_, ?_, L.ne, hwhy, fun _ _ h => absurd (List.append_eq_nil_iff.mp h).1 hne,
        fun hw hf => ⟨?_, (L.fit hw hf).2⟩⟩
      · rw [h3, ← L.cat]; simp
      · have := chunkOffsets_glue x' rest' [] f a
        rw [List.nil_append, ← hb, ← st.offs, ← L.offs] at this
        exact this
      · intro cur hlp hfit
        rw [← List.append_assoc]
        refine (L.fit hw hf).1 (cur ++ f) (by rw [st.pos, cellLen_append, hlp]; rfl) ?_
        rw [pyRstrip_append_of_nonspace cur f h4.nonspace, cellLen_append, ← hlp]
        exact (st.fit hw hf).1 rfl
    · -- the word is broken: what is left of the line ends with `f`
      have hl : (divideStep cw w fold lp (a, b, word)).1 = cellLen cw l := by
        rw [st.pos, List.concat_eq_append, List.getLast?_concat]
      rw [List.concat_eq_append] at st hb s1 s2
      have hcs : init ++ [l] ≠ [] := by simp
      refine ⟨f, init ++ (l ++ x') :: rest', ?_, ?_, ?_, hwhy, fun hw _ => st.first hw hcs, fun hw hf => ⟨?_, ?_⟩⟩
      · rw [h3, ← L.cat, ← st.cat]; simp
      · have := chunkOffsets_glue x' rest' (f :: init) l a
        rw [List.cons_append, ← hb, ← st.offs, ← L.offs] at this
        exact this
      · intro q hq
        rcases List.mem_append.mp hq with hq | hq
        · exact st.ne q (List.mem_append_left _ hq)
        · rcases List.mem_cons.mp hq with rfl | hq
          · exact fun h => st.ne l (by simp) (List.append_eq_nil_iff.mp h).1
          · exact L.ne q hq
      · intro cur hlp hfit
        by_cases hf' : f = []
        · rw [hf', List.append_nil]; exact hfit
        · refine Nat.le_trans (cellLen_pyRstrip_le cw _) ?_
          rw [cellLen_append, ← hlp]; exact (st.fit hw hf).2.1 hcs hf'
      · intro q hq
        rcases List.mem_append.mp hq with hq | hq
        · exact (st.fit hw hf).2.2 q (List.mem_append_left _ hq)
        · rcases List.mem_cons.mp hq with rfl | hq
          · exact (L.fit hw hf).1 l hl ((st.fit hw hf).2.2 l (by simp))
          · exact (L.fit hw hf).2 q hq

/-- **The offsets of `divide_line` are the ends of the lines it lays the text out in** (all but the last), at every
width. -/
theorem divideLine_lines (cw : Char → Nat) (text : List Char) (w : Nat) (fold : Bool) :
    ∃ x rest, LaidOut cw w fold text 0 0 (words text) x rest :=
  divideGo_lines cw w fold text (words text) 0 0 (words_at text) (fun _ => rfl)

/-- At every width the offsets are strictly increasing and lie before the end of the text — they are the ends of the
lines the loop lays the text out in, and only the first line can be empty.  It is not when every character fits a line:
then the offsets are positive. -/
theorem divideLine_bounds (cw : Char → Nat) (text : List Char) (w : Nat) (fold : Bool) :
    (divideLine cw text w fold).Pairwise (· < ·) ∧
    ∀ o ∈ divideLine cw text w fold, o < text.length ∧ ((∀ c, cw c ≤ w) → 0 < o) := by
  obtain ⟨x, rest, L⟩ := divideLine_lines cw text w fold
  obtain ⟨h1, h2⟩ := chunkOffsets_bounds x rest 0 L.ne
  unfold divideLine
  rw [L.offs]
  refine ⟨h1, fun o ho => ⟨by have := (h2 o ho).2; rwa [L.cat, Nat.zero_add] at this, fun hw => ?_⟩⟩
  have hx : x ≠ [] := fun hx => Nat.lt_irrefl 0 (L.first hw (by rintro rfl; cases ho) hx)
  exact Nat.lt_of_lt_of_le (List.length_pos_iff.mpr hx) (Nat.zero_add x.length ▸ (h2 o ho).1)

/-- The offsets `divide_line` hands to `Text.divide` are ascending and inside the text, at every width — also
below the width of a single character, where the first may be 0 (an empty first line). -/
theorem divideLine_weak (cw : Char → Nat) (text : List Char) (w : Nat) (fold : Bool) :
    AscFrom 0 (divideLine cw text w fold) ∧ ∀ o ∈ divideLine cw text w fold, o ≤ text.length :=
  have ⟨h1, h2⟩ := divideLine_bounds cw text w fold
  ⟨ascFrom_of_pairwise _ 0 (h1.imp Nat.le_of_lt) (fun o _ => Nat.zero_le o), fun o ho => Nat.le_of_lt (h2 o ho).1⟩

/-- (B1) the offsets of `divide_line` are strictly increasing and strictly inside the text -/
theorem divideLine_offsets (cw : Char → Nat) (text : List Char) (w : Nat) (fold : Bool) (hw : ∀ c, cw c ≤ w) :
    (divideLine cw text w fold).Pairwise (· < ·) ∧ ∀ o ∈ divideLine cw text w fold, 0 < o ∧ o < text.length :=
  have ⟨h1, h2⟩ := divideLine_bounds cw text w fold
  ⟨h1, fun o ho => ⟨(h2 o ho).2 hw, (h2 o ho).1⟩⟩

/-- (B3) an offset between two non-whitespace characters lies strictly inside a word that (together with the
indentation `re_word` gives the first word) is wider than the line, and only when folding. -/
theorem break_only_when_too_wide (cw : Char → Nat) (text : List Char) (w : Nat) (fold : Bool) (hw : ∀ c, cw c ≤ w)
    (o : Nat) (ho : o ∈ divideLine cw text w fold)
    (h1 : ∃ c, text[o - 1]? = some c ∧ pyIsSpace c = false) (_h2 : ∃ c, text[o]? = some c ∧ pyIsSpace c = false) :
    fold = true ∧ ∃ a b word, (a, b, word) ∈ words text ∧ a < o ∧ o < b ∧ word = (text.drop a).take (b - a) ∧
      w < cellLen cw (pyRstrip word) := by
  obtain ⟨x, rest, L⟩ := divideLine_lines cw text w fold
  obtain ⟨a, b, word, hm, ha, hb, hc⟩ := L.why o ho
  have hpos := ((divideLine_offsets cw text w fold hw).2 o ho).1
  have hw' := words_mem hm
  have hoa : o ≠ a := by
    intro e
    subst e
    obtain ⟨c, hc1, hc2⟩ := hw'.before (Nat.ne_of_gt hpos)
    obtain ⟨d, hd1, hd2⟩ := h1
    rw [hc1] at hd1; cases hd1; rw [hc2] at hd2; cases hd2
  rcases hc with hc | ⟨hf, hwide⟩
  · exact absurd hc hoa
  · exact ⟨hf, a, b, word, hm, Nat.lt_of_le_of_ne ha (Ne.symm hoa), hb, hw'.eq_take, hwide⟩

theorem pieces_chunkOffsets (text : List Char) : ∀ (cs : List (List Char)) (c : List Char) (s : Nat),
    text.drop s = (c :: cs).flatten → piecesFrom s (chunkOffsets s (c :: cs)) text = c :: cs
  | [], c, s, h => by
    rw [List.flatten_cons, List.flatten_nil, List.append_nil] at h
    simp only [chunkOffsets, piecesFrom, h]
  | c' :: cs, c, s, h => by
    rw [List.flatten_cons] at h
    rw [chunkOffsets_cons_ne s c _ (List.cons_ne_nil _ _)]
    simp only [piecesFrom]
    rw [Nat.add_sub_cancel_left, h, List.take_left' rfl,
      pieces_chunkOffsets text cs c' (s + c.length) (drop_of_append text _ _ s h)]

/-- (B2) with folding, every line fits the width once its trailing whitespace is removed -/
theorem divideLine_pieces_fit (cw : Char → Nat) (text : List Char) (w : Nat) (hw : ∀ c, cw c ≤ w) :
    ∀ p ∈ pieces (divideLine cw text w true) text, cellLen cw (pyRstrip p) ≤ w := by
  obtain ⟨x, rest, L⟩ := divideLine_lines cw text w true
  unfold pieces divideLine
  rw [L.offs, pieces_chunkOffsets text rest x 0 L.cat.symm]
  intro p hp
  rcases List.mem_cons.mp hp with rfl | hp
  · exact (L.fit hw rfl).1 [] rfl (by simp [pyRstrip, cellLen_nil])
  · exact (L.fit hw rfl).2 p hp

/-! ### the structure of `words text` as a whole -/

theorem WordsAt_adjacent (text : List Char) : ∀ (l1 : List (Nat × Nat × List Char)) (pos : Nat)
    (t1 t2 : Nat × Nat × List Char) (l2 : List (Nat × Nat × List Char)),
    WordsAt text pos (l1 ++ t1 :: t2 :: l2) → t2.1 = t1.2.1
  | [], _, (_, _, _), (_, _, _), _, ⟨_, _, h, _⟩ => h
  | (_, _, _) :: l1, _, t1, t2, l2, ⟨_, _, h⟩ => WordsAt_adjacent text l1 _ t1 t2 l2 h

theorem words_adjacent (text : List Char) (l1 l2 : List (Nat × Nat × List Char)) (t1 t2 : Nat × Nat × List Char)
    (h : words text = l1 ++ t1 :: t2 :: l2) : t2.1 = t1.2.1 :=
  WordsAt_adjacent text l1 0 t1 t2 l2 (h ▸ words_at text)

theorem WordsAt_cover (text : List Char) : ∀ (ws : List (Nat × Nat × List Char)) (pos : Nat), WordsAt text pos ws →
    ∃ tl, text.drop pos = (ws.map (·.2.2)).flatten ++ tl ∧ ∀ c ∈ tl, pyIsSpace c = true
  | [], pos, h => ⟨text.drop pos, by simp, h⟩
  | (a, b, w) :: ws, pos, ⟨ha, hw, h⟩ => by
    obtain ⟨tl, h1, h2⟩ := WordsAt_cover text ws b h
    exact ⟨tl, by rw [← ha, hw.cut, h1]; simp, h2⟩

theorem words_cover (text : List Char) :
    (∃ tl, text = ((words text).map (·.2.2)).flatten ++ tl ∧ ∀ c ∈ tl, pyIsSpace c = true) ∧
    ∀ t ∈ (words text).head?, t.1 = 0 := by
  refine ⟨by simpa using WordsAt_cover text (words text) 0 (words_at text), ?_⟩
  have := words_at text
  cases h : words text with
  | nil => simp
  | cons t ws =>
    obtain ⟨a, b, w⟩ := t
    rw [h] at this
    simp [this.1]

theorem divideGo_nil (cw : Char → Nat) (w : Nat) (fold : Bool) :
    ∀ (ws : List (Nat × Nat × List Char)) (lp : Nat), lp + cellLen cw ((ws.map (·.2.2)).flatten) ≤ w →
      divideGo cw w fold lp ws = []
  | [], _, _ => rfl
  | (a, b, word) :: ws, lp, h => by
    simp only [List.map_cons, List.flatten_cons, cellLen_append] at h
    have hr := cellLen_pyRstrip_le cw word
    simp only [divideGo]
    rw [divideStep_fit cw w fold lp a b word (by omega)]
    simp only [List.nil_append]
    exact divideGo_nil cw w fold ws _ (by omega)

theorem divideLine_nil (cw : Char → Nat) (text : List Char) (w : Nat) (fold : Bool) (h : cellLen cw text ≤ w) :
    divideLine cw text w fold = [] := by
  unfold divideLine
  apply divideGo_nil
  obtain ⟨⟨tl, htl, _⟩, _⟩ := words_cover text
  have := congrArg (cellLen cw) htl
  rw [cellLen_append] at this
  omega

example : words "  ab  cd e".toList = [(0, 6, "  ab  ".toList), (6, 9, "cd ".toList), (9, 10, "e".toList)] := by
  repeat rw [String.toList_ofList]
  decide +kernel
example : divideLine (fun _ => 1) "ab cdefghijk".toList 4 true = [4, 8] := by
  rw [String.toList_ofList]; decide +kernel
example : divideLine (fun _ => 1) "ab cdefghijk".toList 4 false = [3] := by
  rw [String.toList_ofList]; decide +kernel
example : divideLine (fun _ => 1) "ab    cdefghij k".toList 4 true = [6, 10, 14] := by
  rw [String.toList_ofList]; decide +kernel
example : pieces (divideLine (fun _ => 1) "ab    cdefghij k".toList 4 true) "ab    cdefghij k".toList =
    ["ab    ".toList, "cdef".toList, "ghij".toList, " k".toList] := by
  repeat rw [String.toList_ofList]
  decide +kernel
/-- double-width characters: the hypothesis of (B1)-(B3) holds and the lines are as (B2) says -/
example : (∀ c, (fun c : Char => if c = 'W' then 2 else 1) c ≤ 4) ∧
    pieces (divideLine (fun c => if c = 'W' then 2 else 1) "  aWWb  WWWc d".toList 4 true) "  aWWb  WWWc d".toList =
      ["  a".toList, "WW".toList, "b  ".toList, "WW".toList, "Wc ".toList, "d".toList] := by
  refine ⟨fun c => by simp only; split <;> omega, ?_⟩
  repeat rw [String.toList_ofList]
  decide +kernel

end Wrap
end RichModel
