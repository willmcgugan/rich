import RichModel.Lemmas.LayoutDeps
import RichModel.Lemmas.FramesRect
import RichModel.Lemmas.FramesBars
import RichModel.Lemmas.FramesTreeRect
import RichModel.Lemmas.FramesColumns
import RichModel.Gen.Boxes
/-!
What the `Layout*.lean` lemma files need of the frame library, stated at the generated cell-width table (`cwD`,
Lemmas/LayoutDeps.lean) and proved from the lemma modules only (`Lemmas/Frames*.lean`) and the generated table `Gen.boxes`; the
finite facts about the box table and the fixed characters the frames draw with in one kernel evaluation (`Dep.frameTables_ok`).
The statements are the same as the facts of the same names in `Props/C08.lean` (whose `cw` is `cwD` by definition).
-/
namespace RichModel.Layout
open RichModel RichModel.Frames

namespace Dep

variable {σ : Type}

/-- executable form of "none of the eight border characters of a frame box is a line feed, each is one cell wide" -/
def boxOk (b : Frames.Box) : Bool :=
  [b.topLeft, b.top, b.topRight, b.midLeft, b.midRight, b.bottomLeft, b.bottom, b.bottomRight].all
    (fun c => c != '\n' && cwD c == 1)

/-- The finite facts about the generated table `Gen.boxes` and the fixed characters the frames draw with (guides, bars), in one
kernel evaluation. -/
theorem frameTables_ok :
    (∀ i ∈ List.range Gen.boxes.length, (boxAt i).any boxOk = true) ∧
    (∀ s ∈ allGuideTexts, cellLen cwD s = 4 ∧ ∀ c ∈ s, c ≠ '\n') ∧
    (∀ c ∈ barChars ++ ['-', '━', '╸', '╺'], cwD c = 1) := by decide +kernel

/-- Every box of `rich/box.py` parses (8 lines of 4 characters) and its border characters are one cell
wide and are not line feeds. -/
theorem boxes_ok :
    (List.range Gen.boxes.length).all (fun i => match boxAt i with | some b => boxOk b | none => false) = true := by
  rw [List.all_eq_true]
  intro i hi
  have := frameTables_ok.1 i hi
  cases h : boxAt i <;> rw [h] at this <;> exact this

/-- …hence whatever `Box.substitute` selects is such a box. -/
theorem boxAt_ok (i : Nat) (b : Frames.Box) (h : boxAt i = some b) : b.NoNl ∧ b.Narrow cwD := by
  have := List.all_eq_true.mp boxes_ok i (List.mem_range.mpr (boxAt_lt h))
  simp only [h] at this
  exact Box.of_all cwD this

/-- The tree guide strings are four cells wide (ASCII and the three Unicode sets). -/
theorem guides_ok : GuidesOk cwD := frameTables_ok.2.1

/-- The characters of bars and progress bars are one cell wide. -/
theorem bar_chars_narrow : ∀ c ∈ barChars ++ ['-', '━', '╸', '╺'], cwD c = 1 := frameTables_ok.2.2

/-- The panel never exceeds the available width (title or not), for a child whose measurement is sound. -/
theorem panel_width_le (v : Variant) (o : PanelOpts) (inner : Child σ) (w : Int) (hw : 3 ≤ w)
    (hm : ∀ k : Int, (inner.measureAt k).maximum ≤ max k 0) :
    panelChildWidth cwD v o inner w + 2 ≤ w :=
  panelChildWidth_le cwD v o inner w hw hm

theorem align_rect (env : Env) (v : Variant) (o : AlignOpts) (c : Child σ) (w : Int) :
    let L := alignChildLines env v o c w
    let sw := shapeWidth cwD L
    splitLines (alignConsole cwD env v o c w) = alignLines cwD env v o c w ∧
    (alignLines cwD env v o c w).length = L.length ∧
    (∀ l ∈ alignLines cwD env v o c w, (lineLength cwD l : Int) = sw + alignPadCells o (w - sw)) ∧
    ((o.pad = true ∨ o.align = .right) → (sw : Int) ≤ w →
      ∀ l ∈ alignLines cwD env v o c w, (lineLength cwD l : Int) = w) ∧
    (∀ l ∈ L, stream (adjustLineLength cwD l sw none) = stream l ++ List.replicate (sw - lineLength cwD l) (' ', none, false)) :=
  alignConsole_rect cwD cwD_space cwD_le_two env v o c w

/-- **bar_exact.**  `Bar` (as `__init__` leaves it: `begin ≥ 0`, `end ≤ size`) draws one segment of exactly `width` cells. -/
theorem bar_exact (o : BarOpts) (w : Int)
    (hsd : 0 < o.size.den) (hbd : 0 < o.beginV.den) (hed : 0 < o.endV.den)
    (hb0 : 0 ≤ o.beginV.num) (hes : o.endV.le o.size = true) (hw : 0 ≤ barWidth o.width w) :
    ∃ text : List Char, barConsole (σ := σ) o w = [seg text, nl] ∧ cellLen cwD text = (barWidth o.width w).toNat :=
  barConsole_cells cwD (fun c hc => bar_chars_narrow c (List.mem_append.mpr (Or.inl hc))) o w hsd hbd hed hb0 hes hw

/-- `Bar.__init__` establishes the hypotheses of `bar_exact`. -/
theorem bar_init_ok (o : BarOpts) (hbd : 0 < o.beginV.den) :
    0 ≤ (barInit o).beginV.num ∧ (barInit o).endV.le (barInit o).size = true ∧ 0 < (barInit o).beginV.den :=
  barInit_ok o hbd

/-- A progress bar never exceeds its width, and fills it exactly when colour is available. -/
theorem progress_bar_le_and_exact (env : Env) (o : ProgressOpts) (w : Int) (hp : o.pulse = false)
    (hw : 0 ≤ barWidth o.width w) (htd : 0 < o.total.den) (hcd : 0 < o.completed.den) :
    lineLength cwD (progressConsole (σ := σ) env o w) ≤ (barWidth o.width w).toNat ∧
    (env.noColor = false → env.colorSystem ≠ 0 →
      lineLength cwD (progressConsole (σ := σ) env o w) = (barWidth o.width w).toNat) :=
  progress_bar_cells cwD cwD_space (bar_chars_narrow _ (by decide)) (bar_chars_narrow _ (by decide))
    (bar_chars_narrow _ (by decide)) (bar_chars_narrow _ (by decide)) env o w hp hw htd hcd

/-- The pulse animation is exactly `width` cells for every time stamp and console. -/
theorem progress_pulse_exact_width (env : Env) (o : ProgressOpts) (w : Int) (hp : o.pulse = true)
    (hw : 0 ≤ barWidth o.width w) :
    lineLength cwD (progressConsole (σ := σ) env o w) = (barWidth o.width w).toNat :=
  progress_pulse_exact cwD cwD_space (bar_chars_narrow _ (by decide)) (bar_chars_narrow _ (by decide)) env o w hp hw

/-- no line feed is ever emitted by a progress bar -/
theorem progress_bar_has_no_newline (env : Env) (o : ProgressOpts) (w : Int) :
    ∀ s ∈ progressConsole (σ := σ) env o w, '\n' ∉ s.text :=
  progressConsole_no_nl env o w

/-- Every line of a rendered tree is exactly `w` cells wide. -/
theorem tree_rect (env : Env) (root : TreeN σ) (w : Int) :
    ∀ l ∈ splitLines (treeConsole cwD env root w), lineLength cwD l = w.toNat :=
  treeConsole_rect cwD cwD_space cwD_le_two guides_ok env root w

end Dep
end RichModel.Layout
