import RichModel.Lemmas.Pretty
/-!
`to_repr` and `traverse` (property C16): the slices `max_string` takes; a view of the two container kinds under which
`_traverse` on a container is one equation (`traverseObj_container`); totality on every well-formed heap (cycles
included); well-formedness of the produced tree.
-/
namespace RichModel.Pretty
open RichModel

theorem sliceTo_natCast (cs : Str) (m : Nat) : sliceTo cs (m : Int) = cs.take m := by
  simp [sliceTo]

theorem sliceTo_neg (cs : Str) (k : Nat) : sliceTo cs (-(k + 1 : Nat) : Int) = cs.take (cs.length - (k + 1)) := by
  have h : ¬ (-(k + 1 : Nat) : Int) ≥ 0 := Int.not_le.mpr (Int.negSucc_lt_zero k)
  rw [sliceTo, if_neg h, ← Int.sub_eq_add_neg, Int.toNat_sub]

theorem strRepr_some (pyRepr : Bool → Str → Str) (m : Int) (b : Bool) (cs : Str) :
    strRepr pyRepr (some m) b cs =
      if (cs.length : Int) > m then pyRepr b (sliceTo cs m) ++ ['+'] ++ natStr ((cs.length : Int) - m).toNat
      else pyRepr b cs := rfl

theorem optList_eq_some_iff {α} {l : List (Option α)} {r : List α} : optList l = some r ↔ l = r.map some := by
  induction l generalizing r with
  | nil => cases r <;> simp [optList]
  | cons o t ih =>
    cases o with
    | none => cases r <;> simp [optList]
    | some a =>
      cases r with
      | nil => simp [optList]
      | cons b r =>
        simp only [optList, Option.map_eq_some_iff, ih, List.map_cons, List.cons.injEq, Option.some.injEq]
        exact ⟨fun ⟨_, h, ha, hr⟩ => ⟨ha, hr ▸ h⟩, fun ⟨ha, h⟩ => ⟨r, h, ha, rfl⟩⟩

theorem optList_map_isSome {α β} (f : α → Option β) (l : List α) (h : ∀ a ∈ l, (f a).isSome = true) :
    (optList (l.map f)).isSome = true := by
  induction l with
  | nil => rfl
  | cons a t ih =>
    obtain ⟨b, hb⟩ := Option.isSome_iff_exists.mp (h a List.mem_cons_self)
    rw [List.map_cons, hb, optList, Option.isSome_map]
    exact ih fun x hx => h x (List.mem_cons_of_mem _ hx)

theorem enum_length {α} (i : Nat) (l : List α) : (enum i l).length = l.length := by
  induction l generalizing i with
  | nil => rfl
  | cons a t ih => rw [enum, List.length_cons, ih, List.length_cons]

theorem mem_enum {α} (i : Nat) (l : List α) (p : Nat × α) (h : p ∈ enum i l) : p.2 ∈ l := by
  induction l generalizing i with
  | nil => cases h
  | cons a t ih =>
    rcases List.mem_cons.mp h with rfl | h
    · exact List.mem_cons_self
    · exact List.mem_cons_of_mem _ (ih _ h)

theorem shown_length {α} (ml : Option Nat) (items : List α) :
    (shown ml items).length = match ml with | none => items.length | some m => min m items.length := by
  cases ml <;> simp [shown]

theorem mem_shown {α} (ml : Option Nat) (items : List α) (x : α) (h : x ∈ shown ml items) : x ∈ items := by
  cases ml with
  | none => exact h
  | some m => exact List.mem_of_mem_take h

/-- references stay inside the heap. -/
def HeapOk (h : Heap) : Prop :=
  ∀ o ∈ h, match o with
    | .leaf _ _ => True
    | .seq _ _ items => ∀ r ∈ items, r < h.length
    | .map _ _ items => ∀ kr ∈ items, kr.2 < h.length

/-! A container as `_traverse` goes through it, whatever its kind: braces, `is_tuple`, and per item the key (mappings only)
and the reference. -/

/-- `_BRACES[type(obj)](obj)`: open, close, empty form -/
def HObj.braces (v : Variant) : HObj → Str × Str × Str
  | .leaf _ _ => ([], [], [])
  | .seq k aux _ => seqBraces v k aux
  | .map k aux _ => mapBraces k aux

/-- `is_tuple` of the container's node -/
def HObj.isTup : HObj → Bool
  | .seq k _ _ => k == .tuple
  | _ => false

/-- the items in iteration order: the key under a mapping, and the reference -/
def HObj.items : HObj → List (Option Leaf × Nat)
  | .leaf _ _ => []
  | .seq _ _ items => items.map (none, ·)
  | .map _ _ items => items.map fun kr => (some kr.1, kr.2)

/-- `type(obj) in _CONTAINERS` -/
def HObj.isContainer : HObj → Bool
  | .leaf _ _ => false
  | _ => true

/-- the attributes `_traverse` assigns on a child's node: `last`, and under a mapping `key_repr` -/
def childAttrs (cfg : TravCfg) : Option Leaf → Bool → Node → Node
  | none, last => (·.setLast last)
  | some k, last => (·.setKeyLast (toRepr cfg.pyRepr cfg.maxString k) last)

theorem enum_map {α β} (g : α → β) (i : Nat) (l : List α) : enum i (l.map g) = (enum i l).map fun p => (p.1, g p.2) := by
  induction l generalizing i with
  | nil => rfl
  | cons a t ih => simp [enum, ih]

theorem shown_map {α β} (g : α → β) (ml : Option Nat) (l : List α) : shown ml (l.map g) = (shown ml l).map g := by
  cases ml <;> simp [shown]

theorem HeapOk.refs {h : Heap} (hok : HeapOk h) {o : HObj} (ho : o ∈ h) : ∀ p ∈ o.items, p.2 < h.length := by
  have := hok o ho
  cases o with
  | leaf _ _ => exact nofun
  | _ =>
    intro p hp
    obtain ⟨x, hx, rfl⟩ := List.mem_map.mp hp
    exact this x hx

theorem traverseObj_container (cfg : TravCfg) (h : Heap) (fuel : Nat) (visited : List Nat) (id : Nat) (root : Bool)
    {o : HObj} (hget : h[id]? = some o) (hc : o.isContainer = true) :
    traverseObj cfg h (fuel + 1) visited id root =
      if visited.contains id then some cycleMarker
      else if o.items.isEmpty then some (.mk [] [] [] [] (o.braces cfg.variant).2.2 root o.isTup true [])
      else (optList ((enum 0 (shown cfg.maxLength o.items)).map fun p =>
          (traverseObj cfg h fuel (id :: visited) p.2.2 false).map
            (childAttrs cfg p.2.1 (p.1 == o.items.length - 1)))).map fun kids =>
        .mk [] [] (o.braces cfg.variant).1 (o.braces cfg.variant).2.1 [] root o.isTup true
          (withMore cfg.maxLength o.items.length kids) := by
  cases o with
  | leaf _ _ => cases hc
  | _ =>
    rw [traverseObj, hget]
    simp only [HObj.items, HObj.braces, HObj.isTup, shown_map, enum_map, List.map_map, List.isEmpty_map, List.length_map,
      Function.comp_def, childAttrs]
    congr 2
    generalize optList _ = r
    cases r <;> rfl

theorem traverseObj_leaf (cfg : TravCfg) (h : Heap) (fuel : Nat) (visited : List Nat) (id : Nat) (root : Bool)
    {l : Leaf} {t : Bool} (hget : h[id]? = some (.leaf l t)) :
    traverseObj cfg h (fuel + 1) visited id root =
      some (.mk [] (toRepr cfg.pyRepr cfg.maxString l) [] [] [] root t false []) := by
  rw [traverseObj, hget]

/-- A container with items, not on the path: one child for each shown item, in order, then the `... +k` node when items
were left out. -/
theorem traverseObj_children (cfg : TravCfg) (h : Heap) (fuel : Nat) (visited : List Nat) (id : Nat) (root : Bool)
    {o : HObj} {n : Node} (hget : h[id]? = some o) (hc : o.isContainer = true) (hv : visited.contains id = false)
    (hne : o.items.isEmpty = false) (hres : traverseObj cfg h (fuel + 1) visited id root = some n) :
    ∃ kids, optList ((enum 0 (shown cfg.maxLength o.items)).map fun p =>
        (traverseObj cfg h fuel (id :: visited) p.2.2 false).map
          (childAttrs cfg p.2.1 (p.1 == o.items.length - 1))) = some kids ∧
      kids.length = (shown cfg.maxLength o.items).length ∧
      n = .mk [] [] (o.braces cfg.variant).1 (o.braces cfg.variant).2.1 [] root o.isTup true
        (withMore cfg.maxLength o.items.length kids) := by
  rw [traverseObj_container cfg h fuel visited id root hget hc, hv, hne, if_neg Bool.false_ne_true,
    if_neg Bool.false_ne_true] at hres
  obtain ⟨kids, hk, rfl⟩ := Option.map_eq_some_iff.mp hres
  have hlen := congrArg List.length (optList_eq_some_iff.mp hk)
  rw [List.length_map, List.length_map, enum_length] at hlen
  exact ⟨kids, hk, hlen.symm, rfl⟩

theorem traverseObj_isSome (cfg : TravCfg) (h : Heap) (hok : HeapOk h) :
    ∀ (fuel : Nat) (visited : List Nat) (id : Nat) (root : Bool), id < h.length → visited.Nodup →
      (∀ v ∈ visited, v < h.length) → h.length + 1 ≤ fuel + visited.length →
      (traverseObj cfg h fuel visited id root).isSome = true := by
  intro fuel
  induction fuel with
  | zero =>
    intro visited id root _ hd hb hf
    -- distinct ids below `|heap|` are at most `|heap|` many
    have := hd.length_le_of_subset (l₂ := List.range h.length) fun x hx => List.mem_range.mpr (hb x hx)
    rw [List.length_range] at this
    omega
  | succ fuel ih =>
    intro visited id root hid hd hb hf
    have hget : h[id]? = some h[id] := List.getElem?_eq_getElem hid
    cases hc : h[id].isContainer with
    | false =>
      cases ho : h[id] with
      | leaf l t => rw [traverseObj_leaf cfg h fuel visited id root (hget.trans (congrArg some ho))]; rfl
      | _ => rw [ho] at hc; cases hc
    | true =>
      rw [traverseObj_container cfg h fuel visited id root hget hc]
      by_cases hv : visited.contains id = true
      · rw [if_pos hv]; rfl
      · by_cases hne : h[id].items.isEmpty = true
        · rw [if_neg hv, if_pos hne]; rfl
        · rw [if_neg hv, if_neg hne, Option.isSome_map]
          refine optList_map_isSome _ _ fun p hp => ?_
          rw [Option.isSome_map]
          -- a child is traversed one level deeper, with `id` on the path
          exact ih (id :: visited) _ false (hok.refs (List.getElem_mem hid) _ (mem_shown _ _ _ (mem_enum _ _ _ hp)))
            (List.nodup_cons.mpr ⟨fun hm => hv (List.contains_iff_mem.mpr hm), hd⟩)
            (List.forall_mem_cons.mpr ⟨hid, hb⟩) (by rw [List.length_cons]; omega)

theorem wfList_iff (l : List Node) : wfList l = true ↔ ∀ x ∈ l, x.wf = true := by
  induction l with
  | nil => simp [wfList]
  | cons a t ih => simp [wfList, ih]

theorem wf_childAttrs (cfg : TravCfg) (key : Option Leaf) (b : Bool) (n : Node) : (childAttrs cfg key b n).wf = n.wf := by
  cases n; cases key <;> simp [childAttrs, Node.setLast, Node.setKeyLast, Node.wf]

theorem withMore_eq (ml : Option Nat) (N : Nat) (kids : List Node) :
    withMore ml N kids = kids ++ (match ml with
      | some m => if N > m then [moreMarker (N - m)] else []
      | none => []) := by
  cases ml with
  | none => simp [withMore]
  | some m => simp only [withMore]; split <;> simp

/-- the `... +k` node is well-formed -/
theorem wfList_withMore (ml : Option Nat) (N : Nat) (kids : List Node) :
    wfList (withMore ml N kids) = true ↔ ∀ x ∈ kids, x.wf = true := by
  rw [withMore_eq, wfList_iff]
  cases ml with
  | none => simp
  | some m =>
    dsimp only
    split
    · rw [List.forall_mem_append, List.forall_mem_singleton]
      exact and_iff_left rfl
    · rw [List.append_nil]

theorem traverseObj_wf (cfg : TravCfg) (h : Heap) :
    ∀ (fuel : Nat) (visited : List Nat) (id : Nat) (root : Bool) (n : Node),
      traverseObj cfg h fuel visited id root = some n → n.wf = true := by
  intro fuel
  induction fuel with
  | zero => intro _ _ _ n hres; cases hres
  | succ fuel ih =>
    intro visited id root n hres
    cases hget : h[id]? with
    | none => rw [traverseObj, hget] at hres; cases hres
    | some o =>
      cases hc : o.isContainer with
      | false =>
        cases o with
        | leaf l t => rw [traverseObj_leaf cfg h fuel visited id root hget] at hres; cases hres; rfl
        | _ => cases hc
      | true =>
        -- the marker and the `empty` form have no children
        rw [traverseObj_container cfg h fuel visited id root hget hc] at hres
        split at hres
        · cases hres; rfl
        · split at hres
          · cases hres; rfl
          · obtain ⟨kids, hk, rfl⟩ := Option.map_eq_some_iff.mp hres
            simp only [Node.wf, Bool.true_or, Bool.true_and, List.isEmpty_nil, Bool.or_true]
            rw [wfList_withMore]
            intro x hx
            -- a child is the traversal of an item, with its attributes assigned
            obtain ⟨p, _, hy⟩ := List.mem_map.mp (optList_eq_some_iff.mp hk ▸ List.mem_map_of_mem hx)
            obtain ⟨n0, hn0, rfl⟩ := Option.map_eq_some_iff.mp hy
            rw [wf_childAttrs]; exact ih _ _ _ _ hn0

end RichModel.Pretty
