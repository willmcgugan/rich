import RichModel.Lemmas.FramesTitleRule
import RichModel.Lemmas.TextPad
import RichModel.Lemmas.FramesStyled
/-!
The title part of a `Panel`'s top border for a title that is a real `Text` (`panelTitleText` = `Panel._title`,
`textTitleO` = `title_text.style = …; title_text.align(…); console.render(title_text, <options of that width>)`,
Model/FramesTitle.lean): exactly the `cwid − 2` cells it was aligned to, on one line — any spans, tabs, line feeds,
wide characters, any alignment, a title longer than the panel.  One hypothesis beyond
consistency: the title's own `overflow` is not "ignore" (`Text.align` truncates with the text's OWN overflow method; a
title that says "ignore" is not truncated and the border is as long as the title).
-/
namespace RichModel.Frames
open RichModel RichModel.Text RichModel.Wrap

variable {σ : Type}

theorem ft_lineLength_chars (cw : Char → Nat) : ∀ (l : List (Segment σ)), (∀ s ∈ l, s.control = false) →
    lineLength cw l = cellLen cw (segChars l) := fun l h => by
  rw [lineLength_eq_cellLen, segChars, List.flatMap_def, List.flatMap_def,
    List.map_congr_left fun s hs => show (if s.control then [] else s.text) = s.text by rw [h s hs]; rfl]

/-- `Panel._title` on a consistent `Text` whose tab size is positive: succeeds; the result is consistent, `GoodC`, ends
with `""` and keeps the overflow method -/
theorem panelTitleText_ok [BEq σ] (t : Text σ) (hi : Inv t) (ts : Nat) (hts : 0 < ts) (htab : t.tabSize = some ts) :
    ∃ title, panelTitleText Variant.repaired true t = .ok (some title) ∧ GoodText [] title ∧ title.overflow = t.overflow := by
  unfold panelTitleText
  simp only [Bool.not_true, Bool.false_eq_true, if_false]
  obtain ⟨hmapG, hnl⟩ := replaceNl_spec t.plain hi.2.1
  -- `t2`: the title with `end = ""` and its line feeds replaced
  generalize ht2 : ({ t with endStr := [] } : Text σ).setPlain (t.plain.map (fun c => if c == '\n' then ' ' else c)) = t2
  have hi2 : Inv ({ t2 with noWrap := some true } : Text σ) := ht2 ▸ inv_setPlain _ _ (show Inv { t with endStr := [] } from hi) hmapG
  have hfields : t2.endStr = [] ∧ t2.tabSize = some ts ∧ t2.overflow = t.overflow := by
    rw [← ht2, htab.symm]; exact setPlain_fields _ _
  obtain ⟨q, hq, hqo⟩ := goodText_expandTabs (e := ([] : List Char)) ({ t2 with noWrap := some true } : Text σ) hi2
    (by rw [← ht2, setPlain_plain]; exact hnl) hfields.1 ts hts hfields.2.1
  have hqov : q.overflow = t.overflow := (expandTabs_fields _ q _ hq).2.trans hfields.2.2
  rw [hq]
  simp only [bind, Except.bind]
  refine ⟨_, rfl, goodText_pad hqo 1 (GoodC.single goodC_space), ?_⟩
  · rw [← hqov]
    unfold pad
    simp only [show ((1 : Int) != 0) = true from rfl, if_true]
    exact (setPlain_fields _ _).2.2

/-- `Text.align(method, n, ch)` (repaired) of a consistent `GoodC` text whose overflow method is not "ignore", `n ≥ 1`,
one-cell fill character: exactly `n` cells -/
theorem goodText_align (cw : Char → Nat) (hsp : cw ' ' = 1) (h2 : ∀ c, cw c ≤ 2) (hel : cw '…' = 1) {e : List Char}
    (t : Text σ) (ht : GoodText e t) (hov : t.overflow ≠ some RichModel.Overflow.ignore) (m : AlignMethod) (n : Nat) (hn : 1 ≤ n)
    (ch : Char) (hch : cw ch = 1) (hg : GoodC [ch]) :
    GoodText e (t.align Variant.repaired cw m (n : Int) ch) ∧ cellLen cw (t.align Variant.repaired cw m (n : Int) ch).plain = n := by
  have hT := goodText_truncate cw ht (n : Int) none false
  have hfit : cellLen cw (t.truncate cw (n : Int)).plain ≤ n := by
    rw [truncate_none]
    apply truncate_fits cw hsp h2 hel t n hn
    intro h
    cases hto : t.overflow with
    | none => rw [hto] at h; cases h
    | some ov => rw [hto] at h hov; simp only [Option.getD_some] at h; exact hov (by rw [h])
  rw [Text.align_eq]
  dsimp only
  generalize (t.truncate cw (n : Int)) = T at hT hfit ⊢
  generalize hc : cellLen cw T.plain = c at hfit ⊢
  rw [show ((n : Int) - (c : Int)).toNat = n - c by omega]
  cases m with
  | left =>
    exact ⟨goodText_padRight hT _ hg, by rw [Text.padRight_plain, cellLen_append, cellLen_replicate, hch, hc]; omega⟩
  | right =>
    exact ⟨goodText_padLeft hT _ hg, by rw [Text.padLeft_plain, cellLen_append, cellLen_replicate, hch, hc]; omega⟩
  | center =>
    refine ⟨goodText_padRight (goodText_padLeft hT _ hg) _ hg, ?_⟩
    rw [Text.padRight_plain, Text.padLeft_plain, cellLen_append, cellLen_append, cellLen_replicate, cellLen_replicate, hch, hc]
    omega

/-- **The title part of a panel's top border is exactly the `n` cells it was aligned to**, on one line, for
every consistent `Text` title whose overflow method is not "ignore". -/
theorem textTitleO_own_width [BEq σ] (cfg : TCfg σ) (hwv : cfg.wv = WVariant.repaired) (hsp : cfg.cw ' ' = 1)
    (h2 : ∀ c, cfg.cw c ≤ 2) (hel : cfg.cw '…' = 1) (a : AlignM) (t0 : Text σ) (hi : Inv t0) (ts : Nat) (hts : 0 < ts)
    (htab : t0.tabSize = some ts) (hov : t0.overflow ≠ some RichModel.Overflow.ignore) (st : σ) (n : Int) (ch : Char)
    (hch : cfg.cw ch = 1) (hg : GoodC [ch]) :
    ∃ title segs, panelTitleText Variant.repaired true t0 = .ok (some title) ∧
      (textTitleO cfg a title).render st n ch n = some segs ∧
      lineLength cfg.cw segs = n.toNat ∧ '\n' ∉ segChars segs ∧ ∀ s ∈ segs, s.control = false := by
  obtain ⟨title, htitle, hok, hovt⟩ := panelTitleText_ok t0 hi ts hts htab
  refine ⟨title, ?_⟩
  unfold textTitleO
  simp only []
  by_cases hrw : n < 1
  · refine ⟨[], htitle, by simp [hrw], ?_, by simp [segChars], by simp⟩
    have : n.toNat = 0 := by omega
    rw [this]; rfl
  · simp only [hrw, if_false]
    obtain ⟨n, rfl⟩ : ∃ k : Nat, n = (k : Int) := ⟨n.toNat, by omega⟩
    have hn1 : 1 ≤ n := by omega
    have hok1 : GoodText [] ({ title with style := st } : Text σ) := ⟨hok.inv, hok.good, hok.ends⟩
    have hov1 : ({ title with style := st } : Text σ).overflow ≠ some RichModel.Overflow.ignore := by
      show title.overflow ≠ _
      rw [hovt]; exact hov
    have hv : cfg.wv.text = Variant.repaired := by rw [hwv]; rfl
    obtain ⟨hA, hAw⟩ := goodText_align cfg.cw hsp h2 hel _ hok1 hov1 (toAlignMethod a) n hn1 ch hch hg
    rw [hv]
    obtain ⟨segs, x, hs, hx, hxw, hxn, hctl⟩ := hA.console cfg hwv hsp n hAw {}
    simp only [Int.toNat_natCast]
    rw [hs]
    rw [List.append_nil] at hx
    exact ⟨segs, htitle, rfl, by rw [ft_lineLength_chars cfg.cw segs hctl, hx, hxw], hx ▸ hxn, hctl⟩

end RichModel.Frames
