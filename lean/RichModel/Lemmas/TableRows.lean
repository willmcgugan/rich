import RichModel.Model.TableRows
/-!
Lemmas about `Table.add_row` (`Model/TableRows.lean`): what the loop over the arguments does to every column, for an accepted call
and for one that raises; then an accepted call, and any sequence of accepted calls, as one equation each (`addRow_ok`, `addRows_ok`),
which `Builder.Rect.extend` reads cell by cell.
-/
namespace RichModel.TableRows

variable {α : Type}

theorem getD_tail (cols : List (List α)) (j : Nat) (d : List α) : cols.tail.getD j d = cols.getD (j + 1) d := by
  cases cols <;> simp [List.getD]

theorem range_succ_map {β : Type} (f : Nat → β) (n : Nat) : (List.range (n + 1)).map f = f 0 :: (List.range n).map (fun j => f (j + 1)) := by
  rw [List.range_succ_eq_map]; simp [List.map_map, Function.comp_def]

/-- One accepted argument: its cell goes to the end of the column it meets (a new one, back-filled, when the columns have run out). -/
theorem addCells_cons (blank blankText : α) (nrows : Nat) {a : Arg α} (ha : a ≠ Arg.bad) (as : List (Arg α)) (cols : List (List α)) :
    addCells blank blankText nrows (a :: as) cols =
      ((cols.getD 0 (List.replicate nrows blankText) ++ [a.val blank]) :: (addCells blank blankText nrows as cols.tail).1,
       (addCells blank blankText nrows as cols.tail).2) := by
  cases a with
  | bad => exact absurd rfl ha
  | none => cases cols <;> rfl
  | ok x => cases cols <;> rfl

theorem addCells_flag (blank blankText : α) (nrows : Nat) : ∀ (args : List (Arg α)) (cols : List (List α)),
    (addCells blank blankText nrows args cols).2 = true ↔ ∀ a ∈ args, a ≠ Arg.bad
  | [], cols => by simp [addCells]
  | a :: as, cols => by
    by_cases ha : a = Arg.bad
    · subst ha; simp [addCells]
    · simp [addCells_cons blank blankText nrows ha, addCells_flag blank blankText nrows as cols.tail, ha]

/-- The loop over renderable arguments `pre`: every column they reach (a created one: `nrows` × `Text("")`) gets its argument
(`""` for `None`) appended, and the loop goes on with the remaining arguments and columns. -/
theorem addCells_append (blank blankText : α) (nrows : Nat) : ∀ (pre rest : List (Arg α)) (cols : List (List α)),
    (∀ a ∈ pre, a ≠ Arg.bad) →
    addCells blank blankText nrows (pre ++ rest) cols =
      ((List.range pre.length).map (fun j => cols.getD j (List.replicate nrows blankText) ++ [(pre.getD j Arg.none).val blank])
        ++ (addCells blank blankText nrows rest (cols.drop pre.length)).1,
       (addCells blank blankText nrows rest (cols.drop pre.length)).2)
  | [], rest, cols, _ => rfl
  | a :: pre, rest, cols, h => by
    have ih := addCells_append blank blankText nrows pre rest cols.tail (fun a ha => h a (List.mem_cons_of_mem _ ha))
    have hdrop : cols.tail.drop pre.length = cols.drop (pre.length + 1) := by cases cols <;> simp
    rw [List.cons_append, addCells_cons blank blankText nrows (h a List.mem_cons_self), ih, hdrop]
    simp only [List.length_cons, range_succ_map, getD_tail, List.getD_cons_zero, List.getD_cons_succ, List.cons_append]

theorem addCells_ok (blank blankText : α) (nrows : Nat) (args : List (Arg α)) (cols : List (List α))
    (hok : (addCells blank blankText nrows args cols).2 = true) (hl : cols.length ≤ args.length) :
    (addCells blank blankText nrows args cols).1 =
      (List.range args.length).map (fun j => cols.getD j (List.replicate nrows blankText) ++ [(args.getD j Arg.none).val blank]) := by
  have := addCells_append blank blankText nrows args [] cols ((addCells_flag blank blankText nrows args cols).1 hok)
  rw [List.append_nil] at this
  rw [this, List.drop_eq_nil_of_le hl]
  simp [addCells]

theorem addCells_bad (blank blankText : α) (nrows : Nat) (pre post : List (Arg α)) (cols : List (List α))
    (h : ∀ a ∈ pre, a ≠ Arg.bad) :
    (addCells blank blankText nrows (pre ++ Arg.bad :: post) cols) =
      ((List.range pre.length).map (fun j => cols.getD j (List.replicate nrows blankText) ++ [(pre.getD j Arg.none).val blank])
        ++ cols.getD pre.length (List.replicate nrows blankText) :: cols.drop (pre.length + 1), false) := by
  rw [addCells_append blank blankText nrows pre _ cols h]
  simp [addCells, List.getD_eq_getElem?_getD, List.head?_drop, List.headD_eq_head?_getD]

theorem padArgs_length (n : Nat) (args : List (Arg α)) : (padArgs n args).length = max n args.length := by
  unfold padArgs
  split
  · simp only [List.length_append, List.length_replicate]; omega
  · omega

theorem padArgs_getD (n : Nat) (args : List (Arg α)) (j : Nat) : (padArgs n args).getD j Arg.none = args.getD j Arg.none := by
  unfold padArgs
  split
  · -- beyond the arguments the padding holds `None`, which is also the default
    simp only [List.getD_eq_getElem?_getD, List.getElem?_append, List.getElem?_replicate]
    split
    · rfl
    · rw [List.getElem?_eq_none (by omega)]
      split <;> rfl
  · rfl

theorem padArgs_bad (n : Nat) (args : List (Arg α)) : (∀ a ∈ padArgs n args, a ≠ Arg.bad) ↔ ∀ a ∈ args, a ≠ Arg.bad := by
  unfold padArgs
  split
  · constructor
    · intro h a ha; exact h a (List.mem_append_left _ ha)
    · intro h a ha
      rcases List.mem_append.mp ha with ha | ha
      · exact h a ha
      · simp only [List.mem_replicate] at ha; rw [ha.2]; intro hh; cases hh
  · rfl

theorem padArgs_append (n : Nat) (pre : List (Arg α)) (a : Arg α) (post : List (Arg α)) :
    padArgs n (pre ++ a :: post) = pre ++ a :: padArgs (n - (pre.length + 1)) post := by
  unfold padArgs
  simp only [List.length_append, List.length_cons]
  by_cases h : pre.length + (post.length + 1) < n
  · rw [if_pos h, if_pos (by omega), show n - (pre.length + (post.length + 1)) = n - (pre.length + 1) - post.length by omega]
    simp only [List.append_assoc, List.cons_append]
  · rw [if_neg h, if_neg (by omega)]

/-- Every column holds exactly one cell per row (what `zip(*columns)` in `_render` silently relies on). -/
def Builder.Rect (b : Builder α) : Prop := ∀ c ∈ b.cols, c.length = b.rows.length

/-- The cell of column `j` in row `k` (`blank` outside). -/
def Builder.cellAt (blank : α) (b : Builder α) (j k : Nat) : α := (b.cols.getD j []).getD k blank

/-- The number of columns after the first `i + 1` of the calls (a call with more arguments than columns creates the difference). -/
def ncolsAfter (n : Nat) (calls : List (List (Arg α) × RowMeta)) (i : Nat) : Nat :=
  (calls.take (i + 1)).foldl (fun m c => max m c.1.length) n

theorem ncolsAfter_zero (n : Nat) (c : List (Arg α) × RowMeta) (cs : List (List (Arg α) × RowMeta)) :
    ncolsAfter n (c :: cs) 0 = max n c.1.length := by
  simp [ncolsAfter]

theorem ncolsAfter_succ (n : Nat) (c : List (Arg α) × RowMeta) (cs : List (List (Arg α) × RowMeta)) (i : Nat) :
    ncolsAfter n (c :: cs) (i + 1) = ncolsAfter (max n c.1.length) cs i := by
  simp [ncolsAfter]

theorem le_foldl_max {β : Type} (f : β → Nat) (l : List β) (n : Nat) : n ≤ l.foldl (fun m c => max m (f c)) n := by
  induction l generalizing n with
  | nil => exact Nat.le_refl n
  | cons c cs ih => exact Nat.le_trans (Nat.le_max_left n (f c)) (ih _)

theorem addRow_flag (blank blankText : α) (b : Builder α) (args : List (Arg α)) (m : RowMeta) :
    (b.addRow blank blankText args m).2 = true ↔ ∀ a ∈ args, a ≠ Arg.bad := by
  rw [← padArgs_bad b.cols.length, ← addCells_flag blank blankText b.rows.length _ b.cols]
  unfold Builder.addRow
  dsimp only
  split <;> simp [*]

/-- **An accepted `add_row` as one equation**, for any table (rectangular or not): there are `max(columns, arguments)` columns, column
`j` is what the call found (a column it created: `Text("")` in every earlier row) plus its argument (`""` for `None` and beyond the
arguments), and the `Row` is appended. -/
theorem addRow_ok (blank blankText : α) (b : Builder α) (args : List (Arg α)) (m : RowMeta)
    (h : (b.addRow blank blankText args m).2 = true) :
    b.addRow blank blankText args m =
      ({ cols := (List.range (max b.cols.length args.length)).map (fun j =>
            b.cols.getD j (List.replicate b.rows.length blankText) ++ [(args.getD j Arg.none).val blank]),
         rows := b.rows ++ [m] }, true) := by
  have hf := (addCells_flag blank blankText b.rows.length _ b.cols).2
    ((padArgs_bad b.cols.length args).2 ((addRow_flag blank blankText b args m).1 h))
  unfold Builder.addRow
  simp only [hf, if_true, addCells_ok _ _ _ _ _ hf (by rw [padArgs_length]; omega), padArgs_length, padArgs_getD]

theorem addRows_cons_ok (blank blankText : α) (b : Builder α) (c : List (Arg α) × RowMeta) (cs : List (List (Arg α) × RowMeta))
    (h : (b.addRows blank blankText (c :: cs)).2 = true) :
    (b.addRow blank blankText c.1 c.2).2 = true ∧
    b.addRows blank blankText (c :: cs) = Builder.addRows blank blankText (b.addRow blank blankText c.1 c.2).1 cs := by
  rw [Builder.addRows] at h ⊢
  split at h
  · rename_i h1; exact ⟨h1, by simp only [h1, if_true]⟩
  · rename_i h1; exact absurd h h1

/-- **Any sequence of accepted `add_row` calls as one equation**, of the same shape as `addRow_ok`: column `j` is what the first call
found (or `Text("")` in every earlier row) plus one cell per call — the call's `j`-th argument once the column exists
(`j < ncolsAfter … i`), the `Text("")` a later call back-fills before. -/
theorem addRows_ok (blank blankText : α) (calls : List (List (Arg α) × RowMeta)) (b : Builder α)
    (h : (b.addRows blank blankText calls).2 = true) :
    b.addRows blank blankText calls =
      ({ cols := (List.range (calls.foldl (fun m c => max m c.1.length) b.cols.length)).map (fun j =>
            b.cols.getD j (List.replicate b.rows.length blankText) ++
              (List.range calls.length).map (fun i => if j < ncolsAfter b.cols.length calls i
                then ((calls.getD i ([], {})).1.getD j Arg.none).val blank else blankText)),
         rows := b.rows ++ calls.map (·.2) }, true) := by
  induction calls generalizing b with
  | nil =>
    obtain ⟨cols, rows⟩ := b
    simp only [Builder.addRows, List.foldl_nil, List.length_nil, List.range_zero, List.map_nil, List.append_nil]
    congr 2
    apply List.ext_getElem <;> simp +contextual
  | cons c cs ih =>
    obtain ⟨h1, heq⟩ := addRows_cons_ok blank blankText b c cs h
    rw [heq] at h ⊢
    rw [addRow_ok blank blankText b c.1 c.2 h1] at h ⊢
    rw [ih _ h]
    simp only [List.length_map, List.length_range, List.length_append, List.length_cons, List.length_nil, List.foldl_cons,
      List.map_cons, List.append_assoc, List.cons_append, List.nil_append, range_succ_map, ncolsAfter_zero, ncolsAfter_succ,
      List.getD_cons_zero, List.getD_cons_succ]
    congr 2
    apply List.map_congr_left
    intro j _
    -- column `j` as the remaining calls find it is column `j` as the first call found it plus that call's cell
    by_cases hj : j < max b.cols.length c.1.length
    · simp only [List.getD_eq_getElem?_getD, List.getElem?_map, List.getElem?_range hj, Option.map_some, Option.getD_some,
        if_pos hj, List.append_assoc, List.singleton_append]
    · have h2 : b.cols[j]? = none := List.getElem?_eq_none (by omega)
      have h3 : (List.range (max b.cols.length c.1.length))[j]? = none := List.getElem?_eq_none (by simp; omega)
      simp only [List.getD_eq_getElem?_getD, List.getElem?_map, h2, h3, Option.map_none, Option.getD_none, if_neg hj,
        Nat.zero_add, List.replicate_succ', List.append_assoc, List.singleton_append]

/-- The tables of `addRow_ok` / `addRows_ok` read cell by cell: a rectangular table whose columns `j < n` (those beyond the old ones
created with `Text("")` in every old row) each got the cells `ext j`, one per new row, is rectangular; no old cell moved, a created
column holds `Text("")` in the old rows, and the new rows hold `ext`. -/
theorem Builder.Rect.extend {b : Builder α} (hr : b.Rect) (blank blankText : α) (n : Nat) (hn : b.cols.length ≤ n)
    (ext : Nat → List α) (ms : List RowMeta) (hext : ∀ j, (ext j).length = ms.length) (b' : Builder α)
    (hb' : b' = { cols := (List.range n).map (fun j => b.cols.getD j (List.replicate b.rows.length blankText) ++ ext j),
                  rows := b.rows ++ ms }) :
    b'.Rect ∧
    (∀ j k, j < b.cols.length → k < b.rows.length → b'.cellAt blank j k = b.cellAt blank j k) ∧
    (∀ j k, b.cols.length ≤ j → j < n → k < b.rows.length → b'.cellAt blank j k = blankText) ∧
    (∀ j i, j < n → b'.cellAt blank j (b.rows.length + i) = (ext j).getD i blank) := by
  subst hb'
  have hlen : ∀ j : Nat, (b.cols[j]?.getD (List.replicate b.rows.length blankText)).length = b.rows.length := by
    intro j
    cases h : b.cols[j]? with
    | none => simp
    | some c => simpa using hr c (List.mem_of_getElem? h)
  have hcell : ∀ j k : Nat, j < n → Builder.cellAt blank
      { cols := (List.range n).map (fun j => b.cols.getD j (List.replicate b.rows.length blankText) ++ ext j), rows := b.rows ++ ms } j k =
      (b.cols[j]?.getD (List.replicate b.rows.length blankText) ++ ext j)[k]?.getD blank := fun j k hj => by
    simp only [Builder.cellAt, List.getD_eq_getElem?_getD, List.getElem?_map, List.getElem?_range hj, Option.map_some, Option.getD_some]
  refine ⟨fun c hc => ?_, fun j k hj hk => ?_, fun j k hj hjn hk => ?_, fun j i hj => ?_⟩
  · obtain ⟨j, _, rfl⟩ := List.mem_map.mp hc
    simp only [List.getD_eq_getElem?_getD, List.length_append, hlen, hext]
  · rw [hcell j k (by omega), List.getElem?_append_left (by rw [hlen]; exact hk)]
    simp only [Builder.cellAt, List.getD_eq_getElem?_getD, List.getElem?_eq_getElem hj, Option.getD_some]
  · rw [hcell j k hjn, List.getElem?_append_left (by rw [hlen]; exact hk), List.getElem?_eq_none hj, Option.getD_none,
      List.getElem?_replicate, if_pos hk, Option.getD_some]
  · rw [hcell j _ hj, List.getElem?_append_right (by rw [hlen]; omega), hlen, Nat.add_sub_cancel_left, List.getD_eq_getElem?_getD]

end RichModel.TableRows
