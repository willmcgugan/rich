import RichModel.Lemmas.FramesTitleLine
import RichModel.Lemmas.TextTabs
import RichModel.Lemmas.FramesRect
/-!
`Rule.__rich_console__` on `Text` values (`ruleTextT` / `ruleConsoleT`, Model/FramesTitle.lean): whatever the title
text (spans, tabs, line feeds, wider than the rule), the `characters` (wide ones included) and the alignment, the `Text`
the rule yields is consistent, has no line feed or tab left, and is exactly `width` cells wide; rendered, it fills exactly
the width.  `GoodC` = "no line feed, no tab, no control code `Text.__init__` strips".
-/
namespace RichModel.Frames
open RichModel RichModel.Text RichModel.Wrap

variable {σ : Type}

/-- no line feed, no tab, none of the control codes `strip_control_codes` removes -/
def GoodC (s : List Char) : Prop := ∀ c ∈ s, c ≠ '\n' ∧ c ≠ '\t' ∧ isStripCode c = false

theorem goodC_space : (' ' : Char) ≠ '\n' ∧ (' ' : Char) ≠ '\t' ∧ isStripCode ' ' = false := by decide
theorem goodC_ellipsis : ('…' : Char) ≠ '\n' ∧ ('…' : Char) ≠ '\t' ∧ isStripCode '…' = false := by decide
theorem goodC_dash : ('-' : Char) ≠ '\n' ∧ ('-' : Char) ≠ '\t' ∧ isStripCode '-' = false := by decide

theorem GoodC.nil : GoodC [] := by intro c hc; cases hc

theorem GoodC.append {a b : List Char} (ha : GoodC a) (hb : GoodC b) : GoodC (a ++ b) := by
  intro c hc
  rcases List.mem_append.mp hc with h | h
  · exact ha c h
  · exact hb c h

theorem GoodC.single {c : Char} (h : c ≠ '\n' ∧ c ≠ '\t' ∧ isStripCode c = false) : GoodC [c] := by
  intro d hd
  simp only [List.mem_singleton] at hd
  subst hd; exact h

theorem GoodC.replicate {c : Char} (h : GoodC [c]) (k : Nat) : GoodC (List.replicate k c) :=
  fun _ hx => (List.mem_replicate.mp hx).2 ▸ h c List.mem_cons_self

theorem GoodC.take {a : List Char} (n : Nat) (ha : GoodC a) : GoodC (a.take n) :=
  fun c hc => ha c (List.mem_of_mem_take hc)

theorem GoodC.no_nl {a : List Char} (ha : GoodC a) : '\n' ∉ a := fun h => (ha _ h).1 rfl

theorem GoodC.no_tab {a : List Char} (ha : GoodC a) : '\t' ∉ a := fun h => (ha _ h).2.1 rfl

theorem GoodC.noCtl {a : List Char} (ha : GoodC a) : NoCtl a := fun c hc => (ha c hc).2.2

theorem GoodC.strip {a : List Char} (ha : GoodC a) : GoodC (stripControl a) :=
  fun c hc => ha c (List.mem_filter.mp hc).1

theorem GoodC.repStr {a : List Char} (n : Int) (ha : GoodC a) : GoodC (repStr n a) := by
  intro c hc
  unfold Frames.repStr at hc
  obtain ⟨l, hl, hcl⟩ := List.mem_flatten.mp hc
  rw [(List.mem_replicate.mp hl).2] at hcl
  exact ha c hcl

theorem GoodC.setCellSizeT (cw : Char → Nat) {s : List Char} (w : Int) (h : GoodC s) : GoodC (Text.setCellSizeI cw s w) := by
  obtain ⟨k, m, he, _⟩ := setCellSizeI_shape cw s w
  rw [he]
  exact (h.take k).append ((GoodC.single goodC_space).replicate m)

theorem GoodC.setCellSize (cw : Char → Nat) {s : List Char} (n : Nat) (h : GoodC s) : GoodC (RichModel.setCellSize cw s n) :=
  fun c hc => (setCellSize_chars cw s n c hc).elim (h c) fun hsp => hsp ▸ goodC_space

theorem GoodC.setCellSizeI (cw : Char → Nat) {s : List Char} (w : Int) (h : GoodC s) : GoodC (Frames.setCellSizeI cw s w) := by
  unfold Frames.setCellSizeI
  split
  · exact GoodC.nil
  · exact GoodC.setCellSize cw _ h

/-! ### the texts `rule.py` builds: consistent, `GoodC`, with a known `end` -/

/-- what every intermediate `Text` of `Rule.__rich_console__` satisfies -/
structure GoodText (e : List Char) (t : Text σ) : Prop where
  inv : Inv t
  good : GoodC t.plain
  ends : t.endStr = e

/-- `Text.plain = s` changes the text and trims the spans, nothing else -/
theorem goodText_setPlain {e : List Char} {t : Text σ} (h : GoodText e t) (s : List Char) (hs : GoodC s) : GoodText e (t.setPlain s) :=
  ⟨inv_setPlain _ _ h.inv hs.noCtl, by rw [setPlain_plain]; exact hs, by rw [setPlain_endStr]; exact h.ends⟩

theorem goodText_mkText (cfg : TCfg σ) (hv : cfg.wv.text = Variant.repaired) (s : List Char) (st : σ) (e : List Char)
    (hs : GoodC s) : GoodText e (mkText cfg s st e) := by
  unfold mkText
  rw [hv]
  exact ⟨inv_new _ _ _ _ _ _ _ _ (by intro sp h; simp at h), hs.strip, rfl⟩

theorem goodText_appendStr {e : List Char} {t : Text σ} (h : GoodText e t) (s : List Char) (st : Option σ) (hs : GoodC s) :
    GoodText e (t.appendStr s st) :=
  ⟨inv_appendStr _ _ _ h.inv, ite_ind (fun u : Text σ => GoodC u.plain) (h.good.append hs.strip) h.good,
    ite_ind (fun u : Text σ => u.endStr = e) h.ends h.ends⟩

theorem goodText_appendT {e e' : List Char} {t u : Text σ} (h : GoodText e t) (hu : GoodText e' u) : GoodText e (t.appendT u) :=
  ⟨inv_appendT _ _ h.inv hu.inv, ite_ind (fun x : Text σ => GoodC x.plain) (h.good.append hu.good) h.good,
    ite_ind (fun x : Text σ => x.endStr = e) h.ends h.ends⟩

theorem goodText_padRight {e : List Char} {t : Text σ} (h : GoodText e t) (k : Nat) {c : Char} (hc : GoodC [c]) :
    GoodText e (t.padRight (k : Int) c) :=
  ⟨inv_padRight _ _ _ h.inv (hc c List.mem_cons_self).2.2, by rw [Text.padRight_plain]; exact h.good.append (hc.replicate k),
    by rw [padRight_eq]; exact ite_ind (fun u : Text σ => u.endStr = e) ((setPlain_endStr _ _).trans h.ends) h.ends⟩

theorem goodText_padLeft {e : List Char} {t : Text σ} (h : GoodText e t) (k : Nat) {c : Char} (hc : GoodC [c]) :
    GoodText e (t.padLeft (k : Int) c) :=
  ⟨inv_padLeft _ _ _ h.inv (hc c List.mem_cons_self).2.2, by rw [Text.padLeft_plain]; exact (hc.replicate k).append h.good,
    by rw [padLeft_eq]; exact ite_ind (fun u : Text σ => u.endStr = e) ((setPlain_endStr _ _).trans h.ends) h.ends⟩

/-- `Text.pad(k, c)` is `pad_left` then `pad_right` -/
theorem goodText_pad {e : List Char} {t : Text σ} (h : GoodText e t) (k : Nat) {c : Char} (hc : GoodC [c]) :
    GoodText e (t.pad (k : Int) c) := by
  rw [pad_eq_left_right t k c h.inv (hc c List.mem_cons_self).2.2]
  exact goodText_padRight (goodText_padLeft h k hc) k hc

theorem goodText_truncate (cw : Char → Nat) {e : List Char} {t : Text σ} (h : GoodText e t) (w : Int) (ov : Option RichModel.Overflow)
    (pad : Bool) : GoodText e (t.truncate cw w ov pad) := by
  rw [truncate_eq cw t w ov pad h.inv]
  refine goodText_setPlain h _ ?_
  -- the string is cut (with or without an ellipsis) or kept, then padded with blanks or not
  have hcut := fun m => GoodC.setCellSizeT cw m h.good
  have hs1 := fun (p q : Prop) [Decidable p] [Decidable q] =>
    ite_ind GoodC (p := p) (ite_ind GoodC (p := q) ((hcut (w - 1)).append (GoodC.single goodC_ellipsis)) (hcut w)) h.good
  exact ite_ind GoodC (ite_ind GoodC ((hs1 _ _).append ((GoodC.single goodC_space).replicate _)) (hs1 _ _)) h.good

/-! ### tabs -/

/-- `expand_tabs()` of a consistent text without line feed whose own tab size is positive: succeeds, consistent, no tab
left, same `end` -/
theorem goodText_expandTabs [BEq σ] {e : List Char} (t : Text σ) (hi : Inv t) (hnl : '\n' ∉ t.plain) (he : t.endStr = e)
    (ts : Nat) (hts : 0 < ts) (htab : t.tabSize = some ts) :
    ∃ q, t.expandTabs Variant.repaired none = .ok q ∧ GoodText e q := by
  obtain ⟨q, hq, hqi, _, hno, hyes⟩ := expandTabs_view t hi none ts hts (by simp [htab])
  refine ⟨q, hq, hqi, ?_, ?_⟩
  · by_cases hc : t.plain.contains '\t' = true
    · have hv := hyes hc
      intro c hcq
      have hcv : c ∈ q.view.map (·.1) := by rw [view_eq_annot, annot_map_fst]; exact hcq
      obtain ⟨p, hp, rfl⟩ := List.mem_map.mp hcv
      rw [hv] at hp
      rcases expRef_mem ts t.style t.view 0 p hp with h | ⟨h1, r, hr, hr1⟩
      · rw [h]; exact goodC_space
      · have hrt : r.1 ∈ t.plain := by
          have : r.1 ∈ t.view.map (·.1) := List.mem_map_of_mem hr
          rwa [view_eq_annot, annot_map_fst] at this
        rw [← hr1]
        refine ⟨fun h => hnl (h ▸ hrt), by rw [hr1]; exact h1, hi.2.1 _ hrt⟩
    · have : q = t := hno (by simpa using hc)
      subst this
      intro c hcq
      refine ⟨fun h => hnl (h ▸ hcq), fun h => hc (by subst h; simpa using hcq), hi.2.1 _ hcq⟩
  · exact (expandTabs_fields t q _ hq).1.trans he

/-- `plain.replace("\n", " ")` leaves no line feed and brings in no stripped control code -/
theorem replaceNl_spec (s : List Char) (h : NoCtl s) :
    NoCtl (s.map (fun c => if c == '\n' then ' ' else c)) ∧ '\n' ∉ s.map (fun c => if c == '\n' then ' ' else c) := by
  constructor
  · intro c hc
    obtain ⟨d, hd, rfl⟩ := List.mem_map.mp hc
    exact ite_ind (fun x => isStripCode x = false) noCtl_space (h d hd)
  · intro hc
    obtain ⟨d, _, hd⟩ := List.mem_map.mp hc
    split at hd
    · exact absurd hd (by decide)
    · rename_i hne
      exact hne (by simp [hd])

/-! ### the rule -/

/-- the last statement of `Rule.__rich_console__`: `rule_text.plain = set_cell_size(rule_text.plain, width)` -/
theorem goodText_fill (cw : Char → Nat) {e : List Char} {t : Text σ} (h : GoodText e t) (w : Int) :
    GoodText e (t.setPlain (setCellSizeI cw t.plain w)) ∧ ∃ P, (t.setPlain (setCellSizeI cw t.plain w)).plain = setCellSizeI cw P w :=
  ⟨goodText_setPlain h _ (GoodC.setCellSizeI cw w h.good), _, setPlain_plain _ _⟩

/-- **The `Text` a `Rule` yields** — any title text, `characters`, alignment, width (negative included), both variants of
the two `Rule` flags: consistent, made of `GoodC` characters, `end` as given, and cut / filled to `w` cells by
`set_cell_size`. -/
theorem ruleTextT_ok [BEq σ] (cfg : TCfg σ) (hwv : cfg.wv = WVariant.repaired) (env : Env) (sv : SVariant)
    (o : RuleOptsT σ) (w : Int) (hch : GoodC o.characters)
    (htitle : ∀ t, o.title = some t → Inv t ∧ ∃ ts, 0 < ts ∧ t.tabSize = some ts) :
    ∃ r, ruleTextT cfg env sv o w = .ok r ∧
      GoodText (if o.title.isNone && sv.ruleNoTitleEnd then ['\n'] else o.endS) r ∧ ∃ P, r.plain = setCellSizeI cfg.cw P w := by
  have hv : cfg.wv.text = Variant.repaired := by rw [hwv]; rfl
  obtain ⟨title, characters, endS, align, style⟩ := o
  unfold ruleTextT
  simp only []
  have hchs : GoodC (if (env.asciiOnly && !characters.all (fun c => decide (c.toNat < 128))) = true then ['-'] else characters) := by
    split
    · exact GoodC.single goodC_dash
    · exact hch
  generalize (if (env.asciiOnly && !characters.all (fun c => decide (c.toNat < 128))) = true then ['-'] else characters) = chs
    at hchs ⊢
  cases title with
  | none =>
    simp only [Option.isNone_none, Bool.true_and]
    have h1 := goodText_truncate cfg.cw (goodText_mkText cfg hv (repStr (w / (cellLen cfg.cw chs : Int) + 1) chs) style
      (if sv.ruleNoTitleEnd = true then ['\n'] else endS) (GoodC.repStr _ hchs)) w none false
    exact ⟨_, rfl, goodText_fill cfg.cw h1 w⟩
  | some title0 =>
    obtain ⟨hti, ts, hts, htab⟩ := htitle title0 rfl
    simp only [Option.isNone_some, Bool.false_and, Bool.false_eq_true, if_false]
    obtain ⟨hmapG, hmapN⟩ := replaceNl_spec title0.plain hti.2.1
    rw [← setPlain_plain title0 (title0.plain.map (fun c => if c == '\n' then ' ' else c))] at hmapN
    have htab1 : (title0.setPlain (title0.plain.map (fun c => if c == '\n' then ' ' else c))).tabSize = some ts :=
      (setPlain_fields _ _).2.1.trans htab
    obtain ⟨q, hq, hqo⟩ := goodText_expandTabs (e := (title0.setPlain (title0.plain.map (fun c => if c == '\n' then ' ' else c))).endStr)
      _ (inv_setPlain _ _ hti hmapG) hmapN rfl ts hts htab1
    rw [hv, hq]
    simp only [bind, Except.bind]
    have hr0 : GoodText endS (mkText cfg [] cfg.A.null endS) := goodText_mkText cfg hv [] _ _ GoodC.nil
    have hsp1 : GoodC [' '] := GoodC.single goodC_space
    -- one side of the rule: `characters` repeated, then truncated
    have hside : ∀ n m : Int, GoodText ['\n'] ((mkText cfg (repStr n chs) cfg.A.null).truncate cfg.cw m) :=
      fun n m => goodText_truncate cfg.cw (goodText_mkText cfg hv _ _ _ (GoodC.repStr _ hchs)) m none false
    cases align with
    | center =>
      simp only []
      have hT := goodText_truncate cfg.cw hqo (w - 4) (some RichModel.Overflow.ellipsis) false
      exact ⟨_, rfl, goodText_fill cfg.cw (goodText_appendStr (goodText_appendT (goodText_appendStr hr0 _ _ ((hside _ _).good.append hsp1)) hT) _ _
        (hsp1.append (hside _ _).good)) w⟩
    | left =>
      simp only []
      have hT := goodText_truncate cfg.cw hqo (w - 2) (some RichModel.Overflow.ellipsis) false
      exact ⟨_, rfl, goodText_fill cfg.cw (goodText_appendStr (goodText_appendStr (goodText_appendT hr0 hT) _ _ hsp1) _ _ (GoodC.repStr _ hchs)) w⟩
    | right =>
      simp only []
      have hT := goodText_truncate cfg.cw hqo (w - 2) (some RichModel.Overflow.ellipsis) false
      exact ⟨_, rfl, goodText_fill cfg.cw (goodText_appendT (goodText_appendStr (goodText_appendStr hr0 _ _
        (ite_ind GoodC (GoodC.repStr _ hchs) (GoodC.setCellSizeI cfg.cw _ (GoodC.repStr _ hchs)))) _ _ hsp1) hT) w⟩

/-- `textConsoleG_one_line` in the vocabulary of this file -/
theorem GoodText.console [BEq σ] (cfg : TCfg σ) (hwv : cfg.wv = WVariant.repaired) (hsp : cfg.cw ' ' = 1) {e : List Char}
    {t : Text σ} (h : GoodText e t) (w : Nat) (hw : cellLen cfg.cw t.plain = w) (o : TOpts) :
    ∃ segs x, textConsoleG cfg t o w = .ok segs ∧ segChars segs = x ++ e ∧ cellLen cfg.cw x = w ∧ '\n' ∉ x ∧
      ∀ s ∈ segs, s.control = false := by
  obtain ⟨segs, x, hs, hx, hxw, hxm, hctl⟩ := textConsoleG_one_line cfg hwv hsp t h.inv h.good.no_nl h.good.no_tab w hw o
  refine ⟨segs, x, hs, by rw [hx, h.ends], hxw, fun hn => ?_, hctl⟩
  exact (hxm _ hn).elim h.good.no_nl fun hsp => absurd hsp (by decide)

/-- **A rule fills exactly the width it is given, whatever its title text, characters and alignment.** -/
theorem ruleConsoleT_exact [BEq σ] (cfg : TCfg σ) (hwv : cfg.wv = WVariant.repaired) (hsp : cfg.cw ' ' = 1)
    (h2 : ∀ c, cfg.cw c ≤ 2) (env : Env) (sv : SVariant) (o : RuleOptsT σ) (opts : TOpts) (w : Nat) (hw : 1 ≤ w)
    (hch : GoodC o.characters) (htitle : ∀ t, o.title = some t → Inv t ∧ ∃ ts, 0 < ts ∧ t.tabSize = some ts) :
    ∃ segs x, ruleConsoleT cfg env sv o opts (w : Int) = .ok segs ∧
      segChars segs = x ++ (if o.title.isNone && sv.ruleNoTitleEnd then ['\n'] else o.endS) ∧
      cellLen cfg.cw x = w ∧ '\n' ∉ x ∧ ∀ s ∈ segs, s.control = false := by
  obtain ⟨r, hr, hg, P, hrp⟩ := ruleTextT_ok cfg hwv env sv o (w : Int) hch htitle
  have hcl : cellLen cfg.cw r.plain = w := by rw [hrp]; simpa using setCellSizeI_cellLen cfg.cw hsp h2 P (w : Int) (Int.natCast_nonneg w)
  obtain ⟨segs, x, hs, hx⟩ := hg.console cfg hwv hsp w hcl opts
  refine ⟨segs, x, ?_, hx⟩
  unfold ruleConsoleT
  have : ¬ ((w : Int) < 1) := by omega
  simp only [this, if_false, hr, bind, Except.bind, Int.toNat_natCast]
  exact hs

end RichModel.Frames
