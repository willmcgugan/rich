import RichModel.Lemmas.MarkupAbs
/-! The final drain of `style_stack`: under the invariant, what `finish` returns is the annotated
text, every span list position meaning exactly the tags open there. -/
namespace RichModel.Markup

/-- every entry still open is closed at offset `t` -/
def closeAll (t : Nat) (abs : List OpenedTag) : List OpenedTag := abs.map (fun a => (a.1, some (a.2.getD t)))

/-- one step of the drain: the span of `e`, ending at `t`, is recorded and put into its slot -/
def drainF (t : Nat) (s : St) (e : Ent) : St :=
  { s with
    closed := s.closed ++ [{ start := e.start, stop := t, style := e.tag.str }],
    slots := s.slots.set e.idx (some { start := e.start, stop := t, style := e.tag.str }) }

theorem drain_eq (st : St) : drain st = st.stack.foldl (drainF st.text.length) { st with stack := [] } := rfl

theorem closeAll_of_openStack_nil {t : Nat} {abs : List OpenedTag} (h : openStack abs = []) : closeAll t abs = abs := by
  have hf : ∀ a ∈ abs, ¬ isOpen a = true := by simpa [openStack, List.filter_eq_nil_iff] using h
  conv => rhs; rw [← List.map_id abs]
  apply List.map_congr_left
  intro a ha
  obtain ⟨e, s⟩ := a
  cases s with
  | none => exact absurd rfl (hf _ ha)
  | some s => rfl

theorem closeAll_set (t : Nat) (abs : List OpenedTag) (e : Ent) (h : abs[e.idx]? = some (e, none)) :
    closeAll t (abs.set e.idx (e, some t)) = closeAll t abs := by
  obtain ⟨hlt, hget⟩ := List.getElem?_eq_some_iff.mp h
  have hlt' : e.idx < (closeAll t abs).length := by rw [closeAll, List.length_map]; exact hlt
  rw [closeAll, List.map_set, ← closeAll]
  conv => rhs; rw [← List.set_getElem_self hlt']
  simp [closeAll, hget]

theorem foldl_drainF_text (t : Nat) (stk : List Ent) (s0 : St) : (stk.foldl (drainF t) s0).text = s0.text := by
  induction stk generalizing s0 with
  | nil => rfl
  | cons e es ih => exact ih _

theorem finish_text (cfg : Cfg) (st : St) : (finish cfg st).1 = st.text :=
  foldl_drainF_text _ _ _

theorem foldl_drain (t : Nat) (stk : List Ent) : ∀ (abs : List OpenedTag) (s0 : St), stk = openStack abs → IdxOk abs →
    s0.slots = slotsOf abs → (stk.foldl (drainF t) s0).slots = slotsOf (closeAll t abs) := by
  induction stk with
  | nil =>
    intro abs s0 h _ hs
    rw [closeAll_of_openStack_nil h.symm]; exact hs
  | cons e rest ih =>
    intro abs s0 h hok hs
    obtain ⟨hget, hstk⟩ := openStack_remove t abs [] rest e hok h.symm
    rw [← closeAll_set t abs e hget]
    exact ih (abs.set e.idx (e, some t)) (drainF t s0 e) hstk.symm (IdxOk_set hok _)
      (by rw [slotsOf_set, ← hs]; rfl)

/-- the span of an entry once whatever is still open has been closed at `t` -/
def spanOf (t : Nat) (a : OpenedTag) : Span := { start := a.1.start, stop := a.2.getD t, style := a.1.tag.str }

theorem slots_closeAll (t : Nat) (abs : List OpenedTag) :
    (slotsOf (closeAll t abs)).filterMap id = abs.map (spanOf t) := by
  induction abs with
  | nil => rfl
  | cons a as ih =>
    simp only [closeAll, slotsOf, List.map_cons, List.map_map] at ih ⊢
    simp only [toSlot, Option.map_some, List.filterMap_cons, id]
    rw [ih]; rfl

theorem effStyles_spanOf (t p : Nat) (abs : List OpenedTag) (hp : p < t) :
    effStyles (abs.map (spanOf t)) p = stylesAt abs p := by
  unfold effStyles stylesAt
  rw [List.filter_map, List.map_map]
  have : (fun x => Span.covers x p) ∘ spanOf t = coversAt p := by
    funext a
    obtain ⟨e, s⟩ := a
    cases s with
    | none => simp [Span.covers, spanOf, coversAt, hp]; rfl
    | some s => simp [Span.covers, spanOf, coversAt]; rfl
  rw [this]
  rfl

theorem effStyles_append (a b : List Span) (p : Nat) : effStyles (a ++ b) p = effStyles a p ++ effStyles b p := by
  simp [effStyles, List.filter_append, List.map_append]

theorem finish_refines (cfg : Cfg) (hS : cfg.sortSpans = false) {st : St} {abs : List OpenedTag} {ann : Annotated}
    (h : Describes st abs ann) :
    ∃ spans, finish cfg st = (ann.map Prod.fst, spans) ∧
      ∀ p (hp : p < ann.length), effStyles spans p = (ann[p]).2 := by
  have hsl := foldl_drain st.text.length st.stack abs { st with stack := [] } h.stack h.idx h.slots
  refine ⟨abs.map (spanOf st.text.length), ?_, ?_⟩
  · simp only [finish, hS, drain_eq, Bool.false_eq_true, if_false]
    rw [hsl, foldl_drainF_text, h.text, slots_closeAll]
  · intro p hp
    rw [effStyles_spanOf _ _ _ (h.len ▸ hp)]
    exact (h.ann p hp).symm

end RichModel.Markup
