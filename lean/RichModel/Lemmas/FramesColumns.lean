import RichModel.Lemmas.FramesColumnsFill
import RichModel.Lemmas.Ratio
/-
`Columns.__rich_console__` (columns.py:62-171): every item is shown exactly once, in the documented
order (row-first, column-first, right-to-left), the last row padded with blanks.  Unbounded in the
number of items, the options and the width.
-/
namespace RichModel.Frames
open RichModel

/-! ## `chunk` -/

theorem chunk_flatten {α : Type} {c : Nat} (hc : 0 < c) :
    ∀ (fuel : Nat) (l : List α), l.length ≤ fuel → (chunk c fuel l).flatten = l := by
  intro fuel
  induction fuel with
  | zero => intro l hl; have : l = [] := List.length_eq_zero_iff.mp (by omega); subst this; rfl
  | succ fuel ih =>
    intro l hl
    unfold chunk
    have hc' : (c == 0) = false := by simp; omega
    cases l with
    | nil => simp
    | cons a l =>
      simp only [List.isEmpty_cons, hc', Bool.or_self, Bool.false_eq_true, if_false, List.flatten_cons]
      rw [ih _ (by simp at hl ⊢; omega), List.take_append_drop]

/-- the rows are the successive slices of `c` elements -/
theorem chunk_row {α : Type} {c : Nat} :
    ∀ (fuel : Nat) (l : List α), ∀ row ∈ chunk c fuel l,
      ∃ k, c ≠ 0 ∧ k * c < l.length ∧ row = (l.drop (k * c)).take c := by
  intro fuel
  induction fuel with
  | zero => intro l row h; simp [chunk] at h
  | succ fuel ih =>
    intro l row h
    unfold chunk at h
    split at h
    · simp at h
    · rename_i hne
      have hne' : l ≠ [] ∧ c ≠ 0 := by simpa using hne
      rcases List.mem_cons.mp h with rfl | h
      · exact ⟨0, hne'.2, by rw [Nat.zero_mul]; exact List.length_pos_iff.mpr hne'.1, by simp⟩
      · obtain ⟨k, hc, hk, rfl⟩ := ih _ _ h
        rw [List.length_drop] at hk
        exact ⟨k + 1, hc, by rw [Nat.add_mul]; omega, by rw [List.drop_drop, Nat.add_mul, Nat.one_mul, Nat.add_comm]⟩

theorem chunk_length_le {α : Type} (c : Nat) :
    ∀ (fuel : Nat) (l : List α), ∀ row ∈ chunk c fuel l, row.length ≤ c := by
  intro fuel l row h
  obtain ⟨k, _, _, rfl⟩ := chunk_row fuel l row h
  exact List.length_take_le _ _

/-- a slice that starts inside the list is full when `c` divides the length -/
theorem chunk_length_eq {α : Type} {c : Nat} :
    ∀ (fuel : Nat) (l : List α), c ∣ l.length → ∀ row ∈ chunk c fuel l, row.length = c := by
  intro fuel l ⟨q, hq⟩ row h
  obtain ⟨k, _, hk, rfl⟩ := chunk_row fuel l row h
  rw [hq, Nat.mul_comm c q] at hk
  have := Nat.mul_le_mul_right c (Nat.succ_le_of_lt (Nat.lt_of_mul_lt_mul_right hk))
  rw [List.length_take, List.length_drop, hq, Nat.mul_comm c q]
  rw [Nat.succ_mul] at this
  omega

theorem chunk_ne_nil {α : Type} (c : Nat) :
    ∀ (fuel : Nat) (l : List α), ∀ row ∈ chunk c fuel l, row ≠ [] := by
  intro fuel l row h hnil
  obtain ⟨k, hc, hk, rfl⟩ := chunk_row fuel l row h
  have := congrArg List.length hnil
  rw [List.length_take, List.length_drop, List.length_nil] at this
  omega

/-! ## `iterRenderables` -/

/-- number of blanks appended to the last row -/
def padCount (n c : Nat) : Nat := if n % c != 0 then c - n % c else 0

theorem padCount_lt {n c : Nat} (hc : 0 < c) : padCount n c < c := by
  unfold padCount
  have := Nat.mod_lt n hc
  split
  · rename_i h; simp at h; omega
  · exact hc

theorem dvd_add_padCount {n c : Nat} (hc : 0 < c) : c ∣ n + padCount n c := by
  unfold padCount
  have h := Nat.div_add_mod n c
  have hr := Nat.mod_lt n hc
  split
  · refine ⟨n / c + 1, ?_⟩
    rw [Nat.mul_succ]; omega
  · rename_i h0
    simp at h0
    exact ⟨n / c, by omega⟩

theorem iterRenderables_zero (cf : Bool) (widths : List Int) :
    iterRenderables cf widths 0 = .error .zeroDivision := rfl

theorem iterRenderables_pos (cf : Bool) (widths : List Int) {c : Nat} (hc : 0 < c) :
    iterRenderables cf widths c
      = .ok ((itemOrder cf widths.length c).map (fun i => (widths.getD i 0, some i))
              ++ List.replicate (padCount widths.length c) (0, none)) := by
  have hc' : (c == 0) = false := by simp; omega
  simp [iterRenderables, hc', padCount]

theorem iterRenderables_error {cf : Bool} {widths : List Int} {c : Nat} {e : PyErr}
    (h : iterRenderables cf widths c = .error e) : c = 0 ∧ e = .zeroDivision := by
  rcases Nat.eq_zero_or_pos c with hc | hc
  · subst hc; rw [iterRenderables_zero] at h; cases h; exact ⟨rfl, rfl⟩
  · rw [iterRenderables_pos cf widths hc] at h; cases h

theorem iterRenderables_shape (cf : Bool) (widths : List Int) {c : Nat} (hc : 0 < c) :
    ∃ items k, iterRenderables cf widths c = .ok items ∧ k < c ∧ c ∣ items.length ∧
      items.map (·.2) = (itemOrder cf widths.length c).map some ++ List.replicate k none ∧
      items.map (·.1) = (itemOrder cf widths.length c).map (fun i => widths.getD i 0) ++ List.replicate k 0 := by
  refine ⟨_, padCount widths.length c, iterRenderables_pos cf widths hc, padCount_lt hc, ?_, ?_, ?_⟩
  · simp only [List.length_append, List.length_map, List.length_replicate, itemOrder_length hc]
    exact dvd_add_padCount hc
  · simp [List.map_append, Function.comp_def]
  · simp [List.map_append, Function.comp_def]


/-! ## `columnsLayout` -/

/-- `renderable_widths` after the `equal` adjustment. -/
def columnsWidths (o : ColumnsOpts) (measured : List Int) : List Int :=
  if o.equal then List.replicate measured.length (listMax measured) else measured

theorem columnsWidths_length (o : ColumnsOpts) (measured : List Int) :
    (columnsWidths o measured).length = measured.length := by
  unfold columnsWidths; split <;> simp

/-- `column_count` as computed by `__rich_console__` before the final `iter_renderables`. -/
def columnsCount (v : Variant) (o : ColumnsOpts) (p : PadDims) (measured : List Int) (maxWidth : Int) : Except PyErr Nat :=
  match o.width with
  | some cwid =>
    if v.columnsZeroCount then
      if cwid + max (p.left : Int) p.right == 0 then .error .zeroDivision
      else .ok (maxWidth / (cwid + max (p.left : Int) p.right)).toNat
    else .ok (max 1 (maxWidth / (max 1 (cwid + max (p.left : Int) p.right))).toNat)
  | none => .ok (searchLoop o.columnFirst (columnsWidths o measured) (max (p.left : Int) p.right) maxWidth
      (measured.length + 1) measured.length)

/-- no items: nothing is yielded -/
theorem columnsLayout_nil (v : Variant) (o : ColumnsOpts) (maxWidth : Int) : columnsLayout v o [] maxWidth = .ok none := rfl

theorem columnsLayout_padError (v : Variant) {o : ColumnsOpts} {measured : List Int} (maxWidth : Int) {e : PyErr}
    (hne : measured ≠ []) (hp : unpackPad o.padding = .error e) : columnsLayout v o measured maxWidth = .error e := by
  have h0 : measured.isEmpty = false := by cases measured <;> simp_all
  simp only [columnsLayout, h0, hp, Bool.false_eq_true, if_false]

/-- computing the count raises nothing but the `ZeroDivisionError` of `max_width // (width + padding)` -/
theorem columnsCount_error {v : Variant} {o : ColumnsOpts} {p : PadDims} {measured : List Int} {maxWidth : Int} {e : PyErr}
    (h : columnsCount v o p measured maxWidth = .error e) : e = .zeroDivision := by
  unfold columnsCount at h
  split at h
  · split at h
    · split at h <;> cases h; rfl
    · cases h
  · cases h

/-- `columnsLayout` with the padding unpacked and the column count named. -/
theorem columnsLayout_eq (v : Variant) (o : ColumnsOpts) (measured : List Int) (maxWidth : Int) (p : PadDims)
    (hne : measured ≠ []) (hp : unpackPad o.padding = .ok p) :
    columnsLayout v o measured maxWidth =
      match columnsCount v o p measured maxWidth with
      | .error e => .error e
      | .ok c =>
        match iterRenderables o.columnFirst (columnsWidths o measured) c with
        | .error e => .error e
        | .ok items =>
          let cells := items.map (·.2)
          let rows := chunk c cells.length cells
          .ok (some ⟨c, if o.rightToLeft then rows.map List.reverse else rows⟩) := by
  have h0 : measured.isEmpty = false := by cases measured <;> simp_all
  unfold columnsLayout columnsCount columnsWidths
  simp only [h0, hp, Bool.false_eq_true, if_false]
  cases o.width <;> rfl


theorem columnsLayout_ne_none (v : Variant) (o : ColumnsOpts) {measured : List Int} (maxWidth : Int) (hne : measured ≠ []) :
    columnsLayout v o measured maxWidth ≠ .ok none := by
  intro h
  cases hp : unpackPad o.padding with
  | error e => rw [columnsLayout_padError v maxWidth hne hp] at h; cases h
  | ok p =>
    rw [columnsLayout_eq v o measured maxWidth p hne hp] at h
    split at h
    · cases h
    · split at h <;> cases h

/-- The cells handed to the row slicing: the items in `itemOrder`, then the blanks. -/
def columnsCells (cf : Bool) (n c : Nat) : List (Option Nat) :=
  (itemOrder cf n c).map some ++ List.replicate (padCount n c) none

theorem columnsCells_length {cf : Bool} {n c : Nat} (hc : 0 < c) :
    (columnsCells cf n c).length = n + padCount n c := by
  simp [columnsCells, itemOrder_length hc]

theorem columnsLayout_ok {v : Variant} {o : ColumnsOpts} {measured : List Int} {maxWidth : Int} {L : ColumnsLayout}
    (h : columnsLayout v o measured maxWidth = .ok (some L)) :
    ∃ p, measured ≠ [] ∧ unpackPad o.padding = .ok p ∧
      columnsCount v o p measured maxWidth = .ok L.columnCount ∧ 0 < L.columnCount ∧
      L.rows =
        (let cells := columnsCells o.columnFirst measured.length L.columnCount
         let rows := chunk L.columnCount cells.length cells
         if o.rightToLeft then rows.map List.reverse else rows) := by
  have hne : measured ≠ [] := by
    intro h0; subst h0; cases h
  cases hp : unpackPad o.padding with
  | error e => rw [columnsLayout_padError v maxWidth hne hp] at h; cases h
  | ok p =>
    refine ⟨p, hne, rfl, ?_⟩
    rw [columnsLayout_eq v o measured maxWidth p hne hp] at h
    cases hc : columnsCount v o p measured maxWidth with
    | error e => simp [hc] at h
    | ok c =>
      simp only [hc] at h
      rcases Nat.eq_zero_or_pos c with h0 | h0
      · subst h0; simp [iterRenderables_zero] at h
      · rw [iterRenderables_pos _ _ h0] at h
        simp only [Except.ok.injEq, Option.some.injEq] at h
        subst h
        refine ⟨rfl, h0, ?_⟩
        simp [columnsCells, columnsWidths_length, Function.comp_def]

theorem map_reverse_map_reverse {α : Type} (rows : List (List α)) :
    (rows.map List.reverse).map List.reverse = rows := by
  induction rows with
  | nil => rfl
  | cons r rows ih => rw [List.map_cons, List.map_cons, ih, List.reverse_reverse]

/-- **Every item exactly once, in the documented order, blanks only at the end.** -/
theorem columnsLayout_each_once (v : Variant) (o : ColumnsOpts) (measured : List Int) (maxWidth : Int) (L : ColumnsLayout)
    (h : columnsLayout v o measured maxWidth = .ok (some L)) :
    0 < L.columnCount ∧
    (∀ row ∈ L.rows, row.length = L.columnCount) ∧
    ∃ k, k < L.columnCount ∧
      ((if o.rightToLeft then L.rows.map List.reverse else L.rows).flatten
        = (itemOrder o.columnFirst measured.length L.columnCount).map some ++ List.replicate k none) := by
  obtain ⟨p, hne, hp, hcnt, hc, hrows⟩ := columnsLayout_ok h
  have hlen := columnsCells_length (cf := o.columnFirst) (n := measured.length) hc
  have hdvd : L.columnCount ∣ (columnsCells o.columnFirst measured.length L.columnCount).length := by
    rw [hlen]; exact dvd_add_padCount hc
  have hrl := chunk_length_eq (columnsCells o.columnFirst measured.length L.columnCount).length _ hdvd
  have hfl := chunk_flatten hc _ (columnsCells o.columnFirst measured.length L.columnCount) (Nat.le_refl _)
  refine ⟨hc, ?_, padCount measured.length L.columnCount, padCount_lt hc, ?_⟩
  · intro row hrow
    rw [hrows] at hrow
    simp only at hrow
    split at hrow
    · obtain ⟨r, hr, rfl⟩ := List.mem_map.mp hrow
      rw [List.length_reverse]; exact hrl r hr
    · exact hrl row hrow
  · rw [hrows]
    simp only
    split
    · rw [map_reverse_map_reverse, hfl]; rfl
    · rw [hfl]; rfl


theorem filterMap_id_append_replicate_none {α : Type} (L : List α) (k : Nat) :
    (L.map some ++ List.replicate k none).filterMap id = L := by
  simp [List.filterMap_map]

theorem flatten_map_reverse_perm {α : Type} (rows : List (List α)) :
    (rows.map List.reverse).flatten.Perm rows.flatten := by
  induction rows with
  | nil => exact List.Perm.refl _
  | cons r rows ih =>
    simp only [List.map_cons, List.flatten_cons]
    exact List.Perm.append (List.reverse_perm r) ih

/-- The non-blank cells of the grid handed to the table are a permutation of all item indices:
every item is shown exactly once (any option combination, any width). -/
theorem columnsLayout_items_perm (v : Variant) (o : ColumnsOpts) (measured : List Int) (maxWidth : Int) (L : ColumnsLayout)
    (h : columnsLayout v o measured maxWidth = .ok (some L)) :
    (L.rows.flatten.filterMap id).Perm (List.range measured.length) := by
  obtain ⟨hc, _, k, _, hfl⟩ := columnsLayout_each_once v o measured maxWidth L h
  have h1 : (L.rows.flatten).Perm ((if o.rightToLeft then L.rows.map List.reverse else L.rows).flatten) := by
    split
    · exact (flatten_map_reverse_perm L.rows).symm
    · exact List.Perm.refl _
  refine (List.Perm.filterMap id h1).trans ?_
  rw [hfl, filterMap_id_append_replicate_none]
  exact itemOrder_perm hc o.columnFirst

/-! ## When `columnsLayout` raises -/

theorem unpackPad_error {l : List Nat} {e : PyErr} (h : unpackPad l = .error e) : e = .valueError := by
  unfold unpackPad at h
  split at h <;> cases h
  rfl

/-- With valid padding and at least one item the only possible exception is `ZeroDivisionError`, raised
by `iter_renderables(0)`: exactly when the computed column count is 0 (or `width + padding = 0`). -/
theorem columnsLayout_error (v : Variant) (o : ColumnsOpts) (measured : List Int) (maxWidth : Int) (p : PadDims)
    (hne : measured ≠ []) (hp : unpackPad o.padding = .ok p) (e : PyErr) :
    columnsLayout v o measured maxWidth = .error e ↔
      e = .zeroDivision ∧
        (columnsCount v o p measured maxWidth = .error .zeroDivision ∨ columnsCount v o p measured maxWidth = .ok 0) := by
  rw [columnsLayout_eq v o measured maxWidth p hne hp]
  cases hc : columnsCount v o p measured maxWidth with
  | error e' =>
    obtain rfl := columnsCount_error hc
    simp only [Except.error.injEq, reduceCtorEq, or_false, and_true]
    exact eq_comm
  | ok c =>
    dsimp only
    rcases Nat.eq_zero_or_pos c with h0 | h0
    · subst h0
      simp only [iterRenderables_zero, Except.error.injEq, reduceCtorEq, false_or, and_true]
      exact eq_comm
    · rw [iterRenderables_pos _ _ h0]
      simp only [reduceCtorEq, Except.ok.injEq, false_or, false_iff, not_and]
      intro _; omega

theorem columnsLayout_error_iff (v : Variant) (o : ColumnsOpts) (measured : List Int) (maxWidth : Int) (p : PadDims)
    (hne : measured ≠ []) (hp : unpackPad o.padding = .ok p) :
    columnsLayout v o measured maxWidth = .error .zeroDivision ↔
      match o.width with
      | some cw => v.columnsZeroCount = true ∧
          (cw + max (p.left : Int) p.right = 0 ∨ maxWidth / (cw + max (p.left : Int) p.right) ≤ 0)
      | none => searchLoop o.columnFirst (columnsWidths o measured) (max (p.left : Int) p.right) maxWidth
          (measured.length + 1) measured.length = 0 := by
  rw [columnsLayout_error v o measured maxWidth p hne hp]
  unfold columnsCount
  cases o.width with
  | none => simp
  | some cw =>
    simp only [true_and]
    cases hz : v.columnsZeroCount
    · simp
    · by_cases h0 : cw + max (p.left : Int) p.right = 0
      · simp [h0]
      · simp [h0, Int.toNat_eq_zero]

/-! ## `width=None`: the search only lowers the column count, and never to 0 when every item fits -/

theorem columnsWidths_le {o : ColumnsOpts} {measured : List Int} {B : Int} (hB : 0 ≤ B)
    (h : ∀ m ∈ measured, m ≤ B) : ∀ m ∈ columnsWidths o measured, m ≤ B := by
  unfold columnsWidths
  split
  · intro m hm
    rw [(List.mem_replicate.mp hm).2]; exact RichModel.listMax_le measured _ hB h
  · exact h

theorem getD_le {B : Int} (hB : 0 ≤ B) (l : List Int) (h : ∀ m ∈ l, m ≤ B) (i : Nat) : l.getD i 0 ≤ B := by
  rw [List.getD_eq_getElem?_getD]
  cases hi : l[i]? with
  | none => exact hB
  | some x => exact h x (List.mem_of_getElem? hi)

/-- A `break` of the inner loop: the column widths collected so far — at most `c` of them, each one of the widths the loop
started with, an item's width, or 0 — no longer fit, and the new count `k` is one column less, so below `c`. -/
theorem searchInner_break {wp mw : Int} {c : Nat} (hc : 0 < c) :
    ∀ (items : List (Int × Option Nat)) (ws : List Int) (colNo k : Nat),
      ws.length ≤ c → colNo < c → searchInner wp mw c items ws colNo = some k →
      ∃ ws' : List Int, ws'.length = k + 1 ∧ k < c ∧ mw < ws'.sum + wp * k ∧
        ∀ B : Int, 0 ≤ B → (∀ w ∈ ws, w ≤ B) → (∀ it ∈ items, it.1 ≤ B) → ∀ w ∈ ws', w ≤ B := by
  intro items
  induction items with
  | nil => intro ws colNo k _ _ h; simp [searchInner] at h
  | cons it rest ih =>
    intro ws colNo k hws hcol h
    obtain ⟨rw', x⟩ := it
    unfold searchInner at h
    simp only at h
    -- `ws'`: the widths after this item went into column `colNo`
    generalize hws' : (if colNo < ws.length then ws.set colNo (max (ws.getD colNo 0) rw') else ws ++ [max 0 rw']) = ws' at h
    have hlen : 0 < ws'.length ∧ ws'.length ≤ c := by
      subst hws'
      split <;> simp <;> omega
    have hle : ∀ B : Int, 0 ≤ B → (∀ w ∈ ws, w ≤ B) → rw' ≤ B → ∀ w ∈ ws', w ≤ B := by
      subst hws'
      intro B hB hws hrw w hw
      split at hw
      · rcases List.mem_or_eq_of_mem_set hw with hw | hw
        · exact hws w hw
        · have := getD_le hB ws hws colNo; omega
      · rcases List.mem_append.mp hw with hw | hw
        · exact hws w hw
        · simp at hw; omega
    split at h
    · rename_i hgt
      cases h
      exact ⟨ws', by omega, by omega, by rw [Int.natCast_sub hlen.1]; exact hgt,
        fun B hB hws hits => hle B hB hws (hits (rw', x) List.mem_cons_self)⟩
    · obtain ⟨ws'', h1, h2, h3, h4⟩ := ih ws' _ k hlen.2 (Nat.mod_lt _ hc) h
      exact ⟨ws'', h1, h2, h3, fun B hB hws hits =>
        h4 B hB (hle B hB hws (hits (rw', x) List.mem_cons_self)) fun it hit => hits it (List.mem_cons_of_mem _ hit)⟩

/-- at least one column is left when every width fits: a single column is one width, which fits -/
theorem searchInner_pos {wp mw : Int} (hmw : 0 ≤ mw) {c : Nat} (hc : 0 < c) (items : List (Int × Option Nat)) (k : Nat)
    (hits : ∀ it ∈ items, it.1 ≤ mw) (h : searchInner wp mw c items [] 0 = some k) : 1 ≤ k := by
  obtain ⟨ws', hlen, _, hgt, hle⟩ := searchInner_break hc items [] 0 k (Nat.zero_le c) hc h
  refine Nat.pos_of_ne_zero fun h0 => ?_
  subst h0
  obtain ⟨a, rfl⟩ := List.length_eq_one_iff.mp hlen
  have := hle mw hmw (fun _ hw => nomatch hw) hits a List.mem_cons_self
  simp at hgt; omega

/-- the widths `iter_renderables` hands out are the given ones, or 0 for a blank -/
theorem iterRenderables_fst_le {cf : Bool} {widths : List Int} {c : Nat} {items : List (Int × Option Nat)} {B : Int}
    (h : iterRenderables cf widths c = .ok items) (hB : 0 ≤ B) (hw : ∀ m ∈ widths, m ≤ B) : ∀ it ∈ items, it.1 ≤ B := by
  rcases Nat.eq_zero_or_pos c with rfl | hc
  · cases h
  · rw [iterRenderables_pos cf widths hc] at h
    cases h
    intro it hit
    rcases List.mem_append.mp hit with hit | hit
    · obtain ⟨i, _, rfl⟩ := List.mem_map.mp hit
      exact getD_le hB widths hw i
    · rw [(List.mem_replicate.mp hit).2]; exact hB

/-- the result of the width search is reached from `c` by `break`s of the inner loop -/
theorem searchLoop_ind {cf : Bool} {widths : List Int} {wp mw : Int} (P : Nat → Prop)
    (hbreak : ∀ (c c' : Nat) (items : List (Int × Option Nat)), 1 < c → iterRenderables cf widths c = .ok items →
      searchInner wp mw c items [] 0 = some c' → P c → P c') :
    ∀ (fuel c : Nat), P c → P (searchLoop cf widths wp mw fuel c) := by
  intro fuel
  induction fuel with
  | zero => intro c hc; exact hc
  | succ fuel ih =>
    intro c hP
    unfold searchLoop
    split
    · rename_i hc
      split
      · exact hP
      · rename_i items hit
        split
        · rename_i c' hc'
          exact ih c' (hbreak c c' items hc hit hc' hP)
        · exact hP
    · exact hP

theorem searchLoop_le (cf : Bool) (widths : List Int) (wp mw : Int) (fuel c : Nat) : searchLoop cf widths wp mw fuel c ≤ c :=
  searchLoop_ind (· ≤ c) (fun c₁ c' items hc _ h hle => by
      obtain ⟨_, _, hlt, _⟩ := searchInner_break (by omega) items [] 0 c' (Nat.zero_le c₁) (by omega) h
      omega)
    fuel c (Nat.le_refl c)

theorem searchLoop_pos {cf : Bool} {widths : List Int} {wp mw : Int} (hmw : 0 ≤ mw) (hw : ∀ m ∈ widths, m ≤ mw)
    (fuel c : Nat) (hc : 1 ≤ c) : 1 ≤ searchLoop cf widths wp mw fuel c :=
  searchLoop_ind (1 ≤ ·) (fun c₁ _ items hc hit h _ => searchInner_pos hmw (by omega) items _ (iterRenderables_fst_le hit hmw hw) h)
    fuel c hc

/-- without a `width` option there are at least one and at most as many columns as items -/
theorem columnsLayout_count_le (v : Variant) (o : ColumnsOpts) (measured : List Int) (maxWidth : Int) (L : ColumnsLayout)
    (hwn : o.width = none) (h : columnsLayout v o measured maxWidth = .ok (some L)) :
    0 < L.columnCount ∧ L.columnCount ≤ measured.length := by
  obtain ⟨p, _, _, hcnt, hpos, _⟩ := columnsLayout_ok h
  refine ⟨hpos, ?_⟩
  unfold columnsCount at hcnt
  rw [hwn] at hcnt
  simp only [Except.ok.injEq] at hcnt
  rw [← hcnt]
  exact searchLoop_le _ _ _ _ _ _

/-- With `width=None`, a non-negative `max_width` and every measured maximum `≤ max_width` (which
`Measurement.get` guarantees), `Columns.__rich_console__` never raises `ZeroDivisionError`. -/
theorem columnsLayout_no_zeroDivision (v : Variant) (o : ColumnsOpts) (measured : List Int) (maxWidth : Int)
    (hw : o.width = none) (hmw : 0 ≤ maxWidth) (hfit : ∀ m ∈ measured, m ≤ maxWidth) :
    columnsLayout v o measured maxWidth ≠ .error .zeroDivision := by
  intro h
  have hne : measured ≠ [] := by
    intro h0; subst h0; cases h
  cases hp : unpackPad o.padding with
  | error e =>
    rw [columnsLayout_padError v maxWidth hne hp, unpackPad_error hp] at h
    cases h
  | ok p =>
    rw [columnsLayout_error_iff v o measured maxWidth p hne hp, hw] at h
    simp only at h
    have h1 : 1 ≤ measured.length := by cases measured <;> simp_all
    have := searchLoop_pos (cf := o.columnFirst) (wp := max (p.left : Int) p.right) hmw
      (columnsWidths_le (o := o) hmw hfit) (measured.length + 1) measured.length h1
    omega

/-- The repaired `Columns` (`column_count = max(1, …)`) never raises: valid padding, any `width` option, and without one
sound item measurements. -/
theorem columnsLayout_ok_of_repaired (v : Variant) (hv : v.columnsZeroCount = false) (o : ColumnsOpts) (measured : List Int)
    (maxWidth : Int) (p : PadDims) (hp : unpackPad o.padding = .ok p) (hmw : 0 ≤ maxWidth)
    (hw : o.width = none → ∀ m ∈ measured, m ≤ maxWidth) :
    ∃ L, columnsLayout v o measured maxWidth = .ok L := by
  by_cases hne : measured = []
  · subst hne; exact ⟨none, columnsLayout_nil v o maxWidth⟩
  cases hres : columnsLayout v o measured maxWidth with
  | ok L => exact ⟨L, rfl⟩
  | error e =>
    obtain ⟨rfl, _⟩ := (columnsLayout_error v o measured maxWidth p hne hp e).mp hres
    cases ho : o.width with
    | none => exact absurd hres (columnsLayout_no_zeroDivision v o measured maxWidth ho hmw (hw ho))
    | some cwid =>
      rw [columnsLayout_error_iff v o measured maxWidth p hne hp, ho] at hres
      simp only [hv, Bool.false_eq_true, false_and] at hres

end RichModel.Frames
