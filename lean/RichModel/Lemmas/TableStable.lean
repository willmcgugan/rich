import RichModel.Lemmas.TableGeneral
/-!
When does re-measuring the collapsed columns give the same widths back?  For cells that measure like text —
`maximum = min(natural, offered)` — always: offered `r ≤ W` such a cell measures what it measures at `W`, clipped to `r`
(`Cell.TextLike.clip`), hence so does a free column of such cells (`measureColumn_textlike`), and a column that was collapsed from its
width at `max_width` to `r ≤` that measures `r` at `r`.
-/
namespace RichModel

/-- A cell that measures like a text: its maximum is its natural width clipped to the width on offer. -/
def Cell.TextLike (c : Cell) : Prop := ∃ n : Int, 0 ≤ n ∧ ∀ w : Nat, 1 ≤ w → (c.measure w).maximum = min n w

theorem Cell.TextLike.clip {c : Cell} (h : c.TextLike) (r W : Nat) (hr : 1 ≤ r) (hrW : r ≤ W) :
    (c.measure r).maximum = min (c.measure W).maximum r := by
  obtain ⟨n, _, hn⟩ := h
  rw [hn r hr, hn W (by omega), Int.min_assoc, Int.min_eq_right (Int.ofNat_le.mpr hrW)]

theorem cellsMax_textlike (t : Table) (c : Column) (htl : ∀ cell ∈ t.getCells c, cell.TextLike) (r W : Int) (hr : 1 ≤ r) (hrW : r ≤ W) :
    min (t.cellsMax c r) r = min (min (t.cellsMax c W) W) r := by
  unfold Table.cellsMax
  generalize t.getCells c = cells at htl
  cases cells with
  | nil => simp only [List.map_nil, List.isEmpty_nil, if_true]; omega
  | cons x xs =>
    have hclip : ((x :: xs).map (fun cell => cell.measure r.toNat)).map (·.maximum) =
        (((x :: xs).map (fun cell => cell.measure W.toNat)).map (·.maximum)).map (fun n => min n r) := by
      rw [List.map_map, List.map_map, List.map_map]
      refine List.map_congr_left (fun cell hc => ?_)
      have := (htl cell hc).clip r.toNat W.toNat (by omega) (by omega)
      simp only [Function.comp_apply, this, Int.toNat_of_nonneg (Int.le_trans (by decide) hr)]
    rw [if_neg (by simp), if_neg (by simp), hclip, listMax_map_min _ (by simp) r, Int.min_assoc, Int.min_self, Int.min_assoc,
      Int.min_eq_right hrW]

theorem measureColumn_textlike (t : Table) (idx : Nat) (c : Column) (hfree : c.SaneFree t idx)
    (htl : ∀ cell ∈ t.getCells c, cell.TextLike) (r W : Int) (hr : 1 ≤ r) (hrW : r ≤ W) :
    (t.measureColumn idx c r).maximum = min (t.measureColumn idx c W).maximum r := by
  have := cellsMax_textlike t c htl r W hr hrW
  rw [measureColumn_maximum t idx c r hr, measureColumn_maximum t idx c W (by omega), hfree.1, hfree.2.1]
  cases c.maxWidth with
  | none => exact this
  | some m => simp only; rw [this, Int.min_assoc, Int.min_comm r, ← Int.min_assoc]

theorem remeasure_one_textlike (t : Table) (idx : Nat) (c : Column) (hfree : c.SaneFree t idx)
    (htl : ∀ cell ∈ t.getCells c, cell.TextLike) (maxWidth r : Int) (hmw : 1 ≤ maxWidth) (hr1 : 1 ≤ r)
    (hr : r ≤ orOne (t.measureColumn idx c maxWidth).maximum) :
    orOne (t.measureColumn idx c r).maximum = r := by
  -- at `max_width` the column measures at most `max_width`, so `r ≤ max_width` and the clipping equation applies
  have hrw : r ≤ maxWidth := by
    have := (orOne_bounds _ maxWidth (hfree.measure_nonneg maxWidth)).2 hmw (hfree.measure_le maxWidth hmw)
    omega
  rw [measureColumn_textlike t idx c hfree htl r maxWidth hr1 hrw]
  simp only [orOne, beq_iff_eq] at hr ⊢
  split at hr <;> split <;> omega

theorem remeasure_stable_textlike (t : Table) (hfree : t.AllFree) (htl : ∀ c ∈ t.columns, ∀ cell ∈ t.getCells c, cell.TextLike)
    (maxWidth : Int) (hmw : 1 ≤ maxWidth) (r : List Int)
    (hle : ListLe r (t.indexed.map (fun ci => orOne (t.measureColumn ci.2 ci.1 maxWidth).maximum)))
    (hr1 : ∀ w ∈ r, 1 ≤ w) : t.remeasure r = r := by
  -- every column gets its own width back, so the re-measure maps the pairs `(width, column)` to their first components
  have hq : ∀ q ∈ r.zip t.indexed, orOne (t.measureColumn q.2.2 q.2.1 q.1).maximum = q.1 := fun q hq => by
    have hm := List.of_mem_zip hq
    refine remeasure_one_textlike t q.2.2 q.2.1 (hfree q.2 hm.2) (htl q.2.1 (mem_indexed t q.2 hm.2)) maxWidth q.1 hmw (hr1 q.1 hm.1) ?_
    exact hle.2 (q.1, _) (by rw [List.zip_map_right]; exact List.mem_map.mpr ⟨q, hq, rfl⟩)
  rw [Table.remeasure, List.map_congr_left hq, map_fst_zip r t.indexed (by simpa using hle.1)]

end RichModel
