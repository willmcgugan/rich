import RichModel.Model.ThemeCtx
import RichModel.Lemmas.ThemeHist
/-!
`ThemeContext` objects with identity (property C20): a history that enters stored objects runs as the history
with a fresh `use_theme` at every `with` (`runC_erase`).
-/
namespace RichModel.Theme

variable {σ : Type}

theorem runCOps_cons (f : Bool) (env : CtxEnv σ) (op : COp σ) (rest : List (COp σ)) (st : Stack σ) :
    runCOps f env (op :: rest) st =
      match runCOp f env op st with
      | (st', .normal) => runCOps f env rest st'
      | r => r :=
  rfl

theorem COp.induct {P : COp σ → Prop} {Q : List (COp σ) → Prop}
    (push : ∀ t i, P (.push t i)) (pop : P .pop) (raise : P .raise)
    (withC : ∀ c body, Q body → P (.withC c body))
    (nil : Q []) (cons : ∀ op rest, P op → Q rest → Q (op :: rest)) :
    (∀ op, P op) ∧ (∀ ops, Q ops) :=
  ⟨fun op => COp.rec (motive_1 := P) (motive_2 := Q) push pop raise withC nil cons op,
   fun ops => COp.rec_1 (motive_1 := P) (motive_2 := Q) push pop raise withC nil cons ops⟩

theorem runC_erase (f : Bool) (env : CtxEnv σ) :
    (∀ (op : COp σ) (st : Stack σ), runCOp f env op st = runOp f (eraseOp env op) st) ∧
    (∀ (ops : List (COp σ)) (st : Stack σ), runCOps f env ops st = runOps f (eraseOps env ops) st) := by
  refine COp.induct (fun _ _ _ => rfl) (fun _ => rfl) (fun _ => rfl) ?_ (fun _ => rfl) ?_
  · intro c body ih st
    simp only [eraseOp, runCOp, runOp, ih]
    rfl
  · intro op rest ih1 ih2 st
    rw [eraseOps, runCOps_cons, runOps_cons, ih1 st]
    obtain ⟨s, _ | e⟩ := runOp f (eraseOp env op) st
    · exact ih2 s
    · rfl

theorem runCOp_erase (f : Bool) (env : CtxEnv σ) (op : COp σ) (st : Stack σ) :
    runCOp f env op st = runOp f (eraseOp env op) st :=
  (runC_erase f env).1 op st

end RichModel.Theme
