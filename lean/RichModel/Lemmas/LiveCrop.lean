import RichModel.Lemmas.LiveStep
import RichModel.Model.LiveCrop
/-! `vertical_overflow` "crop" / "ellipsis" (Live, Status): only `stop` touches the overflow mode, every displayed frame is
cut to the screen height, so the frame-height clauses of `wf` hold by themselves. -/
namespace RichModel.Live
open RichModel RichModel.Screen

theorem step_overflow (cfg : Cfg) (fails : Nat → Bool) (st : St) (op : Op) (hk : cfg.kind ≠ .progress) (hop : op ≠ .stop) :
    (step cfg fails st op).st.overflow = st.overflow := by
  by_cases hs : op = .start
  · subst hs
    cases hst : st.started
    · rw [step, doStart_live hst hk, enableRedirect_eq]
    · rw [step, doStart_started hst]
  · exact (step_edits cfg fails st op hs hop).rel.overflow

theorem shown_fits (cfg : Cfg) (st : St) (hk : cfg.kind ≠ .progress) (hH : 1 ≤ cfg.height)
    (hov : st.overflow ≠ .visible) : (shown cfg st).length ≤ cfg.height := by
  unfold shown
  split
  · exact absurd ‹_› hk
  · exact liveFrame_length_le _ _ _ _ _ hH hov

theorem flushFits_of_crop (cfg : Cfg) (st : St) (hk : cfg.kind ≠ .progress) (hH : 1 ≤ cfg.height)
    (hov : st.overflow ≠ .visible) : flushFits cfg st = true := by
  unfold flushFits
  have h1 : (flushLive cfg noFault { st with started := false } false).st.overflow ≠ .visible := by
    rw [(flushLive_edits cfg noFault _ false).rel.overflow]; exact hov
  have h2 : (flushLive cfg noFault (flushLive cfg noFault { st with started := false } false).st true).st.overflow ≠ .visible := by
    rw [(flushLive_edits cfg noFault _ true).rel.overflow]; exact h1
  simp only [Bool.and_eq_true, Bool.or_eq_true, decide_eq_true_eq]
  exact ⟨Or.inr (shown_fits cfg _ hk hH h1), Or.inr (shown_fits cfg _ hk hH h2)⟩

theorem wfOps_of_crop (cfg : Cfg) (hk : cfg.kind ≠ .progress) (hH : 1 ≤ cfg.height) (h : List Op) :
    ∀ st : St, st.overflow ≠ .visible → wfOpsNoFit cfg st h = true → wfOps cfg st h = true := by
  induction h with
  | nil => intro st _ _; rfl
  | cons op rest ih =>
    intro st hov hw
    unfold wfOpsNoFit at hw
    unfold wfOps
    by_cases hop : op = .stop
    · simp only [hop, if_true, Bool.and_eq_true, Bool.or_eq_true] at hw ⊢
      exact ⟨⟨⟨hw.1.1, hw.1.2⟩, Or.inr (flushFits_of_crop cfg st hk hH hov)⟩, hw.2⟩
    · simp only [hop, if_false, Bool.and_eq_true, Bool.or_eq_true, decide_eq_true_eq] at hw ⊢
      have ho : (step cfg noFault st op).st.overflow ≠ .visible := by rw [step_overflow cfg noFault st op hk hop]; exact hov
      exact ⟨⟨⟨hw.1.1, hw.1.2⟩, Or.inr (shown_fits cfg _ hk hH ho)⟩, ih _ ho hw.2⟩

theorem wf_of_crop {cfg : Cfg} {ov : Overflow} {r0 : Frame} {h : List Op} (hplain : cfg.plain = true) (hH : 1 ≤ cfg.height)
    (hk : cfg.kind ≠ .progress) (hov : ov ≠ .visible) (hwf : wfOpsNoFit cfg (initSt ov r0) h = true) :
    wf cfg ov r0 h = true :=
  wf_iff.2 ⟨hplain, hH, wfOps_of_crop cfg hk hH h _ hov hwf⟩

end RichModel.Live
