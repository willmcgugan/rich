import RichModel.Lemmas.ConcInv
/-!
Where the output of a thread goes (`Model/Conc.lean`): everything a thread produces stays in that thread's
own buffer until it is moved, as a whole, into one `file.write` of that thread or into the result of that
thread's capture block — never anywhere else, never twice, never lost (pieces that render to nothing are
dropped with an all-empty buffer, exactly as `if text:` does).
-/
namespace RichModel.Conc
open RichModel

def capturedItems (l : Local) : List Item := l.captured.flatten

/-- Where the pieces a thread produced are: each carries its thread's id (and, in a buffer or a write, its operation), and
written ++ captured ++ buffered is what was produced. -/
structure OutInv (s : State) : Prop where
  /-- buffered pieces belong to the buffering thread and to its running operation -/
  ownB : ∀ t, ∀ x ∈ (s.th t).buffer, x.tid = t ∧ x.op = (s.th t).nops - 1
  ownC : ∀ t, ∀ c ∈ (s.th t).captured, ∀ x ∈ c, x.tid = t
  /-- a write consists of pieces of the writing thread, all from one operation -/
  ownW : ∀ w ∈ s.sh.file, ∀ x ∈ w.items, x.tid = w.tid ∧ x.op = w.op
  /-- the pieces a thread produced are numbered 0, 1, 2, … -/
  seqE : ∀ t, (s.th t).emitted.map (·.seq) = List.range (s.th t).emitted.length
  /-- everything a thread produced carries that thread's id -/
  ownE : ∀ t, ∀ x ∈ (s.th t).emitted, x.tid = t
  /-- conservation: written ++ captured ++ still buffered = produced (as multisets, non-empty pieces) -/
  cons : ∀ t, ((written s t ++ capturedItems (s.th t) ++ (s.th t).buffer).filter nonEmpty).Perm
      ((s.th t).emitted.filter nonEmpty)

theorem OutInv.nodup_emitted {s : State} (o : OutInv s) (t : Nat) : (s.th t).emitted.Nodup :=
  List.Pairwise.of_map (·.seq) (fun _ _ h e => h (e ▸ rfl)) (o.seqE t ▸ List.nodup_range)

theorem OutInv.count_eq {s : State} (o : OutInv s) (t : Nat) {x : Item} (hne : nonEmpty x = true) :
    (written s t ++ capturedItems (s.th t) ++ (s.th t).buffer).count x = (s.th t).emitted.count x := by
  rw [← List.count_filter hne, (o.cons t).count_eq x, List.count_filter hne]

theorem OutInv.write_of_emitted {s : State} (o : OutInv s) {t : Nat} {x : Item} (hx : x ∈ (s.th t).emitted) {w : Write}
    (hw : w ∈ s.sh.file) (hxw : x ∈ w.items) : w.tid = t ∧ ∀ y ∈ w.items, y.tid = t ∧ y.op = x.op := by
  have hwx := o.ownW w hw x hxw
  have hwt : w.tid = t := hwx.1.symm.trans (o.ownE t x hx)
  exact ⟨hwt, fun y hy => ⟨(o.ownW w hw y hy).1.trans hwt, (o.ownW w hw y hy).2.trans hwx.2.symm⟩⟩

theorem filter_append_const {α : Type} (p : α → Bool) (l ws : List α) {c : Prop} [Decidable c]
    (h : ∀ w ∈ ws, p w = true ↔ c) : (l ++ ws).filter p = l.filter p ++ if c then ws else [] := by
  rw [List.filter_append]
  split
  · next hc => rw [(List.filter_eq_self (l := ws)).mpr fun w hw => (h w hw).mpr hc]
  · next hc => rw [(List.filter_eq_nil_iff (l := ws)).mpr fun w hw hp => hc ((h w hw).mp hp)]

theorem written_upd {s s' : State} {t : Nat} {ws : List Write} (hf : s'.sh.file = s.sh.file ++ ws)
    (hws : ∀ w ∈ ws, w.tid = t) (u : Nat) :
    written s' u = written s u ++ if u = t then ws.flatMap (·.items) else [] := by
  rw [written, hf, filter_append_const _ _ _ (c := u = t) fun w hw => hws w hw ▸ beq_iff_eq.trans eq_comm,
    List.flatMap_append]
  split <;> rfl

theorem written_append (sh : Shared) (th th' : Nat → Local) (w : Write) (u : Nat) :
    written { sh := { sh with file := sh.file ++ [w] }, th := th' } u =
      written { sh := sh, th := th } u ++ (if w.tid = u then w.items else []) := by
  rw [written_upd (s := ⟨sh, th⟩) (t := w.tid) (ws := [w]) rfl (by simp)]
  by_cases h : w.tid = u <;> simp [h, Ne.symm]

theorem written_congr {s s' : State} (h : s'.sh.file = s.sh.file) (u : Nat) : written s' u = written s u := by
  simp [written, h]

/-- `OutInv` after a step in which thread `t` issued the writes `ws` (none or one). -/
theorem out_upd {s : State} {t : Nat} (o : OutInv s) {sh' : Shared} {l' : Local} {ws : List Write}
    (hf : sh'.file = s.sh.file ++ ws) (hws : ∀ w ∈ ws, w.tid = t ∧ ∀ x ∈ w.items, x.tid = w.tid ∧ x.op = w.op)
    (hB : ∀ x ∈ l'.buffer, x.tid = t ∧ x.op = l'.nops - 1) (hC : ∀ c ∈ l'.captured, ∀ x ∈ c, x.tid = t)
    (hS : l'.emitted.map (·.seq) = List.range l'.emitted.length) (hE : ∀ x ∈ l'.emitted, x.tid = t)
    (hcons : ((written s t ++ ws.flatMap (·.items) ++ capturedItems l' ++ l'.buffer).filter nonEmpty).Perm
      (l'.emitted.filter nonEmpty)) :
    OutInv ⟨sh', upd s.th t l'⟩ := by
  have hw := written_upd (s := s) (s' := ⟨sh', upd s.th t l'⟩) hf fun w hw => (hws w hw).1
  refine ⟨fun u => ?_, fun u => ?_, fun w hw => ?_, fun u => ?_, fun u => ?_, fun u => ?_⟩
  · by_cases hu : u = t
    · subst hu; simp only [upd_same]; exact hB
    · simp only [upd_other _ _ hu]; exact o.ownB u
  · by_cases hu : u = t
    · subst hu; simp only [upd_same]; exact hC
    · simp only [upd_other _ _ hu]; exact o.ownC u
  · exact (List.mem_append.mp (hf ▸ hw)).elim (o.ownW w) fun hw => (hws w hw).2
  · by_cases hu : u = t
    · subst hu; simp only [upd_same]; exact hS
    · simp only [upd_other _ _ hu]; exact o.seqE u
  · by_cases hu : u = t
    · subst hu; simp only [upd_same]; exact hE
    · simp only [upd_other _ _ hu]; exact o.ownE u
  · rw [hw u]
    by_cases hu : u = t
    · subst hu; simp only [upd_same, if_true]; exact hcons
    · simp only [upd_other _ _ hu, if_neg hu, List.append_nil]; exact o.cons u

/-- A buffer that renders to nothing is not written; counted by non-empty pieces, a write always moves the whole buffer. -/
theorem filter_write (t op : Nat) (buf : List Item) :
    ((if buf.any nonEmpty then [(⟨t, op, buf⟩ : Write)] else []).flatMap (·.items)).filter nonEmpty = buf.filter nonEmpty := by
  by_cases hany : buf.any nonEmpty = true
  · simp [hany]
  · rw [if_neg hany]
    exact (List.filter_eq_nil_iff.mpr fun x hx hne => hany (List.any_eq_true.mpr ⟨x, hx, hne⟩)).symm

theorem out_step {cfg : Cfg} {s s' : State} {t : Nat} (inv : Inv cfg s) (o : OutInv s)
    (h : stepT cfg s t = some s') : OutInv s' := by
  obtain ⟨sh', l', rfl, -, hstep⟩ := step_eff inv h
  have cons := o.cons t
  cases hstep with
  | load op rest hc hp =>
    exact out_upd o (List.append_nil _).symm nofun (by simp [inv.idle_buffer hc]) (o.ownC t) (o.seqE t) (o.ownE t)
      (by simpa only [capturedItems, List.flatMap_nil, List.append_nil] using cons)
  | act g act r hc eff =>
    cases eff
    case push b _ _ =>
      refine out_upd o (List.append_nil _).symm nofun ?_ (o.ownC t) ?_ ?_ ?_
      · exact List.forall_mem_append.mpr ⟨o.ownB t, List.forall_mem_singleton.mpr ⟨rfl, rfl⟩⟩
      · simp only [Local.push, List.map_append, List.length_append, List.length_cons, List.length_nil,
          List.map_cons, List.map_nil, List.range_succ, o.seqE t]
      · exact List.forall_mem_append.mpr ⟨o.ownE t, List.forall_mem_singleton.mpr rfl⟩
      · simp only [Local.push, capturedItems, List.flatMap_nil, List.append_nil, ← List.append_assoc, List.filter_append] at cons ⊢
        exact cons.append_right _
    case write =>
      refine out_upd o rfl (fun w hw => ?_) nofun (o.ownC t) (o.seqE t) (o.ownE t) ?_
      · split at hw
        · cases List.mem_singleton.mp hw; exact ⟨rfl, o.ownB t⟩
        · nomatch hw
      · simp only [capturedItems, List.append_nil, List.append_assoc, List.filter_append, filter_write] at cons ⊢
        exact (List.perm_append_comm.append_left _).trans cons
    case capEnd =>
      -- the end of a capture block splits the buffer
      refine out_upd o (List.append_nil _).symm nofun ?_ ?_ (o.seqE t) (o.ownE t) ?_
      · exact fun x hx => o.ownB t x (List.mem_of_mem_take hx)
      · exact List.forall_mem_append.mpr
          ⟨o.ownC t, List.forall_mem_singleton.mpr fun x hx => (o.ownB t x (List.mem_of_mem_drop hx)).1⟩
      · simp only [capturedItems, List.flatMap_nil, List.append_nil, List.flatten_append, List.flatten_cons,
          List.flatten_nil, List.append_assoc] at cons ⊢
        refine (List.Perm.filter _ ((List.perm_append_comm.append_left _).append_left _)).trans ?_
        rwa [List.take_append_drop]
    all_goals
      exact out_upd o (List.append_nil _).symm nofun (o.ownB t) (o.ownC t) (o.seqE t) (o.ownE t)
        (by simpa only [capturedItems, List.flatMap_nil, List.append_nil] using cons)

theorem out_run {cfg : Cfg} (sched : List Nat) : ∀ {s : State}, Inv cfg s → OutInv s → OutInv (run cfg s sched) :=
  inv_induction out_step sched

theorem out_init (sh : Shared) (progs : List (List Op)) (hfile : sh.file = []) : OutInv (initState sh progs) := by
  refine ⟨fun t x hx => ?_, fun t c hc => ?_, fun w hw => ?_, fun t => ?_, fun t x hx => ?_, fun t => ?_⟩
  · simp [initState] at hx
  · simp [initState] at hc
  · simp [initState, hfile] at hw
  · simp [initState]
  · simp [initState] at hx
  · simp [initState, written, hfile, capturedItems]

end RichModel.Conc
