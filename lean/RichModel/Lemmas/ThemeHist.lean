import RichModel.Lemmas.Theme
/-!
Histories of theme-stack operations (property C20), each fact for statements and statement lists together
by `Op.induct`.  `Bal` is defined here, the theorem about it is `C20.balanced_restores`.
-/
namespace RichModel.Theme

variable {σ : Type}

theorem runOps_nil (f : Bool) (st : Stack σ) : runOps f [] st = (st, .normal) := rfl

theorem runOps_append_normal (f : Bool) (a b : List (Op σ)) (st st' : Stack σ)
    (h : runOps f a st = (st', .normal)) : runOps f (a ++ b) st = runOps f b st' := by
  induction a generalizing st with
  | nil =>
    rw [runOps_nil] at h
    cases h; rfl
  | cons op rest ih =>
    rw [List.cons_append, runOps_cons]
    rw [runOps_cons] at h
    match ho : runOp f op st with
    | (s1, .normal) => rw [ho] at h; exact ih s1 h
    | (s1, .raised e) => rw [ho] at h; cases h

theorem runOp_use_restores (f : Bool) (t : Theme σ) (i : Bool) (body : List (Op σ)) {st : Stack σ}
    (hwf : st.WF) (out : Outcome) (hb : ∀ st1 : Stack σ, st1.WF → runOps f body st1 = (st1, out)) :
    runOp f (.use t i body) st = (st, out) := by
  simp only [runOp, ctxEnter, pushTheme_eq hwf, hb _ (pushed_wf ..), ctxExit, popTheme_pushed hwf]

theorem runOps_push_pop_restores (f : Bool) (t : Theme σ) (i : Bool) (mid rest : List (Op σ)) {st : Stack σ}
    (hwf : st.WF) (hm : ∀ st1 : Stack σ, st1.WF → runOps f mid st1 = (st1, .normal)) :
    runOps f (.push t i :: (mid ++ .pop :: rest)) st = runOps f rest st := by
  -- the pop meets the stack the push left, because the history in between restored it
  simp only [runOps_cons, runOp, pushTheme_eq hwf]
  rw [runOps_append_normal f _ _ _ _ (hm _ (pushed_wf ..))]
  simp only [runOps_cons, runOp, popTheme_pushed hwf]

/-- Balanced histories and how they end (`true`: runs to completion, `false`: aborted by an
exception raised in user code).  Every push is closed by its pop with a *completing* balanced
history in between; `use_theme` bodies are balanced and may abort; whatever follows an abort is
never executed, so it is unconstrained. -/
inductive Bal : List (Op σ) → Bool → Prop where
  | nil : Bal [] true
  | raise (rest : List (Op σ)) : Bal (.raise :: rest) false
  | useOk {t : Theme σ} {i : Bool} {body rest : List (Op σ)} {c : Bool} :
      Bal body true → Bal rest c → Bal (.use t i body :: rest) c
  | useAbort {t : Theme σ} {i : Bool} {body : List (Op σ)} (rest : List (Op σ)) :
      Bal body false → Bal (.use t i body :: rest) false
  | pushPop {t : Theme σ} {i : Bool} {mid rest : List (Op σ)} {c : Bool} :
      Bal mid true → Bal rest c → Bal (.push t i :: (mid ++ .pop :: rest)) c

theorem trace_run (f : Bool) :
    (∀ (op : Op σ) (st : Stack σ), ((traceOp f op st).1, (traceOp f op st).2.1) = runOp f op st) ∧
    (∀ (ops : List (Op σ)) (st : Stack σ),
      ((traceOps f ops st).1, (traceOps f ops st).2.1) = runOps f ops st) := by
  apply Op.induct
  · intro t i st
    rw [traceOp, runOp]
    cases pushTheme st t i <;> rfl
  · intro st
    rw [traceOp, runOp]
    cases popTheme st <;> rfl
  · exact fun st => rfl
  · intro t i body ih st
    rw [traceOp, runOp]
    cases ctxEnter f st t i with
    | error e => rfl
    | ok st1 =>
      dsimp only
      rw [← ih st1]
      generalize traceOps f body st1 = r
      obtain ⟨st2, out, tr⟩ := r
      cases ctxExit st2 <;> rfl
  · exact fun st => rfl
  · intro op rest ih1 ih2 st
    rw [traceOps, runOps_cons, ← ih1 st]
    generalize traceOp f op st = r
    obtain ⟨st1, _ | e, tr⟩ := r
    · exact ih2 st1
    · rfl

theorem traceOp_run (f : Bool) : ∀ (op : Op σ) (st : Stack σ),
    ((traceOp f op st).1, (traceOp f op st).2.1) = runOp f op st :=
  (trace_run f).1

mutual
/-- every theme the statement pushes, at any depth, has unique keys -/
def opWF : Op σ → Prop
  | .push t _ => WFD t.styles
  | .pop => True
  | .raise => True
  | .use t _ body => WFD t.styles ∧ opsWF body
def opsWF : List (Op σ) → Prop
  | [] => True
  | op :: rest => opWF op ∧ opsWF rest
end

def framesWF (fs : List (Frame σ)) : Prop := ∀ f ∈ fs, WFD f.styles

theorem framesWF_cons {f : Frame σ} {fs : List (Frame σ)} (hf : WFD f.styles) (h : framesWF fs) :
    framesWF (f :: fs) :=
  List.forall_mem_cons.2 ⟨hf, h⟩

theorem framesWF_tail : ∀ {fs : List (Frame σ)}, framesWF fs → framesWF fs.tail
  | [], h => h
  | _ :: _, h => (List.forall_mem_cons.1 h).2

theorem spec_wf :
    (∀ (op : Op σ) (fs : List (Frame σ)), opWF op → framesWF fs → framesWF (specOp op fs).1) ∧
    (∀ (ops : List (Op σ)) (fs : List (Frame σ)), opsWF ops → framesWF fs →
      framesWF (specOps ops fs).1) := by
  apply Op.induct
  · exact fun t i fs ho hf => framesWF_cons ho hf
  · intro fs _ hf
    cases fs with
    | nil => exact hf
    | cons g r => exact framesWF_tail hf
  · exact fun fs _ hf => hf
  · intro t i body ih fs ho hf
    have ih := framesWF_tail (ih _ ho.2 (framesWF_cons (f := ⟨t.styles, i⟩) ho.1 hf))
    rw [specOp]
    generalize specOps body (⟨t.styles, i⟩ :: fs) = r at ih ⊢
    obtain ⟨_ | ⟨g, fs2⟩, out⟩ := r <;> exact ih
  · exact fun fs _ hf => hf
  · intro op rest ih1 ih2 fs ho hf
    have ih1 := ih1 fs ho.1 hf
    rw [specOps]
    generalize specOp op fs = r at ih1 ⊢
    obtain ⟨fs1, _ | e⟩ := r
    · exact ih2 fs1 ho.2 ih1
    · exact ih1

theorem specOp_wf : ∀ (op : Op σ) (fs : List (Frame σ)), opWF op → framesWF fs →
    framesWF (specOp op fs).1 :=
  spec_wf.1

/-! ## the code as found = the repaired code with every `use_theme` read as inheriting -/

mutual
def forceOp : Op σ → Op σ
  | .use t _ body => .use t true (forceOps body)
  | .push t i => .push t i
  | .pop => .pop
  | .raise => .raise
def forceOps : List (Op σ) → List (Op σ)
  | [] => []
  | op :: rest => forceOp op :: forceOps rest
end

theorem run_old :
    (∀ (op : Op σ) (st : Stack σ), runOp true op st = runOp false (forceOp op) st) ∧
    (∀ (ops : List (Op σ)) (st : Stack σ), runOps true ops st = runOps false (forceOps ops) st) := by
  refine Op.induct (fun _ _ _ => rfl) (fun _ => rfl) (fun _ => rfl) ?_ (fun _ => rfl) ?_
  · intro t i body ih st
    simp only [forceOp, runOp, ctxEnter, if_true, Bool.false_eq_true, if_false, ih]
  · intro op rest ih1 ih2 st
    rw [forceOps, runOps_cons, runOps_cons, ih1 st]
    obtain ⟨s, _ | e⟩ := runOp false (forceOp op) st
    · exact ih2 s
    · rfl

theorem runOp_old (op : Op σ) (st : Stack σ) : runOp true op st = runOp false (forceOp op) st :=
  run_old.1 op st

/-- `run_refines` for either variant: the code as found computes the specification of the history with every
`use_theme` read as inheriting -/
theorem run_refines_variant (f : Bool) (b : Dict σ) :
    (∀ (op : Op σ) (fs : List (Frame σ)), runOp f op (stackOf b fs) =
      (stackOf b (specOp (if f then forceOp op else op) fs).1, (specOp (if f then forceOp op else op) fs).2)) ∧
    (∀ (ops : List (Op σ)) (fs : List (Frame σ)), runOps f ops (stackOf b fs) =
      (stackOf b (specOps (if f then forceOps ops else ops) fs).1,
        (specOps (if f then forceOps ops else ops) fs).2)) := by
  cases f with
  | false => exact run_refines b
  | true =>
    exact ⟨fun op fs => by rw [run_old.1, (run_refines b).1]; rfl,
      fun ops fs => by rw [run_old.2, (run_refines b).2]; rfl⟩

theorem runOp_base (f : Bool) : ∀ (op : Op σ) (st : Stack σ), st.WF →
    (runOp f op st).1.WF ∧ (runOp f op st).1.entries.head? = st.entries.head? := by
  intro op st h
  obtain ⟨b, fs, rfl⟩ := exists_stackOf h
  rw [(run_refines_variant f b).1]
  exact ⟨stackOf_wf .., (entriesOf_head ..).trans (entriesOf_head ..).symm⟩

end RichModel.Theme
