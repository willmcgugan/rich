import RichModel.Lemmas.LayoutSplit
import RichModel.Lemmas.WrapStrings
import RichModel.Lemmas.WrapDivideLine
import RichModel.Lemmas.TextDivide
import RichModel.Lemmas.WrapFull
import RichModel.Lemmas.WrapWhole
import RichModel.Lemmas.TextRender
import RichModel.Lemmas.TextAppend
/-!
The TEXT lemmas of the composition layer (C01 / C09): every line of a rendered text fits, a text whose `end` is the
line feed ends its last line, what `Text.__rich_measure__` measures, and "a text given its measured maximum is never
wrapped".  Auxiliary list facts are prefixed `txt_`.
-/
namespace RichModel.Layout
open RichModel RichModel.Frames RichModel.Text RichModel.Wrap

theorem txt_splitOnP_ne_nil (p : Char → Bool) (s : List Char) : splitOnP p s [] ≠ [] :=
  splitOnP_nil p s ▸ Lines.split_ne_nil p s

theorem invB_complete (t : T) (h : Text.Inv t) : invB t = true := by
  obtain ⟨h1, h2, h3⟩ := h
  unfold invB
  simp only [Bool.and_eq_true, beq_iff_eq, List.all_eq_true, decide_eq_true_eq, Bool.not_eq_true']
  exact ⟨⟨h1, h2⟩, fun sp hsp => ⟨⟨(h3 sp hsp).1, (h3 sp hsp).2.1⟩, (h3 sp hsp).2.2⟩⟩

/-- the last `tab_size or 8` alone makes the tab size positive -/
theorem effTabSize_pos (cfg : Cfg) (t : T) : 0 < effTabSize cfg t :=
  have or8 (a : Nat) : 0 < if (a != 0) = true then a else 8 := by
    split
    · exact Nat.pos_of_ne_zero (bne_iff_ne.mp ‹_›)
    · exact Nat.succ_pos 7
  or8 _

theorem invB_sound (t : T) (h : invB t = true) : Text.Inv t := by
  unfold invB at h
  simp only [Bool.and_eq_true, List.all_eq_true, decide_eq_true_eq, beq_iff_eq] at h
  obtain ⟨⟨h1, h2⟩, h3⟩ := h
  refine ⟨h1, ?_, ?_⟩
  · intro c hc
    have := h2 c hc
    simpa using this
  · intro sp hsp
    obtain ⟨⟨a, b⟩, c⟩ := h3 sp hsp
    exact ⟨a, b, c⟩

/-- a text without an `overflow` of its own takes the options' (`fold` when they have none): it is "ignore" only if they say so -/
theorem effOverflow_ignore {t : T} {o : Opts} (ht : t.overflow = none) (h : effOverflow t o = RichModel.Overflow.ignore) :
    o.overflow = some RichModel.Overflow.ignore := by
  unfold effOverflow at h
  rw [ht] at h
  cases ho : o.overflow with
  | none => rw [ho] at h; cases h
  | some x => rw [ho] at h; exact congrArg some h

theorem divideLine_nil_of_fits (cw : Char → Nat) (text : List Char) (w : Nat) (fold : Bool) (h : cellLen cw text ≤ w) :
    Wrap.divideLine cw text w fold = [] :=
  Wrap.divideLine_nil cw text w fold h

/-- a running maximum (the fold behind `maxCellLen`): at least its start value and every element, and equal to one of them -/
theorem txt_foldl_max {β : Type} (f : β → Nat) : ∀ (l : List β) (m : Nat),
    m ≤ l.foldl (fun m x => max m (f x)) m ∧
    (∀ x ∈ l, f x ≤ l.foldl (fun m x => max m (f x)) m) ∧
    (l.foldl (fun m x => max m (f x)) m = m ∨ ∃ x ∈ l, f x = l.foldl (fun m x => max m (f x)) m)
  | [], m => ⟨Nat.le_refl _, fun _ hx => (nomatch hx), Or.inl rfl⟩
  | a :: l, m => by
    obtain ⟨h1, h2, h3⟩ := txt_foldl_max f l (max m (f a))
    simp only [List.foldl_cons]
    refine ⟨by omega, ?_, ?_⟩
    · intro x hx
      rcases List.mem_cons.mp hx with rfl | hx
      · omega
      · exact h2 x hx
    · rcases h3 with h | ⟨x, hx, h⟩
      · by_cases hm : f a ≤ m
        · left; omega
        · right; exact ⟨a, by simp, by omega⟩
      · right; exact ⟨x, by simp [hx], h⟩

theorem txt_maxCellLen_spec (cw : Char → Nat) (l : List (List Char)) :
    (∀ x ∈ l, cellLen cw x ≤ maxCellLen cw l) ∧ (l ≠ [] → ∃ x ∈ l, cellLen cw x = maxCellLen cw l) := by
  obtain ⟨_, h2, h3⟩ := txt_foldl_max (cellLen cw) l 0
  refine ⟨h2, fun hl => h3.elim (fun h => ?_) id⟩
  -- the maximum is 0: so is the width of the first element
  cases l with
  | nil => exact absurd rfl hl
  | cons a l => exact ⟨a, by simp, by have := h2 a (by simp); unfold maxCellLen; omega⟩

theorem txt_lineBreak_space (c : Char) (h : isLineBreak c = true) : pyIsSpace c = true := by
  unfold isLineBreak at h
  simp only [Bool.or_eq_true, beq_iff_eq] at h
  unfold pyIsSpace
  rcases h with ((((((((h | h) | h) | h) | h) | h) | h) | h) | h) | h <;> rw [h] <;> decide

/-- the measured maximum is the width of the widest line, the minimum the width of the widest word (C09 `text_measure_spec`):
for a text that is not all whitespace, every `\n`/line-break separated piece is at most `maximum` wide and one of them is exactly
that wide; every whitespace-separated piece is at most `minimum` wide and one of them is exactly that wide. -/
theorem text_measure_spec (cw : Char → Nat) (t : T) (hne : t.plain.all pyIsSpace = false) :
    (∀ p ∈ splitOnP isLineBreak t.plain [], (cellLen cw p : Int) ≤ (textRichMeasure cw t).maximum) ∧
    (∃ p ∈ splitOnP isLineBreak t.plain [], (cellLen cw p : Int) = (textRichMeasure cw t).maximum) ∧
    (∀ p ∈ splitOnP pyIsSpace t.plain [], (cellLen cw p : Int) ≤ (textRichMeasure cw t).minimum) ∧
    (∃ p ∈ splitOnP pyIsSpace t.plain [], (cellLen cw p : Int) = (textRichMeasure cw t).minimum) ∧
    (textRichMeasure cw t).minimum ≤ (textRichMeasure cw t).maximum := by
  have hm : textRichMeasure cw t =
      ⟨(maxCellLen cw (splitOnP pyIsSpace t.plain []) : Nat), (maxCellLen cw (splitOnP isLineBreak t.plain []) : Nat)⟩ := by
    unfold textRichMeasure
    rw [hne]; rfl
  rw [hm]
  simp only
  obtain ⟨hbge, hbmem⟩ := txt_maxCellLen_spec cw (splitOnP isLineBreak t.plain [])
  obtain ⟨hsge, hsmem⟩ := txt_maxCellLen_spec cw (splitOnP pyIsSpace t.plain [])
  obtain ⟨q, hq, hqe⟩ := hsmem (txt_splitOnP_ne_nil pyIsSpace t.plain)
  refine ⟨fun p hp => Int.ofNat_le.mpr (hbge p hp), ?_, fun p hp => Int.ofNat_le.mpr (hsge p hp), ⟨q, hq, by rw [hqe]⟩, ?_⟩
  · obtain ⟨p, hp, h⟩ := hbmem (txt_splitOnP_ne_nil isLineBreak t.plain)
    exact ⟨p, hp, by rw [h]⟩
  · -- the widest word lies inside a line
    obtain ⟨y, hy, hle⟩ := splitOnP_refine cw isLineBreak pyIsSpace txt_lineBreak_space t.plain q hq
    have := hbge y hy
    omega

/-- `Text.__rich_measure__` with `max(cell_len(line) for line in text.split("\n"))` — the minimal repair -/
def textRichMeasureNl (cw : Char → Nat) (t : T) : Measurement :=
  if t.plain.all pyIsSpace then ⟨cellLen cw t.plain, cellLen cw t.plain⟩
  else ⟨maxCellLen cw (splitOnP pyIsSpace t.plain []), maxCellLen cw (pieces t.plain)⟩

/-- **the repaired measurement: a text given its maximum is never wrapped, whatever separators it contains**: `Text.wrap` divides
the text at `"\n"` only, and every paragraph is at most as wide as the widest of them. -/
theorem text_at_max_not_wrapped_nl (cw : Char → Nat) (t : T) (w : Nat) (fold : Bool)
    (hw : (textRichMeasureNl cw t).maximum ≤ (w : Int)) :
    ∀ p ∈ Layout.pieces t.plain, Wrap.divideLine cw p w fold = [] := by
  intro p hp
  apply divideLine_nil_of_fits
  have h1 := pieces_le cw t.plain p hp
  have h2 := (txt_maxCellLen_spec cw _).1 p hp
  unfold textRichMeasureNl at hw
  split at hw <;> simp only at hw <;> omega

theorem textRichMeasureNl_eq (cw : Char → Nat) (t : T) (hnb : ∀ c ∈ t.plain, isLineBreak c = true → c = '\n') :
    textRichMeasureNl cw t = textRichMeasure cw t := by
  have heq : Layout.pieces t.plain = splitOnP isLineBreak t.plain [] := by
    rw [pieces_eq, splitOnP_nil]
    apply Lines.split_congr
    intro c hc
    by_cases hb : isLineBreak c = true
    · rw [hb, hnb c hc hb]; rfl
    · rw [Bool.not_eq_true] at hb
      rw [hb, beq_eq_false_iff_ne]
      rintro rfl
      exact absurd hb (by decide)
  unfold textRichMeasureNl textRichMeasure
  rw [heq]

/-- the model's variant flag: `false` is the repaired measurement, `true` the as-found one -/
theorem textRichMeasureV_false (cw : Char → Nat) (t : T) : textRichMeasureV false cw t = textRichMeasureNl cw t := rfl
theorem textRichMeasureV_true (cw : Char → Nat) (t : T) : textRichMeasureV true cw t = textRichMeasure cw t := rfl

/-- **a text given its measured maximum is never wrapped** (C09 `text_at_max_not_wrapped`): the measurement takes its maximum over
`text.splitlines()`, which also breaks at FS, GS, RS, NEL, LS, PS; when `\n` is the only line break in the text it is the repaired
measurement, for which every paragraph (piece between line feeds) is left undivided at any width ≥ the measured maximum. -/
theorem text_at_max_not_wrapped (cw : Char → Nat) (t : T) (w : Nat) (fold : Bool)
    (hnb : ∀ c ∈ t.plain, isLineBreak c = true → c = '\n')
    (hw : (textRichMeasure cw t).maximum ≤ (w : Int)) :
    ∀ p ∈ Layout.pieces t.plain, Wrap.divideLine cw p w fold = [] := by
  rw [← textRichMeasureNl_eq cw t hnb] at hw
  exact text_at_max_not_wrapped_nl cw t w fold hw

theorem txt_flat_map (segs : List (Text.RSeg S)) : flat (segs.map rsegToSeg) = segs.flatMap (·.text) := by
  induction segs with
  | nil => rfl
  | cons a l ih =>
    simp only [flat, List.map_cons, List.flatMap_cons] at ih ⊢
    rw [ih]; rfl

theorem txt_render_flat (t : T) (h : Text.Inv t) (e : List Char) (segs : List (Text.RSeg S))
    (hr : t.render e = .ok segs) : flat (segs.map rsegToSeg) = t.plain ++ e := by
  obtain ⟨segs', hr', hc⟩ := render_chars t h e
  rw [hr] at hr'
  cases hr'
  rw [txt_flat_map, hc]

theorem txt_pieces_end (cw : Char → Nat) (w : Nat) (x e : List Char) (he : e = ['\n'] ∨ e = [])
    (h : FitsStr cw w x) : FitsStr cw w (x ++ e) := by
  rcases he with rfl | rfl
  · exact h.append_nl .nil
  · simpa using h

/-- the lines of `"\n".join(lines) + end` are pieces of the lines -/
theorem txt_join_fits {σ : Type} (cw : Char → Nat) (w : Nat) (sep : Text σ) (hsep : sep.plain = ['\n']) (e : List Char)
    (he : e = ['\n'] ∨ e = []) : ∀ lines : List (Text σ), (∀ l ∈ lines, cellLen cw l.plain ≤ w) →
      FitsStr cw w (((joinSeq sep lines).map (·.plain)).flatten ++ e)
  | [], _ => txt_pieces_end cw w [] e he .nil
  | [x], h => by
    simp only [joinSeq, List.map_cons, List.map_nil, List.flatten_cons, List.flatten_nil, List.append_nil]
    exact txt_pieces_end cw w x.plain e he (.of_le (h x (by simp)))
  | x :: y :: rest, h => by
    have ih := txt_join_fits cw w sep hsep e he (y :: rest) (fun l hl => h l (by simp [hl]))
    simp only [joinSeq, hsep, List.isEmpty_cons, Bool.false_eq_true, if_false, List.map_cons, List.flatten_cons]
    rw [List.append_assoc, List.append_assoc, List.singleton_append]
    exact (FitsStr.of_le (h x (by simp))).append_nl ih

/-- every line `Text.__rich_console__` wraps the text into fits (C02 `wrap_lines_fit` at any width ≥ 1) -/
theorem txt_lines_fit (cfg : Cfg) (hsp : cfg.cw ' ' = 1) (h2 : ∀ c, cfg.cw c ≤ 2) (hel : cfg.cw '…' = 1)
    (t : T) (o : Opts) (w : Nat) (hw : 1 ≤ w) (hov : effOverflow t o ≠ RichModel.Overflow.ignore)
    (lines : List T) (h : textLines cfg t o w = .ok lines) : ∀ l ∈ lines, cellLen cfg.cw l.plain ≤ w := by
  exact Wrap.wrap_lines_fit cfg.wv cfg.cw hsp h2 hel alg t w hw _ _ _ _ lines h (by exact hov)

/-- what a rendered text shows: nothing (the model's error branch, the poison being empty), or the lines it was wrapped into, joined
by line feeds, and then its `end` -/
theorem txt_console_flat (cfg : Cfg) (hp : cfg.poison = []) (t : T) (o : Opts) (w : Nat) :
    textConsole cfg t o w = [] ∨ ∃ lines, textLines cfg t o w = .ok lines ∧
      flat (textConsole cfg t o w) = (Text.join cfg.wv.text (Text.new cfg.wv.text ['\n'] [0]) lines).plain ++ t.endStr := by
  unfold textConsole
  cases hE : textConsoleE cfg t o w with
  | error e => exact Or.inl hp
  | ok s =>
    right
    unfold textConsoleE at hE
    obtain ⟨lines, hl, h⟩ := bind_ok.mp hE
    refine ⟨lines, hl, ?_⟩
    simp only at h
    split at h
    · rename_i hinv
      obtain ⟨segs, hr, h⟩ := bind_ok.mp h
      cases h
      exact txt_render_flat _ (invB_sound _ hinv) _ _ hr
    · cases h

theorem txt_console_fits (cfg : Cfg) (hp : cfg.poison = []) (t : T) (o : Opts) (w : Nat)
    (hend : t.endStr = ['\n'] ∨ t.endStr = [])
    (h : ∀ lines, textLines cfg t o w = .ok lines → ∀ l ∈ lines, cellLen cfg.cw l.plain ≤ w) :
    Fits cfg.cw w (textConsole cfg t o w) := by
  rcases txt_console_flat cfg hp t o w with h0 | ⟨lines, hl, hflat⟩
  · rw [h0]; exact fits_nil _ _
  · rw [fits_iff_str, hflat, Text.join_plain]
    exact txt_join_fits cfg.cw w _ (new_newline_plain _ _) t.endStr hend lines (h lines hl)

/-- **every line of a rendered text fits** (C01, text case): width at least one cell, overflow not "ignore". -/
theorem text_fits (cfg : Cfg) (hsp : cfg.cw ' ' = 1) (h2 : ∀ c, cfg.cw c ≤ 2) (hel : cfg.cw '…' = 1) (hp : cfg.poison = [])
    (t : T) (o : Opts) (w : Nat) (hw : 1 ≤ w) (hov : effOverflow t o ≠ RichModel.Overflow.ignore)
    (hend : t.endStr = ['\n'] ∨ t.endStr = []) : Fits cfg.cw w (textConsole cfg t o w) :=
  txt_console_fits cfg hp t o w hend (txt_lines_fit cfg hsp h2 hel t o w hw hov)

theorem text_closed (cfg : Cfg) (hp : cfg.poison = []) (t : T) (o : Opts) (w : Nat) (hend : t.endStr = ['\n']) :
    Closed (textConsole cfg t o w) := by
  rcases txt_console_flat cfg hp t o w with h0 | ⟨lines, _, hflat⟩
  · rw [h0]; exact closed_nil
  · right
    rw [hflat, hend, List.getLast?_concat]

end RichModel.Layout
