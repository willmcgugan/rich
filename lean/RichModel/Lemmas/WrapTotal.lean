import RichModel.Lemmas.Except
import RichModel.Lemmas.WrapWhole
import RichModel.Lemmas.TextShows
/-!
Property C14, the text pipeline: `Text.wrap` (C02's model) never raises and hands back consistent lines (`Text.Inv`) at
EVERY width — also 0 and 1, where a double-width character does not fit, `chop_cells` yields an empty first chunk and the
first offset of `divide_line` is 0 (an empty first line) instead of lying inside the text.  The offsets are the ends of the lines `divide_line` lays the text out
in (`divideLine_lines`), so `Text.divide` accepts them (`paragraph_lines`), and every stage after it keeps a line consistent
(`Stage.kept`, `justifyFull_inv`): one paragraph is `wrapLine_inv` (Lemmas/WrapFold); here the loop over the paragraphs and `wrap`.
-/
namespace RichModel
namespace Wrap
open Text
variable {σ : Type}

section
variable [BEq σ] {chars : Bool}

theorem wrapParagraphs_inv (cw : Char → Nat) (A : StyleAlg σ) (w : Nat) (j : Justify) (o : Overflow) (nw : Bool)
    (ts : Nat) (hts : 0 < ts) (ps : List (Text σ)) (h : AllInv ps) :
    (wrapParagraphs (WVariant.fixed chars) cw A w j o nw (some ts) ps).Returns AllInv :=
  (wrapParagraphs_post (WVariant.fixed chars) cw A w j o nw (some ts) Inv _ ps fun P hP => Except.Returns.post <|
    Except.Returns.bind (.mono (expandTabs_tabMark P (h P hP) (some ts) fun _ => ⟨ts, rfl, hts⟩) fun _ hq => hq.1)
      fun P' hP' => wrapLine_inv cw A P' hP' w j o nw).returns

/-- `Text.wrap` of a consistent text never raises and returns consistent lines: every width
(0 included), every width function, every `justify` / `overflow` / `no_wrap` (argument or attribute), every positive
tab size. -/
theorem wrap_total (cw : Char → Nat) (A : StyleAlg σ) (t : Text σ) (h : Inv t) (w : Nat)
    (justify : Option Justify) (overflow : Option Overflow) (ts : Nat) (hts : 0 < ts) (noWrap : Option Bool) :
    ∃ out, wrap (WVariant.fixed chars) cw A t w justify overflow (some ts) noWrap = .ok out ∧ ∀ l ∈ out, Inv l :=
  Except.Returns.bind (.mono (split_newline_ink t h) fun _ hs l hl => (hs.2.1 l hl).1) fun ps hps =>
    wrapParagraphs_inv cw A w _ _ _ ts hts ps hps

end

end Wrap

end RichModel
