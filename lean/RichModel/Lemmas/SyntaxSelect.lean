import RichModel.Lemmas.SyntaxRange
/-
From a clean source and the lexer contract to the selected lines (`selectedLines`): they ARE the expected slice of the
source lines (`selectedLines_eq`), hence the expected slice of `source.split("\n")` up to trailing blank lines
(`selected_trail`).
-/
namespace RichModel.Syntax

/-- Sources on which the statement is read literally: no character that `Text` strips (BS, VT, FF, CR — CR is
also what Pygments turns into a newline) and no byte-order mark (Pygments removes a leading one). -/
def Clean (s : List Char) : Prop := ∀ c ∈ s, isStripCtl c = false ∧ c.toNat ≠ 0xFEFF

/-- The lines the statement asks for: all source lines, or lines `a..b` (1-based, clipped). -/
def expectedLines (range : Option (Int × Int)) (P : List Line) : List Line :=
  match range with
  | none => P
  | some (a, b) => (P.take b.toNat).drop (a - 1).toNat

theorem expectedLines_getElem? (o : Opts) (P : List Line) {i : Nat} {l : Line}
    (h : (expectedLines o.lineRange P)[i]? = some l) : P[lineOffset o + i]? = some l := by
  unfold lineOffset
  cases hr : o.lineRange with
  | none => rw [hr] at h; simpa [expectedLines] using h
  | some ab =>
    rw [hr, expectedLines, List.getElem?_drop, List.getElem?_take] at h
    split at h
    · exact h
    · cases h

/-- Row `i` of a selection that is the expected lines up to blank ones at the end shows the source line numbered
`start + lineOffset o + i`, counting the first source line as `start`. -/
theorem Trail.source_line {n : Nat} {sel P : List Line} (o : Opts) (ht : Trail n sel (expectedLines o.lineRange P)) {i : Nat}
    (hi : i < sel.length) (start : Nat) : P[start + lineOffset o + i - start]? = some sel[i] := by
  rw [Nat.add_assoc, Nat.add_sub_cancel_left]
  exact expectedLines_getElem? o _ (List.prefix_iff_getElem?.mp ht.prefix i hi)

theorem mem_expandTabsFrom (ts : Nat) (s : List Char) (col : Nat) (c : Char) (h : c ∈ expandTabsFrom ts col s) :
    c ∈ s ∨ c = ' ' := by
  induction s generalizing col with
  | nil => simp [expandTabsFrom] at h
  | cons d rest ih =>
    have step : ∀ col', c ∈ expandTabsFrom ts col' rest → c ∈ d :: rest ∨ c = ' ' :=
      fun col' h' => (ih col' h').imp_left (List.mem_cons_of_mem d)
    unfold expandTabsFrom at h
    split at h
    · split at h
      · exact (List.mem_append.mp h).elim (fun h1 => Or.inr (List.eq_of_mem_replicate h1)) (step _)
      · exact step _ h
    · split at h <;> exact (List.mem_cons.mp h).elim (fun h1 => Or.inl (h1 ▸ List.mem_cons_self)) (step _)

theorem Clean.expandTabs {s : List Char} (h : Clean s) (ts : Nat) : Clean (expandTabs ts s) := by
  intro c hc
  rcases mem_expandTabsFrom ts s 0 c hc with h1 | h1
  · exact h c h1
  · subst h1; decide

theorem crlf_cons_ne {c : Char} (h : c ≠ '\r') (rest : List Char) : crlf (c :: rest) = c :: crlf rest := by
  rw [crlf]
  · intro rest' hc _; exact h hc
  · intro hc; exact h hc

theorem crlf_clean (s : List Char) (h : Clean s) : crlf s = s := by
  induction s with
  | nil => simp [crlf]
  | cons c rest ih =>
    obtain ⟨hc, hr⟩ := List.forall_mem_cons.mp h
    have hne : c ≠ '\r' := by
      intro e; subst e; exact absurd hc.1 (by decide)
    rw [crlf_cons_ne hne, ih hr]

theorem dropBOM_clean (s : List Char) (h : Clean s) : dropBOM s = s := by
  cases s with
  | nil => rfl
  | cons c rest =>
    have := (h c (by simp)).2
    simp [dropBOM, this]

theorem pygPre_clean (s : List Char) (h : Clean s) : pygPre false s = ensureNL s := by
  unfold pygPre ensureNL
  simp [dropBOM_clean s h, crlf_clean s h]

theorem length_splitNL (s : List Char) : (splitNL s).length = countNL s + 1 := by
  rw [splitNL_eq, Lines.length_split]; rfl

theorem countNL_expandTabsFrom (ts : Nat) (s : List Char) (col : Nat) :
    countNL (expandTabsFrom ts col s) = countNL s := by
  fun_induction expandTabsFrom ts col s <;> simp_all [countNL, List.count_cons, List.count_replicate]

theorem countNL_expandTabs (ts : Nat) (s : List Char) : countNL (expandTabs ts s) = countNL s :=
  countNL_expandTabsFrom ts s 0

/-- The lines of a source the way a reader counts them: a final newline ends the last line, it does not start
an empty one (`s.split("\n")` without the empty string a final newline leaves behind). -/
def srcLines (s : List Char) : List Line := if endsNL s then (splitNL s).dropLast else splitNL s

/-- the source lines are the split of the text that, followed by a newline, is the source with its final newline ensured -/
theorem srcLines_cases (s : List Char) :
    ∃ s', srcLines s = splitNL s' ∧ ensureNL s = s' ++ ['\n'] ∧ (s = s' ∨ s = s' ++ ['\n']) := by
  unfold srcLines ensureNL
  cases h : endsNL s with
  | true =>
    obtain ⟨s0, rfl⟩ := endsNL_iff.mp h
    exact ⟨s0, by simp [splitNL_snoc_nl], rfl, Or.inr rfl⟩
  | false => exact ⟨s, rfl, rfl, Or.inl rfl⟩

theorem srcLines_ne_nil (s : List Char) : srcLines s ≠ [] := by
  obtain ⟨s', e, _⟩ := srcLines_cases s
  exact e ▸ splitNL_ne_nil s'

theorem srcLines_noNL (s : List Char) : ∀ l ∈ srcLines s, '\n' ∉ l := by
  obtain ⟨s', e, _⟩ := srcLines_cases s
  exact e ▸ splitNL_no_nl s'

theorem ensureNL_eq_unlinesT (s : List Char) : ensureNL s = unlinesT (srcLines s) := by
  obtain ⟨s', e, he, _⟩ := srcLines_cases s
  rw [e, he, append_nl_eq_unlinesT]

theorem srcLines_trail (s : List Char) : Trail 1 (srcLines s) (splitNL s) := by
  obtain ⟨s', e, _, rfl | rfl⟩ := srcLines_cases s
  · exact e ▸ Trail.refl _ _
  · exact e ▸ splitNL_snoc_nl s' ▸ Trail.snoc _

theorem ensureNL_lines (s : List Char) :
    ∃ L : List Line, L ≠ [] ∧ (∀ l ∈ L, '\n' ∉ l) ∧ ensureNL s = unlinesT L ∧ Trail 1 L (splitNL s) :=
  ⟨srcLines s, srcLines_ne_nil s, srcLines_noNL s, ensureNL_eq_unlinesT s, srcLines_trail s⟩

theorem srcLines_clean {s : List Char} (h : Clean s) : ∀ l ∈ srcLines s, ∀ c ∈ l, isStripCtl c = false :=
  -- a source line is a piece of the split, and a piece lies inside the text
  fun l hl c hc => (h c ((splitNL_infix s l ((srcLines_trail s).prefix.subset hl)).subset hc)).1

theorem map_stripCtl_id {X : List Line} (h : ∀ l ∈ X, ∀ c ∈ l, isStripCtl c = false) : X.map stripCtl = X :=
  (List.map_congr_left fun l hl => stripCtl_eq_self (h l hl)).trans (List.map_id X)

theorem prefix_ensureNL (s : List Char) : s <+: ensureNL s := by
  unfold ensureNL; split
  · exact List.prefix_refl _
  · exact List.prefix_append _ _

/-- `highlight` on a clean source under the lexer contract: the source itself without a lexer; with one, the source
with its final newline ensured, cut after the newline `rangeEnd` names when a range is given. -/
theorem highlight_clean (found : Bool) (toks : List Line) (src : List Char) (range : Option (Int × Int))
    (hclean : Clean src) (hlex : found = true → toks.flatten = pygPre false src) :
    highlight false found toks src range = .ok (if found then
      (match range with
       | none => ensureNL src
       | some (a, b) => takeThroughNL (rangeEnd a b) (ensureNL src)) else src) := by
  cases found with
  | false => simp [highlight, stripCtl_eq_self fun c hc => (hclean c hc).1]
  | true =>
    have hflat : toks.flatten = ensureNL src := by rw [hlex rfl, pygPre_clean src hclean]
    cases range with
    | none => simp [highlight, hflat]
    | some ab => simpa [hflat] using highlight_ranged toks src ab.1 ab.2

/-- The source lines the highlighted text holds: all of them, or, when a lexer runs under a range `(a, b)`, those up to
the line the text is cut after. -/
def hlLines (found : Bool) (range : Option (Int × Int)) (src : List Char) : List Line :=
  match range with
  | some (a, b) => if found then (srcLines src).take (rangeEnd a b) else srcLines src
  | none => srcLines src

theorem hlLines_none (found : Bool) (src : List Char) : hlLines found none src = srcLines src := rfl

theorem hlLines_prefix (found : Bool) (range : Option (Int × Int)) (src : List Char) :
    hlLines found range src <+: srcLines src := by
  unfold hlLines
  split
  · split
    · exact List.take_prefix _ _
    · exact List.prefix_refl _
  · exact List.prefix_refl _

theorem hlLines_ne_nil (found : Bool) (range : Option (Int × Int)) (src : List Char) : hlLines found range src ≠ [] := by
  unfold hlLines
  split
  · split
    · simp only [ne_eq, List.take_eq_nil_iff, srcLines_ne_nil, or_false]
      exact Nat.ne_of_gt (Nat.lt_of_lt_of_le (Nat.zero_lt_succ _) (rangeEnd_ge _ _).2)
    · exact srcLines_ne_nil src
  · exact srcLines_ne_nil src

theorem hlLines_take (found : Bool) (a b : Int) (src : List Char) :
    (hlLines found (some (a, b)) src).take b.toNat = (srcLines src).take b.toNat := by
  cases found with
  | false => rfl
  | true => exact (List.take_take ..).trans (by rw [Nat.min_eq_left (rangeEnd_ge a b).1])

/-- `highlight_clean` read in lines: after `remove_suffix` the text is those source lines joined by newlines. -/
theorem highlight_lines (found : Bool) (toks : List Line) (src : List Char) (range : Option (Int × Int))
    (hclean : Clean src) (hlex : found = true → toks.flatten = pygPre false src) :
    ∃ text, highlight false found toks src range = .ok text ∧ removeSuffixNL text = joinNL (hlLines found range src) := by
  refine ⟨_, highlight_clean found toks src range hclean hlex, ?_⟩
  have hall : removeSuffixNL (ensureNL src) = joinNL (srcLines src) := by
    rw [ensureNL_eq_unlinesT, removeSuffixNL_unlinesT _ (srcLines_ne_nil src)]
  cases found with
  | false => cases range <;> exact (removeSuffix_ensureNL src).symm.trans hall
  | true =>
    cases range with
    | none => exact hall
    | some ab =>
      show removeSuffixNL (takeThroughNL _ (ensureNL src)) = joinNL ((srcLines src).take _)
      rw [ensureNL_eq_unlinesT, takeThroughNL_unlinesT _ _ (srcLines_noNL src)]
      exact removeSuffixNL_unlinesT _ (hlLines_ne_nil true (some ab) src)

theorem textSplit_lines {X : List Line} (hne : X ≠ []) (hno : ∀ l ∈ X, '\n' ∉ l)
    (hc : ∀ l ∈ X, ∀ c ∈ l, isStripCtl c = false) (b : Bool) :
    (textSplit (joinNL X) b).map stripCtl = (if b then X else popBlank X) ∧
    textSplitC (joinNL X) b = textSplit (joinNL X) b := by
  refine ⟨?_, textSplitC_eq _ _ (by rwa [splitNL_joinNL _ hne hno])⟩
  cases b with
  | true => rw [textSplit_allow_joinNL _ hne hno, map_stripCtl_id hc]; rfl
  | false =>
    rw [textSplit_joinNL _ hno, if_neg hne, map_stripCtl_id fun l hl => hc l ((popBlank_prefix _).subset hl)]; rfl

/-- What `Text.split` finds in the highlighted text, each line passed through `Text(...)`. -/
theorem highlight_split (found : Bool) (toks : List Line) (src : List Char) (range : Option (Int × Int))
    (hclean : Clean src) (hlex : found = true → toks.flatten = pygPre false src) :
    ∃ text, highlight false found toks src range = .ok text ∧ ∀ b,
      (textSplit (removeSuffixNL text) b).map stripCtl =
        (if b then hlLines found range src else popBlank (hlLines found range src)) ∧
      textSplitC (removeSuffixNL text) b = textSplit (removeSuffixNL text) b := by
  obtain ⟨text, hhl, hrs⟩ := highlight_lines found toks src range hclean hlex
  have hsub := (hlLines_prefix found range src).subset
  exact ⟨text, hhl, fun b => hrs ▸ textSplit_lines (hlLines_ne_nil found range src)
    (fun l hl => srcLines_noNL _ l (hsub hl)) (fun l hl => srcLines_clean hclean l (hsub hl)) b⟩

/-- Without indent guides, on a clean source and under the lexer contract, the repaired code selects, of the source
lines: under a range `(a, b)`, `0 ≤ b`, EXACTLY lines `a..b` clipped to the lines that exist — interior blank lines that
end the range included; without a range all of them, except an empty line at the very end of the source. -/
theorem selectedLines_eq (o : Opts) (found : Bool) (lex : List Char → List Line) (code : List Char)
    (hclean : Clean (shownCode o code))
    (hlex : found = true → (lex (expandTabs o.tabSize (shownCode o code))).flatten = pygPre false (expandTabs o.tabSize (shownCode o code)))
    (hg : (o.indentGuides && !o.asciiOnly) = false)
    (hb : ∀ a b, o.lineRange = some (a, b) → 0 ≤ b) :
    selectedLines false false o found lex code = .ok (match o.lineRange with
      | none => popBlank (srcLines (expandTabs o.tabSize (shownCode o code)))
      | some (a, b) => ((srcLines (expandTabs o.tabSize (shownCode o code))).take b.toNat).drop (a - 1).toNat) := by
  obtain ⟨text, hhl, hsp⟩ :=
    highlight_split found (lex (expandTabs o.tabSize (shownCode o code))) (expandTabs o.tabSize (shownCode o code)) o.lineRange
      (hclean.expandTabs o.tabSize) hlex
  unfold selectedLines
  simp only [hhl, linesOfText, hg, (hsp _).2, (hsp _).1]
  cases hr : o.lineRange with
  | none => rfl
  | some ab =>
    obtain ⟨a, b⟩ := ab
    simp only [Option.isSome_some, Bool.not_false, Bool.and_true, if_true]
    rw [pySlice_nonneg _ _ _ (hb a b hr), show lineOffset o = (a - 1).toNat by simp [lineOffset, hr], hlLines_take]
    rfl

theorem selected_exact (o : Opts) (found : Bool) (lex : List Char → List Line) (code : List Char)
    (hclean : Clean (shownCode o code))
    (hlex : found = true → (lex (expandTabs o.tabSize (shownCode o code))).flatten = pygPre false (expandTabs o.tabSize (shownCode o code)))
    (hg : (o.indentGuides && !o.asciiOnly) = false)
    (hb : ∀ a b, o.lineRange = some (a, b) → 0 ≤ b) :
    ∃ sel, selectedLines false false o found lex code = .ok sel ∧
      (o.lineRange = none → Trail 1 sel (srcLines (expandTabs o.tabSize (shownCode o code)))) ∧
      (∀ a b, o.lineRange = some (a, b) →
        sel = ((srcLines (expandTabs o.tabSize (shownCode o code))).take b.toNat).drop (a - 1).toNat) :=
  ⟨_, selectedLines_eq o found lex code hclean hlex hg hb, fun hr => by rw [hr]; exact popBlank_trail _,
    fun a b hr => by rw [hr]⟩

/-- The weak form the numbering, gutter and traceback arguments use: the selected lines are the
expected slice of `source.split("\n")` up to at most two empty lines at the very end. -/
theorem selected_trail (o : Opts) (found : Bool) (lex : List Char → List Line) (code : List Char)
    (hclean : Clean (shownCode o code))
    (hlex : found = true → (lex (expandTabs o.tabSize (shownCode o code))).flatten = pygPre false (expandTabs o.tabSize (shownCode o code)))
    (hg : (o.indentGuides && !o.asciiOnly) = false)
    (hb : ∀ a b, o.lineRange = some (a, b) → 0 ≤ b) :
    ∃ sel, selectedLines false false o found lex code = .ok sel ∧
      Trail 2 sel (expectedLines o.lineRange (splitNL (expandTabs o.tabSize (shownCode o code)))) := by
  refine ⟨_, selectedLines_eq o found lex code hclean hlex hg hb, ?_⟩
  have htr := srcLines_trail (expandTabs o.tabSize (shownCode o code))
  cases o.lineRange with
  | none => exact (popBlank_trail _).trans htr
  | some ab => exact ((htr.take _).drop _).mono (by omega)

end RichModel.Syntax
