import RichModel.Lemmas.Console
/-!
Arbitrarily nested capture blocks and `with console:` blocks: the console model refines a *specification machine*
whose state is a stack of frames, one per open capture block, each holding exactly the segments appended directly
inside that block, plus the number of open `with console:` levels and the segments they hold back (`Spec`, `specStep`,
`Rel`, `run_refines`: repaired marks and record).  In every variant the buffer stays empty at depth zero for as long as the
depth does not go below zero (`exec_outsideEmpty`; so in a well-bracketed history, `wellBracketed_depth`); for any sequence,
balanced or not: the depth (`depthDelta`, `exec_index`), no write at non-zero depth (`step_file_nonzero`), who raises
(`step_total`).
-/
namespace RichModel.Console
open RichModel

variable {σ : Type}

/-- Specification state.
* `frames`: the open capture blocks (innermost first), each with the segments appended directly inside it and not
  yet returned;
* `ctx`: how many `with console:` blocks are open;
* `base`: segments appended outside every capture block while a `with console:` block is open — held back until
  the depth returns to zero;
* the record and the file. -/
structure Spec (σ : Type) where
  frames : List (List (Segment σ)) := []
  ctx : Nat := 0
  base : List (Segment σ) := []
  record : List (Segment σ) := []
  file : List (List (Piece σ)) := []

variable [BEq σ]

/-- An export as a function of the record alone: (record afterwards, value returned). -/
def exportStep (v : Variant) (cfg : Config) (env : StyleEnv σ) (record : List (Segment σ)) (op : Op σ) :
    List (Segment σ) × Out :=
  let r := step v cfg env { record := record } op
  (r.1.record, r.2)

/-- When no block of either kind is open, what was held back is written to the file and recorded. -/
def Spec.settle (cfg : Config) (env : StyleEnv σ) (sp : Spec σ) : Spec σ :=
  if sp.frames.isEmpty && sp.ctx == 0 then
    { sp with base := [], record := if cfg.record then sp.record ++ sp.base else sp.record,
              file := sp.file ++ written cfg env [sp.base] }
  else sp

/-- The specification of one operation:
* `begin_capture` opens an empty frame; `end_capture` closes the innermost frame and returns the rendering of
  *that frame only*;
* entering `with console:` raises `ctx`, leaving it lowers `ctx`;
* an export acts on the record;
* any other operation appends what it renders to the innermost frame if there is one — and then nothing reaches
  the file or the record — and otherwise to `base`;
* after every step that may bring the depth to zero, `settle`. -/
def specStep (v : Variant) (cfg : Config) (env : StyleEnv σ) (sp : Spec σ) (op : Op σ) : Spec σ × Out :=
  match op with
  | .beginCapture => ({ sp with frames := [] :: sp.frames }, .none)
  | .endCapture =>
    match sp.frames with
    | f :: rest => (Spec.settle cfg env { sp with frames := rest }, .captured (flat (renderPieces cfg env f)))
    | [] => (sp, .captured [])   -- no block is open: outside the specification (see `capture_nesting`, part B)
  | .enterBuffer => ({ sp with ctx := sp.ctx + 1 }, .none)
  | .exitBuffer => (Spec.settle cfg env { sp with ctx := sp.ctx - 1 }, .none)
  | op =>
    if isExport op then
      let r := exportStep v cfg env sp.record op
      ({ sp with record := r.1 }, r.2)
    else
      match sp.frames with
      | f :: rest => ({ sp with frames := (f ++ appended cfg op) :: rest }, .none)
      | [] => (Spec.settle cfg env { sp with base := sp.base ++ appended cfg op }, .none)

/-- A history on the specification machine; answers in order. -/
def specRun (v : Variant) (cfg : Config) (env : StyleEnv σ) : List (Op σ) → Spec σ → Spec σ × List Out
  | [], sp => (sp, [])
  | op :: rest, sp =>
    let r := specStep v cfg env sp op
    let r2 := specRun v cfg env rest r.1
    (r2.1, r.2 :: r2.2)

/-- The `capture_starts` stack that corresponds to a stack of frames (innermost first) lying after `b` held-back
segments: each block starts where the frames below it end. -/
def marksOf (b : Nat) : List (List (Segment σ)) → List Nat
  | [] => []
  | _ :: rest => (b + (rest.reverse.flatten).length) :: marksOf b rest

/-- The model state `s` represents the specification state `sp`: the depth is the number of open blocks of both
kinds, the thread buffer is the held-back segments followed by the frames laid end to end (outermost first), the
marks are the frame boundaries; and nothing is held back when no block is open. -/
structure Rel (s : State σ) (sp : Spec σ) : Prop where
  index : s.index = ((sp.frames.length + sp.ctx : Nat) : Int)
  buffer : s.buffer = sp.base ++ sp.frames.reverse.flatten
  marks : s.marks = marksOf sp.base.length sp.frames
  record : s.record = sp.record
  file : s.file = sp.file
  idle : sp.frames = [] → sp.ctx = 0 → sp.base = []

theorem Rel.init : Rel ({} : State σ) ({} : Spec σ) := ⟨rfl, rfl, rfl, rfl, rfl, fun _ _ => rfl⟩

/-- Brackets of both kinds are never closed more often than opened (`nf` open capture blocks, `nc` open
`with console:` blocks). -/
def wellBracketed : Nat → Nat → List (Op σ) → Bool
  | _, _, [] => true
  | nf, nc, .beginCapture :: rest => wellBracketed (nf + 1) nc rest
  | nf, nc, .endCapture :: rest => nf != 0 && wellBracketed (nf - 1) nc rest
  | nf, nc, .enterBuffer :: rest => wellBracketed nf (nc + 1) rest
  | nf, nc, .exitBuffer :: rest => nc != 0 && wellBracketed nf (nc - 1) rest
  | nf, nc, _ :: rest => wellBracketed nf nc rest

/-! ### the invariant of histories whose depth stays non-negative, in every variant -/

omit [BEq σ] in
theorem wellBracketed_of_wellNested : ∀ (d : Nat) (ops : List (Op σ)), wellNested d ops = true → wellBracketed d 0 ops = true
  | _, [], _ => rfl
  | d, op :: rest, h => by
    cases op
    case beginCapture => exact wellBracketed_of_wellNested (d + 1) rest h
    case endCapture =>
      simp only [wellNested, wellBracketed, Bool.and_eq_true] at h ⊢
      exact ⟨h.1, wellBracketed_of_wellNested (d - 1) rest h.2⟩
    case enterBuffer | exitBuffer => cases h
    all_goals exact wellBracketed_of_wellNested d rest h

omit [BEq σ] in
/-- In a well-bracketed history the depth never goes below zero. -/
theorem wellBracketed_depth : ∀ (nf nc : Nat) (ops : List (Op σ)), wellBracketed nf nc ops = true →
    ∀ n, 0 ≤ ((nf + nc : Nat) : Int) + depthDelta (ops.take n)
  | _, _, _, _, 0 => by simpa only [List.take_zero, depthDelta, Int.add_zero] using Int.natCast_nonneg _
  | _, _, [], _, _ + 1 => by simpa only [List.take_nil, depthDelta, Int.add_zero] using Int.natCast_nonneg _
  | nf, nc, op :: rest, h, n + 1 => by
    rw [List.take_succ_cons, depthDelta_cons]
    cases op
    case beginCapture => have := wellBracketed_depth (nf + 1) nc rest h n; simp only [depthDelta]; omega
    case endCapture =>
      simp only [wellBracketed, Bool.and_eq_true, bne_iff_ne, ne_eq] at h
      have := wellBracketed_depth (nf - 1) nc rest h.2 n; simp only [depthDelta]; omega
    case enterBuffer => have := wellBracketed_depth nf (nc + 1) rest h n; simp only [depthDelta]; omega
    case exitBuffer =>
      simp only [wellBracketed, Bool.and_eq_true, bne_iff_ne, ne_eq] at h
      have := wellBracketed_depth nf (nc - 1) rest h.2 n; simp only [depthDelta]; omega
    all_goals simpa only [depthDelta, Int.zero_add] using wellBracketed_depth nf nc rest h n

/-- **`OutsideEmpty` is kept for as long as the depth does not go below zero** — whatever the operations, brackets of both kinds
included, in every variant of the code: every operation ends as if with `_check_buffer` (`step_settled`), which restores the
invariant at a depth that is not negative. -/
theorem exec_outsideEmpty (v : Variant) (cfg : Config) (env : StyleEnv σ) (ops : List (Op σ)) :
    ∀ (s : State σ), OutsideEmpty s → (∀ n, 0 ≤ s.index + depthDelta (ops.take n)) →
      OutsideEmpty (exec v cfg env ops s) := by
  induction ops with
  | nil => exact fun s h _ => h
  | cons op rest ih =>
    intro s h hd
    rw [exec_cons, step_settled v cfg env s op h]
    have hi : (checkBuffer v cfg env (staged v cfg env s op)).index = s.index + depthDelta [op] := by
      rw [checkBuffer_index, staged_index]
    refine ih _ (checkBuffer_outsideEmpty v cfg env _ (by rw [staged_index]; exact hd 1)) fun n => ?_
    have := hd (n + 1)
    rw [List.take_succ_cons, depthDelta_cons] at this
    rw [hi]; omega

/-! ### operations that are not brackets: what they answer, and what the specification does with them -/

theorem step_plain_out (v : Variant) (cfg : Config) (env : StyleEnv σ) (s : State σ) (op : Op σ)
    (hc : isCapture op = false) (he : isExport op = false) : (step v cfg env s op).2 = .none := by
  cases op with
  | line c => simp only [step]; split <;> rfl
  | showCursor b => simp only [step]; split <;> rfl
  | beginCapture | endCapture | enterBuffer | exitBuffer => cases hc
  | exportText | exportHtml => cases he
  | _ => rfl

theorem step_export (v : Variant) (cfg : Config) (env : StyleEnv σ) (s : State σ) (op : Op σ)
    (he : isExport op = true) :
    (step v cfg env s op).1 = { s with record := (exportStep v cfg env s.record op).1 } ∧
    (step v cfg env s op).2 = (exportStep v cfg env s.record op).2 := by
  cases op with
  | exportText clr st => simp only [exportStep, step]; cases cfg.record <;> exact ⟨rfl, rfl⟩
  | exportHtml clr inl o => simp only [exportStep, step]; cases cfg.record <;> exact ⟨rfl, rfl⟩
  | _ => cases he

theorem specStep_noncapture (v : Variant) (cfg : Config) (env : StyleEnv σ) (sp : Spec σ) (op : Op σ)
    (hc : isCapture op = false) :
    specStep v cfg env sp op =
      if isExport op then
        ({ sp with record := (exportStep v cfg env sp.record op).1 }, (exportStep v cfg env sp.record op).2)
      else
        match sp.frames with
        | f :: rest => ({ sp with frames := (f ++ appended cfg op) :: rest }, .none)
        | [] => (Spec.settle cfg env { sp with base := sp.base ++ appended cfg op }, .none) := by
  cases op <;> first | rfl | cases hc

/-! ### the refinement step -/

omit [BEq σ] in
theorem Spec.closed_iff (sp : Spec σ) : ((sp.frames.length + sp.ctx : Nat) : Int) = 0 ↔ sp.frames = [] ∧ sp.ctx = 0 := by
  rw [Int.natCast_eq_zero, Nat.add_eq_zero_iff, List.length_eq_zero_iff]

omit [BEq σ] in
/-- `_check_buffer` is the model's `settle`: if buffer, depth, marks, record and file correspond, the results are related. -/
theorem checkBuffer_settle (v : Variant) (cfg : Config) (env : StyleEnv σ) (s : State σ) (sp : Spec σ)
    (hi : s.index = ((sp.frames.length + sp.ctx : Nat) : Int)) (hb : s.buffer = sp.base ++ sp.frames.reverse.flatten)
    (hm : s.marks = marksOf sp.base.length sp.frames) (hr : s.record = sp.record) (hf : s.file = sp.file) :
    Rel (checkBuffer v cfg env s) (Spec.settle cfg env sp) := by
  unfold Spec.settle
  by_cases h0 : sp.frames = [] ∧ sp.ctx = 0
  · obtain ⟨hfr, hc⟩ := h0
    have hi0 : s.index = 0 := hi.trans (sp.closed_iff.mpr ⟨hfr, hc⟩)
    have hb0 : s.buffer = sp.base := by rw [hb, hfr]; simp
    rw [if_pos (by simp [hfr, hc]), checkBuffer_outside v cfg env s hi0]
    exact ⟨by simp [hi0, hfr, hc], by simp [hfr], by simp [hm, hfr, marksOf], by simp [hr, hb0], by simp [hf, hb0],
      fun _ _ => rfl⟩
  · rw [if_neg (by simpa using h0), checkBuffer_inside v cfg env s fun hz => h0 (sp.closed_iff.mp (hi ▸ hz))]
    exact ⟨hi, hb, hm, hr, hf, fun h1 h2 => absurd ⟨h1, h2⟩ h0⟩

omit [BEq σ] in
theorem Rel.outsideEmpty {s : State σ} {sp : Spec σ} (h : Rel s sp) : OutsideEmpty s := by
  refine ⟨by rw [h.index]; omega, fun h0 => ?_⟩
  obtain ⟨hf, hc⟩ := sp.closed_iff.mp (h.index ▸ h0)
  rw [h.buffer, hf, h.idle hf hc]
  rfl

/-- One operation: the model does what the specification says, provided `end_capture` finds an open capture block
and leaving `with console:` finds an open one. -/
theorem step_refines (v : Variant) (cfg : Config) (env : StyleEnv σ) (s : State σ) (sp : Spec σ) (op : Op σ)
    (hm : v.captureMarks = true) (hv : v.recordInRender = false) (h : Rel s sp)
    (hend : op = .endCapture → sp.frames ≠ []) (hexit : op = .exitBuffer → sp.ctx ≠ 0) :
    (step v cfg env s op).2 = (specStep v cfg env sp op).2 ∧ Rel (step v cfg env s op).1 (specStep v cfg env sp op).1 := by
  cases he : isExport op
  · -- both machines stage the operation and settle: `checkBuffer_settle` asks for the staged states to correspond
    rw [step_settled v cfg env s op h.outsideEmpty]
    have key := checkBuffer_settle v cfg env (staged v cfg env s op)
    cases hc : isCapture op
    · have hst : staged v cfg env s op = { s with buffer := s.buffer ++ appended cfg op } := by
        rw [staged_plain v cfg env s op hc, not_isClearing_of_not_isExport he]; rfl
      rw [hst] at key ⊢
      rw [specStep_noncapture v cfg env sp op hc, he, if_neg Bool.false_ne_true, step_plain_out v cfg env s op hc he]
      cases hf : sp.frames with
      | cons f rest =>
        exact ⟨rfl, key { sp with frames := (f ++ appended cfg op) :: rest }
          (by simp [h.index, hf]) (by simp [h.buffer, hf]) (by simp [h.marks, hf, marksOf]) h.record h.file⟩
      | nil =>
        exact ⟨rfl, key { sp with frames := [], base := sp.base ++ appended cfg op }
          (by simp [h.index, hf]) (by simp [h.buffer, hf]) (by simp [h.marks, hf, marksOf]) h.record h.file⟩
    · cases op <;> cases hc
      · -- the mark pushed is `s.buffer.length`, i.e. the held-back segments and all frames so far: what `marksOf` puts in
        -- front for a new, empty frame
        exact ⟨rfl, key { sp with frames := [] :: sp.frames }
          (by rw [staged_index, h.index]; simp only [depthDelta, List.length_cons]; omega)
          (by simp [staged, h.buffer]) (by simp [staged, hm, marksOf, h.marks, h.buffer]) h.record h.file⟩
      · cases hf : sp.frames with
        | nil => exact absurd hf (hend rfl)
        | cons f rest =>
          have hbuf : s.buffer = (sp.base ++ rest.reverse.flatten) ++ f := by simp [h.buffer, hf]
          have hmk : s.marks = (sp.base ++ rest.reverse.flatten).length :: marksOf sp.base.length rest := by
            simp [h.marks, hf, marksOf]
          simp only [step, specStep, staged, hf, hm, if_true, hmk, List.headD_cons, List.tail_cons, hbuf, List.drop_left,
            List.take_left, renderBuffer, hv, Bool.false_and, Bool.false_eq_true, if_false] at key ⊢
          exact ⟨trivial, key { sp with frames := rest }
            (by simp only [h.index, hf, List.length_cons]; omega) rfl rfl h.record h.file⟩
      · have := key { sp with ctx := sp.ctx + 1 } (by rw [staged_index, h.index]; simp only [depthDelta]; omega)
          h.buffer h.marks h.record h.file
        rw [Spec.settle, if_neg (by simp)] at this
        exact ⟨rfl, this⟩
      · have hc0 : sp.ctx ≠ 0 := hexit rfl
        exact ⟨rfl, key { sp with ctx := sp.ctx - 1 } (by rw [staged_index, h.index]; simp only [depthDelta]; omega)
          h.buffer h.marks h.record h.file⟩
  · have hc := not_isCapture_of_isExport he
    obtain ⟨h1, h2⟩ := step_export v cfg env s op he
    rw [specStep_noncapture v cfg env sp op hc, he, if_pos rfl, h1, h2, h.record]
    exact ⟨rfl, ⟨h.index, h.buffer, h.marks, rfl, h.file, h.idle⟩⟩

omit [BEq σ] in
theorem settle_counts (cfg : Config) (env : StyleEnv σ) (sp : Spec σ) :
    (Spec.settle cfg env sp).frames = sp.frames ∧ (Spec.settle cfg env sp).ctx = sp.ctx := by
  unfold Spec.settle; split <;> exact ⟨rfl, rfl⟩

/-- In a well-bracketed history the next operation finds the block it closes, and the specification's counts of open
blocks after it are the bracket counts of the rest. -/
theorem wellBracketed_step (v : Variant) (cfg : Config) (env : StyleEnv σ) (sp : Spec σ) (op : Op σ)
    (rest : List (Op σ)) (hw : wellBracketed sp.frames.length sp.ctx (op :: rest) = true) :
    (op = .endCapture → sp.frames ≠ []) ∧ (op = .exitBuffer → sp.ctx ≠ 0) ∧
    wellBracketed (specStep v cfg env sp op).1.frames.length (specStep v cfg env sp op).1.ctx rest = true := by
  cases hc : isCapture op
  · refine ⟨fun e => (by subst e; cases hc), fun e => (by subst e; cases hc), ?_⟩
    have hw' : wellBracketed sp.frames.length sp.ctx rest = true := by
      cases op <;> first | exact hw | cases hc
    rw [specStep_noncapture v cfg env sp op hc]
    split
    · exact hw'
    · cases hf : sp.frames with
      | nil => simpa [settle_counts, hf] using hw'
      | cons f fr => simpa [hf] using hw'
  · cases op <;> cases hc
    · exact ⟨nofun, nofun, hw⟩
    · cases hf : sp.frames with
      | nil => simp [wellBracketed, hf] at hw
      | cons f fr =>
        simp only [wellBracketed, hf, List.length_cons, Bool.and_eq_true] at hw
        exact ⟨fun _ => nofun, nofun, by simpa [specStep, hf, settle_counts] using hw.2⟩
    · exact ⟨nofun, nofun, hw⟩
    · simp only [wellBracketed, Bool.and_eq_true, bne_iff_ne, ne_eq] at hw
      exact ⟨nofun, fun _ => hw.1, by simpa [specStep, settle_counts] using hw.2⟩

/-- Every well-bracketed history (capture blocks and `with console:` blocks never closed more often than opened;
possibly left open; nested and interleaved in any way) — the model's outputs are the specification's and the final
states correspond. -/
theorem run_refines (v : Variant) (cfg : Config) (env : StyleEnv σ) (hm : v.captureMarks = true)
    (hv : v.recordInRender = false) :
    ∀ (ops : List (Op σ)) (s : State σ) (sp : Spec σ), Rel s sp → wellBracketed sp.frames.length sp.ctx ops = true →
      (run v cfg env ops s).2 = (specRun v cfg env ops sp).2 ∧
      Rel (run v cfg env ops s).1 (specRun v cfg env ops sp).1
  | [], s, sp, h, _ => ⟨rfl, h⟩
  | op :: rest, s, sp, h, hw => by
    obtain ⟨hend, hexit, hw'⟩ := wellBracketed_step v cfg env sp op rest hw
    obtain ⟨h1, h2⟩ := step_refines v cfg env s sp op hm hv h hend hexit
    obtain ⟨r1, r2⟩ := run_refines v cfg env hm hv rest _ _ h2 hw'
    exact ⟨by simp only [run, specRun, h1, r1], by simpa only [run, specRun] using r2⟩

/-! ### unbalanced sequences: what the code does -/

theorem step_index (v : Variant) (cfg : Config) (env : StyleEnv σ) (s : State σ) (op : Op σ) :
    (step v cfg env s op).1.index = s.index + depthDelta [op] := by
  rw [step_eq]
  split
  · rw [checkBuffer_index]; exact staged_index v cfg env s op
  · exact staged_index v cfg env s op

theorem exec_index (v : Variant) (cfg : Config) (env : StyleEnv σ) (ops : List (Op σ)) (s : State σ) :
    (exec v cfg env ops s).index = s.index + depthDelta ops := by
  induction ops generalizing s with
  | nil => simp [exec_nil, depthDelta]
  | cons op rest ih => rw [exec_cons, ih, step_index, depthDelta_cons op rest]; omega

/-- Nothing raises but an export on a console that does not record (`assert self.record`). -/
theorem step_total (v : Variant) (cfg : Config) (env : StyleEnv σ) (s : State σ) (op : Op σ)
    (h : (step v cfg env s op).2 = .assertionError) : isExport op = true ∧ cfg.record = false := by
  cases he : isExport op
  · cases hc : isCapture op
    · rw [step_plain_out v cfg env s op hc he] at h; cases h
    · cases op <;> cases hc <;> cases h
  · refine ⟨rfl, ?_⟩
    cases hr : cfg.record with
    | false => rfl
    | true => cases op <;> cases he <;> simp [step, hr] at h

/-- File writes happen only at depth zero: a step that ends at a non-zero depth (of either sign) leaves the file
alone. -/
theorem step_file_nonzero (v : Variant) (cfg : Config) (env : StyleEnv σ) (s : State σ) (op : Op σ)
    (hi' : (step v cfg env s op).1.index ≠ 0) : (step v cfg env s op).1.file = s.file := by
  have e := step_eq v cfg env s op
  split at e <;> rw [e] at hi' ⊢
  · rw [checkBuffer_index] at hi'
    rw [checkBuffer_inside v cfg env _ hi', staged_file]
  · exact staged_file v cfg env s op

/-- `s.marks = []`: no block is open (`capture_starts` is empty). -/
theorem step_end_unbalanced (v : Variant) (cfg : Config) (env : StyleEnv σ) (s : State σ) (hmk : s.marks = []) :
    (step v cfg env s .endCapture).2 = .captured (flat (renderPieces cfg env s.buffer)) ∧
    (step v cfg env s .endCapture).1.index = s.index - 1 ∧
    (step v cfg env s .endCapture).1.buffer = [] ∧ (step v cfg env s .endCapture).1.marks = [] := by
  -- the cut is at 0 and the marks stay empty, whether the variant keeps marks or not; `_check_buffer` finds an empty buffer
  have hk : (if v.captureMarks then s.marks.headD 0 else 0) = 0 := by rw [hmk]; cases v.captureMarks <;> rfl
  have hmk' : (if v.captureMarks then s.marks.tail else s.marks) = [] := by rw [hmk]; cases v.captureMarks <;> rfl
  rw [step_endCapture, hk, checkBuffer_idle v cfg env _ (fun _ => by simp only [staged, hk, List.take_zero])]
  simp only [staged, hk, hmk', List.take_zero, List.drop_zero, and_self]

end RichModel.Console
