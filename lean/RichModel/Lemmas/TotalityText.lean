import RichModel.Lemmas.WrapTotal
import RichModel.Lemmas.Lines
import RichModel.Lemmas.LayoutText
import RichModel.Model.TotalityPrint
/-!
Property C14, text through the console: `Text.__rich_console__` (the glue of `Model/Layout.lean` around `Text.wrap`,
`Text.join`, `Text.render`) never raises on a consistent text; `Console.render_str(s, markup=False)` makes a consistent
text of any string; the two `max()` calls of `Text.__rich_measure__` (`Model/TotalityPrint.lean`) see no empty sequence.
-/
namespace RichModel.Layout
open RichModel RichModel.Frames RichModel.Text

/-- the code variants in which the defects found by C14 / C07 / C08 are repaired (what /repo contains) -/
structure CfgRepaired (cfg : Cfg) : Prop where
  /-- the repairs of C02 / C05 to `Text.wrap` are in; `rstrip_end` either way -/
  wv : ∃ chars, cfg.wv = Wrap.WVariant.fixed chars
  /-- a table without columns asked to expand no longer fails `ratio_distribute`'s assertion (fix 1d61bac) -/
  noCols : cfg.fl.noColumnsAsserts = false
  /-- a ratio-0 column beside a ratio column at a width of 1-3 no longer does (fix ab98098) -/
  flexNeg : cfg.fl.flexNegative = false
  /-- `Columns` computes `max(1, …)` columns: no `ZeroDivisionError` (F11, fix f7ecf83) -/
  colsZero : cfg.v.columnsZeroCount = false

theorem textConsoleE_total (cfg : Cfg) (hwv : ∃ chars, cfg.wv = Wrap.WVariant.fixed chars) (t : T) (h : Text.Inv t) (o : Opts)
    (w : Nat) : ∃ s, textConsoleE cfg t o w = .ok s := by
  obtain ⟨chars, hwv⟩ := hwv
  unfold textConsoleE textLines
  rw [hwv]
  refine Except.Returns.bind_ok
    (Wrap.wrap_total (chars := chars) cfg.cw alg t h w _ _ _ (effTabSize_pos cfg t) _) fun lines hinv => ?_
  have hj : Text.Inv (Text.join Variant.repaired (Text.new Variant.repaired ['\n'] ([0] : S)) lines) :=
    inv_join _ lines (inv_new_nil ..) hinv
  rw [show (Wrap.WVariant.fixed chars).text = Variant.repaired from rfl, if_pos (invB_complete _ hj)]
  exact Except.Returns.bind_ok (.of_ok (Text.render_total _ hj t.endStr)) fun _ _ => ⟨_, rfl⟩

end RichModel.Layout

namespace RichModel.Totality
open RichModel RichModel.Layout RichModel.Text

/-- the contract of a highlighter: every span it adds lies inside the text it was given -/
def HighlighterOk (hl : List Char → List (Span S)) : Prop := ∀ x, SpansIn (hl x) (x.length : Int)

/-- `highlight_text = Text(str(rich)); highlighter.highlight(highlight_text); highlight_text.copy_styles(rich)`:
`str(rich)` has no control code left to strip, so the copy is as long as `rich`. -/
theorem highlight_inv (rich : T) (hrich : Text.Inv rich) (hl : List Char → List (Span S)) (hhl : HighlighterOk hl) :
    Text.Inv (((Text.new Variant.repaired rich.plain ([0] : S)).addSpans (hl rich.plain)).copyStyles rich) := by
  have hlen : (Text.new Variant.repaired rich.plain ([0] : S)).length = (rich.plain.length : Int) :=
    congrArg (fun l => (List.length l : Int)) (stripControl_id _ hrich.2.1)
  refine inv_addSpans _ _ (inv_addSpans _ _ (inv_new_nil ..) ?_) ?_
  · rw [hlen]; exact hhl _
  · show SpansIn rich.spans (Text.new Variant.repaired rich.plain ([0] : S)).length
    rw [hlen, ← hrich.1]; exact hrich.2.2

theorem renderStrPlain_inv (po : PrintOpts) (hhl : ∀ hl, po.highlighter = some hl → HighlighterOk hl) (s : List Char) :
    Text.Inv (renderStrPlain po s) := by
  unfold renderStrPlain
  cases h : po.highlighter with
  | none => exact inv_new_nil ..
  | some hl => exact highlight_inv _ (inv_new_nil ..) hl (hhl hl h)

theorem splitNLPy_eq (s cur : List Char) : splitNLPy s cur = Lines.splitAcc (· == '\n') s cur := by
  fun_induction splitNLPy s cur <;> simp_all [Lines.splitAcc]

theorem splitNLPy_ne_nil (s cur : List Char) : splitNLPy s cur ≠ [] := by
  rw [splitNLPy_eq, Lines.splitAcc_eq]
  cases h : Lines.split (· == '\n') s with
  | nil => exact absurd h (Lines.split_ne_nil _ s)
  | cons _ _ => exact List.cons_ne_nil _ _

theorem splitLinesPy_ne_nil (s cur : List Char) (h : s ≠ [] ∨ cur ≠ []) : splitLinesPy s cur ≠ [] := by
  fun_induction splitLinesPy s cur with
  | case1 cur hc => exact absurd (List.isEmpty_iff.mp hc) (h.resolve_left fun h => h rfl)
  | case2 => exact List.cons_ne_nil _ _
  | case3 => exact List.cons_ne_nil _ _
  | case4 c r cur _ ih => exact ih (.inr (List.cons_ne_nil _ _))

theorem splitWords_ne_nil (p : Char → Bool) (s cur : List Char) (h : cur ≠ [] ∨ ∃ c ∈ s, p c = false) :
    splitWords p s cur ≠ [] := by
  fun_induction splitWords p s cur with
  | case1 cur hc => exact absurd (List.isEmpty_iff.mp hc) (h.resolve_right fun ⟨_, hm, _⟩ => nomatch hm)
  | case2 => exact List.cons_ne_nil _ _
  | case3 c r cur hp hc ih =>
    refine ih (.inr ?_)
    obtain ⟨d, hd, hpd⟩ := h.resolve_left fun h => h (List.isEmpty_iff.mp hc)
    rcases List.mem_cons.mp hd with rfl | hd
    · rw [hp] at hpd; cases hpd
    · exact ⟨d, hd, hpd⟩
  | case4 => exact List.cons_ne_nil _ _
  | case5 c r cur _ ih => exact ih (.inl (List.cons_ne_nil _ _))

theorem pyMax_ok {l : List Nat} (h : l ≠ []) : (pyMax l).Returns fun _ => True :=
  match l, h with
  | _ :: _, _ => .ok trivial

theorem exists_unsplit {guard split : Char → Bool} (h : ∀ c, split c = true → guard c = true) {plain : List Char}
    (hall : ¬ plain.all guard = true) : ∃ c ∈ plain, split c = false := by
  obtain ⟨c, hm, hg⟩ : ∃ c ∈ plain, guard c = false := by simpa using hall
  exact ⟨c, hm, Bool.eq_false_iff.mpr fun hs => Bool.false_ne_true (hg ▸ h c hs)⟩

/-- `Text.__rich_measure__` with `lines` for its split into lines (`splitlines()`, `split("\n")`): behind the guard the text has a
character that `split()` keeps, so neither `max()` sees an empty sequence. -/
theorem textRichMeasure_ok (cw : Char → Nat) {guard split : Char → Bool} (h : ∀ c, split c = true → guard c = true)
    (plain : List Char) {lines : List (List Char)} (hl : plain ≠ [] → lines ≠ []) :
    ∃ m : Measurement, (if plain.all guard then .ok ⟨cellLen cw plain, cellLen cw plain⟩ else
      pyMax (lines.map (cellLen cw)) >>= fun maxW =>
      pyMax ((splitWords split plain []).map (cellLen cw)) >>= fun minW => Except.ok ⟨(minW : Int), (maxW : Int)⟩) = .ok m := by
  split
  · exact ⟨_, rfl⟩
  · rename_i hall
    obtain ⟨c, hc, hs⟩ := exists_unsplit h hall
    exact Except.Returns.bind_ok (pyMax_ok (mt List.map_eq_nil_iff.mp (hl (List.ne_nil_of_mem hc)))) fun _ _ =>
      Except.Returns.bind_ok (pyMax_ok (mt List.map_eq_nil_iff.mp (splitWords_ne_nil split plain [] (.inr ⟨c, hc, hs⟩))))
        fun _ _ => ⟨_, rfl⟩

end RichModel.Totality
