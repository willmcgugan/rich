import RichModel.Lemmas.SyntaxRows
/-
Indent guides for property C17: `Text.with_indent_guides` between a join and a split only overdraws leading spaces
with guide characters, keeps every line in its place and never fails for `tab_size ≥ 1` (`indentGuides_spec`).
-/
namespace RichModel.Syntax

/-- a line made of spaces only (what `with_indent_guides` treats as blank) -/
def Blank (l : Line) : Prop := l.drop (leadSpaces l) = []

/-- `Blank` is the test the loop makes (`not match.group(2)`) -/
theorem blank_iff {l : Line} : Blank l ↔ (l.drop (leadSpaces l)).isEmpty = true := by simp [Blank]

/-- blanks and guide characters only -/
def OnlyGuide (g : Line) : Prop := ∀ c ∈ g, c = ' ' ∨ c = guideChar

/-- `g` shows `l` under indent guides: a blank line becomes spaces/guides only; any other line keeps its length
and everything after its leading spaces, and inside the leading spaces only guide characters may appear. -/
def GuideOf (l g : Line) : Prop :=
  (Blank l ∧ OnlyGuide g) ∨
  (¬ Blank l ∧ g.length = l.length ∧ g.drop (leadSpaces l) = l.drop (leadSpaces l) ∧ OnlyGuide (g.take (leadSpaces l)))

/-- The relation between the lines handed to `indentGuides` and the lines it returns (repaired variant):
as many lines, each showing the line at the same position. -/
structure GuideRel (lines out : List Line) : Prop where
  length_eq : out.length = lines.length
  shown : ∀ i (ho : i < out.length) (hl : i < lines.length), GuideOf lines[i] out[i]

theorem newIndent_length (ts n : Nat) : (newIndent ts n).length = n := by
  cases ts with
  | zero => simp [newIndent]
  | succ t =>
    simp only [newIndent, List.length_append, List.length_flatten, List.map_replicate, List.sum_replicate_nat,
      List.length_cons, List.length_replicate, Nat.add_sub_cancel]
    exact Nat.div_add_mod' n (t + 1)

theorem newIndent_onlyGuide (ts n : Nat) : OnlyGuide (newIndent ts n) := by
  intro c hc
  unfold newIndent at hc
  rcases List.mem_append.mp hc with h | h
  · obtain ⟨blk, hb, hcb⟩ := List.mem_flatten.mp h
    have := List.eq_of_mem_replicate hb
    subst this
    rcases List.mem_cons.mp hcb with h1 | h1
    · exact Or.inr h1
    · exact Or.inl (List.eq_of_mem_replicate h1)
  · exact Or.inl (List.eq_of_mem_replicate h)

theorem OnlyGuide.noNL {g : Line} (h : OnlyGuide g) : '\n' ∉ g :=
  fun hm => (h _ hm).elim (by decide) (by decide)

/-- Guides never bring in a newline. -/
theorem GuideOf.noNL {l g : Line} (h : GuideOf l g) (hl : '\n' ∉ l) : '\n' ∉ g := by
  rcases h with ⟨_, hg⟩ | ⟨_, _, hd, ht⟩
  · exact hg.noNL
  · intro hm
    rw [← List.take_append_drop (leadSpaces l) g, hd] at hm
    exact (List.mem_append.mp hm).elim ht.noNL (fun h2 => hl (List.mem_of_mem_drop h2))

theorem GuideRel.cons {l g : Line} {Y Z : List Line} (h : GuideOf l g) (hr : GuideRel Y Z) : GuideRel (l :: Y) (g :: Z) :=
  ⟨by simp [hr.length_eq], fun i ho hl => by
    cases i with
    | zero => exact h
    | succ i => exact hr.shown i (by simpa using ho) (by simpa using hl)⟩

theorem GuideRel.noNL {Y Z : List Line} (h : GuideRel Y Z) (hY : ∀ l ∈ Y, '\n' ∉ l) : ∀ z ∈ Z, '\n' ∉ z := by
  intro z hz
  obtain ⟨i, hi, rfl⟩ := List.getElem_of_mem hz
  have hl := h.length_eq ▸ hi
  exact (h.shown i hi hl).noNL (hY _ (List.getElem_mem hl))

theorem guideOf_newIndent (ts : Nat) {l : Line} (hnb : ¬ Blank l) :
    GuideOf l (newIndent ts (leadSpaces l) ++ l.drop (newIndent ts (leadSpaces l)).length) := by
  have hni := newIndent_length ts (leadSpaces l)
  have hle : leadSpaces l ≤ l.length := (List.takeWhile_prefix _).length_le
  rw [hni]
  refine Or.inr ⟨hnb, ?_, List.drop_left' hni, by rw [List.take_left' hni]; exact newIndent_onlyGuide _ _⟩
  simp only [List.length_append, List.length_drop, hni]; omega

/-- The loop of `with_indent_guides` with `b` pending blank lines: first the `b` lines that stand for them, then one
line for each line of `Y`. -/
theorem guideLoop_spec (ts : Nat) (hts : 1 ≤ ts) (Y : List Line) (b : Nat) :
    ∃ P Z, guideLoop ts b Y = .ok (P ++ Z) ∧ P.length = b ∧ (∀ z ∈ P, OnlyGuide z) ∧ GuideRel Y Z := by
  induction Y generalizing b with
  | nil =>
    exact ⟨List.replicate b [], [], by simp [guideLoop], by simp, fun z hz => List.eq_of_mem_replicate hz ▸ nofun,
      rfl, fun i ho => nomatch ho⟩
  | cons l rest ih =>
    by_cases hb : (l.drop (leadSpaces l)).isEmpty = true
    · -- a blank line joins the pending ones: the last of the lines that stand for them is its own
      obtain ⟨P', Z, hZ, hP', hG, hrel⟩ := ih (b + 1)
      obtain ⟨P, z, rfl⟩ : ∃ P z, P' = P ++ [z] := by
        rcases List.eq_nil_or_concat P' with rfl | ⟨P, z, rfl⟩
        · cases hP'
        · exact ⟨P, z, List.concat_eq_append⟩
      exact ⟨P, z :: Z, by rw [guideLoop]; simpa [hb] using hZ, by simpa using hP', fun z' hz' => hG z' (by simp [hz']),
        .cons (Or.inl ⟨blank_iff.mpr hb, hG z (by simp)⟩) hrel⟩
    · -- any other line is written behind the pending ones, all of them under its own indent
      have hts0 : (ts == 0) = false := by simp; omega
      obtain ⟨P0, R, hR, hP0, _, hrel⟩ := ih 0
      obtain rfl := List.length_eq_zero_iff.mp hP0
      exact ⟨List.replicate b (newIndent ts (leadSpaces l)), _ :: R, by rw [guideLoop]; simp [hb, hts0, hR], by simp,
        fun z hz => List.eq_of_mem_replicate hz ▸ newIndent_onlyGuide _ _,
        .cons (guideOf_newIndent ts (mt blank_iff.mp hb)) hrel⟩

/-- `(Text("\n").join(X) + "\n")` split without `allow_blank` (inside `with_indent_guides`) gives `X` back -/
theorem textSplit_joinNL_nl (X : List Line) (hne : X ≠ []) (hX : ∀ l ∈ X, '\n' ∉ l) :
    textSplit (joinNL X ++ ['\n']) false = X := by
  unfold textSplit
  rw [endsNL_append_singleton, splitNL_snoc_nl, splitNL_joinNL X hne hX]
  simp

/-- `Syntax.__rich_console__`'s indent-guide step (repaired variant), for `tab_size ≥ 1`: never an error, as many
lines out as in, each at its place; only leading spaces are overdrawn.  An empty selection stays empty. -/
theorem indentGuides_spec (ts : Nat) (hts : 1 ≤ ts) (lines : List Line) (hno : ∀ l ∈ lines, '\n' ∉ l) :
    ∃ out, indentGuides false ts lines = .ok out ∧ GuideRel lines out := by
  unfold indentGuides
  simp only [Bool.false_eq_true, if_false]
  by_cases h0 : lines = []
  · subst h0
    exact ⟨[], by simp, ⟨rfl, fun i ho _ => by simp at ho⟩⟩
  · have hemp : lines.isEmpty = false := by simpa using h0
    simp only [hemp, Bool.false_eq_true, if_false]
    rw [textSplit_joinNL_nl lines h0 hno]
    obtain ⟨P, Z, hZ, hP, _, hrel⟩ := guideLoop_spec ts hts lines 0
    obtain rfl := List.length_eq_zero_iff.mp hP
    have hZne : Z ≠ [] := fun e => h0 (List.length_eq_zero_iff.mp (by rw [← hrel.length_eq, e]; rfl))
    rw [hZ]
    simp only [List.nil_append, textSplit_allow_joinNL Z hZne (hrel.noNL hno)]
    exact ⟨Z, rfl, hrel⟩

end RichModel.Syntax
