import RichModel.Lemmas.TableWidths
/-!
Totality of `Table._calculate_column_widths` once the two assertion defects are repaired
(`Flags.noColumnsAsserts = false`, `Flags.flexNegative = false`): for every table whose options are not
negative and whose cells measure `0 ≤ maximum` (what `Measurement.get` guarantees) — ANY number of columns,
zero included, any widths, ratios, caps, any available width — `calcWidths` returns widths; the
`assert total_ratio > 0` of `ratio_distribute` is never reached with a non-positive total.  On the way: the first pass with
ratio columns under every flag value (`firstWidths_flex`).  `Table.__rich_measure__` raises only where the width solver does
(`richMeasure_some`).
-/
namespace RichModel

/-- Options no caller gives negative, and cells that measure `0 ≤ maximum`. -/
structure Table.Sane (t : Table) : Prop where
  padRight : 0 ≤ t.padding.2.1
  padLeft : 0 ≤ t.padding.2.2.2
  width : ∀ c ∈ t.columns, ∀ w, c.width = some w → 0 ≤ w
  maxWidth : ∀ c ∈ t.columns, ∀ m, c.maxWidth = some m → 0 ≤ m
  ratio : ∀ c ∈ t.columns, ∀ r, c.ratio = some r → 0 ≤ r
  cells : ∀ c ∈ t.columns, ∀ cell ∈ t.getCells c, ∀ w, 0 ≤ (cell.measure w).maximum

theorem paddingWidth_nonneg (t : Table) (h : t.Sane) (idx : Nat) : 0 ≤ t.paddingWidth idx :=
  paddingWidth_nonneg_of t idx h.padRight h.padLeft

theorem measureColumn_nonneg (t : Table) (h : t.Sane) (idx : Nat) (c : Column) (hc : c ∈ t.columns) (w : Int) :
    0 ≤ (t.measureColumn idx c w).maximum := by
  have hpw := paddingWidth_nonneg t h idx
  exact measureColumn_nonneg_of t idx c w (h.cells c hc) (fun cwid hcw => by have := h.width c hc cwid hcw; omega)
    (fun m hm => by have := h.maxWidth c hc m hm; omega)

theorem Table.Sane.measures {t : Table} (h : t.Sane) : t.MeasuresNonneg :=
  fun ci hci w => measureColumn_nonneg t h ci.2 ci.1 (mem_indexed t ci hci) w

/-- `ratio_distribute(total, ratios, minimums)` with non-negative ratios, one of them positive, and minimums of at least 1:
never asserts, one share per ratio, the FIRST share at least its minimum, so at least 1 — and every share, when no ratio is 0. -/
theorem ratioDistribute_mins (total : Int) (ratios mins : List Int) (hlen : ratios.length = mins.length)
    (hnn : ∀ r ∈ ratios, 0 ≤ r) (hany : ratios.any (· != 0) = true) (hm : ∀ m ∈ mins, 1 ≤ m) :
    ∃ l, ratioDistribute total ratios (some mins) = some l ∧ l.length = ratios.length ∧
      (∀ x xs, l = x :: xs → 1 ≤ x) ∧ ((∀ r ∈ ratios, 1 ≤ r) → ∀ x ∈ l, 1 ≤ x) := by
  have hsum := sum_pos_of_nonneg_any ratios hnn hany
  have hmask := mask_nonzero ratios mins hlen (fun x hx => by have := hm x hx; omega)
  have hne : mins.isEmpty = false := by
    cases mins with
    | nil => cases ratios with
      | nil => simp at hany
      | cons _ _ => simp at hlen
    | cons _ _ => rfl
  refine ⟨ratioDistributeLoop (ratios.zip mins) total ratios.sum, ?_, by rw [ratioDistributeLoop_length]; simp [hlen], ?_, fun hr => ?_⟩
  · unfold ratioDistribute
    simp only [hne, Bool.false_eq_true, if_false, hmask, hsum, if_true]
  · cases ratios with
    | nil => simp at hany
    | cons r0 rs => cases mins with
      | nil => simp at hlen
      | cons m0 ms =>
        rw [List.zip_cons_cons, ratioDistributeLoop_cons r0 m0 _ total _ _ rfl, if_pos hsum]
        intro x xs hx
        cases hx
        have := hm m0 List.mem_cons_self
        omega
  · have := ratioDistributeLoop_ge_min (ratios.zip mins) total ratios.sum (fun it hit => hr _ (List.of_mem_zip hit).1)
      (by rw [map_fst_zip ratios mins hlen])
    rw [List.map_snd_zip (by omega)] at this
    exact ge_one_of_zip_le mins _ this (by rw [ratioDistributeLoop_length]; simp [hlen]) hm

/-- The clamp the first pass puts on the flexible shares `fw` (minimums `mins ≥ 1`), under each of the three variants. -/
theorem flexClamp_spec (fl : Flags) (mins fw : List Int) (hl : fw.length = mins.length) (hm : ∀ m ∈ mins, 1 ≤ m) :
    ∀ cl, cl = (if fl.flexNegative then fw else if fl.flexClampZero then fw.map (fun w => max 0 w)
      else (mins.zip fw).map (fun mw => max mw.1 mw.2)) →
    cl.length = fw.length ∧
    (fl.flexNegative = false → (∀ f ∈ cl, 0 ≤ f) ∧ ((∀ x xs, fw = x :: xs → 1 ≤ x) → ∀ f fs, cl = f :: fs → 1 ≤ f) ∧
      (fl.flexClampZero = false → ∀ f ∈ cl, 1 ≤ f)) ∧
    ((∀ f ∈ fw, 1 ≤ f) → ∀ f ∈ cl, 1 ≤ f) := by
  intro cl hcl
  have hzip : ∀ f ∈ (mins.zip fw).map (fun mw => max mw.1 mw.2), 1 ≤ f := fun f hf => by
    obtain ⟨p, hp, rfl⟩ := List.mem_map.mp hf
    have := hm p.1 (List.of_mem_zip hp).1
    omega
  cases h1 : fl.flexNegative with
  | true => rw [h1, if_pos rfl] at hcl; subst hcl; exact ⟨rfl, nofun, id⟩
  | false =>
    rw [h1, if_neg (by decide)] at hcl
    cases h2 : fl.flexClampZero with
    | true =>
      rw [h2, if_pos rfl] at hcl
      subst hcl
      refine ⟨List.length_map _, fun _ => ⟨fun f hf => ?_, fun hx f fs hf => ?_, nofun⟩, fun h f hf => ?_⟩
      · obtain ⟨y, _, rfl⟩ := List.mem_map.mp hf; omega
      · cases fw with
        | nil => cases hf
        | cons x xs =>
          rw [List.map_cons, List.cons.injEq] at hf
          have := hx x xs rfl
          omega
      · obtain ⟨y, hy, rfl⟩ := List.mem_map.mp hf; have := h y hy; omega
    | false =>
      rw [h2, if_neg (by decide)] at hcl
      subst hcl
      exact ⟨by simp only [List.length_map, List.length_zip]; omega,
        fun _ => ⟨fun f hf => by have := hzip f hf; omega, fun _ f fs hf => hzip f (hf ▸ List.mem_cons_self), fun _ => hzip⟩,
        fun _ => hzip⟩

/-- The merge of the columns' own widths with the flexible shares succeeds when there is a share for every flexible column, and
gives one width per column: an unflexible column's own, `fixed + share` for a flexible one. -/
theorem mergeFlex_spec : ∀ (l : List (Column × Int × Int)) (flex : List Int),
    (l.filter (fun e => e.1.flexible)).length ≤ flex.length →
    ∃ r, mergeFlex l flex = some r ∧ r.length = l.length ∧ ∀ k : Int, (∀ e ∈ l, k ≤ e.2.1 ∧ 0 ≤ e.2.2) →
      ((∀ f ∈ flex, k ≤ f) → ∀ x ∈ r, k ≤ x) ∧ ((∀ f fs, flex = f :: fs → k ≤ f) → ∀ x xs, r = x :: xs → k ≤ x)
  | [], _, _ => ⟨[], rfl, rfl, fun _ _ => ⟨fun _ => nofun, fun _ => nofun⟩⟩
  | (c, w, fixed) :: rest, flex, hcnt => by
    unfold mergeFlex
    by_cases hc : c.flexible = true
    · simp only [hc, if_true]
      cases flex with
      | nil => simp [hc] at hcnt
      | cons f flex' =>
        simp only [List.filter_cons, hc, if_true, List.length_cons] at hcnt
        obtain ⟨r, h1, h2, h3⟩ := mergeFlex_spec rest flex' (by omega)
        refine ⟨(fixed + f) :: r, by simp [h1], by simp [h2], fun k hl => ?_⟩
        obtain ⟨h0, hrest⟩ := List.forall_mem_cons.mp hl
        simp only at h0
        refine ⟨fun hf => ?_, fun hf x xs hx => ?_⟩
        · obtain ⟨hf0, hf'⟩ := List.forall_mem_cons.mp hf
          exact List.forall_mem_cons.mpr ⟨by omega, (h3 k hrest).1 hf'⟩
        · cases hx
          have := hf f flex' rfl
          omega
    · simp only [hc, Bool.false_eq_true, if_false]
      simp only [List.filter_cons, hc, Bool.false_eq_true, if_false] at hcnt
      obtain ⟨r, h1, h2, h3⟩ := mergeFlex_spec rest flex hcnt
      refine ⟨w :: r, by simp [h1], by simp [h2], fun k hl => ?_⟩
      obtain ⟨h0, hrest⟩ := List.forall_mem_cons.mp hl
      exact ⟨fun hf => List.forall_mem_cons.mpr ⟨h0.1, (h3 k hrest).1 hf⟩, fun _ x xs hx => by cases hx; exact h0.1⟩

theorem filter_zip_fst_length {β : Type} (p : Column → Bool) : ∀ (l : List Column) (X : List β), l.length ≤ X.length →
    ((l.zip X).filter (fun e => p e.1)).length = (l.filter p).length
  | [], _, _ => by simp
  | _ :: _, [], h => by simp at h
  | a :: l, b :: X, h => by
    have ih := filter_zip_fst_length p l X (by simpa using h)
    simp only [List.zip_cons_cons, List.filter_cons]
    split <;> simp [ih]

theorem filter_zipIdx_length (p : Column → Bool) (l : List Column) (k : Nat) :
    ((l.zipIdx k).filter (fun e => p e.1)).length = (l.filter p).length := by
  rw [List.zipIdx_eq_zip_range']
  exact filter_zip_fst_length p l _ (by simp)

/-- The ratio branch of the first pass over variables: own widths `≥ 1`, reserved widths `≥ 0`, one ratio `≥ 0` and one minimum `≥ 1`
per flexible column, some ratio not 0. -/
theorem flexWidths_spec (fl : Flags) (cols : List Column) (own fixed ratios mins : List Int)
    (hol : own.length = cols.length) (hfl : fixed.length = cols.length) (hown : ∀ w ∈ own, 1 ≤ w) (hfixed : ∀ f ∈ fixed, 0 ≤ f)
    (hrl : ratios.length = (cols.filter (·.flexible)).length) (hml : ratios.length = mins.length)
    (hnn : ∀ r ∈ ratios, 0 ≤ r) (hany : ratios.any (· != 0) = true) (hm : ∀ m ∈ mins, 1 ≤ m) (total : Int) :
    ∃ ws, (match ratioDistribute total ratios (some mins) with
        | none => none
        | some fw => mergeFlex (cols.zip (own.zip fixed))
            (if fl.flexNegative then fw else if fl.flexClampZero then fw.map (fun w => max 0 w)
              else (mins.zip fw).map (fun mw => max mw.1 mw.2))) = some ws ∧
      ws.length = cols.length ∧
      (fl.flexNegative = false →
        (∀ w ∈ ws, 0 ≤ w) ∧ (∀ x xs, ws = x :: xs → 1 ≤ x) ∧ (fl.flexClampZero = false → ∀ w ∈ ws, 1 ≤ w)) ∧
      ((∀ r ∈ ratios, 1 ≤ r) → ∀ w ∈ ws, 1 ≤ w) := by
  obtain ⟨fw, hrd, hrdl, hhead, hall⟩ := ratioDistribute_mins total ratios mins hml hnn hany hm
  simp only [hrd]
  -- whichever clamp is applied: one share per flexible column
  obtain ⟨c1, c2, c3⟩ := flexClamp_spec fl mins fw (hrdl.trans hml) hm _ rfl
  -- the own widths are at least 1 and nothing negative is reserved
  have hL : ∀ k : Int, k ≤ 1 → ∀ e ∈ cols.zip (own.zip fixed), k ≤ e.2.1 ∧ 0 ≤ e.2.2 := fun k hk e he =>
    have h2 := (List.of_mem_zip he).2
    ⟨Int.le_trans hk (hown _ (List.of_mem_zip h2).1), hfixed _ (List.of_mem_zip h2).2⟩
  obtain ⟨ws, hws, hwl, hk⟩ := mergeFlex_spec (cols.zip (own.zip fixed)) _
    (by rw [filter_zip_fst_length (fun c => c.flexible) cols _ (by simp [hol, hfl]), c1, hrdl, hrl]; exact Nat.le_refl _)
  exact ⟨ws, hws, by simpa [hol, hfl] using hwl,
    fun h => ⟨(hk 0 (hL 0 (by decide))).1 (c2 h).1, (hk 1 (hL 1 (Int.le_refl 1))).2 ((c2 h).2.1 hhead),
      fun h3 => (hk 1 (hL 1 (Int.le_refl 1))).1 ((c2 h).2.2 h3)⟩,
    fun h => (hk 1 (hL 1 (Int.le_refl 1))).1 (c3 (hall h))⟩

/-- The first pass of a table whose columns measure `0 ≤ maximum`, with padding and fixed widths not negative and, when the table
expands, no negative ratio, under every flag value: it never asserts and gives one width per column.  With the flexible shares
clamped (`flexNegative` repaired) no width is negative, the first is at least 1, and all are when the shares are kept at their
minimums; under every variant all are at least 1 when no ratio that is set and active is 0. -/
theorem firstWidths_flex (fl : Flags) (t : Table) (maxWidth : Int)
    (hmeas : ∀ ci ∈ t.indexed, 0 ≤ (t.measureColumn ci.2 ci.1 maxWidth).maximum)
    (hpad : ∀ i, 0 ≤ t.paddingWidth i) (hwid : ∀ c ∈ t.columns, 0 ≤ c.width.getD 0)
    (hrat : t.expand = true → ∀ c ∈ t.columns, 0 ≤ c.ratio.getD 0) :
    ∃ ws, t.firstWidths fl maxWidth = some ws ∧ ws.length = t.columns.length ∧
      (fl.flexNegative = false →
        (∀ w ∈ ws, 0 ≤ w) ∧ (∀ x xs, ws = x :: xs → 1 ≤ x) ∧ (fl.flexClampZero = false → ∀ w ∈ ws, 1 ≤ w)) ∧
      ((t.expand = true → ∀ c ∈ t.columns, ∀ r, c.ratio = some r → 1 ≤ r) → ∀ w ∈ ws, 1 ≤ w) := by
  have hRnn : ∀ r ∈ t.indexed.map (fun ci => t.measureColumn ci.2 ci.1 maxWidth), 0 ≤ r.maximum := fun r hr => by
    obtain ⟨ci, hci, rfl⟩ := List.mem_map.mp hr
    exact hmeas ci hci
  have hW1 : ∀ w ∈ (t.indexed.map (fun ci => t.measureColumn ci.2 ci.1 maxWidth)).map (fun r => orOne r.maximum), 1 ≤ w := fun w hw => by
    obtain ⟨r, hr, rfl⟩ := List.mem_map.mp hw
    exact orOne_pos _ (hRnn r hr)
  have hflex : ∀ ci ∈ t.indexed.filter (fun ci => ci.1.flexible), ci.1 ∈ t.columns ∧ ci.1.flexible = true :=
    fun ci hci => ⟨mem_indexed t ci (List.mem_filter.1 hci).1, (List.mem_filter.1 hci).2⟩
  unfold Table.firstWidths
  simp only
  by_cases hc : t.expand = true ∧
      ((t.indexed.filter (fun ci => ci.1.flexible)).map (fun ci => ci.1.ratio.getD 0)).any (· != 0) = true
  · rw [if_pos hc.1, if_pos hc.2]
    refine (flexWidths_spec fl t.columns _ _ _ _ (by simp [indexed_length]) (by simp [indexed_length]) hW1 (fun f hf => ?_)
      (by rw [List.length_map]; exact filter_zipIdx_length (fun c => c.flexible) t.columns 0) (by rw [List.length_map, List.length_map])
      (fun r hr => ?_) hc.2 (fun m hm => ?_) _).imp (fun ws h => ⟨h.1, h.2.1, h.2.2.1, fun hh => h.2.2.2 (fun r hr => ?_)⟩)
    · -- nothing negative is reserved for a column
      obtain ⟨rc, hrc, rfl⟩ := List.mem_map.mp hf
      have hnn := hRnn rc.1 (List.of_mem_zip hrc).1
      have := orOne_pos _ hnn
      split
      · omega
      · split <;> omega
    · obtain ⟨ci, hci, rfl⟩ := List.mem_map.mp hr
      exact hrat hc.1 ci.1 (hflex ci hci).1
    · obtain ⟨ci, hci, rfl⟩ := List.mem_map.mp hm
      have := hpad ci.2
      have := orOne_pos _ (hwid ci.1 (hflex ci hci).1)
      omega
    · -- a flexible column has a ratio set
      obtain ⟨ci, hci, rfl⟩ := List.mem_map.mp hr
      obtain ⟨hcm, hf⟩ := hflex ci hci
      cases hrr : ci.1.ratio with
      | none => rw [Column.flexible, hrr] at hf; cases hf
      | some r => exact hh hc.1 ci.1 hcm r hrr
  · -- without an active ratio: the plain `maximum or 1` widths, every one at least 1
    refine ⟨(t.indexed.map (fun ci => t.measureColumn ci.2 ci.1 maxWidth)).map (fun r => orOne r.maximum), ?_, by simp [indexed_length],
      fun _ => ⟨fun w hw => by have := hW1 w hw; omega, fun x xs hx => hW1 x (hx ▸ List.mem_cons_self), fun _ => hW1⟩, fun _ => hW1⟩
    split
    · rename_i he; rw [if_neg (fun ha => hc ⟨he, ha⟩)]
    · rfl

theorem firstWidths_ge_one (fl : Flags) (h2 : fl.flexNegative = false) (h3 : fl.flexClampZero = false) (t : Table) (maxWidth : Int)
    (hmeas : ∀ ci ∈ t.indexed, 0 ≤ (t.measureColumn ci.2 ci.1 maxWidth).maximum)
    (hpad : ∀ i, 0 ≤ t.paddingWidth i) (hwid : ∀ c ∈ t.columns, 0 ≤ c.width.getD 0) (hrat : ∀ c ∈ t.columns, 0 ≤ c.ratio.getD 0) :
    t.FirstPass fl maxWidth :=
  let ⟨ws, h0, hl, h1, _⟩ := firstWidths_flex fl t maxWidth hmeas hpad hwid (fun _ => hrat)
  ⟨ws, h0, hl, (h1 h2).2.2 h3⟩

theorem firstWidths_total (fl : Flags) (hfl : fl.flexNegative = false) (t : Table) (h : t.Sane) (hne : t.columns ≠ [])
    (maxWidth : Int) :
    ∃ ws, t.firstWidths fl maxWidth = some ws ∧ ws.length = t.columns.length ∧ (∀ w ∈ ws, 0 ≤ w) ∧ 0 < ws.sum := by
  obtain ⟨ws, h0, hl, h1, _⟩ := firstWidths_flex fl t maxWidth (fun ci hci => h.measures ci hci maxWidth) (paddingWidth_nonneg t h)
      (fun c hc => by cases hw : c.width with
        | none => exact Int.le_refl 0
        | some w => exact h.width c hc w hw)
      (fun _ c hc => by cases hr : c.ratio with
        | none => exact Int.le_refl 0
        | some r => exact h.ratio c hc r hr)
  obtain ⟨hnn, hhead, _⟩ := h1 hfl
  refine ⟨ws, h0, hl, hnn, ?_⟩
  -- the first width is at least 1 and none is negative
  cases ws with
  | nil => exact absurd (List.eq_nil_of_length_eq_zero hl.symm) hne
  | cons x xs =>
    have := hhead x xs rfl
    have := sum_nonneg_of_all xs (fun z hz => hnn z (List.mem_cons_of_mem _ hz))
    rw [List.sum_cons]; omega

theorem ratioReduce_length (total : Int) (ratios maxs values : List Int) (h1 : ratios.length = values.length)
    (h2 : maxs.length = values.length) : (ratioReduce total ratios maxs values).length = values.length := by
  unfold ratioReduce
  simp only
  split
  · rfl
  · simp [ratioReduceLoop_length, h1, h2]

theorem shrinkPre_length (t : Table) (ws0 : List Int) (maxWidth : Int) (hl : ws0.length = t.columns.length)
    (hnn : ∀ w ∈ ws0, 0 ≤ w) : (t.shrinkPre ws0 maxWidth).1.length = t.columns.length := by
  have hwl : ws0.length = t.wrapable.length := hl.trans (wrapable_length t).symm
  have hpost := collapseWidths_post ws0 t.wrapable maxWidth hwl hnn
  simp only at hpost
  unfold Table.shrinkPre
  simp only
  split
  · simp only
    rw [ratioReduce_length _ _ _ _ (by simp) rfl]
    omega
  · simp only; omega

theorem padWidths_some (fl : Flags) (t : Table) (ws : List Int) (tableWidth maxWidth : Int) (hsum : 0 < ws.sum) :
    ∃ r, t.padWidths fl ws tableWidth maxWidth = some r := by
  unfold Table.padWidths
  split
  · exact ⟨_, by rw [ratioDistribute_none_eq _ ws hsum]⟩
  · exact ⟨_, rfl⟩

theorem calcWidths_total (fl : Flags) (h1 : fl.noColumnsAsserts = false) (h2 : fl.flexNegative = false)
    (t : Table) (h : t.Sane) (maxWidth : Int) : ∃ ws, t.calcWidths fl maxWidth = some ws := by
  by_cases hne : t.columns = []
  · unfold Table.calcWidths
    simp [h1, hne]
  · obtain ⟨ws0, h0, hl, hnn, hsum⟩ := firstWidths_total fl h2 t h hne maxWidth
    rw [calcWidths_of_first fl t maxWidth hne ws0 h0]
    split
    · -- after the shrink block every column was re-measured to at least one cell, and there is a column
      exact padWidths_some fl t _ _ maxWidth (sum_pos_of_all_pos _
        (ne_nil_of_length_eq (remeasure_length t _ (shrinkPre_length t ws0 maxWidth hl hnn)) hne) (remeasure_ge_one_of t h.measures _))
    · exact padWidths_some fl t ws0 ws0.sum maxWidth hsum

theorem richMeasure_some (fl : Flags) (t : Table) (maxWidth : Int)
    (h : ∃ ws, t.calcWidths fl (t.width.getD maxWidth - t.extraWidth) = some ws) : ∃ m, t.richMeasure fl maxWidth = some m := by
  obtain ⟨ws, hws⟩ := h
  unfold Table.richMeasure
  simp only
  split
  · exact ⟨_, rfl⟩
  · simp only [hws]
    exact ⟨_, rfl⟩

theorem calcWidths_noColumns_asserts :
    ({ columns := [], expandFlag := true } : Table).calcWidths Flags.repaired 20 = none ∧
    ({ columns := [], width := some 10 } : Table).calcWidths Flags.repaired 10 = none ∧
    ({ columns := [], minWidth := some 10 } : Table).calcWidths Flags.repaired 20 = none := by decide +kernel

end RichModel
