import RichModel.Lemmas.ConsoleHtml
import RichModel.Gen.ConsoleHtmlFormat
/-!
The whole HTML document of `export_html`:
* the template substitution keeps `{code}` intact, and removing tags from the document gives the template's text around the
  code's text;
* the class numbering of `inline_styles=False`: one stylesheet rule per distinct CSS rule, numbered `r1..rn` in first-use
  order, and every `class="rN"` in the code is what a look-up in that final table gives (`htmlClassLoop_cons`: one round of the
  loop);
* the default template (`defaultTemplate`, from `Gen/ConsoleHtmlFormat`) with the scan `templateScan` that shows the text
  before `{code}` to end outside a tag.
-/
namespace RichModel.Console
open RichModel

variable {σ : Type}

/-! ## template -/

theorem formatTemplate_append (o : HtmlOpts) (a b : List TItem) (code ss : List Char) :
    formatTemplate { o with template := a ++ b } code ss =
      formatTemplate { o with template := a } code ss ++ formatTemplate { o with template := b } code ss := by
  simp [formatTemplate]

theorem formatTemplate_cons (o : HtmlOpts) (x : TItem) (t : List TItem) (code ss : List Char) :
    formatTemplate { o with template := x :: t } code ss =
      formatTemplate { o with template := [x] } code ss ++ formatTemplate { o with template := t } code ss :=
  formatTemplate_append o [x] t code ss

theorem formatTemplate_indep (o : HtmlOpts) (t : List TItem) (h : TItem.code ∉ t) (c1 c2 ss : List Char) :
    formatTemplate { o with template := t } c1 ss = formatTemplate { o with template := t } c2 ss := by
  induction t with
  | nil => rfl
  | cons x t ih =>
    rw [formatTemplate_cons, formatTemplate_cons o x t c2, ih (fun hm => h (List.mem_cons_of_mem _ hm))]
    congr 1
    cases x <;> first | rfl | exact absurd (List.mem_cons_self ..) h

/-- **Template substitution keeps the code intact**, and what stands before and after it does not depend on the code. -/
theorem formatTemplate_code_once (o : HtmlOpts) (a b : List TItem) (ht : o.template = a ++ [TItem.code] ++ b)
    (ha : TItem.code ∉ a) (hb : TItem.code ∉ b) (ss : List Char) :
    ∀ code, formatTemplate o code ss =
      formatTemplate { o with template := a } [] ss ++ code ++ formatTemplate { o with template := b } [] ss := by
  intro code
  have e : o = { o with template := a ++ [TItem.code] ++ b } := by cases o; simp_all
  rw [e, formatTemplate_append, formatTemplate_append]
  simp only
  rw [formatTemplate_indep o a ha code [] ss, formatTemplate_indep o b hb code [] ss]
  simp [formatTemplate]

/-! ## removing tags from the document -/

/-- **The document with its tags removed** is the template's text before `{code}`, the code's text fragments, and
the template's text after — provided the part of the document before the code ends outside a tag (true of the
default template: `Props/C15.lean`). -/
theorem stripTags_document (pre post : List Char) (fs : List Frag) (hfs : FragsOk fs)
    (hpre : tagState false pre = false) :
    stripTags (pre ++ flatFrags fs ++ post) = stripTags pre ++ fragsText fs ++ stripTags post := by
  unfold stripTags
  rw [List.append_assoc, stripTagsAux_append, hpre, stripTagsAux_flatFrags fs hfs, List.append_assoc]

theorem not_mem_toString (c : Char) (hc : c.isDigit = false) (n : Nat) : c ∉ (toString n).toList := by
  intro hm
  rw [show (toString n).toList = Nat.toDigits 10 n from Nat.toList_repr] at hm
  rw [Nat.isDigit_of_mem_toDigits (by decide) (by decide) hm] at hc
  cases hc

/-! ## class numbering -/

/-- `(rule, n), (rule', n+1), …` -/
def numberFrom : Nat → List (List Char) → List (List Char × Nat)
  | _, [] => []
  | n, r :: rest => (r, n) :: numberFrom (n + 1) rest

/-- Keep the first occurrence of every element, in order. -/
def firstOcc (l : List (List Char)) : List (List Char) :=
  l.foldl (fun acc x => if acc.contains x then acc else acc ++ [x]) []

/-- The CSS rules of the segments that get a `<span class=…>`, in order of appearance. -/
def classRules (env : StyleEnv σ) (segs : List (Segment σ)) : List (List Char) :=
  segs.filterMap (fun seg =>
    match seg.style with
    | some s => if env.truthy s && !(env.htmlRule s).isEmpty then some (env.htmlRule s) else none
    | none => none)

theorem numberFrom_eq_zipIdx (n : Nat) (keys : List (List Char)) : numberFrom n keys = keys.zipIdx n := by
  induction keys generalizing n with
  | nil => rfl
  | cons x keys ih => rw [numberFrom, ih, List.zipIdx_cons]

theorem numberFrom_append (n : Nat) (a b : List (List Char)) :
    numberFrom n (a ++ b) = numberFrom n a ++ numberFrom (n + a.length) b := by
  simp only [numberFrom_eq_zipIdx, List.zipIdx_append]

theorem numberFrom_length (n : Nat) (a : List (List Char)) : (numberFrom n a).length = a.length := by
  rw [numberFrom_eq_zipIdx, List.length_zipIdx]

theorem map_fst_numberFrom (n : Nat) (keys : List (List Char)) : (numberFrom n keys).map (·.1) = keys := by
  rw [numberFrom_eq_zipIdx]
  exact List.zipIdx_map_fst n keys

theorem mem_numberFrom (n : Nat) (keys : List (List Char)) (p : List Char × Nat) (hp : p ∈ numberFrom n keys) :
    p.1 ∈ keys :=
  map_fst_numberFrom n keys ▸ List.mem_map_of_mem hp

theorem setDefault_numberFrom (keys : List (List Char)) (r : List Char) :
    (setDefault (numberFrom 1 keys) r).1 = numberFrom 1 (if keys.contains r then keys else keys ++ [r]) := by
  unfold setDefault
  cases h : (numberFrom 1 keys).find? (fun p => p.1 == r) with
  | some p =>
    -- the entry found carries `r`: it is a key already
    have hp : p.1 = r := by simpa using List.find?_some h
    have hm : r ∈ keys := hp ▸ mem_numberFrom 1 keys p (List.mem_of_find?_eq_some h)
    simp [hm]
  | none =>
    have hm : r ∉ keys := fun hr => by
      rw [← map_fst_numberFrom 1 keys] at hr
      obtain ⟨p, hp, e⟩ := List.mem_map.mp hr
      exact List.find?_eq_none.mp h p hp (beq_iff_eq.mpr e)
    simp only [List.contains_eq_mem, hm, decide_false, Bool.false_eq_true, if_false, numberFrom_append, numberFrom,
      numberFrom_length]
    congr 3; omega

/-- The rules of the stylesheet are pairwise distinct, and each is the rule of some segment. -/
theorem firstOcc_spec (l : List (List Char)) : (firstOcc l).Nodup ∧ ∀ k ∈ firstOcc l, k ∈ l := by
  refine List.foldlRecOn (motive := fun (acc : List (List Char)) => acc.Nodup ∧ ∀ k ∈ acc, k ∈ l) l _
    ⟨List.nodup_nil, nofun⟩ (fun acc ⟨hn, hm⟩ x hx => ?_)
  split
  · exact ⟨hn, hm⟩
  · rename_i hc
    have hx' : x ∉ acc := by simpa using hc
    exact ⟨List.nodup_append.mpr ⟨hn, (by simp),
        fun a ha b hb => by cases List.mem_singleton.mp hb; exact fun e => hx' (e ▸ ha)⟩,
      fun k hk => (List.mem_append.mp hk).elim (hm k) (fun h => List.mem_singleton.mp h ▸ hx)⟩

theorem numberFrom_getElem (n : Nat) (keys : List (List Char)) (k : Nat) (hk : k < keys.length) :
    (numberFrom n keys)[k]'(by rw [numberFrom_length]; exact hk) = (keys[k], n + k) := by
  simp only [numberFrom_eq_zipIdx, List.getElem_zipIdx]

/-! ## the loop of `inline_styles=False`, one round at a time -/

/-- The fragments of one segment given the *final* `styles` table. -/
def htmlClassSeg (v : Variant) (env : StyleEnv σ) (styles : List (List Char × Nat)) (seg : Segment σ) : List Frag :=
  let t := [Frag.text (escape seg.text)]
  match seg.style with
  | some s =>
    if env.truthy s then
      let rule := env.htmlRule s
      let t1 : List Frag :=
        if !rule.isEmpty then
          match styles.find? (fun p => p.1 == rule) with
          | some p => [Frag.tag ("span class=\"r".toList ++ (toString p.2).toList ++ ['"'])] ++ t ++ [Frag.tag "/span".toList]
          | none => t
        else t
      wrapLink v env s t1
    else t
  | none => t

/-- The CSS rule for which a segment gets a `<span class=…>`, if it gets one. -/
def classRule (env : StyleEnv σ) (seg : Segment σ) : Option (List Char) :=
  match seg.style with
  | some s => if env.truthy s && !(env.htmlRule s).isEmpty then some (env.htmlRule s) else none
  | none => none

/-- The `styles` dict after the round for `seg`. -/
def tableAfter (env : StyleEnv σ) (styles : List (List Char × Nat)) (seg : Segment σ) : List (List Char × Nat) :=
  match classRule env seg with
  | some r => (setDefault styles r).1
  | none => styles

theorem classRules_cons (env : StyleEnv σ) (seg : Segment σ) (rest : List (Segment σ)) :
    classRules env (seg :: rest) = (classRule env seg).toList ++ classRules env rest := by
  -- `classRules env` is `filterMap (classRule env)`, by definition
  show (seg :: rest).filterMap (classRule env) = _
  rw [List.filterMap_cons]
  cases classRule env seg <;> rfl

theorem find_setDefault (styles : List (List Char × Nat)) (r : List Char) :
    (setDefault styles r).1.find? (fun p => p.1 == r) = some (r, (setDefault styles r).2) := by
  unfold setDefault
  cases h : styles.find? (fun p => p.1 == r) with
  | some p =>
    have hp : p.1 = r := by simpa using List.find?_some h
    exact h.trans (by rw [← hp])
  | none => simp [List.find?_append, h]

theorem setDefault_prefix (styles : List (List Char × Nat)) (r : List Char) : styles <+: (setDefault styles r).1 := by
  unfold setDefault
  split
  · exact List.prefix_refl _
  · exact List.prefix_append _ _

/-- **One round of the loop**: `setdefault` on the segment's rule, if it has one; the segment's fragments are those
`htmlClassSeg` finds in the table as it then stands. -/
theorem htmlClassLoop_cons (v : Variant) (env : StyleEnv σ) (seg : Segment σ) (rest : List (Segment σ))
    (styles : List (List Char × Nat)) :
    htmlClassLoop v env (seg :: rest) styles =
      (htmlClassSeg v env (tableAfter env styles seg) seg ++ (htmlClassLoop v env rest (tableAfter env styles seg)).1,
       (htmlClassLoop v env rest (tableAfter env styles seg)).2) := by
  rw [htmlClassLoop]
  unfold tableAfter classRule htmlClassSeg
  generalize "span class=\"r".toList = pre, "/span".toList = post
  cases seg.style with
  | none => simp only
  | some s =>
    simp only
    cases env.truthy s
    · simp only [Bool.false_eq_true, if_false, Bool.false_and]
    · cases h : (env.htmlRule s).isEmpty
      · simp only [Bool.true_and, Bool.not_false, if_true, find_setDefault]
      · simp only [Bool.true_and, Bool.not_true, Bool.false_eq_true, if_false, if_true]

theorem classLoop_prefix (v : Variant) (env : StyleEnv σ) (segs : List (Segment σ)) :
    ∀ styles : List (List Char × Nat), styles <+: (htmlClassLoop v env segs styles).2 := by
  induction segs with
  | nil => exact fun styles => List.prefix_refl _
  | cons seg rest ih =>
    intro styles
    rw [htmlClassLoop_cons]
    refine List.IsPrefix.trans ?_ (ih _)
    unfold tableAfter
    split
    · exact setDefault_prefix styles _
    · exact List.prefix_refl _

/-- Entries added to the table later do not change what a segment finds there, once its own rule is in it. -/
theorem htmlClassSeg_append (v : Variant) (env : StyleEnv σ) (styles more : List (List Char × Nat)) (seg : Segment σ) :
    htmlClassSeg v env (tableAfter env styles seg ++ more) seg = htmlClassSeg v env (tableAfter env styles seg) seg := by
  unfold htmlClassSeg tableAfter classRule
  generalize "span class=\"r".toList = pre, "/span".toList = post
  cases seg.style with
  | none => rfl
  | some s =>
    simp only
    cases env.truthy s
    · simp only [Bool.false_eq_true, if_false]
    · cases h : (env.htmlRule s).isEmpty
      · simp only [Bool.true_and, Bool.not_false, if_true, List.find?_append, find_setDefault, Option.some_or]
      · simp only [Bool.not_true, Bool.false_eq_true, if_false]

/-- **Every `class="rN"` refers to an existing rule**: the code produced by the loop (which numbers on the fly) is
what one gets by looking every segment's rule up in the *final* table — so each span's class is the number of a
stylesheet entry whose rule is that segment's own CSS rule. -/
theorem classLoop_lookup (v : Variant) (env : StyleEnv σ) (segs : List (Segment σ)) :
    ∀ styles : List (List Char × Nat),
      (htmlClassLoop v env segs styles).1 = segs.flatMap (htmlClassSeg v env (htmlClassLoop v env segs styles).2) := by
  induction segs with
  | nil => exact fun _ => rfl
  | cons seg rest ih =>
    intro styles
    rw [htmlClassLoop_cons, List.flatMap_cons, ← ih]
    obtain ⟨more, h⟩ := classLoop_prefix v env rest (tableAfter env styles seg)
    rw [← h, htmlClassSeg_append]

/-- The `styles` dict after the loop, started from a table numbering `keys`: it numbers the keys extended by the
first occurrences of the new rules.  The fold is that of `firstOcc`, started at `keys` instead of `[]`. -/
theorem classLoop_styles_from (v : Variant) (env : StyleEnv σ) (segs : List (Segment σ)) :
    ∀ keys : List (List Char),
      (htmlClassLoop v env segs (numberFrom 1 keys)).2 =
        numberFrom 1 ((classRules env segs).foldl (fun acc x => if acc.contains x then acc else acc ++ [x]) keys) := by
  induction segs with
  | nil => exact fun _ => rfl
  | cons seg rest ih =>
    intro keys
    rw [htmlClassLoop_cons, classRules_cons]
    unfold tableAfter
    cases classRule env seg with
    | none => exact ih keys
    | some r => simp only [setDefault_numberFrom, ih, Option.toList_some, List.cons_append, List.nil_append, List.foldl_cons]

/-- **One rule per distinct style, numbered `r1..rn` in first-use order.** -/
theorem classLoop_numbering (v : Variant) (env : StyleEnv σ) (segs : List (Segment σ)) :
    (htmlClassLoop v env segs []).2 = numberFrom 1 (firstOcc (classRules env segs)) :=
  classLoop_styles_from v env segs []

/-- **The class mode in closed form**: every segment looked up in the final table, which numbers the first occurrences of the
rules; the stylesheet is written from that table. -/
theorem exportHtmlParts_class [BEq σ] (v : Variant) (env : StyleEnv σ) (record : List (Segment σ)) :
    exportHtmlParts v env false record =
      ((htmlSegments v record).flatMap
          (htmlClassSeg v env (numberFrom 1 (firstOcc (classRules env (htmlSegments v record))))),
        stylesheetOf (numberFrom 1 (firstOcc (classRules env (htmlSegments v record))))) := by
  simp only [exportHtmlParts, Bool.false_eq_true, if_false]
  rw [classLoop_lookup, classLoop_numbering]

/-! ## the fragments of the class mode: text and tags -/

theorem dressed_classSeg (v : Variant) (env : StyleEnv σ) (styles : List (List Char × Nat)) (seg : Segment σ) :
    Dressed (TagSafe v env) seg.text (htmlClassSeg v env styles seg) := by
  unfold htmlClassSeg
  cases seg.style with
  | none => exact .bare _ _
  | some s =>
    simp only
    split
    · apply Dressed.link
      split
      · split
        · exact .span _ _ _ (by decide +kernel) (fun _ => not_mem_toString '>' rfl _)
        · exact .bare _ _
      · exact .bare _ _
    · exact .bare _ _

/-- The stylesheet is one `.rN {rule}` line per table entry, in table order (no entry has an empty rule). -/
theorem stylesheet_lines (keys : List (List Char)) (h : ∀ k ∈ keys, k ≠ []) (n : Nat) :
    stylesheetOf (numberFrom n keys) =
      joinWith ['\n'] ((numberFrom n keys).map (fun p => ".r".toList ++ (toString p.2).toList ++ " {".toList ++ p.1 ++ ['}'])) := by
  unfold stylesheetOf
  congr 2
  rw [List.filter_eq_self]
  intro p hp
  simpa using h p.1 (mem_numberFrom n keys p hp)

theorem mem_classRules (env : StyleEnv σ) (segs : List (Segment σ)) :
    ∀ k ∈ classRules env segs, k ≠ [] ∧ ∃ s, k = env.htmlRule s := by
  intro k hk
  simp only [classRules, List.mem_filterMap] at hk
  obtain ⟨seg, _, h⟩ := hk
  cases hs : seg.style with
  | none => simp [hs] at h
  | some s =>
    simp only [hs] at h
    split at h
    · rename_i hc
      cases h
      simp only [Bool.and_eq_true, Bool.not_eq_true'] at hc
      exact ⟨fun e => by simp [e] at hc, s, rfl⟩
    · simp at h

/-! ## the generated default template -/

/-- Raw generated item -> template item: the codes 0..4 are those `harness/gen/console_html_format.py` writes (literal text as
code points, then `code`, `stylesheet`, `foreground`, `background`). -/
def toTItem (x : Nat × List Nat) : TItem :=
  match x.1 with
  | 0 => .lit (x.2.map Char.ofNat)
  | 1 => .code
  | 2 => .stylesheet
  | 3 => .foreground
  | _ => .background

/-- `CONSOLE_HTML_FORMAT` as translated from rich/console.py on this run. -/
def defaultTemplate : List TItem := Gen.consoleHtmlFormat.map toTItem

/-- Scan a template part: the state after it, or `none` if a placeholder sits inside a tag.  Placeholders are
assumed to expand to text without `<`. -/
def templateScan : Bool → List TItem → Option Bool
  | b, [] => some b
  | b, .lit s :: r => templateScan (tagState b s) r
  | false, _ :: r => templateScan false r
  | true, _ :: _ => none

theorem not_mem_formatTemplate (c : Char) (o : HtmlOpts) (code ss : List Char) (t : List TItem)
    (hl : ∀ s, TItem.lit s ∈ t → c ∉ s) (hc : c ∉ code) (hs : c ∉ ss) (hf : c ∉ o.foreground) (hb : c ∉ o.background) :
    c ∉ formatTemplate { o with template := t } code ss := by
  simp only [formatTemplate, List.mem_flatMap, not_exists, not_and]
  intro x hx
  cases x with
  | lit s => exact hl s hx
  | code => exact hc
  | stylesheet => exact hs
  | foreground => exact hf
  | background => exact hb

theorem templateScan_sound (o : HtmlOpts) (code ss : List Char)
    (hc : '<' ∉ code) (hs : '<' ∉ ss) (hf : '<' ∉ o.foreground) (hb : '<' ∉ o.background) :
    ∀ (t : List TItem) (b r : Bool), templateScan b t = some r →
      tagState b (formatTemplate { o with template := t } code ss) = r
  | [], b, r, h => by cases h; cases b <;> rfl
  | x :: t, b, r, h => by
    rw [formatTemplate_cons, tagState_append]
    cases x with
    | lit s =>
      rw [show formatTemplate { o with template := [TItem.lit s] } code ss = s by simp [formatTemplate]]
      exact templateScan_sound o code ss hc hs hf hb t _ r h
    | _ =>
      -- a placeholder: outside a tag it expands to text without `<`; inside a tag the scan gives up
      cases b
      · rw [tagState_text _ (not_mem_formatTemplate '<' o code ss _ (fun s h => by cases List.mem_singleton.mp h) hc hs hf hb)]
        exact templateScan_sound o code ss hc hs hf hb t _ r h
      · cases h

/-! ### characters that do not occur in the stylesheet -/

theorem not_mem_joinWith (c : Char) (sep : List Char) (hsep : c ∉ sep) :
    ∀ (l : List (List Char)), (∀ x ∈ l, c ∉ x) → c ∉ joinWith sep l
  | [], _ => by simp [joinWith]
  | [x], h => by simpa [joinWith] using h x (List.mem_singleton.mpr rfl)
  | x :: y :: rest, h => by
    simp only [joinWith, List.mem_append, not_or]
    exact ⟨⟨h x (List.mem_cons_self ..), hsep⟩,
      not_mem_joinWith c sep hsep (y :: rest) (fun z hz => h z (List.mem_cons_of_mem _ hz))⟩

theorem not_mem_stylesheetOf (c : Char) (hd : c.isDigit = false) (hc : c ∉ ['.', 'r', ' ', '{', '}', '\n'])
    (styles : List (List Char × Nat)) (h : ∀ p ∈ styles, c ∉ p.1) : c ∉ stylesheetOf styles := by
  simp only [List.mem_cons, List.not_mem_nil, or_false, not_or] at hc
  obtain ⟨hdot, hr, hsp, hlb, hrb, hnl⟩ := hc
  unfold stylesheetOf
  rw [String.toList_ofList, String.toList_ofList]
  apply not_mem_joinWith c _ (by simpa using hnl)
  intro x hx
  simp only [List.mem_map, List.mem_filter] at hx
  obtain ⟨p, ⟨hp, _⟩, rfl⟩ := hx
  simp only [List.mem_append, List.mem_cons, List.not_mem_nil, or_false, not_or]
  exact ⟨⟨⟨⟨⟨hdot, hr⟩, not_mem_toString c hd _⟩, hsp, hlb⟩, h p hp⟩, hrb⟩

/-- every literal of a template part is free of `&` -/
def litsNoAmp (t : List TItem) : Bool :=
  t.all (fun | .lit s => !s.contains '&' | _ => true)

theorem not_amp_of_litsNoAmp (t : List TItem) (ht : litsNoAmp t = true) (s : List Char) (hs : TItem.lit s ∈ t) : '&' ∉ s := by
  simpa using List.all_eq_true.mp ht _ hs

theorem not_mem_stylesheet [BEq σ] (c : Char) (hd : c.isDigit = false) (hc : c ∉ ['.', 'r', ' ', '{', '}', '\n'])
    (v : Variant) (env : StyleEnv σ) (inline : Bool) (record : List (Segment σ)) (hrule : ∀ s, c ∉ env.htmlRule s) :
    c ∉ (exportHtmlParts v env inline record).2 := by
  cases inline with
  | true => exact List.not_mem_nil
  | false =>
    rw [exportHtmlParts_class]
    apply not_mem_stylesheetOf c hd hc
    intro p hp
    obtain ⟨_, s, hs⟩ := mem_classRules env _ _ ((firstOcc_spec _).2 _ (mem_numberFrom 1 _ p hp))
    rw [hs]; exact hrule s

/-- A template part whose scan ends outside a tag still does so when filled in (without the code), if no CSS rule and
neither colour holds a `<`. -/
theorem filled_outside [BEq σ] (v : Variant) (env : StyleEnv σ) (inline : Bool) (record : List (Segment σ)) (o : HtmlOpts)
    (hrule : ∀ s, '<' ∉ env.htmlRule s) (hf : '<' ∉ o.foreground) (hb : '<' ∉ o.background) (t : List TItem)
    (h : templateScan false t = some false) :
    tagState false (formatTemplate { o with template := t } [] (exportHtmlParts v env inline record).2) = false :=
  templateScan_sound o [] _ (by simp) (not_mem_stylesheet '<' rfl (by decide +kernel) v env inline record hrule) hf hb _ _ _ h

theorem filled_no_amp [BEq σ] (v : Variant) (env : StyleEnv σ) (inline : Bool) (record : List (Segment σ)) (o : HtmlOpts)
    (hrule : ∀ s, '&' ∉ env.htmlRule s) (hf : '&' ∉ o.foreground) (hb : '&' ∉ o.background) (t : List TItem)
    (h : litsNoAmp t = true) :
    '&' ∉ formatTemplate { o with template := t } [] (exportHtmlParts v env inline record).2 :=
  not_mem_formatTemplate '&' o [] _ _ (not_amp_of_litsNoAmp _ h) (by simp)
    (not_mem_stylesheet '&' rfl (by decide +kernel) v env inline record hrule) hf hb

/-- The `{code}` fragments of either mode: the escaped exported text, inside well-formed tags if the style table is
`TagSafe`. -/
theorem exportHtmlParts_ok [BEq σ] [LawfulBEq σ] (v : Variant) (env : StyleEnv σ) (inline : Bool)
    (record : List (Segment σ)) (hm : v.mergeCtl = false) :
    Dressed (TagSafe v env) (exportPlain record) (exportHtmlParts v env inline record).1 := by
  rw [← htmlSegments_text v hm]
  cases inline with
  | true => exact Dressed.flatMap _ (dressed_inlineSeg v env) _
  | false =>
    rw [exportHtmlParts_class]
    exact Dressed.flatMap _ (dressed_classSeg v env _) _

end RichModel.Console
