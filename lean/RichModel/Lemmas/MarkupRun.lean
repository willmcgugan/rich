import RichModel.Lemmas.MarkupLex
import RichModel.Lemmas.MarkupSem
/-! The render loop: it can be run in pieces, it does not look at positions, and so `render` is the
loop over the chunks of `_parse` followed by `finish`. -/
namespace RichModel.Markup

theorem run_append (cfg : Cfg) (st : St) (a b : List PEv) :
    run cfg st (a ++ b) = match run cfg st a with
      | .ok st' => run cfg st' b
      | .error e => .error e := by
  induction a generalizing st with
  | nil => rfl
  | cons x xs ih =>
    simp only [List.cons_append, run]
    cases step cfg st x with
    | ok st' => exact ih st'
    | error e => rfl

theorem runEv_append (cfg : Cfg) (st : St) (a b : List Ev) :
    runEv cfg st (a ++ b) = match runEv cfg st a with
      | some st' => runEv cfg st' b
      | none => none := by
  induction a generalizing st with
  | nil => rfl
  | cons x xs ih =>
    simp only [List.cons_append, runEv]
    cases stepEv cfg st x with
    | some st' => exact ih st'
    | none => rfl

theorem runEv_chars (cfg : Cfg) (st : St) (s : List Char) (r : List Ev) :
    runEv cfg st (s.map Ev.chr ++ r) = runEv cfg { st with text := st.text ++ stripControl s } r := by
  induction s generalizing st with
  | nil => simp [stripControl]
  | cons c cs ih =>
    simp only [List.map_cons, List.cons_append, runEv, stepEv]
    rw [ih, show c :: cs = [c] ++ cs from rfl, stripControl_append, List.append_assoc]

theorem evs_bsl_chars (k : Nat) : (bsl k).map Ev.chr = List.replicate k (Ev.chr '\\') := by simp [bsl]

theorem toOption_eq_none {ε α : Type} {r : Except ε α} (h : r.toOption = none) : ∃ e, r = .error e := by
  cases r with
  | ok a => cases h
  | error e => exact ⟨e, rfl⟩

/-- so that concrete renderings can be compared by evaluation -/
instance {ε α : Type} [DecidableEq ε] [DecidableEq α] : DecidableEq (Except ε α) := fun a b =>
  match a, b with
  | .ok x, .ok y => if h : x = y then isTrue (by rw [h]) else isFalse (by intro e; cases e; exact h rfl)
  | .error x, .error y => if h : x = y then isTrue (by rw [h]) else isFalse (by intro e; cases e; exact h rfl)
  | .ok _, .error _ => isFalse (by intro e; cases e)
  | .error _, .ok _ => isFalse (by intro e; cases e)

theorem tagYield_toC (start k : Nat) (body : List Char) :
    (tagYield start k body).map PEv.toC = tagChunks k body := by
  unfold tagYield tagChunks
  by_cases hk : k = 0
  · simp [hk, PEv.toC]
  · simp only [hk, if_false]
    by_cases hb : k / 2 = 0 <;> by_cases ho : k % 2 = 1 <;> simp [hb, ho, PEv.toC]

theorem chunkGo_nil (acc : List Char) : chunkGo acc [] = flushC acc := by simp [chunkGo, chunkSt]

theorem chunkGo_ch (acc : List Char) (c : Char) (r : List Lx) :
    chunkGo acc (Lx.ch c :: r) = chunkGo (acc ++ [c]) r := by simp [chunkGo, chunkSt]

theorem chunkGo_tag (acc : List Char) (k : Nat) (b : List Char) (r : List Lx) :
    chunkGo acc (Lx.tag k b :: r) = flushC acc ++ tagChunks k b ++ chunkGo [] r := by
  simp [chunkGo, chunkSt]

theorem parseGo_toC (l : List Lx) : ∀ (off : Nat) (acc : List Char),
    (parseGo off acc l).map PEv.toC = chunkGo acc l := by
  induction l with
  | nil =>
    intro off acc
    rw [chunkGo_nil]
    by_cases ha : acc = [] <;> simp [parseGo, flushC, ha, PEv.toC]
  | cons x xs ih =>
    intro off acc
    cases x with
    | ch c => rw [chunkGo_ch, parseGo, ih]
    | tag k b =>
      rw [chunkGo_tag, parseGo, List.map_append, List.map_append, tagYield_toC, ih]
      by_cases ha : acc = [] <;> simp [flushC, ha, PEv.toC]

theorem parse_toC (m : List Char) : (parse m).map PEv.toC = chunks m := parseGo_toC (lex m) 0 []

theorem parse_no_bracket (m : List Char) (h : '[' ∉ m) :
    parse m = if m = [] then [] else [PEv.text 0 m] := by
  have key : ∀ (s acc : List Char) (off : Nat),
      parseGo off acc (s.map Lx.ch) = parseGo (off + s.length) (acc ++ s) [] := by
    intro s
    induction s with
    | nil => intro acc off; rw [List.append_nil]; rfl
    | cons c cs ih =>
      intro acc off
      show parseGo (off + 1) (acc ++ [c]) (cs.map Lx.ch) = _
      rw [ih, List.append_assoc, List.length_cons, Nat.add_assoc, Nat.add_comm 1]
      rfl
  rw [parse, show lex m = m.map Lx.ch from lexK_no_bracket m 0 h, key, parseGo, Nat.zero_add, List.nil_append,
    Nat.sub_self]

theorem chunks_no_bracket (m : List Char) (h : '[' ∉ m) : chunks m = flushC m := by
  rw [← parse_toC, parse_no_bracket m h, flushC]
  by_cases hm : m = [] <;> simp [hm, PEv.toC]

theorem tagChunks_evs (k : Nat) (b : List Char) : (tagChunks k b).flatMap CEv.evs = (Lx.tag k b).evs := by
  unfold tagChunks Lx.evs
  by_cases hk : k = 0
  · subst hk; simp [CEv.evs, bsl]
  · simp only [hk, if_false]
    by_cases hb : k / 2 = 0 <;> by_cases ho : k % 2 = 1 <;> simp [hb, ho, CEv.evs, bsl]

theorem flushC_evs (acc : List Char) : (flushC acc).flatMap CEv.evs = acc.map Ev.chr := by
  by_cases ha : acc = [] <;> simp [flushC, ha, CEv.evs]

theorem chunkGo_evs (l : List Lx) : ∀ acc, (chunkGo acc l).flatMap CEv.evs = acc.map Ev.chr ++ l.flatMap Lx.evs := by
  induction l with
  | nil => intro acc; simp [chunkGo_nil, flushC_evs]
  | cons x xs ih =>
    intro acc
    cases x with
    | ch c => rw [chunkGo_ch, ih]; simp [Lx.evs]
    | tag k b =>
      rw [chunkGo_tag, List.flatMap_append, List.flatMap_append, flushC_evs, tagChunks_evs, ih]
      simp

theorem chunks_evs (m : List Char) : (chunks m).flatMap CEv.evs = events m := by
  simpa [chunks, events] using chunkGo_evs (lex m) []

theorem events_no_bracket (s : List Char) (h : '[' ∉ s) : events s = s.map Ev.chr := by
  rw [← chunks_evs, chunks_no_bracket s h, flushC_evs]

theorem run_eq_runC (cfg : Cfg) (pevs : List PEv) : ∀ st,
    (run cfg st pevs).toOption = runC cfg st (pevs.map PEv.toC) := by
  induction pevs with
  | nil => intro st; rfl
  | cons e es ih =>
    intro st
    cases e with
    | text pos s => exact ih _
    | tag pos t =>
      simp only [List.map_cons, PEv.toC, runC, stepC, run]
      rw [← step_pos cfg st pos t]
      cases step cfg st (.tag pos t) with
      | ok st' => exact ih st'
      | error e => rfl

theorem chunkText_nil (cfg : Cfg) : chunkText cfg [] = [] := by
  unfold chunkText
  cases cfg.emoji <;> rfl

theorem finish_plain (cfg : Cfg) (t : List Char) :
    finish cfg { text := t, stack := [], closed := [], slots := [] } = (t, []) := by
  simp [finish, drain, sortedSpans]

/-- the early exit for a text without `[` agrees with the general path -/
theorem render_eq_runC (cfg : Cfg) (m : List Char) :
    (render cfg m).toOption = (runC cfg St.init (chunks m)).map (finish cfg) := by
  unfold render
  by_cases hb : '[' ∈ m
  · rw [if_neg (by simp [hb]), ← parse_toC, ← run_eq_runC]
    cases run cfg St.init (parse m) <;> rfl
  · rw [if_pos (by simp [hb]), chunks_no_bracket m hb]
    by_cases hm : m = []
    · subst hm; simp [flushC, runC, Except.toOption, chunkText_nil, St.init, finish_plain]
    · simp [flushC, hm, runC, stepC, Except.toOption, St.init, finish_plain]

end RichModel.Markup
