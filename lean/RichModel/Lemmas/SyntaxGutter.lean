import RichModel.Lemmas.SyntaxRows
import RichModel.Model.SyntaxWrap
/-
For property C17: the gutters of word-wrapped rows — the number on the FIRST row of a logical line,
`numbers_column_width + 1` blanks on its continuation rows (`renderFolded_spec`) — and where `renderW` writes them.
-/
namespace RichModel.Syntax

/-- `padding = " " * numbers_column_width + " "` -/
def blankGutter (ncw : Nat) : Line := List.replicate (ncw + 1) ' '

/-- the gutters of the rows `numberFolded` writes -/
def gutters (ncw : Nat) (legacy : Bool) (hl : List Nat) : Nat → List (List Line) → List Line
  | _, [] => []
  | n, bs :: rest =>
    (match bs with
     | [] => []
     | _ :: more => numberGutter ncw legacy n (hl.contains n) :: more.map (fun _ => blankGutter ncw)) ++
    gutters ncw legacy hl (n + 1) rest

theorem renderFolded_spec (ncw : Nat) (legacy : Bool) (n : Nat) (marked : Bool) (bs : List Line)
    (h : (natStr n).length + 2 ≤ ncw) :
    (renderFolded ncw legacy n marked bs).map (List.drop (ncw + 1)) = bs ∧
    (renderFolded ncw legacy n marked bs).map (List.take (ncw + 1)) =
      match bs with
      | [] => []
      | _ :: more => numberGutter ncw legacy n marked :: more.map (fun _ => blankGutter ncw) := by
  cases bs with
  | nil => exact ⟨rfl, rfl⟩
  | cons b more =>
    have hg := numberGutter_length ncw legacy n marked h
    have hb : (List.replicate (ncw + 1) ' ').length = ncw + 1 := List.length_replicate
    simp [renderFolded, Row.render_eq_gutter, Function.comp_def, List.drop_left' hg, List.take_left' hg,
      List.drop_left' hb, List.take_left' hb, blankGutter]

theorem sequenceOpt_length {α : Type} (l : List (Option α)) (bs : List α) (h : sequenceOpt l = some bs) :
    bs.length = l.length := by
  induction l generalizing bs with
  | nil => simp [sequenceOpt] at h; subst h; rfl
  | cons o rest ih =>
    cases o with
    | none => simp [sequenceOpt] at h
    | some a =>
      simp only [sequenceOpt, Option.map_eq_some_iff] at h
      obtain ⟨bs', h1, rfl⟩ := h
      simp [ih bs' h1]

/-- the numbered word-wrap branch of `renderW`: the rows are `numberFolded` of one list of folded rows per selected line -/
theorem renderW_wrapped_numbered (wv : Wrap.WVariant) (cw : Char → Nat) (sr rp : Bool) (o : Opts) (found : Bool)
    (lex : List Char → List Line) (code : List Char) (rows : List Line)
    (hww : o.wordWrap = true) (hn : o.lineNumbers = true) (hroom : ¬ codeWidthInt o code < 1)
    (h : renderW wv cw sr rp o found lex code = some (.ok rows)) :
    ∃ lines bodies, selectedLines sr rp o found lex code = .ok lines ∧ bodies.length = lines.length ∧
      rows = numberFolded (numbersColumnWidth o code) o.legacyWindows o.highlightLines (o.startLine + lineOffset o) bodies := by
  -- the last branch of `renderW` (word wrap, numbers): `highlight`, `selectedLines`, room, then `sequenceOpt` of the folded lines
  unfold renderW at h
  simp only [hww, hn, Bool.not_true, Bool.false_and, Bool.false_eq_true, if_false, if_true] at h
  split at h
  · cases h
  · split at h
    · cases h
    · rename_i lines hsel
      simp only [hroom, decide_false, Bool.false_eq_true, if_false] at h
      split at h
      · cases h
      · rename_i bodies hseq
        have hl := sequenceOpt_length _ _ hseq
        rw [List.length_map] at hl
        refine ⟨lines, bodies, hsel, hl, ?_⟩
        simp only [Option.some.injEq, Except.ok.injEq] at h
        exact h.symm

end RichModel.Syntax
