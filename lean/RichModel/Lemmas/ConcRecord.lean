import RichModel.Lemmas.ConcInv
import RichModel.Lemmas.ConcOut
/-!
The record (`Console._record_buffer`) has the order of the file: the record append and the `file.write` of
one flush happen inside the same critical section of the console lock (`RecInv`, counting what the clearing exports
took away: the ghost field `exports`).  `XInv`: a thread in the middle of an export holds the record lock and what it
read is still the record.
-/
namespace RichModel.Conc
open RichModel

/-- The buffer that is already recorded but not yet written: that of the thread inside the flush. -/
def pend (s : State) : List Item :=
  match s.sh.owner .console with
  | some t => if (s.th t).recDone then (s.th t).buffer else []
  | none => []

def fileItems (s : State) : List Item := s.sh.file.flatMap (·.items)

/-- Everything the clearing exports returned, in the order of their critical sections. -/
def exportsItems (s : State) : List Item := s.sh.exports.flatMap (·.2)

/-- What the clearing exports returned, then the record, is the file, then what is recorded but not yet written (`pend`):
non-empty piece for non-empty piece. -/
def RecInv (s : State) : Prop :=
  (exportsItems s ++ s.sh.record).filter nonEmpty = (fileItems s ++ pend s).filter nonEmpty

/-- A thread in the middle of an export holds the record lock, and what it read is still the record. -/
structure XInv (s : State) : Prop where
  held : ∀ t, (s.th t).xread = true → Lock.record ∈ (s.th t).held
  copy : ∀ t, (s.th t).xread = true → (s.th t).xcopy = s.sh.record

theorem pend_of_recDone {cfg : Cfg} {s : State} (inv : Inv cfg s) {t : Nat} (h : (s.th t).recDone = true) :
    pend s = (s.th t).buffer := by
  simp [pend, (inv.own .console t).mpr (inv.rd t h), h]

theorem pend_congr {cfg : Cfg} {s s' : State} (inv : Inv cfg s) (inv' : Inv cfg s')
    (hth : ∀ u, (s'.th u).recDone = (s.th u).recDone ∧ ((s.th u).recDone = true → (s'.th u).buffer = (s.th u).buffer)) :
    pend s' = pend s := by
  have nil : ∀ s : State, (∀ u, (s.th u).recDone = false) → pend s = [] := by
    intro s h
    unfold pend
    split
    · simp [h]
    · rfl
  by_cases hex : ∃ u, (s.th u).recDone = true
  · obtain ⟨u, hu⟩ := hex
    rw [pend_of_recDone inv hu, pend_of_recDone inv' ((hth u).1.trans hu), (hth u).2 hu]
  · have h0 : ∀ u, (s.th u).recDone = false := fun u => by simpa using fun h => hex ⟨u, h⟩
    rw [nil s h0, nil s' (fun u => (hth u).1.trans (h0 u))]

/-- `RecInv` and `XInv` together: a step keeps `RecInv` only with the help of `XInv` (`recInv_step`). -/
structure RecAll (s : State) : Prop where
  ri : RecInv s
  x : XInv s

/-- `XInv` after a step of thread `t`: `t` meets it anew, and the record is as it was while another thread is
in the middle of an export. -/
theorem xinv_upd {s : State} {t : Nat} {sh' : Shared} {l' : Local} (x : XInv s)
    (ht : l'.xread = true → Lock.record ∈ l'.held ∧ l'.xcopy = sh'.record)
    (hu : ∀ u, u ≠ t → (s.th u).xread = true → sh'.record = s.sh.record) :
    XInv { sh := sh', th := upd s.th t l' } := by
  refine ⟨fun u h => ?_, fun u h => ?_⟩ <;> by_cases hut : u = t
  · subst hut
    simp only [upd_same] at h ⊢
    exact (ht h).1
  · simp only [upd_other _ _ hut] at h ⊢; exact x.held u h
  · subst hut
    simp only [upd_same] at h ⊢
    exact (ht h).2
  · simp only [upd_other _ _ hut] at h ⊢
    rw [hu u hut h]; exact x.copy u h

theorem xinv_frame {s : State} {t : Nat} {sh' : Shared} {l' : Local} (x : XInv s)
    (hr : sh'.record = s.sh.record) (hx : l'.xread = (s.th t).xread) (hc : l'.xcopy = (s.th t).xcopy)
    (hh : (s.th t).xread = true → Lock.record ∈ l'.held) :
    XInv { sh := sh', th := upd s.th t l' } :=
  xinv_upd x (fun h => ⟨hh (hx ▸ h), by rw [hc, hr]; exact x.copy t (hx ▸ h)⟩) (fun _ _ _ => hr)

theorem xinv_step {cfg : Cfg} {s s' : State} {t : Nat} (inv : Inv cfg s) (x : XInv s) (h : stepT cfg s t = some s') :
    XInv s' := by
  obtain ⟨sh', l', rfl, -, hstep⟩ := step_eff inv h
  -- while `t` holds the record lock no other thread is in the middle of an export
  have noreader : Lock.record ∈ (s.th t).held → l'.xread = false → XInv ⟨sh', upd s.th t l'⟩ := fun hm hxt =>
    xinv_upd x (fun h => nomatch hxt.symm.trans h) fun u hu h => absurd (inv.mutex (x.held u h) hm) hu
  cases hstep with
  | load => exact xinv_frame x rfl rfl rfl (x.held t)
  | act g act r hc eff =>
    cases eff
    case recAppend _ hrheld _ hxt => exact noreader hrheld hxt
    case exportRead hrheld => exact xinv_upd x (fun _ => ⟨hrheld, rfl⟩) (fun _ _ _ => rfl)
    case exportEnd hrheld _ => exact noreader hrheld rfl
    case acq => exact xinv_frame x rfl rfl rfl fun hx => List.mem_cons_of_mem _ (x.held t hx)
    case rel hx =>
      -- the record lock is not released in the middle of an export
      exact xinv_frame x rfl rfl rfl fun h =>
        (List.mem_erase_of_ne fun e => Bool.false_ne_true ((hx e.symm).symm.trans h)).mpr (x.held t h)
    all_goals exact xinv_frame x rfl rfl rfl (x.held t)

theorem recInv_step {cfg : Cfg} {s s' : State} {t : Nat} (hrec : cfg.record = true) (inv : Inv cfg s) (ri : RecInv s)
    (x : XInv s) (h : stepT cfg s t = some s') : RecInv s' := by
  have inv' := inv_step inv h
  obtain ⟨sh', l', rfl, -, hstep⟩ := step_eff inv h
  have hpend : l'.recDone = (s.th t).recDone → ((s.th t).recDone = true → l'.buffer = (s.th t).buffer) →
      pend ⟨sh', upd s.th t l'⟩ = pend s := fun hd hb => pend_congr inv inv' fun u => by
    by_cases hu : u = t
    · subst hu; simp only [upd_same]; exact ⟨hd, hb⟩
    · simp [upd_other _ _ hu]
  have same : sh'.record = s.sh.record → sh'.file = s.sh.file → sh'.exports = s.sh.exports →
      l'.recDone = (s.th t).recDone → ((s.th t).recDone = true → l'.buffer = (s.th t).buffer) →
      RecInv ⟨sh', upd s.th t l'⟩ := fun hr hf hex hd hb => by
    simpa only [RecInv, fileItems, exportsItems, hr, hf, hex, hpend hd hb] using ri
  have ownc : Lock.console ∈ (s.th t).held → s.sh.owner .console = some t := (inv.own .console t).mpr
  have pend_nil : sh'.owner .console = some t → l'.recDone = false → pend ⟨sh', upd s.th t l'⟩ = [] :=
    fun ho hd => by simp [pend, ho, upd, hd]
  cases hstep with
  | load => exact same rfl rfl rfl rfl (fun _ => rfl)
  | act g act r hc eff =>
    cases eff
    case recAppend hcons _ hrd _ =>
      -- the buffer becomes pending
      have hp0 : pend s = [] := by simp [pend, ownc hcons, show (s.th t).recDone = false from hrd]
      have hp1 := pend_of_recDone inv' (t := t) (by simp only [upd_same])
      simp only [upd_same] at hp1
      simp only [RecInv, fileItems, exportsItems, hp1, hp0, List.append_nil] at ri ⊢
      simp only [← List.append_assoc, List.filter_append] at ri ⊢
      rw [ri]
    case write hcons hrd =>
      -- what was pending reaches the file
      have hp0 : pend s = (s.th t).buffer := pend_of_recDone inv (hrd hrec)
      simp only [RecInv, fileItems, exportsItems, pend_nil (ownc hcons) rfl, hp0, List.append_nil] at ri ⊢
      rw [ri, List.flatMap_append, List.filter_append, List.filter_append, filter_write]
    case exportEnd c _ hxt =>
      -- if clearing, the export hands the record over
      simp only [RecInv, fileItems, exportsItems, hpend rfl (fun _ => rfl)] at ri ⊢
      cases c
      · simpa using ri
      · simpa [x.copy t hxt] using ri
    case push _ _ hd | capEnd hd =>
      -- nothing is buffered between the record append and the write
      exact same rfl rfl rfl rfl (fun h => nomatch hd.symm.trans h)
    all_goals exact same rfl rfl rfl rfl (fun _ => rfl)

theorem rec_step {cfg : Cfg} {s s' : State} {t : Nat} (hrec : cfg.record = true) (inv : Inv cfg s) (ra : RecAll s)
    (h : stepT cfg s t = some s') : RecAll s' :=
  ⟨recInv_step hrec inv ra.ri ra.x h, xinv_step inv ra.x h⟩

theorem rec_init (sh : Shared) (progs : List (List Op)) (hfree : ∀ lk, sh.owner lk = none) (hfile : sh.file = [])
    (hrecord : sh.record = []) (hx : sh.exports = []) : RecAll (initState sh progs) :=
  ⟨by simp [RecInv, initState, fileItems, pend, exportsItems, hfile, hrecord, hfree, hx], ⟨nofun, nofun⟩⟩

theorem rec_run {cfg : Cfg} (hrec : cfg.record = true) (sched : List Nat) :
    ∀ {s : State}, Inv cfg s → RecAll s → RecAll (run cfg s sched) :=
  inv_induction (rec_step hrec) sched

end RichModel.Conc
