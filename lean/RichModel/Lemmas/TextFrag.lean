import RichModel.Lemmas.TextAppend
import RichModel.Lemmas.TextPad
import RichModel.Model.TextFrag
/-!
The fragment list refines the concatenation model: `abs (step ft op) = absStep (abs ft) op` for every operation, hence
for every history; the `plain` getter's normalisation (join + reset to one fragment) is unobservable.
-/
namespace RichModel
namespace Text
namespace FText
variable {σ : Type}

/-- the same operation on the abstract `Text` of `Model/Text.lean` -/
def absStep (t : Text σ) : FOp σ → Text σ
  | .getPlain => t
  | .setPlain s => t.setPlain s
  | .appendStr s st => t.appendStr s st
  | .appendText u => t.appendText u.abs
  | .appendT u => t.appendT u.abs
  | .appendTokens toks => t.appendTokens toks
  | .rightCrop n => t.rightCrop Variant.repaired n
  | .copy => t.copy Variant.repaired
  | .join lines => t.join Variant.repaired (lines.map abs)

theorem abs_mk_eq (frs : List (List Char)) (c : Text σ) (h : frs.flatten = c.plain) : abs ⟨frs, c⟩ = c := by
  cases c
  simp only [abs] at h ⊢
  simp only [h]

theorem normalise_flatten (ft : FText σ) : ft.normalise.frags.flatten = ft.frags.flatten := by
  unfold normalise
  split
  · simp
  · rfl

theorem normalise_core (ft : FText σ) : ft.normalise.core = ft.core := by
  unfold normalise
  split <;> rfl

/-- reading `plain` changes nothing that can be seen through the abstraction -/
theorem abs_normalise (ft : FText σ) : ft.normalise.abs = ft.abs := by
  simp only [abs, normalise_flatten, normalise_core]

theorem appendTokens_plain (toks : List (List Char × Option σ)) (t : Text σ) :
    (t.appendTokens toks).plain = t.plain ++ (toks.map (·.1)).flatten := by
  rw [appendTokens_fold]
  induction toks generalizing t with
  | nil => simp
  | cons tok rest ih =>
    simp only [List.foldl_cons, List.map_cons, List.flatten_cons]
    rw [ih (appendTok t tok)]
    simp [appendTok, List.append_assoc]

theorem abs_plain (ft : FText σ) : ft.abs.plain = ft.frags.flatten := rfl
theorem abs_length (ft : FText σ) : ft.abs.length = ft.core.length := rfl

theorem joinSeq_map_abs (sep sep' : FText σ) (hs : sep'.abs = sep.abs) :
    ∀ (lines : List (FText σ)), joinSeq sep.abs (lines.map abs) = (jseq sep.abs.plain.isEmpty sep' lines).map abs
  | [] => rfl
  | [_] => rfl
  | x :: y :: rest => by
    have ih := joinSeq_map_abs sep sep' hs (y :: rest)
    simp only [List.map_cons] at ih
    simp only [List.map_cons, joinSeq, jseq]
    split
    · simp only [List.map_cons, ih]
    · simp only [List.map_cons, ih, hs]

/-- **the fragment list refines the concatenation model**, operation by operation -/
theorem abs_step (ft : FText σ) (op : FOp σ) : (ft.step op).abs = absStep ft.abs op := by
  cases op with
  | getPlain => exact abs_normalise ft
  | setPlain s =>
    apply abs_mk_eq
    simp only [normalise_flatten]
    rw [setPlain_plain]
    split
    · simp
    · rename_i hne
      simp only [bne_iff_ne, ne_eq, Decidable.not_not] at hne
      rw [normalise_flatten]; exact hne.symm
  | appendStr s st =>
    apply abs_mk_eq
    rw [appendStr_eq]
    split
    · simp [abs_plain]
    · rfl
  | appendText u =>
    apply abs_mk_eq
    simp [appendText, abs_plain]
  | appendT u =>
    apply abs_mk_eq
    unfold appendT
    rw [abs_length]
    split
    · simp [appendText, abs_plain]
    · rfl
  | appendTokens toks =>
    apply abs_mk_eq
    rw [appendTokens_plain]
    simp [abs_plain]
  | rightCrop n =>
    apply abs_mk_eq
    show _ = (ft.abs.rightCrop Variant.repaired n).plain
    rw [rightCrop_eq]
    simp [abs_plain]
  | copy =>
    apply abs_mk_eq
    simp [copy, Text.new, abs_plain]
  | join lines =>
    apply abs_mk_eq
    show _ = (ft.abs.join Variant.repaired (lines.map abs)).plain
    rw [join_plain, joinSeq_map_abs ft ft.normalise (abs_normalise ft) lines, List.map_map]
    have : (fun x => x.plain) ∘ abs = (fun (x : FText σ) => x.frags.flatten) := rfl
    rw [this, normalise_flatten, abs_plain]
    simp only [List.flatMap_def]
    have e : ∀ (L : List (List (List Char))), ([[]] ++ L.flatten).flatten = L.flatten.flatten := by intro L; simp
    rw [e, List.flatten_flatten, List.map_map]
    rfl

/-- …hence history by history: running any sequence of operations on the fragment state and abstracting is running
the same sequence on the abstract text -/
theorem abs_run (ops : List (FOp σ)) (ft : FText σ) : (ft.run ops).abs = ops.foldl absStep ft.abs :=
  (List.foldl_hom abs fun ft op => (abs_step ft op).symm).symm

/-- **`plain`'s normalisation is unobservable**: reading `plain` at any point of a history changes nothing of the
abstract state reached -/
theorem normalise_unobservable (ops : List (FOp σ)) (ft : FText σ) :
    (ft.normalise.run ops).abs = (ft.run ops).abs ∧ (ft.run (.getPlain :: ops)).abs = (ft.run ops).abs := by
  refine ⟨by rw [abs_run, abs_run, abs_normalise], ?_⟩
  show ((ft.step .getPlain).run ops).abs = _
  rw [abs_run, abs_run, abs_step]
  rfl

theorem abs_new (text : List Char) (style : σ) : (FText.new Variant.repaired text style).abs = Text.new Variant.repaired text style := by
  apply abs_mk_eq
  simp [Text.new]

end FText
end Text
end RichModel
