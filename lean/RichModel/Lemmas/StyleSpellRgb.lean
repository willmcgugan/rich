import RichModel.Lemmas.StyleSpellNum
/-!
`#rrggbb` and `rgb(r,g,b)`: the colour each denotes is well-formed (so its text parses to exactly that
colour, alone and after `on`) — for all six-digit lower-case hex strings and all r, g, b ≤ 255.
-/
namespace RichModel
open AsciiStr
namespace Style
variable {T : StrTables} [hT : T.Lawful]

/-- `[0-9a-fA-F]` -/
def isHex (c : Char) : Bool := isHexLower c || (65 ≤ c.toNat && c.toNat ≤ 70)

omit hT in
theorem hexLower_plain {c : Char} (h : isHexLower c = true) : plainChar c = true := by
  simp only [isHexLower, isDigit, Bool.or_eq_true, Bool.and_eq_true, decide_eq_true_eq] at h
  exact plainChar_of_range (by omega)

omit hT in
theorem isHex_lower {c : Char} (h : isHex c = true) :
    isHexLower (lowerChar c) = true ∧ c.toNat < 128 ∧ isSpace c = false := by
  have := toNat_lowerChar c
  simp only [isHex, isHexLower, isDigit, isSpace, Bool.or_eq_true, Bool.and_eq_true, decide_eq_true_eq,
    Bool.or_eq_false_iff, Bool.and_eq_false_iff, decide_eq_false_iff_not] at h ⊢
  split at this <;> omega

/-- The colour `#abcdef` denotes. -/
def hexColor (a b c d e f : Char) : Color :=
  { name := ['#', a, b, c, d, e, f], type := .truecolor,
    triplet := some ⟨16 * hexVal a + hexVal b, 16 * hexVal c + hexVal d, 16 * hexVal e + hexVal f⟩ }

theorem hex_color_wf (v : StyleVariant) (a b c d e f : Char)
    (h : [a, b, c, d, e, f].all isHexLower = true) : wfColorT T v (hexColor a b c d e f) = true := by
  refine wfColor_of_plain (fun ch hch => ?_) ?_
  · rcases List.mem_cons.mp hch with rfl | m
    · decide
    · exact hexLower_plain (List.all_eq_true.mp h ch m)
  · exact .hex ((matchRe_hex T _).trans (by simp [h]))

theorem lower_hex {w : List Char} (h : w.all isHex = true) :
    T.lower ('#' :: w) = '#' :: w.map lowerChar ∧ (w.map lowerChar).all isHexLower = true ∧
    ∀ ch ∈ '#' :: w, T.isSpace ch = false := by
  have hx := fun x m => isHex_lower (List.all_eq_true.mp h x m)
  have hasc : allAscii ('#' :: w) = true := mem_allAscii.mpr fun x m => by
    rcases List.mem_cons.mp m with rfl | m
    · decide
    · exact (hx x m).2.1
  refine ⟨T.lower_ascii hasc, ?_, fun ch m => ?_⟩
  · rw [List.all_map]
    exact List.all_eq_true.mpr fun x m => (hx x m).1
  · rw [T.isSpace_ascii hasc ch m]
    rcases List.mem_cons.mp m with rfl | m
    · decide
    · exact (hx ch m).2.2

omit hT in
theorem splitCommaAux_append (w : List Char) (hw : ∀ c ∈ w, (c == ',') = false) (rest cur : List Char) :
    splitCommaAux (w ++ rest) cur = splitCommaAux rest (cur ++ w) := by
  induction w generalizing cur with
  | nil => simp
  | cons x r ih =>
    simp only [List.cons_append, splitCommaAux, hw x (by simp), Bool.false_eq_true, if_false]
    rw [ih (fun c hc => hw c (by simp [hc]))]
    simp

omit hT in
theorem splitComma_comma {w : List Char} (hw : ∀ c ∈ w, (c == ',') = false) (rest : List Char) :
    splitComma (w ++ ',' :: rest) = w :: splitComma rest := by
  simp only [splitComma, splitCommaAux_append w hw, splitCommaAux, beq_self_eq_true, if_true, List.nil_append]

omit hT in
theorem splitComma_of_no_comma {w : List Char} (hw : ∀ c ∈ w, (c == ',') = false) : splitComma w = [w] := by
  have := splitCommaAux_append w hw [] []
  rwa [List.append_nil] at this

/-- The colour `rgb(r,g,b)` denotes. -/
def rgbColor (r g b : Nat) : Color :=
  { name := Color.tripletRgb ⟨r, g, b⟩, type := .truecolor, triplet := some ⟨r, g, b⟩ }

theorem rgb_color_wf (v : StyleVariant) (r g b : Nat) (hr : r < 256) (hg : g < 256) (hb : b < 256) :
    wfColorT T v (rgbColor r g b) = true := by
  have hd : ∀ {n c}, c ∈ decDigits n → isDigit c = true := isDigit_of_mem_decDigits
  have hcomma : ∀ {n}, ∀ c ∈ decDigits n, (c == ',') = false := fun c hc =>
    beq_false_of_ne fun e => by have := isDigit_iff.mp (hd hc); rw [e] at this; simp at this
  refine wfColor_of_plain (fun c hc => ?_) ?_
  · simp only [rgbColor, Color.tripletRgb, List.mem_append, List.mem_cons, List.not_mem_nil, or_false] at hc
    rcases hc with ((rfl | rfl | rfl | rfl) | (h | rfl | h | rfl | h)) | rfl
    any_goals decide
    all_goals exact digit_plain (hd h)
  · have hbody : ∀ c ∈ decDigits r ++ ',' :: (decDigits g ++ ',' :: decDigits b),
        ((T.decimal c).isSome || T.isSpace c || c == ',') = true := by
      intro c hc
      simp only [List.mem_append, List.mem_cons] at hc
      rcases hc with h | rfl | h | rfl | h
      any_goals simp
      all_goals simp [decimal_digit (hd h)]
    have h3 : splitComma (decDigits r ++ ',' :: (decDigits g ++ ',' :: decDigits b)) = [decDigits r, decDigits g, decDigits b] := by
      rw [splitComma_comma hcomma, splitComma_comma hcomma, splitComma_of_no_comma hcomma]
    exact .rgb ((matchRe_rgb T _).trans (by simp [List.all_eq_true.mpr hbody])) h3 (pyInt_decDigits (by omega))
      (pyInt_decDigits (by omega)) (pyInt_decDigits (by omega)) (by omega) (by omega) (by omega)

end Style
end RichModel
