import RichModel.Model.FramesBarsStyled
import RichModel.Lemmas.FramesRect
/-!
Lemmas for `Rule`, `Bar` and `ProgressBar`: the parts sum to the width.  The text-only `ProgressBar` of
`Model/Frames.lean` is treated as the styled one of `Model/FramesBarsStyled.lean` with the style ids erased.
-/
namespace RichModel.Frames
open RichModel
variable {σ : Type}

/-! ## Rule -/

/-- the last statement of `Rule.__rich_console__` is `set_cell_size(…, width)` -/
theorem ruleText_cellLen (cw : Char → Nat) (hsp : cw ' ' = 1) (h2 : ∀ c, cw c ≤ 2) (env : Env) (v : Variant) (o : RuleOpts) (w : Int)
    (hw : 0 ≤ w) : cellLen cw (ruleText cw env v o w).1 = w.toNat := by
  unfold ruleText
  exact ite_ind (fun r : List Char × List Char => cellLen cw r.1 = w.toNat)
    (setCellSizeI_cellLen cw hsp h2 _ w hw) (setCellSizeI_cellLen cw hsp h2 _ w hw)

theorem ruleText_snd (cw : Char → Nat) (env : Env) (v : Variant) (o : RuleOpts) (w : Int) :
    (ruleText cw env v o w).2 = if o.title.isEmpty then ['\n'] else o.endS := by
  unfold ruleText
  cases o.title.isEmpty <;> rfl

theorem setCellSizeI_id (cw : Char → Nat) (t : List Char) (n : Int) (h : (cellLen cw t : Int) = n) : setCellSizeI cw t n = t := by
  unfold setCellSizeI setCellSize
  have h0 : ¬ n < 0 := by omega
  have h1 : (cellLen cw t == n.toNat) = true := by simp; omega
  simp [h0, h1]

/-- The repaired right-aligned rule (fix 8879061) cuts the side to the cells left of the blank and the title, which therefore
survive the final `set_cell_size`. -/
theorem ruleText_right (cw : Char → Nat) (hsp : cw ' ' = 1) (h2 : ∀ c, cw c ≤ 2) (env : Env) {v : Variant}
    (hv : v.ruleRightRepeat = false) (o : RuleOpts) (w : Int) (ha : o.align = .right) (hne : o.title ≠ [])
    (hfit : (cellLen cw (o.title.map (fun c => if c == '\n' then ' ' else c)) : Int) + 2 ≤ w) :
    ∃ side : List Char,
      (ruleText cw env v o w).1 = side ++ [' '] ++ o.title.map (fun c => if c == '\n' then ' ' else c) ∧
      (cellLen cw side : Int) = w - cellLen cw (o.title.map (fun c => if c == '\n' then ' ' else c)) - 1 := by
  unfold ruleText
  have he : o.title.isEmpty = false := by cases h : o.title <;> simp_all
  simp only [he, hv, Bool.false_eq_true, if_false, ha]
  generalize o.title.map (fun c => if c == '\n' then ' ' else c) = title at hfit ⊢
  have htr : textTruncate cw title (w - 2) .ellipsis = title := by
    unfold textTruncate
    simp only [show (Frames.Overflow.ellipsis == Frames.Overflow.ignore) = false from rfl, Bool.false_eq_true, if_false]
    rw [if_neg (by omega)]
  simp only [htr]
  have hsl := fun t => setCellSizeI_cellLen cw hsp h2 t (w - (cellLen cw title : Int) - 1) (by omega)
  refine ⟨_, setCellSizeI_id cw _ _ ?_, by rw [hsl]; omega⟩
  simp only [cellLen_append, cellLen_cons, cellLen_nil, hsp, hsl]
  omega

/-! ## The exact-rational arithmetic of `Bar` and `ProgressBar` -/

theorem ediv_le_ediv_cross (a b c d : Int) (hb : 0 < b) (hd : 0 < d) (h : a * d ≤ c * b) : a / b ≤ c / d := by
  rw [Int.le_ediv_iff_mul_le hd]
  have h1 : a / b * b ≤ a := Int.ediv_mul_le a (by omega)
  have h2 : a / b * b * d ≤ a * d := Int.mul_le_mul_of_nonneg_right h1 (by omega)
  have h3 : a / b * d * b ≤ c * b := by
    have : a / b * d * b = a / b * b * d := by rw [Int.mul_assoc, Int.mul_comm d b, ← Int.mul_assoc]
    rw [this]; omega
  exact Int.le_of_mul_le_mul_right h3 hb

theorem pos_of_cross_lt {x y : Int} {p q : Nat} (hx : 0 ≤ x) (h : x * q < y * p) : 0 < y := by
  by_cases hy : 0 < y
  · exact hy
  · have h1 : y * p ≤ 0 := Int.mul_nonpos_of_nonpos_of_nonneg (by omega) (Int.natCast_nonneg p)
    have h2 : 0 ≤ x * q := Int.mul_nonneg hx (Int.natCast_nonneg q)
    omega

/-- `int(k * a / b)` for non-negative operands is the floor of the exact quotient -/
theorem truncMulDiv_eq (k : Int) (a b : Rat') (hk : 0 ≤ k) (ha : 0 ≤ a.num) :
    truncMulDiv k a b = (k * a.num * b.den) / (a.den * b.num) :=
  Int.tdiv_eq_ediv_of_nonneg (Int.mul_nonneg (Int.mul_nonneg hk ha) (Int.natCast_nonneg _))

theorem truncMulDiv_nonneg (k : Int) (a b : Rat') (hk : 0 ≤ k) (ha : 0 ≤ a.num) (hb : 0 ≤ b.num) :
    0 ≤ truncMulDiv k a b := by
  rw [truncMulDiv_eq k a b hk ha]
  exact Int.ediv_nonneg (Int.mul_nonneg (Int.mul_nonneg hk ha) (Int.natCast_nonneg _))
    (Int.mul_nonneg (Int.natCast_nonneg _) hb)

theorem truncMulDiv_mono (k : Int) (a a' b : Rat') (hk : 0 ≤ k) (ha : 0 ≤ a.num) (ha' : 0 ≤ a'.num)
    (had : 0 < a.den) (had' : 0 < a'.den) (hb : 0 < b.num) (h : a.num * a'.den ≤ a'.num * a.den) :
    truncMulDiv k a b ≤ truncMulDiv k a' b := by
  rw [truncMulDiv_eq k a b hk ha, truncMulDiv_eq k a' b hk ha']
  apply ediv_le_ediv_cross _ _ _ _ (Int.mul_pos (by omega) hb) (Int.mul_pos (by omega) hb)
  have e1 : k * a.num * b.den * (a'.den * b.num) = (k * b.den * b.num) * (a.num * a'.den) := by ac_rfl
  have e2 : k * a'.num * b.den * (a.den * b.num) = (k * b.den * b.num) * (a'.num * a.den) := by ac_rfl
  rw [e1, e2]
  exact Int.mul_le_mul_of_nonneg_left h (Int.mul_nonneg (Int.mul_nonneg hk (Int.natCast_nonneg _)) (by omega))

theorem truncMulDiv_of_eq (k : Int) (a b : Rat') (h : a.num * b.den = b.num * a.den) (had : a.den ≠ 0) (hb : b.num ≠ 0) :
    truncMulDiv k a b = k := by
  unfold truncMulDiv
  rw [Int.mul_assoc, h, Int.mul_comm b.num, Int.mul_tdiv_cancel _ (Int.mul_ne_zero (by omega) hb)]

theorem truncMulDiv_le (k : Int) (a b : Rat') (hk : 0 ≤ k) (ha : 0 ≤ a.num) (had : 0 < a.den) (hbd : 0 < b.den)
    (hb : 0 < b.num) (h : a.num * b.den ≤ b.num * a.den) : truncMulDiv k a b ≤ k :=
  Int.le_trans (truncMulDiv_mono k a b b hk ha (by omega) had hbd hb h)
    (Int.le_of_eq (truncMulDiv_of_eq k b b rfl (by omega) (by omega)))

/-- `max(x, 0)` on the exact rationals (`Bar.__init__`, `ProgressBar.__rich_console__`): non-negative, and the denominator stays
positive -/
theorem ratMaxZero_ok (x : Rat') (hd : 0 < x.den) {c : Rat'} (hc : (if x.lt ⟨0, 1⟩ = true then (⟨0, 1⟩ : Rat') else x) = c) :
    0 ≤ c.num ∧ 0 < c.den := by
  subst hc
  split
  · exact ⟨Int.le_refl 0, Nat.one_pos⟩
  · rename_i h
    simp only [Rat'.lt, decide_eq_true_eq, Int.not_lt] at h
    exact ⟨by omega, hd⟩

/-- where a bar begins and ends, in `k`-ths of its width: `0 ≤ lo ≤ hi ≤ k` for `0 ≤ begin < end ≤ size` -/
theorem bar_ends (k : Int) (b e s : Rat') (hk : 0 ≤ k) (hsd : 0 < s.den) (hbd : 0 < b.den) (hed : 0 < e.den)
    (hb0 : 0 ≤ b.num) (hes : e.le s = true) (hlt : e.le b = false) :
    0 ≤ e.num ∧ 0 ≤ truncMulDiv k b s ∧ truncMulDiv k b s ≤ truncMulDiv k e s ∧ truncMulDiv k e s ≤ k := by
  simp only [Rat'.le, decide_eq_true_eq, decide_eq_false_iff_not, Int.not_le] at hes hlt
  have hen : 0 < e.num := pos_of_cross_lt hb0 hlt
  have hsn : 0 < s.num := pos_of_cross_lt (Int.le_refl 0) (p := e.den) (q := 1) (by
    have := Int.mul_pos hen (show (0 : Int) < s.den by omega); omega)
  refine ⟨by omega, truncMulDiv_nonneg k b s hk hb0 (by omega),
    truncMulDiv_mono k b e s hk hb0 (by omega) hbd hed hsn (by omega),
    truncMulDiv_le k e s hk (by omega) hed hsd hsn hes⟩

theorem barWidth_bounds (width : Option Int) (w : Int) (hw : 1 ≤ w) (hwd : 0 ≤ width.getD 0) :
    0 ≤ barWidth width w ∧ barWidth width w ≤ w := by
  unfold barWidth
  cases width with
  | none => simp only; omega
  | some bw =>
    simp only [Option.getD_some] at hwd
    simp only
    split <;> omega

/-- every character a bar can contain -/
def barChars : List Char := [' ', '█', '▐', '▕', '▏', '▎', '▍', '▌', '▋', '▊', '▉']

/-- The text of a bar that begins `lo` and ends `hi` eighths of a cell from the left (bar.py:59-81): blanks and a
right-aligned partial block, laid over full blocks and a left-aligned partial block, then blanks up to `width`. -/
def barText (lo hi width : Int) : List Char :=
  let prefix_ := rep (lo / 8) ' ' ++ (if lo % 8 != 0 then [beginBlocks.getD (lo % 8).toNat ' '] else [])
  let body := rep (hi / 8) '█' ++ (if hi % 8 != 0 then [endBlocks.getD (hi % 8).toNat ' '] else [])
  prefix_ ++ body.drop prefix_.length ++ rep (width - body.length) ' '

theorem barConsole_eq (o : BarOpts) (w : Int) :
    barConsole (σ := σ) o w =
      if o.endV.le o.beginV then [seg (rep (barWidth o.width w) ' '), nl]
      else [seg (barText (truncMulDiv (barWidth o.width w * 8) o.beginV o.size)
        (truncMulDiv (barWidth o.width w * 8) o.endV o.size) (barWidth o.width w)), nl] := rfl

theorem length_overlay {α : Type} (pre body : List α) (width : Int) (c : α) (h1 : pre.length ≤ body.length)
    (h2 : (body.length : Int) ≤ width) :
    (pre ++ body.drop pre.length ++ List.replicate (width - body.length).toNat c).length = width.toNat := by
  rw [List.length_append, List.length_append, List.length_drop, List.length_replicate, Int.toNat_sub']
  have := (Int.le_toNat (Int.le_trans (Int.natCast_nonneg _) h2)).mpr h2
  omega

/-- `n` eighths take `⌈n / 8⌉` cells: the whole cells and a partial one -/
theorem eighths_length (n : Int) (h : 0 ≤ n) (c x : Char) :
    (rep (n / 8) c ++ (if (n % 8 != 0) = true then [x] else [])).length = ((n + 7) / 8).toNat := by
  rw [List.length_append, rep_length]
  by_cases hn : n % 8 = 0
  · rw [if_neg (by simp [hn]), List.length_nil, Nat.add_zero]
    congr 1; omega
  · rw [if_pos (by simp [hn]), List.length_singleton, show (n + 7) / 8 = n / 8 + 1 by omega,
      Int.toNat_add (Int.ediv_nonneg h (by decide)) (by decide)]
    rfl

theorem barText_length (lo hi width : Int) (h0 : 0 ≤ lo) (h1 : lo ≤ hi) (h2 : hi ≤ width * 8) :
    (barText lo hi width).length = width.toNat := by
  unfold barText
  apply length_overlay
  · rw [eighths_length lo h0, eighths_length hi (by omega)]
    exact Int.toNat_le_toNat (Int.ediv_le_ediv (by decide) (by omega))
  · rw [eighths_length hi (by omega), Int.toNat_of_nonneg (Int.ediv_nonneg (by omega) (by decide))]
    omega

theorem barText_mem (lo hi width : Int) : ∀ c ∈ barText lo hi width, c ∈ barChars := by
  have hrep : ∀ (n : Int) (c : Char), c ∈ barChars → ∀ d ∈ rep n c, d ∈ barChars := by
    intro n c hc d hd
    rw [(List.mem_replicate.mp hd).2]; exact hc
  have hopt : ∀ (p : Prop) [Decidable p] (l : List Char) (i : Nat), (∀ c ∈ l, c ∈ barChars) →
      ∀ d ∈ (if p then [l.getD i ' '] else []), d ∈ barChars := by
    intro p _ l i hl d hd
    split at hd
    · rw [List.mem_singleton.mp hd, List.getD_eq_getElem?_getD]
      cases h : l[i]? with
      | none => decide
      | some x => exact hl x (List.mem_of_getElem? h)
    · cases hd
  intro c hc
  simp only [barText, List.mem_append] at hc
  rcases hc with ((h | h) | h) | h
  · exact hrep _ _ (by decide) c h
  · exact hopt _ _ _ (by decide) c h
  · rcases List.mem_append.mp (List.mem_of_mem_drop h) with h | h
    · exact hrep _ _ (by decide) c h
    · exact hopt _ _ _ (by decide) c h
  · exact hrep _ _ (by decide) c h

theorem drop_replicate_append {α : Type} (b n : Nat) (c : α) (ex : List α) (hex : ex.length ≤ 1) (h : n ≤ b + 1) :
    (List.replicate b c ++ ex).drop n = List.replicate (b - n) c ++ (if n ≤ b then ex else []) := by
  by_cases hle : n ≤ b
  · rw [List.drop_append_of_le_length (by simpa using hle), List.drop_replicate, if_pos hle]
  · rw [if_neg hle, List.drop_eq_nil_of_le (by simp; omega)]
    have : b - n = 0 := by omega
    rw [this]; rfl

theorem barText_eq (lo hi width : Int) (h : lo ≤ hi) (px ex : List Char)
    (hpx : px = if lo % 8 != 0 then [beginBlocks.getD (lo % 8).toNat ' '] else [])
    (hex : ex = if hi % 8 != 0 then [endBlocks.getD (hi % 8).toNat ' '] else []) :
    barText lo hi width = List.replicate (lo / 8).toNat ' ' ++ px
      ++ (List.replicate ((hi / 8).toNat - ((lo / 8).toNat + px.length)) '█'
          ++ (if (lo / 8).toNat + px.length ≤ (hi / 8).toNat then ex else []))
      ++ List.replicate (width.toNat - ((hi / 8).toNat + ex.length)) ' ' := by
  have hle : (lo / 8).toNat ≤ (hi / 8).toNat := Int.toNat_le_toNat (Int.ediv_le_ediv (by decide) h)
  have hpl : px.length ≤ 1 := by rw [hpx]; split <;> simp
  have hel : ex.length ≤ 1 := by rw [hex]; split <;> simp
  unfold barText
  rw [← hpx, ← hex]
  simp only [rep, List.length_append, List.length_replicate, Int.toNat_sub']
  rw [drop_replicate_append _ _ _ _ hel (by omega)]

/-- hypotheses = what `Bar.__init__` establishes (`0 ≤ begin`, `end ≤ size`) plus positive denominators -/
theorem barConsole_exact (o : BarOpts) (w : Int)
    (hsd : 0 < o.size.den) (hbd : 0 < o.beginV.den) (hed : 0 < o.endV.den)
    (hb0 : 0 ≤ o.beginV.num) (hes : o.endV.le o.size = true) (hw : 0 ≤ barWidth o.width w) :
    ∃ text : List Char, barConsole (σ := σ) o w = [seg text, nl] ∧ text.length = (barWidth o.width w).toNat ∧
      ∀ c ∈ text, c ∈ barChars := by
  rw [barConsole_eq]
  cases hbe : o.endV.le o.beginV
  · obtain ⟨_, h0, h1, h2⟩ := bar_ends (barWidth o.width w * 8) _ _ _ (by omega) hsd hbd hed hb0 hes hbe
    exact ⟨_, rfl, barText_length _ _ _ h0 h1 h2, barText_mem _ _ _⟩
  · refine ⟨_, rfl, rep_length _ _, fun c hc => ?_⟩
    rw [(List.mem_replicate.mp hc).2]; decide

theorem barConsole_cells (cw : Char → Nat) (hn : ∀ c ∈ barChars, cw c = 1) (o : BarOpts) (w : Int)
    (hsd : 0 < o.size.den) (hbd : 0 < o.beginV.den) (hed : 0 < o.endV.den)
    (hb0 : 0 ≤ o.beginV.num) (hes : o.endV.le o.size = true) (hw : 0 ≤ barWidth o.width w) :
    ∃ text : List Char, barConsole (σ := σ) o w = [seg text, nl] ∧ cellLen cw text = (barWidth o.width w).toNat := by
  obtain ⟨text, h1, h2, h3⟩ := barConsole_exact (σ := σ) o w hsd hbd hed hb0 hes hw
  exact ⟨text, h1, by rw [cellLen_eq_length cw text (fun c hc => hn c (h3 c hc)), h2]⟩

theorem barInit_ok (o : BarOpts) (hbd : 0 < o.beginV.den) :
    0 ≤ (barInit o).beginV.num ∧ (barInit o).endV.le (barInit o).size = true ∧ 0 < (barInit o).beginV.den := by
  refine ⟨(ratMaxZero_ok o.beginV hbd rfl).1, ?_, (ratMaxZero_ok o.beginV hbd rfl).2⟩
  show Rat'.le (if o.size.lt o.endV = true then o.size else o.endV) o.size = true
  split
  · simp [Rat'.le]
  · rename_i h
    simp only [Rat'.lt, Bool.not_eq_true, decide_eq_false_iff_not] at h
    simp only [Rat'.le, decide_eq_true_eq]
    omega

/-- the prefix / body / suffix split (bar.py:71-81): the body is drawn over by the prefix, the suffix pads to the width -/
theorem barStyled_parts (o : BarOpts) (w : Int) (p : BarParts) (h : barParts o w = some p) :
    barStyled o w = [(p.prefix_ ++ p.body.drop p.prefix_.length ++ p.suffix, BarSty.own), (['\n'], BarSty.line)] ∧
    p.suffix = rep (barWidth o.width w - p.body.length) ' ' := by
  constructor
  · unfold barStyled; rw [h]
  · unfold barParts at h
    simp only at h
    split at h
    · exact absurd h (by simp)
    · simp only [Option.some.injEq] at h
      rw [← h]

example : barStyled { size := ⟨10, 1⟩, beginV := ⟨2, 1⟩, endV := ⟨7, 1⟩ } 5
    = [([' ', '█', '█', '▌', ' '], BarSty.own), (['\n'], BarSty.line)] := by decide

/-! ## ProgressBar -/

theorem progressHalves_range (o : ProgressOpts) (width : Int) (hw : 0 ≤ width)
    (htd : 0 < o.total.den) (hcd : 0 < o.completed.den) :
    0 ≤ progressHalves o width ∧ progressHalves o width ≤ width * 2 := by
  unfold progressHalves
  simp only
  -- `c0 = max(0, completed)` is non-negative with a positive denominator
  generalize hc0 : (if o.completed.lt ⟨0, 1⟩ = true then (⟨0, 1⟩ : Rat') else o.completed) = c0
  have hc0p := ratMaxZero_ok o.completed hcd hc0
  split
  · omega
  · rename_i hz
    have htn : o.total.num ≠ 0 := by simpa [Rat'.isZero] using hz
    split
    · rw [truncMulDiv_of_eq _ _ _ rfl (by omega) htn]; omega
    · rename_i hlt
      simp only [Rat'.lt, decide_eq_true_eq, Int.not_lt] at hlt
      have htpos : 0 < o.total.num := by
        by_cases h : 0 < o.total.num
        · exact h
        · have h1 : o.total.num * c0.den < 0 := Int.mul_neg_of_neg_of_pos (by omega) (by omega)
          have h2 : 0 ≤ c0.num * o.total.den := Int.mul_nonneg hc0p.1 (Int.natCast_nonneg _)
          omega
      exact ⟨truncMulDiv_nonneg _ _ _ (by omega) hc0p.1 (by omega),
        truncMulDiv_le _ c0 o.total (by omega) hc0p.1 hc0p.2 htd htpos hlt⟩

theorem styledCells_append (a b : List SSeg) : styledCells (a ++ b) = styledCells a ++ styledCells b := by
  simp only [styledCells, List.flatMap_append]

theorem styledCells_optRep (n : Int) (c : Char) (s : BarSty) :
    styledCells (if (n != 0) = true then [(rep n c, s)] else []) = List.replicate n.toNat (c, s) := by
  by_cases h : n = 0
  · simp [h, styledCells]
  · simp [h, styledCells, rep]

theorem styledCells_optOne (b : Bool) (c : Char) (s : BarSty) :
    styledCells (if b = true then [([c], s)] else []) = List.replicate (if b then 1 else 0) (c, s) := by
  cases b <;> rfl

theorem halves_add_up (h width : Int) (h0 : 0 ≤ h) (h1 : h ≤ width * 2) :
    (h / 2).toNat + (h % 2).toNat = ((h + 1) / 2).toNat ∧
    (h / 2).toNat + (h % 2).toNat + (width - h / 2 - h % 2).toNat = width.toNat := by
  have ha : 0 ≤ h / 2 := Int.ediv_nonneg h0 (by decide)
  have hb : 0 ≤ h % 2 := Int.emod_nonneg h (by decide)
  rw [← Int.toNat_add ha hb, ← Int.toNat_add (Int.add_nonneg ha hb) (by omega)]
  constructor <;> (congr 1; omega)

/-- `ProgressBar.__rich_console__` (no pulse) cell by cell: with `h = complete_halves`, `h / 2` bar cells and `h % 2` half-bar
cell in the fill style, then (only with colour) the remaining `width − h/2 − h%2` cells in the background style, the first of
them a left half bar when the filled part ends on a whole cell; the last two conjuncts count the cells. -/
theorem progressStyled_split (env : Env) (o : ProgressOpts) (w : Int) (hw : 0 ≤ barWidth o.width w)
    (htd : 0 < o.total.den) (hcd : 0 < o.completed.den) :
    let width := barWidth o.width w
    let ascii := env.legacyWindows || env.asciiOnly
    let bar := if ascii then '-' else '━'
    let halfR := if ascii then ' ' else '╸'
    let halfL := if ascii then ' ' else '╺'
    let h := progressHalves o width
    let fill := progressFillSty o
    let colour := !env.noColor && env.colorSystem != 0
    let rem := width - h / 2 - h % 2
    let lead : Nat := if h % 2 = 0 ∧ 0 < h / 2 ∧ 0 < rem then 1 else 0
    0 ≤ h ∧ h ≤ width * 2 ∧ 0 ≤ rem ∧
    styledCells (progressStyled env o w) =
      List.replicate (h / 2).toNat (bar, fill) ++ List.replicate (h % 2).toNat (halfR, fill)
        ++ (if colour then List.replicate lead (halfL, BarSty.back) ++ List.replicate (rem.toNat - lead) (bar, BarSty.back)
            else []) ∧
    (styledCells (progressStyled env o w)).length = (if colour then width.toNat else ((h + 1) / 2).toNat) ∧
    (styledCells (progressStyled env o w)).length ≤ width.toNat := by
  obtain ⟨h0, h1⟩ := progressHalves_range o (barWidth o.width w) hw htd hcd
  dsimp only
  unfold progressStyled
  dsimp only
  generalize progressHalves o (barWidth o.width w) = h at h0 h1 ⊢
  generalize barWidth o.width w = width at h1 hw ⊢
  generalize (if (env.legacyWindows || env.asciiOnly) = true then '-' else '━') = bar
  generalize (if (env.legacyWindows || env.asciiOnly) = true then ' ' else '╸') = halfR
  generalize (if (env.legacyWindows || env.asciiOnly) = true then ' ' else '╺') = halfL
  generalize progressFillSty o = fill
  generalize env.noColor = nc
  generalize env.colorSystem = cs
  generalize (cs != 0) = hasCs
  generalize hrem : width - h / 2 - h % 2 = rem
  have hrem0 : 0 ≤ rem := by omega
  have hfirst : styledCells ((if (h / 2 != 0) = true then [(rep (h / 2) bar, fill)] else []) ++
      if (h % 2 != 0) = true then [(rep (h % 2) halfR, fill)] else [])
      = List.replicate (h / 2).toNat (bar, fill) ++ List.replicate (h % 2).toNat (halfR, fill) := by
    rw [styledCells_append, styledCells_optRep, styledCells_optRep]
  refine (fun key => ⟨h0, h1, hrem0, key, ?_⟩) ?_
  · -- the background cells exist when colour is available and cells remain
    by_cases hback : nc = false ∧ hasCs = true ∧ rem ≠ 0
    · obtain ⟨rfl, rfl, hr⟩ := hback
      have hr' : (rem != 0) = true := by simpa using hr
      simp only [Bool.not_false, Bool.and_true, if_true, hr']
      rw [styledCells_append, styledCells_append, hfirst, styledCells_optOne, styledCells_optRep]
      by_cases hu : h % 2 = 0 ∧ 0 < h / 2
      · have e1 : (h % 2 == 0 && h / 2 != 0) = true := by
          rw [Bool.and_eq_true, beq_iff_eq, bne_iff_ne]; exact ⟨hu.1, Int.ne_of_gt hu.2⟩
        have e2 : h % 2 = 0 ∧ 0 < h / 2 ∧ 0 < rem := ⟨hu.1, hu.2, Int.lt_iff_le_and_ne.mpr ⟨hrem0, Ne.symm hr⟩⟩
        simp only [e1, if_true, if_pos e2, List.append_assoc]
        rw [show (rem - 1).toNat = rem.toNat - 1 from Int.toNat_sub' rem 1]
      · have e1 : (h % 2 == 0 && h / 2 != 0) = false := by
          rw [Bool.and_eq_false_iff, beq_eq_false_iff_ne, bne_eq_false_iff_eq]
          by_cases h2 : h % 2 = 0
          · exact Or.inr (Int.le_antisymm (Int.not_lt.mp fun h3 => hu ⟨h2, h3⟩) (Int.ediv_nonneg h0 (by decide)))
          · exact Or.inl h2
        have e2 : ¬ (h % 2 = 0 ∧ 0 < h / 2 ∧ 0 < rem) := fun hx => hu ⟨hx.1, hx.2.1⟩
        simp only [e1, Bool.false_eq_true, if_false, if_neg e2, List.append_assoc, Nat.sub_zero]
    · cases nc
      · cases hasCs
        · simp only [Bool.not_false, Bool.and_false, Bool.false_eq_true, if_false, if_true, hfirst, List.append_nil]
        · have hr : rem = 0 := Decidable.byContradiction fun hr => hback ⟨rfl, rfl, hr⟩
          subst hr
          simp only [Bool.not_false, bne_self_eq_false, Bool.false_eq_true, if_false, if_true, Bool.and_true,
            hfirst, Int.lt_irrefl, and_false, Int.toNat_zero, Nat.sub_self, List.replicate_zero, List.append_nil]
      · simp only [Bool.not_true, Bool.false_and, Bool.false_eq_true, if_false, hfirst, List.append_nil]
  · rw [key]
    simp only [List.length_append, List.length_replicate, apply_ite List.length, List.length_nil]
    obtain ⟨e1, e2⟩ := halves_add_up h width h0 h1
    rw [hrem] at e2
    have hlead : (if h % 2 = 0 ∧ 0 < h / 2 ∧ 0 < rem then 1 else 0) ≤ rem.toNat := by
      split
      · rename_i hx; exact (Int.lt_toNat (m := 0)).mpr hx.2.2
      · exact Nat.zero_le _
    generalize (if h % 2 = 0 ∧ 0 < h / 2 ∧ 0 < rem then 1 else 0) = lead at hlead
    generalize (h / 2).toNat = a at e1 e2
    generalize (h % 2).toNat = b at e1 e2
    generalize ((h + 1) / 2).toNat = c at e1
    generalize rem.toNat = r at e2 hlead
    generalize width.toNat = W at e2
    clear hrem0 hrem hw h1 h0 key hfirst
    split <;> omega

example : styledCells (progressStyled { consoleWidth := 80, colorSystem := 1 } { total := ⟨10, 1⟩, completed := ⟨3, 1⟩ } 5)
    = [('━', .complete), ('╸', .complete), ('━', .back), ('━', .back), ('━', .back)] := by decide

example : styledCells (progressStyled { consoleWidth := 80, colorSystem := 1 } { total := ⟨10, 1⟩, completed := ⟨4, 1⟩ } 5)
    = [('━', .complete), ('━', .complete), ('╺', .back), ('━', .back), ('━', .back)] := by decide

/-- the hypotheses of `progressStyled_split` hold at a concrete bar (width option 5 in a 9-cell line, 3 of 10 done) -/
example : 0 ≤ barWidth (some 5) 9 ∧ 0 < (⟨10, 1⟩ : Rat').den ∧ progressHalves { total := ⟨10, 1⟩, completed := ⟨3, 1⟩ } 5 = 3 := by decide

theorem progressStyled_length_le (env : Env) (o : ProgressOpts) (w : Int) : (progressStyled env o w).length ≤ 4 := by
  -- at most four optional segments, the first two in every branch
  have hopt : ∀ (p : Prop) [Decidable p] (x : SSeg), (if p then [x] else []).length ≤ 1 :=
    fun p _ x => ite_ind (fun l : List SSeg => l.length ≤ 1) (Nat.le_refl 1) (Nat.zero_le 1)
  have h2 : ∀ a b : List SSeg, a.length ≤ 1 → b.length ≤ 1 → (a ++ b).length ≤ 4 := by
    intro a b ha hb; rw [List.length_append]; omega
  have h4 : ∀ a b c d : List SSeg, a.length ≤ 1 → b.length ≤ 1 → c.length ≤ 1 → d.length ≤ 1 →
      (a ++ b ++ c ++ d).length ≤ 4 := by
    intro a b c d ha hb hc hd; simp only [List.length_append]; omega
  exact ite_ind (fun l : List SSeg => l.length ≤ 4)
    (ite_ind (fun l : List SSeg => l.length ≤ 4) (h4 _ _ _ _ (hopt _ _) (hopt _ _) (hopt _ _) (hopt _ _)) (h2 _ _ (hopt _ _) (hopt _ _)))
    (h2 _ _ (hopt _ _) (hopt _ _))

example : progressFillSty { total := ⟨10, 1⟩, completed := ⟨25, 2⟩ } = BarSty.finished ∧
    progressHalves { total := ⟨10, 1⟩, completed := ⟨25, 2⟩ } 7 = 14 := by decide

theorem progressStyled_erase (env : Env) (o : ProgressOpts) (w : Int) (hp : o.pulse = false) :
    eraseSty (σ := σ) (progressStyled env o w) = progressConsole env o w := by
  unfold progressStyled progressConsole progressHalves eraseSty
  simp only [hp, Bool.false_eq_true, if_false, apply_ite (List.map (fun p : SSeg => (seg p.1 : Segment σ))),
    List.map_append, List.map_cons, List.map_nil]

example : eraseSty (σ := Unit) (progressStyled { consoleWidth := 80, colorSystem := 1 } { total := ⟨10, 1⟩, completed := ⟨3, 1⟩ } 7)
    = progressConsole { consoleWidth := 80, colorSystem := 1 } { total := ⟨10, 1⟩, completed := ⟨3, 1⟩ } 7 :=
  progressStyled_erase _ _ _ rfl

theorem lineLength_eraseSty (cw : Char → Nat) (l : List SSeg) (h : ∀ p ∈ styledCells l, cw p.1 = 1) :
    lineLength cw (eraseSty (σ := σ) l) = (styledCells l).length := by
  induction l with
  | nil => rfl
  | cons p l ih =>
    have hp : ∀ c ∈ p.1, cw c = 1 := fun c hc =>
      h (c, p.2) (List.mem_append_left _ (List.mem_map_of_mem (f := fun c => (c, p.2)) hc))
    have ht := ih fun q hq => h q (List.mem_append_right _ hq)
    simp only [eraseSty, styledCells, List.map_cons, List.flatMap_cons, List.length_append, List.length_map,
      lineLength_cons] at ht ⊢
    rw [ht, show (seg p.1 : Segment σ).cellLength cw = cellLen cw p.1 from rfl, cellLen_eq_length cw p.1 hp]

theorem progress_bar_cells (cw : Char → Nat) (hsp : cw ' ' = 1) (hd : cw '-' = 1) (hb : cw '━' = 1)
    (hr : cw '╸' = 1) (hl : cw '╺' = 1)
    (env : Env) (o : ProgressOpts) (w : Int) (hp : o.pulse = false) (hw : 0 ≤ barWidth o.width w)
    (htd : 0 < o.total.den) (hcd : 0 < o.completed.den) :
    lineLength cw (progressConsole (σ := σ) env o w) ≤ (barWidth o.width w).toNat ∧
    (env.noColor = false → env.colorSystem ≠ 0 →
      lineLength cw (progressConsole (σ := σ) env o w) = (barWidth o.width w).toNat) := by
  obtain ⟨_, _, _, hcells, hlen, hle⟩ := progressStyled_split env o w hw htd hcd
  have hbar : cw (if (env.legacyWindows || env.asciiOnly) = true then '-' else '━') = 1 := by split <;> assumption
  have hhr : cw (if (env.legacyWindows || env.asciiOnly) = true then ' ' else '╸') = 1 := by split <;> assumption
  have hhl : cw (if (env.legacyWindows || env.asciiOnly) = true then ' ' else '╺') = 1 := by split <;> assumption
  rw [← progressStyled_erase env o w hp, lineLength_eraseSty cw _ ?_]
  · refine ⟨hle, fun hnc hcs => ?_⟩
    rw [hlen, hnc, if_pos (by simpa using hcs)]
  · have hrep : ∀ (k : Nat) (c : Char) (s : BarSty), cw c = 1 → ∀ p ∈ List.replicate k (c, s), cw p.1 = 1 :=
      fun k c s hc p hp => (List.mem_replicate.mp hp).2 ▸ hc
    rw [hcells]
    exact List.forall_mem_append.mpr ⟨List.forall_mem_append.mpr ⟨hrep _ _ _ hbar, hrep _ _ _ hhr⟩,
      ite_ind (fun l : List (Char × BarSty) => ∀ p ∈ l, cw p.1 = 1)
        (List.forall_mem_append.mpr ⟨hrep _ _ _ hhl, hrep _ _ _ hbar⟩) (fun p hp => nomatch hp)⟩

theorem pulseChars_length (env : Env) (ascii : Bool) : (pulseChars env ascii).length = 20 := by
  simp [pulseChars, apply_ite List.length, pulseSize]

theorem pulseChars_mem (env : Env) (ascii : Bool) : ∀ c ∈ pulseChars env ascii, c = '-' ∨ c = '━' ∨ c = ' ' := by
  let P : Char → Prop := fun c => c = '-' ∨ c = '━' ∨ c = ' '
  have hbar : P (if ascii = true then '-' else '━') := ite_ind P (Or.inl rfl) (Or.inr (Or.inl rfl))
  have hrep : ∀ (n : Nat) (x : Char), P x → ∀ c ∈ List.replicate n x, P c :=
    fun n x hx c hc => (List.mem_replicate.mp hc).2 ▸ hx
  have happ : ∀ a b : List Char, (∀ c ∈ a, P c) → (∀ c ∈ b, P c) → ∀ c ∈ a ++ b, P c :=
    fun a b ha hb c hc => (List.mem_append.mp hc).elim (ha c) (hb c)
  unfold pulseChars
  exact ite_ind (fun l : List Char => ∀ c ∈ l, P c)
    (happ _ _ (hrep _ _ hbar) (hrep _ _ (ite_ind P (Or.inr (Or.inr rfl)) hbar))) (hrep _ _ hbar)

theorem length_flatten_replicate {α : Type} (n : Nat) (l : List α) : (List.replicate n l).flatten.length = n * l.length := by
  simp

theorem mem_flatten_replicate {α : Type} (n : Nat) (l : List α) (x : α) (h : x ∈ (List.replicate n l).flatten) : x ∈ l := by
  simp only [List.mem_flatten, List.mem_replicate] at h
  obtain ⟨l', ⟨_, rfl⟩, hx⟩ := h
  exact hx

theorem lineLength_singles (cw : Char → Nat) (l : List Char) (h : ∀ c ∈ l, cw c = 1) :
    lineLength cw (l.map (fun ch => (seg [ch] : Segment σ))) = l.length := by
  induction l with
  | nil => rfl
  | cons c l ih =>
    simp only [List.map_cons, lineLength_cons, List.length_cons]
    rw [ih (fun d hd => h d (by simp [hd]))]
    simp [seg, Segment.cellLength, cellLen, h c (by simp)]
    omega

theorem pySlice_length {α : Type} (l : List α) (start stop : Int) (h0 : 0 ≤ start) (h1 : start ≤ stop)
    (h2 : stop ≤ l.length) : (pySlice l start stop).length = (stop - start).toNat := by
  unfold pySlice
  rw [if_neg (by omega), Int.min_eq_left h2, List.length_drop, List.length_take, Nat.min_eq_left (by omega)]
  apply Int.natCast_inj.mp
  rw [Int.natCast_sub (Int.toNat_le_toNat h1), Int.toNat_of_nonneg (by omega), Int.toNat_of_nonneg h0,
    Int.toNat_of_nonneg (by omega)]

/-- `int(width / 20) + 2` copies of the 20 pulse characters reach beyond `width` cells from any offset below 20 -/
theorem pulse_copies_cover (width off : Int) (hw : 0 ≤ width) (ho : off < ((20 : Nat) : Int)) :
    off + width ≤ (((Int.tdiv width ((20 : Nat) : Int) + 2).toNat * 20 : Nat) : Int) := by
  rw [Int.tdiv_eq_ediv_of_nonneg hw]
  omega

theorem progress_pulse_exact (cw : Char → Nat) (hsp : cw ' ' = 1) (hd : cw '-' = 1) (hb : cw '━' = 1)
    (env : Env) (o : ProgressOpts) (w : Int) (hp : o.pulse = true) (hw : 0 ≤ barWidth o.width w) :
    lineLength cw (progressConsole (σ := σ) env o w) = (barWidth o.width w).toNat := by
  unfold progressConsole
  simp only [hp, if_true]
  generalize barWidth o.width w = width at hw ⊢
  generalize (env.legacyWindows || env.asciiOnly) = ascii
  have h3 := Int.emod_lt_of_pos (Int.tdiv (-o.time.num * 15) o.time.den) (show (0 : Int) < ((20 : Nat) : Int) by decide)
  have h4 := Int.emod_nonneg (Int.tdiv (-o.time.num * 15) o.time.den) (show ((20 : Nat) : Int) ≠ 0 by decide)
  rw [lineLength_singles, pulseChars_length, pySlice_length _ _ _ h4 (by omega)]
  · congr 1; omega
  · rw [length_flatten_replicate, pulseChars_length]
    exact pulse_copies_cover width _ hw h3
  · intro c hc
    have hm := mem_flatten_replicate _ _ c (List.mem_of_mem_take (List.mem_of_mem_drop hc))
    rcases pulseChars_mem env ascii c hm with h | h | h <;> rw [h] <;> assumption

theorem progressConsole_no_nl (env : Env) (o : ProgressOpts) (w : Int) :
    ∀ s ∈ progressConsole (σ := σ) env o w, '\n' ∉ s.text := by
  let P : List (Segment σ) → Prop := fun L => ∀ s ∈ L, '\n' ∉ s.text
  have happ : ∀ a b, P a → P b → P (a ++ b) := fun a b ha hb s hs => (List.mem_append.mp hs).elim (ha s) (hb s)
  have hrep : ∀ (p : Prop) [Decidable p] (n : Int) (c : Char), c ≠ '\n' → P (if p then [seg (rep n c)] else []) :=
    fun p _ n c hc => ite_ind P
      (fun s hs hm => by rw [List.mem_singleton.mp hs] at hm; exact hc (List.mem_replicate.mp hm).2.symm)
      (fun s hs => by cases hs)
  have hone : ∀ (p : Prop) [Decidable p] (c : Char), c ≠ '\n' → P (if p then [seg [c]] else []) :=
    fun p _ c hc => ite_ind P
      (fun s hs hm => by rw [List.mem_singleton.mp hs] at hm; exact hc (List.mem_singleton.mp hm).symm)
      (fun s hs => by cases hs)
  have hb := ite_ind (· ≠ '\n') (p := (env.legacyWindows || env.asciiOnly) = true) (a := '-') (b := '━') (by decide) (by decide)
  have hr := ite_ind (· ≠ '\n') (p := (env.legacyWindows || env.asciiOnly) = true) (a := ' ') (b := '╸') (by decide) (by decide)
  have hl := ite_ind (· ≠ '\n') (p := (env.legacyWindows || env.asciiOnly) = true) (a := ' ') (b := '╺') (by decide) (by decide)
  have hfirst := fun (p q : Prop) [Decidable p] [Decidable q] (m n : Int) => happ _ _ (hrep p m _ hb) (hrep q n _ hr)
  unfold progressConsole
  refine ite_ind P ?_ (ite_ind P (ite_ind P (happ _ _ (happ _ _ (hfirst _ _ _ _) (hone _ _ hl)) (hrep _ _ _ hb))
    (hfirst _ _ _ _)) (hfirst _ _ _ _))
  intro s hs
  obtain ⟨ch, hch, rfl⟩ := List.mem_map.mp hs
  have hm := mem_flatten_replicate _ _ ch (List.mem_of_mem_take (List.mem_of_mem_drop hch))
  rcases pulseChars_mem env _ ch hm with h | h | h <;> simp [seg, h]

end RichModel.Frames
