import RichModel.Lemmas.LayoutTableWidths
/-!
A table WITHOUT columns (`Table()`, any options) at the level of segments, at any width: `tableConsole cfg o opts [] w` is the
poison (rich 9.10.0 as found asserts in `ratio_distribute`) or the title, at most the top and the bottom edge — two corner
characters each — and the caption.  Auxiliary lemmas carry the prefix `nil_`.
-/
namespace RichModel.Layout
open RichModel RichModel.Frames

/-- the top or the bottom edge of a table without columns, as segments: one complete line of the two corner characters -/
theorem nil_edge (cw : Char → Nat) (hnl : cw '\n' = 0) (r : BoxRow) (hl : cw r.l = 1) (hr : cw r.r = 1) (tag : LineTag)
    (htag : tag = .top ∨ tag = .bottom) :
    ∃ line : Ln, bodyLineSegs [] (ruleLine tag r true []) = line ++ [nl] ∧ NlFree line ∧ lineLength cw line = 2 := by
  refine ⟨[seg [r.l, r.r]], ?_, nlFree_seg _ ?_, ?_⟩
  · rcases htag with rfl | rfl <;> simp [bodyLineSegs, ruleLine, BodyLine.text, BodyLine.once, joinSep]
  · -- a character one cell wide is no line feed
    intro c hc heq
    subst heq
    simp only [List.mem_cons, List.not_mem_nil, or_false] at hc
    rcases hc with hc | hc
    · rw [← hc] at hl; omega
    · rw [← hc] at hr; omega
  · rw [lineLength_seg]
    simp [cellLen, hl, hr]

/-- A table without columns at ANY width: poison, or title ++ body ++ caption with the body at most the two corner characters wide. -/
theorem tableConsole_nil_any (cfg : Cfg) (hcw : cfg.cw = cwD) (o : TableOpts) (opts : Opts) (w : Nat) :
    tableConsole cfg o opts [] w = cfg.poison ∨
    ∃ (tw : Int) (body : List Seg), tw ≤ (tableExtra o 0 : Int) ∧
      tableConsole cfg o opts [] w =
        annotation cfg o.title o.titleJustify opts tw ++ body ++ annotation cfg o.caption o.captionJustify opts tw ∧
      (∀ l ∈ splitLines body, lineLength cfg.cw l ≤ tableExtra o 0) ∧ Closed body := by
  have hT : toTable cfg o [] = o.skel := rfl
  unfold tableConsole
  simp only [hT]
  cases hc : o.skel.calcWidths cfg.fl (o.skel.width.getD (w : Int) - o.skel.extraWidth) with
  | none => left; rfl
  | some ws =>
    right
    have hws : ws = [] := calcWidths_nil cfg.fl o.skel rfl _ ws hc
    subst hws
    have hex : o.skel.extraWidth ≤ (tableExtra o 0 : Int) := (tb_extraWidth_skel o o.skel rfl rfl 0 rfl).2
    refine ⟨([] : List Int).sum + o.skel.extraWidth, (o.skel.renderBody cfg.fl cfg.cw []).flatMap (bodyLineSegs []), by simpa using hex,
      rfl, ?_⟩
    rw [renderBody_nil cfg.fl cfg.cw o.skel rfl]
    refine tb_lines_flatMap cfg.cw _ _ _ fun l hl => ?_
    -- a line of this body is the top or the bottom edge of a box that is drawn with its edge: two corner characters
    cases hb : o.skel.box with
    | none => simp [hb] at hl
    | some b =>
      cases he : o.skel.showEdge with
      | false => simp [hb, he] at hl
      | true =>
        have hnl : cfg.cw '\n' = 0 := by rw [hcw]; exact cwD_nl
        obtain ⟨⟨tl, _, _, tr⟩, _, _, _, _, _, _, ⟨bl, _, _, br⟩⟩ := tb_boxOf_wf cfg.cw hcw o b hb
        have hw2 : 2 ≤ tableExtra o 0 := by
          have h1 : o.box.isSome = true := by
            cases hob : o.box with
            | none => rw [show o.skel.box = o.box.bind boxOf from rfl, hob] at hb; cases hb
            | some _ => rfl
          have he' : o.showEdge = true := he
          simp [tableExtra, h1, he']
        simp only [hb, he, if_true, List.mem_append, List.mem_singleton] at hl
        rcases hl with rfl | rfl
        · obtain ⟨line, h1, h2, h3⟩ := nil_edge cfg.cw hnl b.top tl tr .top (Or.inl rfl)
          exact ⟨line, h1, h2, by omega⟩
        · obtain ⟨line, h1, h2, h3⟩ := nil_edge cfg.cw hnl b.bottom bl br .bottom (Or.inr rfl)
          exact ⟨line, h1, h2, by omega⟩

/-- **A table without columns** (`Table()`, any options): whatever the flags, the output is the poison (the as-found code asserts in
`ratio_distribute`), or it is the title, a body and the caption where the body consists of at most the top and the bottom edge —
two corner characters each — as complete lines. -/
theorem tableConsole_nil_decomp (cfg : Cfg) (hcw : cfg.cw = cwD) (o : TableOpts) (opts : Opts) (w : Nat)
    (hw : tableExtra o 0 ≤ w) :
    tableConsole cfg o opts [] w = cfg.poison ∨
    ∃ (tw : Int) (body : List Seg), tw ≤ (w : Int) ∧
      tableConsole cfg o opts [] w =
        annotation cfg o.title o.titleJustify opts tw ++ body ++ annotation cfg o.caption o.captionJustify opts tw ∧
      (∀ l ∈ splitLines body, lineLength cfg.cw l ≤ w) ∧ Closed body := by
  rcases tableConsole_nil_any cfg hcw o opts w with h | ⟨tw, body, h1, h2, h3, h4⟩
  · exact Or.inl h
  · exact Or.inr ⟨tw, body, by omega, h2, fun l hl => Nat.le_trans (h3 l hl) hw, h4⟩

end RichModel.Layout
