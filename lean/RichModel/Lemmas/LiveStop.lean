import RichModel.Lemmas.LiveStep
/-!
`stop` in a well-formed history, as its last operation or between two sessions: the two flushes of the redirected
streams, last refresh (rendered `visible`), line feed, cursor shown, and — for a transient display — the frame erased
again; and `BufOk` (no text is pending in a stream that is not redirected), which every operation keeps.
-/
namespace RichModel.Live
open RichModel RichModel.Screen

theorem shown_cleanup (cfg : Cfg) (st : St) : shown cfg (cleanup st) = shown cfg st := by
  rw [cleanup, disableRedirect_eq]; rfl

theorem cleanup_shape (st : St) : (cleanup st).shape = st.shape := by
  rw [cleanup, disableRedirect_eq]

theorem stopSt_eq (cfg : Cfg) (st : St) : stopSt cfg st =
    { st with
      started := false
      overflow0 := if cfg.kind = .progress then st.overflow0 else st.overflow
      overflow := if cfg.kind = .progress then st.overflow else .visible } := by
  unfold stopSt; cases cfg.kind <;> rfl

theorem stopSt_idem (cfg : Cfg) (st : St) : stopSt cfg { st with started := false } = stopSt cfg st := by
  unfold stopSt; cases cfg.kind <;> rfl

theorem flushLive_clean (cfg : Cfg) (fails : Nat → Bool) (st : St) (err : Bool) (h : getBuf st err = []) :
    flushLive cfg fails st err = { st := st } := by
  simp [flushLive, h]

theorem flushDead_clean (cfg : Cfg) (fails : Nat → Bool) (st : St) (err : Bool) (h : getBuf st err = []) :
    flushDead cfg fails st err = { st := st } := by
  simp [flushDead, h]

theorem dropFlush_clean (cfg : Cfg) (fails : Nat → Bool) (st : St) (h1 : st.bufOut = []) (h2 : st.bufErr = []) :
    dropFlush cfg fails st = { st := st } := by
  have e1 : flushDead cfg fails st false = { st := st } := flushDead_clean cfg fails st false (by simpa [getBuf] using h1)
  have e2 : flushDead cfg fails st true = { st := st } := flushDead_clean cfg fails st true (by simpa [getBuf] using h2)
  simp [dropFlush, e1, e2]

theorem finOut_nil (cfg : Cfg) (ha : cfg.ansi = true) : finOut cfg [] = [.showCursor] := by
  unfold finOut showOp; cases cfg.kind <;> simp [ha]

/-- No text is pending in a stream that is not redirected. -/
def BufOk (st : St) : Prop := ∀ e, proxied st e = false → getBuf st e = []

/-- One flush of the repaired `stop`: pending text of stream `e` is printed like any other line, above the display. -/
theorem flush_displayed {cfg : Cfg} (hc : cfg.plain = true) (hH : 1 ≤ cfg.height) (st : St) (e : Bool) (hh : st.hooks > 0)
    {P : List Line} {F : Frame} {s : Screen} (h : Displayed cfg P F st.shape s) (hb : BufOk st)
    (hfit : (pend st e).isEmpty = false → (shown cfg (flushLive cfg noFault st e).st).length ≤ cfg.height) :
    (flushLive cfg noFault st e).err = none ∧
      getBuf (flushLive cfg noFault st e).st e = [] ∧ getBuf (flushLive cfg noFault st e).st (!e) = getBuf st (!e) ∧
      ∃ s' F', Run cfg.height P.length s (flushLive cfg noFault st e).out s' ∧
        Displayed cfg (P ++ pend st e) F' (flushLive cfg noFault st e).st.shape s' := by
  by_cases hp : (proxied st e && !(getBuf st e).isEmpty) = true
  · have hres := hooked_noFault cfg st [getBuf st e]
    have efl : flushLive cfg noFault st e =
        { hooked cfg noFault st [getBuf st e] with st := setBuf (hooked cfg noFault st [getBuf st e]).st e [] } := by
      simp only [flushLive, hp, if_true, doPrint_plain hc, hh]
      rw [hres.err]
    have hpend : pend st e = [getBuf st e] := by simp [pend, hp]
    rw [efl] at hfit ⊢
    rw [setBuf_eq] at hfit
    obtain ⟨s', hrun, hss⟩ := displayed_hooked h hres (hfit (by rw [hpend]; rfl)) hH
    exact ⟨hres.err, getBuf_setBuf_same _ _ _,
      (getBuf_setBuf_other _ _ _).trans (getBuf_of_bufs ⟨hres.bufOut, hres.bufErr⟩ _),
      s', _, hrun, by rw [setBuf_eq, hpend]; exact hss⟩
  · have efl : flushLive cfg noFault st e = { st := st } := by simp [flushLive, hp]
    have hpend : pend st e = [] := by simp [pend, hp]
    rw [efl, hpend, List.append_nil]
    refine ⟨rfl, ?_, rfl, s, F, Run.nil _ _ _, h⟩
    cases hpr : proxied st e with
    | false => exact hb e hpr
    | true => simpa [hpr] using hp

theorem stop_tail_landing {cfg : Cfg} (hH : 1 ≤ cfg.height) {x : St} {r : Res} {P : List Line} {F : Frame} {s : Screen}
    (hss : Displayed cfg P F x.shape s) (hres : HookedRes cfg x [] r)
    (hfit : cfg.transient = true → restoreCount cfg.blankFix (shown cfg r.st).length + 1 ≤ cfg.height) :
    ∃ s' m, Run cfg.height P.length s
        (r.out ++ [TermOp.lf, TermOp.showCursor] ++
          if cfg.transient = true then restoreCursor cfg.blankFix r.st.shape else []) s' ∧
      OnRow s' ((P ++ leftBy cfg (shown cfg r.st)).map (cells cfg.cw)) [] m ∧ m + 1 ≤ cfg.height := by
  obtain ⟨s1, k1, hrun1, hs1, hk1⟩ := hooked_screen hss hres
  rw [List.append_nil] at hs1
  obtain ⟨⟨w, n⟩, hshape⟩ := Option.isSome_iff_exists.1 hres.isSome
  have hn := hres.shape
  rw [hshape] at hn
  cases (hn : n = _)
  obtain ⟨s', m, hrun2, hb, hm⟩ := run_stopTail (H := cfg.height) cfg w hs1 (by rwa [region_map_length])
    hH (by rwa [List.length_map])
  rw [List.length_map, List.length_map, ← hshape] at hrun2
  have hrun := Run.append hrun1 hrun2
  rw [← List.append_assoc] at hrun
  exact ⟨s', m, hrun, by rw [List.map_append, leftBy_map]; exact hb, hm⟩

/-- Where an effective `stop` of the repaired code lands.  On the screen `s'`: what was pending in the redirected
streams has been printed above the display, the last frame drawn, and the cursor is on the first of `m + 1` blank
rows right below the finished output — printed lines, pending lines, what the display leaves (`leftBy`) — all within
the screen.  In the state: not started, no hook, no pending text, and no recorded shape if `stop` resets it. -/
structure StopLands (cfg : Cfg) (st : St) (v : View) (s s' : Screen) (m : Nat) : Prop where
  run : Run cfg.height v.printed.length s (doStop cfg noFault st).out s'
  row : OnRow s' ((v.printed ++ pendLines cfg st ++ leftBy cfg (stopFrame cfg st)).map (cells cfg.cw)) [] m
  room : m + 1 ≤ cfg.height
  started : (doStop cfg noFault st).st.started = false
  hooks : (doStop cfg noFault st).st.hooks = 0
  shape : cfg.resetShape = true → (doStop cfg noFault st).st.shape = none
  bufOut : (doStop cfg noFault st).st.bufOut = []
  bufErr : (doStop cfg noFault st).st.bufErr = []

theorem stop_landing {cfg : Cfg} {st : St} {v : View} {s : Screen} (hc : cfg.plain = true) (hH : 1 ≤ cfg.height)
    (hflush : cfg.flushFix = true) (g : Good cfg st v s) (hst : st.started = true) (hbuf : BufOk st)
    (hff : flushFits cfg st = true)
    (hfit : cfg.transient = true → restoreCount cfg.blankFix (stopFrame cfg st).length + 1 ≤ cfg.height) :
    ∃ s' m, StopLands cfg st v s s' m := by
  have hh1 : st.hooks = 1 := by have := g.hooks; rwa [hst] at this
  simp only [flushFits, Bool.and_eq_true, Bool.or_eq_true, decide_eq_true_eq] at hff
  have c1 := (flushLive_ctl cfg noFault { st with started := false } false).rel
  obtain ⟨e1, b1, k1, s1, F1, hrun1, hss1⟩ := flush_displayed hc hH { st with started := false } false (by rw [hh1]; exact Nat.one_pos)
    g.displayed hbuf (fun hne => hff.1.resolve_left (by rw [show (pend st false).isEmpty = false from hne]; nofun))
  generalize hr1 : flushLive cfg noFault { st with started := false } false = r1 at c1 e1 hrun1 hss1 b1 k1 hff
  have b1' : getBuf r1.st true = getBuf st true := k1
  have hpend2 : pend r1.st true = pend st true := by
    unfold pend; rw [proxied_of_ctlEq c1, b1']; rfl
  have c2 := (flushLive_ctl cfg noFault r1.st true).rel
  have hbuf1 : BufOk r1.st := fun e he => by
    cases e
    · exact b1
    · rw [b1']; exact hbuf true ((proxied_of_ctlEq c1 true).symm.trans he)
  obtain ⟨e2, b2, b2', s2, F2, hrun2, hss2⟩ := flush_displayed hc hH r1.st true (by rw [c1.hooks, hh1]; exact Nat.one_pos) hss1
    hbuf1 (fun hne => hff.2.resolve_left (by rw [hpend2] at hne; rw [hne]; nofun))
  generalize hr2 : flushLive cfg noFault r1.st true = r2 at c2 e2 hrun2 hss2 b2 b2'
  have hres := (doRefresh_noFault cfg hc (stopSt cfg r2.st)).1
    (by rw [stopSt_eq]; exact Nat.lt_of_lt_of_eq Nat.one_pos ((c2.hooks.trans c1.hooks).trans hh1).symm)
  have hframe : stopFrame cfg st = shown cfg (doRefresh cfg noFault (stopSt cfg r2.st)).st := by
    simp only [stopFrame, stopPre, hflush, if_true, hr1, hr2]
  generalize hrr : doRefresh cfg noFault (stopSt cfg r2.st) = r at hres hframe
  rw [hframe] at hfit
  obtain ⟨s', m, hrun3, hland, hm⟩ := stop_tail_landing hH (x := stopSt cfg r2.st) (r := r)
    (by rw [stopSt_eq]; exact hss2) hres hfit
  have hro : r.st.bufOut = [] := by
    rw [hres.bufOut, stopSt_eq]; exact b2'.trans b1
  have hre : r.st.bufErr = [] := by
    rw [hres.bufErr, stopSt_eq]; exact b2
  have estop : doStop cfg noFault st =
      { st := resetSt cfg (cleanup r.st),
        out := r1.out ++ r2.out ++ (r.out ++ [.lf, .showCursor] ++
          (if cfg.transient then restoreCursor cfg.blankFix r.st.shape else [])) } := by
    simp only [doStop, hst, hflush, Bool.not_true, Bool.false_eq_true, if_false, if_true, hr1, e1, hr2, e2, hrr]
    simp only [stopTail, hres.err]
    rw [dropFlush_clean cfg noFault _ hro hre]
    simp [finOut_nil cfg (plain_ansi hc), plain_terminal hc, plain_ansi hc, Cfg.quietStop, plain_disable hc, cleanup_shape]
  have hfin : (resetSt cfg (cleanup r.st)).bufOut = r.st.bufOut ∧ (resetSt cfg (cleanup r.st)).bufErr = r.st.bufErr := by
    rw [cleanup, disableRedirect_eq]
    exact ite_of (fun x : St => x.bufOut = _ ∧ x.bufErr = _) ⟨rfl, rfl⟩ ⟨rfl, rfl⟩
  -- the control fields are those `cleanup` leaves, whatever the flushes and the refresh did
  have hctl := (doStop_cleanup cfg noFault st hst true).1
  have hrow : OnRow s' ((v.printed ++ pendLines cfg st ++ leftBy cfg (stopFrame cfg st)).map (cells cfg.cw)) [] m := by
    have : v.printed ++ pendLines cfg st = v.printed ++ pend ({ st with started := false } : St) false ++ pend r1.st true := by
      simp only [pendLines, hflush, if_true, hpend2, List.append_assoc]; rfl
    rw [hframe, this]; exact hland
  refine ⟨s', m, ⟨?_, hrow, hm, hctl.started.trans (by rw [cleanup, disableRedirect_eq]),
    hctl.hooks.trans (congrArg (· - 1) hh1), fun hr => ?_, ?_, ?_⟩⟩ <;> rw [estop]
  · exact Run.append (Run.append hrun1 (hrun2.weaken (length_le_append _ _))) (hrun3.weaken (Nat.le_trans (length_le_append _ _) (length_le_append _ _)))
  · unfold resetSt; simp [hr]
  · rw [hfin.1, hro]
  · rw [hfin.2, hre]

/-- An effective `stop` of the repaired code re-establishes the invariant: a later `start` begins afresh. -/
theorem good_stop {cfg : Cfg} {st : St} {v : View} {s : Screen} (hc : cfg.plain = true) (hH : 1 ≤ cfg.height)
    (hflush : cfg.flushFix = true) (hreset : cfg.resetShape = true) (g : Good cfg st v s) (hbuf : BufOk st)
    (hff : st.started = true → flushFits cfg st = true)
    (hfit : st.started = true → cfg.transient = true →
      restoreCount cfg.blankFix (stopFrame cfg st).length + 1 ≤ cfg.height) :
    ∃ s', Run cfg.height v.printed.length s (doStop cfg noFault st).out s' ∧
      Good cfg (doStop cfg noFault st).st (viewStopM cfg st v) s' ∧ BufOk (doStop cfg noFault st).st := by
  by_cases hst : st.started = true
  · obtain ⟨s', m, h⟩ := stop_landing hc hH hflush g hst hbuf (hff hst) (hfit hst)
    have hm := h.room
    refine ⟨s', h.run, ⟨⟨m, ?_, ?_⟩, ?_, ?_, ?_⟩, ?_⟩
    · simp only [viewStopM, hst, if_true]; exact shown_nil_iff.2 h.row
    · simp only [viewStopM, hst, if_true, region]; simp; omega
    · simp only [viewStopM, hst, if_true]; rw [h.shape hreset]; rfl
    · rw [h.started, h.hooks]; rfl
    · intro _; simp only [viewStopM, hst, if_true]; exact ⟨trivial, h.shape hreset⟩
    · intro e _; cases e <;> simp [getBuf, h.bufOut, h.bufErr]
  · have hst' : st.started = false := by simpa using hst
    rw [doStop_idle hst']
    refine ⟨s, Run.nil _ _ _, ?_, hbuf⟩
    simp only [viewStopM, hst', Bool.false_eq_true, if_false]
    exact g

theorem leftBy_rows (cfg : Cfg) (F : Frame) :
    ∃ i, leftBy cfg F = (if cfg.transient then [] else F) ++ List.replicate i [] := by
  unfold leftBy
  cases cfg.transient
  · cases F
    · exact ⟨1, rfl⟩
    · exact ⟨0, (List.append_nil _).symm⟩
  · show ∃ i, (if (F.isEmpty && !cfg.blankFix) = true then [[]] else []) = [] ++ List.replicate i []
    exact ite_of (fun x : List Line => ∃ i, x = [] ++ List.replicate i []) ⟨1, rfl⟩ ⟨0, rfl⟩

theorem stop_rows {cfg : Cfg} {st : St} {v : View} {s : Screen} (hc : cfg.plain = true) (hH : 1 ≤ cfg.height)
    (hflush : cfg.flushFix = true) (g : Good cfg st v s) (hbuf : BufOk st)
    (hff : st.started = true → flushFits cfg st = true)
    (hfit : st.started = true → cfg.transient = true →
      restoreCount cfg.blankFix (stopFrame cfg st).length + 1 ≤ cfg.height) :
    ∃ s', Run cfg.height v.printed.length s (doStop cfg noFault st).out s' ∧
      ∃ k, s'.rows = ((viewStop cfg st v).printed ++ (viewStop cfg st v).frame).map (cells cfg.cw) ++ List.replicate k [] := by
  have hcnil : cells cfg.cw [] = [] := rfl
  by_cases hst : st.started = true
  · obtain ⟨s', m, h⟩ := stop_landing hc hH hflush g hst hbuf (hff hst) (hfit hst)
    refine ⟨s', h.run, ?_⟩
    obtain ⟨i, hi⟩ := leftBy_rows cfg (stopFrame cfg st)
    simp only [viewStop, hst, if_true]
    rw [h.row.rows, hi]
    exact ⟨i + (m + 1), by simp [hcnil, ← List.replicate_append_replicate, List.replicate_succ]⟩
  · have hst' : st.started = false := by simpa using hst
    rw [doStop_idle hst']
    refine ⟨s, Run.nil _ _ _, ?_⟩
    simp only [viewStop, hst', Bool.false_eq_true, if_false]
    exact g.rows

theorem BufOk.of_edits {a b : St} (h : BufOk b) (hd : Edits a b) : BufOk a := by
  intro e he
  rw [proxied_of_ctlEq hd.ctl e] at he
  rw [hd.pend e he]
  exact h e he

theorem bufOk_enableRedirect {cfg : Cfg} {st : St} (h : BufOk st) :
    BufOk { enableRedirect cfg st with started := true, hooks := st.hooks + 1 } := by
  rw [enableRedirect_eq]
  intro e
  cases e
  · show decide ((if cfg.rOut then st.stdoutDepth + 1 else st.stdoutDepth) > 0) = false →
      (if cfg.rOut then [] else st.bufOut) = []
    cases cfg.rOut
    · exact h false
    · exact fun _ => rfl
  · show decide ((if cfg.rErr then st.stderrDepth + 1 else st.stderrDepth) > 0) = false →
      (if cfg.rErr then [] else st.bufErr) = []
    cases cfg.rErr
    · exact h true
    · exact fun _ => rfl

theorem bufOk_step (cfg : Cfg) (fails : Nat → Bool) (st : St) (op : Op) (hne : op ≠ .stop)
    (herr : (step cfg fails st op).err = none) (h : BufOk st) : BufOk (step cfg fails st op).st := by
  by_cases hs : op = .start
  · subst hs
    by_cases hst : st.started = true
    · rw [step, doStart_started hst]; exact h
    · obtain ⟨a, _, _, e⟩ := doStart_asks (by simpa using hst) herr
      rw [step, e]
      exact (bufOk_enableRedirect (cfg := cfg) h).of_edits (a.res_renders cfg fails _).rel.edits
  · exact h.of_edits (step_edits cfg fails st op hs hne).1

end RichModel.Live
