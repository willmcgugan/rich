import RichModel.Lemmas.AnsiTables
import RichModel.Lemmas.Style
import RichModel.Lemmas.Lines
/-!
The SGR half of the round trip (property C19): the parameter list `_make_ansi_codes` writes for a
truecolor terminal, read back by `sgrCodes` / `applyCodes`.  `Sets`: what the decoder's loop over the parameters does
to its running style on a prefix of them, whatever follows — closed under append; here for the attribute parameters.
-/
namespace RichModel
namespace Ansi
open AsciiStr Style

/-- parameter texts with the numbers they denote (`Items` below, without omitted parameters) -/
def ParamTexts (ps : List (List Char × Nat)) : Prop := ∀ p ∈ ps, paramOk p.1 p.2 = true

/-- what `paramOk c n` says, by name -/
structure ParamFacts (c : List Char) (n : Nat) : Prop where
  digit : strIsDigit c = true
  noSemi : ∀ x ∈ c, x ≠ ';'
  int : pyIntDigits c = some n
  le : n ≤ 255
  ascii : ∀ x ∈ c, 48 ≤ x.toNat ∧ x.toNat ≤ 57

theorem paramOk_unpack {c : List Char} {n : Nat} (h : paramOk c n = true) : ParamFacts c n := by
  simp only [paramOk, Bool.and_eq_true, List.all_eq_true, bne_iff_ne, ne_eq, beq_iff_eq, decide_eq_true_eq] at h
  obtain ⟨⟨⟨⟨h1, h2⟩, h3⟩, h4⟩, h5⟩ := h
  exact ⟨h1, fun x hx => (h2 x hx).1.1.1.1, h3, h4, h5⟩

/-- `s.split(sep)` and `sep.join(parts)` are the general split and join (Lemmas/Lines.lean) at `sep`; the loop keeps its
piece in order, so what it has collected goes in front of the first piece as it is -/
theorem splitOnAux_eq (sep : Char) (s cur : List Char) :
    splitOnAux sep s cur = (Lines.split (· == sep) s).modifyHead (cur ++ ·) := by
  induction s generalizing cur with
  | nil => simp [splitOnAux]
  | cons c s ih =>
    by_cases hc : c = sep
    · rw [splitOnAux, if_pos hc, ih, Lines.split_cons_sep (by simpa using hc)]; cases Lines.split (· == sep) s <;> simp
    · rw [splitOnAux, if_neg hc, ih, Lines.split_cons_free (by simpa using hc)]; cases Lines.split (· == sep) s <;> simp

theorem splitOn_eq (sep : Char) (s : List Char) : splitOn sep s = Lines.split (· == sep) s := by
  rw [splitOn, splitOnAux_eq]; cases Lines.split (· == sep) s <;> simp

theorem joinWith_eq (sep : Char) (ws : List (List Char)) : joinWith sep ws = Lines.join sep ws := by
  fun_induction joinWith sep ws <;> simp_all [Lines.join]

theorem splitOn_joinWith (sep : Char) (ws : List (List Char)) (hne : ws ≠ [])
    (h : ∀ w ∈ ws, ∀ c ∈ w, c ≠ sep) : splitOn sep (joinWith sep ws) = ws := by
  rw [splitOn_eq, joinWith_eq]
  exact Lines.split_join (by simp) hne fun w hw c hc => beq_false_of_ne (h w hw c hc)

theorem mem_joinWith {sep : Char} {ws : List (List Char)} {c : Char} (hc : c ∈ joinWith sep ws) :
    c = sep ∨ ∃ w ∈ ws, c ∈ w :=
  Lines.mem_join (joinWith_eq sep ws ▸ hc)

theorem joinWith_eq_nil {sep : Char} {ws : List (List Char)} (h : joinWith sep ws = []) (hne : ∀ w ∈ ws, w ≠ []) :
    ws = [] :=
  Lines.join_eq_nil (joinWith_eq sep ws ▸ h) hne

/-- Parameter texts with the numbers they denote, an omitted parameter counting as 0 where the variant reads it so. -/
def Items (cfg : Cfg) (ps : List (List Char × Nat)) : Prop :=
  ∀ p ∈ ps, paramOk p.1 p.2 = true ∨ (cfg.emptyIgnored = false ∧ p = ([], 0))

theorem codesLoop_items (cfg : Cfg) (ps : List (List Char × Nat)) (h : Items cfg ps) :
    codesLoop cfg (ps.map (·.1)) = .ok (ps.map (·.2)) := by
  induction ps with
  | nil => rfl
  | cons p r ih =>
    have ihr := ih (fun x hx => h x (by simp [hx]))
    rcases h p (by simp) with hp | ⟨he, rfl⟩
    · obtain ⟨h1, _, h3, h4, _⟩ := paramOk_unpack hp
      have hne : p.1.isEmpty = false := by
        simp only [strIsDigit, Bool.and_eq_true, Bool.not_eq_true'] at h1; exact h1.1
      simp [codesLoop, hne, h1, h3, ihr, Except.map, Nat.min_eq_right h4]
    · simp [codesLoop, he, ihr, Except.map]

theorem sgrCodes_items (cfg : Cfg) (ps : List (List Char × Nat)) (h : Items cfg ps) (hne : ps ≠ []) :
    sgrCodes cfg (joinWith ';' (ps.map (·.1))) = .ok (ps.map (·.2)) := by
  unfold sgrCodes
  rw [splitOn_joinWith ';' _ (by simpa using hne)]
  · exact codesLoop_items cfg ps h
  · intro w hw c hc
    simp only [List.mem_map] at hw
    obtain ⟨p, hp, rfl⟩ := hw
    rcases h p hp with hp | ⟨_, rfl⟩
    · exact (paramOk_unpack hp).noSemi c hc
    · cases hc

theorem sgrCodes_paramTexts (cfg : Cfg) (ps : List (List Char × Nat)) (h : ParamTexts ps) (hne : ps ≠ []) :
    sgrCodes cfg (joinWith ';' (ps.map (·.1))) = .ok (ps.map (·.2)) :=
  sgrCodes_items cfg ps (fun p hp => Or.inl (h p hp)) hne

theorem paramTexts_of_lt (l : List Nat) (h : ∀ n ∈ l, n < 256) : ParamTexts (l.map fun n => (natStr n, n)) := by
  intro p hp
  simp only [List.mem_map] at hp
  obtain ⟨n, hn, rfl⟩ := hp
  exact natStr_paramOk (h n hn)

theorem sgrCodes_natStr (cfg : Cfg) (nums : List Nat) (h : ∀ n ∈ nums, n < 256) (hne : nums ≠ []) :
    sgrCodes cfg (joinWith ';' (nums.map natStr)) = .ok nums := by
  have := sgrCodes_paramTexts cfg _ (paramTexts_of_lt nums h) (by simpa using hne)
  simpa [List.map_map, Function.comp_def] using this

theorem paramTexts_body_ok (ps : List (List Char × Nat)) (h : ParamTexts ps) :
    ∀ c ∈ joinWith ';' (ps.map (·.1)), isSgrParam c = true := by
  intro c hc
  rcases mem_joinWith hc with rfl | ⟨w, hw, hcw⟩
  · decide
  · obtain ⟨p, hp, rfl⟩ := List.mem_map.mp hw
    simp [isSgrParam, (paramOk_unpack (h p hp)).ascii c hcw]

theorem paramTexts_nonempty (ps : List (List Char × Nat)) (h : ParamTexts ps) : ∀ w ∈ ps.map (·.1), w ≠ [] := by
  intro w hw
  simp only [List.mem_map] at hw
  obtain ⟨p, hp, rfl⟩ := hw
  have := (paramOk_unpack (h p hp)).digit
  intro he
  simp [strIsDigit, he] at this

/-- Reading the parameters `codes`, whatever follows them, makes the decoder's loop add the style `b` to its running style. -/
def Adds (cfg : Cfg) (codes : List Nat) (b : Style) : Prop :=
  ∀ st r, applyCodes cfg st (codes ++ r) 0 = applyCodes cfg (Style.add cfg.sv st b) r 0

theorem Adds.run {cfg : Cfg} {codes : List Nat} {b : Style} (h : Adds cfg codes b) (st : Style) :
    applyCodes cfg st codes 0 = (Style.add cfg.sv st b, none) := by
  simpa [applyCodes] using h st []

/-- (24 / 25 are left out: their rows come from the variant flag, not from the table.) -/
theorem applyCodes_row (cfg : Cfg) {k : Nat} {F : Fields} (hk : k ≠ 0 ∧ k ≠ 24 ∧ k ≠ 25)
    (h : parsedFields cfg.sv k = some F) : ∃ b, fieldsOf b = F ∧ Adds cfg [k] b := by
  unfold parsedFields at h
  split at h
  · rename_i d hd
    split at h
    · rename_i b hb
      have hv : sgrLookupV cfg k = some d := by simp [sgrLookupV, hk.2.1, hk.2.2, hd]
      exact ⟨b, Option.some.inj h, fun st r => by simp [applyCodes, hk.1, hv, hb]⟩
    · cases h
  · cases h

theorem applyCodes_skip (cfg : Cfg) (st : Style) (p r : List Nat) :
    applyCodes cfg st (p ++ r) p.length = applyCodes cfg st r 0 := by
  induction p with
  | nil => rfl
  | cons c q ih => simpa [applyCodes] using ih

/-- What the decoder knows about a style that it is adding: a non-null style with `Inv` and no link. -/
structure Addend (b : Style) : Prop where
  inv : Inv b
  notNull : b.isNull = false
  noLink : b.link = none

/-- one attribute the encoder writes: its bit, the parameter text `_style_map` has for it, the number that text denotes -/
structure BitCode where
  bit : Nat
  text : List Char
  num : Nat

/-- What the table obligations say of one attribute: the text is a well-formed parameter for `num`, and the decoder's row
`num` (not one of those the loop or the variant flag handles) sets exactly that attribute. -/
structure BitItem (v : StyleVariant) (x : BitCode) : Prop where
  lt : x.bit < 13
  code : styleMapCode x.bit = some x.text
  param : paramOk x.text x.num = true
  plain : x.num ≠ 0 ∧ x.num ≠ 24 ∧ x.num ≠ 25
  row : parsedFields v x.num = some ⟨none, none, 2 ^ x.bit, 2 ^ x.bit, none, false⟩

theorem bitItem_of_table {i : Nat} (hi : i < 13) : ∃ c k, BitItem StyleVariant.fixed ⟨i, c, k⟩ := by
  have hb := tablesOk_unpack.bits i hi
  unfold bitOk at hb
  split at hb
  · rename_i c hc
    split at hb
    · rename_i k hk
      simp only [Bool.and_eq_true, decide_eq_true_eq, beq_iff_eq] at hb
      exact ⟨c, k, hi, hc, hb.1.1, hb.1.2, hb.2⟩
    · cases hb
  · cases hb

theorem bitCodes_spec (A : Nat) (bits : List Nat) (hb : ∀ i ∈ bits, i < 13) :
    ∃ bs : List BitCode, bitCodes A bits = .ok (bs.map (·.text)) ∧
      (∀ x ∈ bs, BitItem StyleVariant.fixed x) ∧
      bs.map (·.bit) = bits.filter (A.testBit ·) := by
  induction bits with
  | nil => exact ⟨[], rfl, by simp, rfl⟩
  | cons i r ih =>
    obtain ⟨bs, h1, h2, h3⟩ := ih (fun j hj => hb j (by simp [hj]))
    by_cases ht : A.testBit i = true
    · obtain ⟨c, k, hitem⟩ := bitItem_of_table (hb i (by simp))
      refine ⟨⟨i, c, k⟩ :: bs, ?_, ?_, ?_⟩
      · simp only [bitCodes, bitCode, ht, if_true, hitem.code, h1, Except.map, List.map_cons]
        rfl
      · intro x hx
        rcases List.mem_cons.mp hx with rfl | hx
        · exact hitem
        · exact h2 x hx
      · simp [List.filter, ht, h3]
    · refine ⟨bs, ?_, h2, ?_⟩
      · simp only [bitCodes, bitCode, ht, Bool.false_eq_true, if_false, h1, Except.map]
        simp
      · simp [List.filter, ht, h3]

theorem bitCodes_off (A : Nat) (bits : List Nat) (h : ∀ i ∈ bits, A.testBit i = false) : bitCodes A bits = .ok [] := by
  induction bits with
  | nil => rfl
  | cons i r ih => simp [bitCodes, bitCode, h i (by simp), ih (fun j hj => h j (by simp [hj])), Except.map]

theorem bitCodes_append (A : Nat) (x y : List Nat) :
    bitCodes A (x ++ y) =
      match bitCodes A x with
      | .error e => .error e
      | .ok c => (bitCodes A y).map (c ++ ·) := by
  induction x with
  | nil => cases h : bitCodes A y <;> simp [bitCodes, Except.map, h]
  | cons i r ih =>
    simp only [List.cons_append, bitCodes, ih]
    cases bitCode A i with
    | error e => rfl
    | ok c => cases bitCodes A r <;> cases bitCodes A y <;> simp [Except.map]

theorem bitCodes_guard {A m : Nat} (bits : List Nat) (hm : ∀ i ∈ bits, m.testBit i = true) :
    (if A &&& m ≠ 0 then bitCodes A bits else .ok []) = bitCodes A bits :=
  mask_guard fun h => bitCodes_off A bits fun i hi => h i (hm i hi)

/-- The guards of `_make_ansi_codes` change nothing.  (C03's model of the function: `AnsiRender.attrCodes_eq`.) -/
theorem attrCodes_eq (A : Nat) : attrCodes A = bitCodes A (List.range 13) := by
  have hr : List.range 13 = [0, 1, 2, 3] ++ ([4, 5, 6, 7, 8] ++ [9, 10, 11, 12]) := by decide
  by_cases hA : A = 0
  · subst hA
    exact (bitCodes_off 0 _ fun i _ => Nat.zero_testBit i).symm
  · rw [hr, bitCodes_append, bitCodes_append]
    simp only [attrCodes, hA, ne_eq, not_false_eq_true, if_true]
    rw [bitCodes_guard [4, 5, 6, 7, 8] (by decide), bitCodes_guard [9, 10, 11, 12] (by decide)]
    cases bitCodes A [0, 1, 2, 3] <;> cases bitCodes A [4, 5, 6, 7, 8] <;> cases bitCodes A [9, 10, 11, 12] <;>
      simp [Except.map]

theorem attrCodes_spec (A : Nat) :
    ∃ bs : List BitCode, attrCodes A = .ok (bs.map (·.text)) ∧
      (∀ x ∈ bs, BitItem StyleVariant.fixed x) ∧
      bs.map (·.bit) = (List.range 13).filter (A.testBit ·) := by
  rw [attrCodes_eq]
  exact bitCodes_spec A (List.range 13) fun i hi => List.mem_range.mp hi

theorem bitStyle_facts {b : Style} {i : Nat} (hi : i < 13)
    (hf : fieldsOf b = ⟨none, none, 2 ^ i, 2 ^ i, none, false⟩) :
    Addend b ∧ b.color = none ∧ b.bgcolor = none ∧ ∀ j, b.attr j = if j = i then some true else none := by
  simp only [fieldsOf, Fields.mk.injEq] at hf
  obtain ⟨hc, hg, ha, hs, hl, hn⟩ := hf
  refine ⟨⟨⟨?_, ?_, ?_⟩, hn, hl⟩, hc, hg, ?_⟩
  · rw [ha, hs, Nat.and_self]
  · rw [hs]; exact Nat.pow_lt_pow_right (by decide) hi
  · intro h; rw [hn] at h; cases h
  · intro j
    simp only [attr, ha, hs, Nat.testBit_two_pow]
    by_cases hji : j = i
    · subst hji; simp
    · have : ¬ i = j := fun h => hji h.symm
      simp [hji, this]

/-- `st'` is `st` with the layer `(a, c, g)` put over it: attribute `j` is `a j` where that is set, the colours are `c`, `g`
where they are set; the link is that of `st`.  What adding styles without link to `st` comes to. -/
structure Over (a : Nat → Option Bool) (c g : Option Color) (st st' : Style) : Prop where
  inv : Inv st'
  attr : ∀ j, st'.attr j = (a j).or (st.attr j)
  color : st'.color = c.or st.color
  bgcolor : st'.bgcolor = g.or st.bgcolor
  link : linkVal st'.link = linkVal st.link

theorem Over.add (v : StyleVariant) {st b : Style} (hs : Inv st) (hb : Addend b) :
    Over b.attr b.color b.bgcolor st (Style.add v st b) :=
  ⟨inv_add v hs hb.inv, attr_add v hs hb.inv, (color_add v hs hb.inv).1, (color_add v hs hb.inv).2, by
    rw [link_add v hs hb.inv, hb.noLink]
    simp [strTruthy]⟩

/-- Reading the parameters `codes`, whatever follows them, puts the layer `(a, c, g)` over the decoder's running style. -/
def Sets (cfg : Cfg) (codes : List Nat) (a : Nat → Option Bool) (c g : Option Color) : Prop :=
  ∀ st r, Style.Inv st → ∃ st', applyCodes cfg st (codes ++ r) 0 = applyCodes cfg st' r 0 ∧ Over a c g st st'

section
variable {cfg : Cfg} {a a1 a2 : Nat → Option Bool} {c c1 c2 g g1 g2 : Option Color} {k1 k2 : List Nat}

theorem Sets.nil : Sets cfg [] (fun _ => none) none none :=
  fun st _ hs => ⟨st, rfl, hs, fun _ => rfl, rfl, rfl, rfl⟩

theorem Sets.run (h : Sets cfg k1 a c g) {st : Style} (hs : Inv st) :
    ∃ st', applyCodes cfg st k1 0 = (st', none) ∧ Over a c g st st' := by
  simpa [applyCodes] using h st [] hs

theorem Sets.append (h1 : Sets cfg k1 a1 c1 g1) (h2 : Sets cfg k2 a2 c2 g2) (ha : ∀ j, a j = (a2 j).or (a1 j))
    (hc : c = c2.or c1) (hg : g = g2.or g1) : Sets cfg (k1 ++ k2) a c g := by
  intro st r hs
  obtain ⟨s1, e1, o1⟩ := h1 st (k2 ++ r) hs
  obtain ⟨s2, e2, o2⟩ := h2 s1 r o1.inv
  refine ⟨s2, by rw [List.append_assoc, e1, e2], o2.inv, fun j => ?_, ?_, ?_, o2.link.trans o1.link⟩
  · rw [o2.attr, o1.attr, ha, Option.or_assoc]
  · rw [o2.color, o1.color, hc, Option.or_assoc]
  · rw [o2.bgcolor, o1.bgcolor, hg, Option.or_assoc]

theorem Sets.of_add {b : Style} (hb : Addend b) (h : Adds cfg k1 b) : Sets cfg k1 b.attr b.color b.bgcolor :=
  fun st r hs => ⟨_, h st r, Over.add cfg.sv hs hb⟩

end

theorem Sets.bits (cfg : Cfg) (bs : List BitCode) (hbs : ∀ x ∈ bs, BitItem cfg.sv x) :
    Sets cfg (bs.map (·.num)) (fun j => if j ∈ bs.map (·.bit) then some true else none) none none := by
  induction bs with
  | nil => simpa using Sets.nil
  | cons x rest ih =>
    have hx := hbs x (by simp)
    obtain ⟨b, hfb, happ⟩ := applyCodes_row cfg hx.plain hx.row
    obtain ⟨hadd, hbc, hbg, hattr⟩ := bitStyle_facts hx.lt hfb
    refine Sets.append (k1 := [x.num]) (Sets.of_add hadd happ)
      (ih fun y hy => hbs y (by simp [hy])) (fun j => ?_) (by rw [hbc]; rfl) (by rw [hbg]; rfl)
    rw [hattr]
    by_cases h2 : j = x.bit
    · rw [if_pos h2, if_pos (by simp [h2])]
      split <;> rfl
    · simp only [List.map_cons, List.mem_cons, h2, false_or, if_false, Option.or_none]

theorem Sets.attrs (cfg : Cfg) {A : Nat} (hA : A < 8192) :
    ∃ ps : List (List Char × Nat), attrCodes A = .ok (ps.map (·.1)) ∧ ParamTexts ps ∧
      Sets cfg (ps.map (·.2)) (fun j => if A.testBit j then some true else none) none none := by
  obtain ⟨bs, hb1, hb2, hb3⟩ := attrCodes_spec A
  have hmem : ∀ j, j ∈ bs.map (·.bit) ↔ A.testBit j = true := by
    intro j
    rw [hb3, List.mem_filter, List.mem_range, and_iff_right_of_imp]
    intro h
    apply Nat.lt_of_not_le
    intro hj
    rw [testBit_false_of_lt_8192 hA hj] at h
    cases h
  refine ⟨bs.map fun x => (x.text, x.num), by simpa [List.map_map, Function.comp_def] using hb1, fun p hp => ?_, ?_⟩
  · obtain ⟨x, hx, rfl⟩ := List.mem_map.mp hp
    exact (hb2 x hx).param
  · simpa [List.map_map, Function.comp_def, hmem] using Sets.bits cfg bs hb2

end Ansi
end RichModel
