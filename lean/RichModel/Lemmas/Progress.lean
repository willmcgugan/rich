import RichModel.Lemmas.ProgressTask
/-!
The task table, one operation at a time: lookup; the four things an operation can do to the table
(`TableStep`) and what follows from them: preservation of per-task invariants (`body_forall`), the frame
lemma (`step_lookup`), well-formedness, ids that are increasing and never reused.
-/
namespace RichModel.Progress

theorem lookup_some {l : List Task} {id : Nat} {t : Task} (h : lookup l id = some t) : t ∈ l ∧ t.id = id := by
  unfold lookup at h
  refine ⟨List.mem_of_find?_eq_some h, ?_⟩
  have := List.find?_some h
  simpa using this

theorem lookup_eq_none_iff {l : List Task} {id : Nat} : lookup l id = none ↔ ∀ t ∈ l, t.id ≠ id := by
  unfold lookup
  rw [List.find?_eq_none]
  exact forall₂_congr (fun _ _ => by simp)

theorem lookup_none_of_lt {l : List Task} {id n : Nat} (h : ∀ t ∈ l, t.id < n) (hn : n ≤ id) : lookup l id = none :=
  lookup_eq_none_iff.mpr (fun t ht => Nat.ne_of_lt (Nat.lt_of_lt_of_le (h t ht) hn))

theorem mem_setTask {id : Nat} {r t : Task} {l : List Task} (h : t ∈ setTask id r l) :
    t = r ∨ (t ∈ l ∧ t.id ≠ id) := by
  unfold setTask at h
  rw [List.mem_map] at h
  obtain ⟨x, hx, rfl⟩ := h
  split
  · exact Or.inl rfl
  · next hne => exact Or.inr ⟨hx, hne⟩

theorem lookup_setTask {id : Nat} {r : Task} (hr : r.id = id) (l : List Task) (id' : Nat) :
    lookup (setTask id r l) id' = (lookup l id').map (fun t => if t.id = id then r else t) := by
  unfold lookup setTask
  rw [List.find?_map]
  congr 2
  funext t
  show ((if t.id = id then r else t).id == id') = (t.id == id')
  split
  · next h => rw [hr, h]
  · rfl

theorem lookup_filter_other {id id' : Nat} {l : List Task} (hne : id' ≠ id) :
    lookup (l.filter (fun t => t.id != id)) id' = lookup l id' := by
  unfold lookup
  rw [List.find?_filter]
  congr 1
  funext t
  cases h : t.id == id'
  · exact decide_eq_false (fun hc => Bool.noConfusion hc.2)
  · exact decide_eq_true ⟨by rw [bne_iff_ne, eq_of_beq h]; exact hne, rfl⟩

theorem lookup_filter_self {id : Nat} {l : List Task} : lookup (l.filter (fun t => t.id != id)) id = none :=
  lookup_eq_none_iff.mpr (fun t ht => by simpa using (List.mem_filter.mp ht).2)

theorem lookup_append (l l' : List Task) (id : Nat) : lookup (l ++ l') id = (lookup l id).or (lookup l' id) :=
  List.find?_append

/-- well-formed: ids are below `_task_index` (so `add_task` always creates a new key) -/
def WF (st : State) : Prop := ∀ t ∈ st.tasks, t.id < st.nextId

theorem WF.lt_nextId {st : State} (hwf : WF st) {id : Nat} {t : Task} (h : lookup st.tasks id = some t) :
    id < st.nextId :=
  (lookup_some h).2 ▸ hwf t (lookup_some h).1

theorem forall_empty (P : Task → Prop) : ∀ t ∈ State.empty.tasks, P t := by intro t ht; cases ht

theorem WF_empty : WF State.empty := forall_empty _

/-- the task `add_task` creates -/
def newTask (clock : Clock) (a : AddArgs) (st : State) : Task :=
  { id := st.nextId, description := a.description, total := a.total, completed := a.completed,
    finishedTime := none, visible := a.visible, fields := a.fields,
    startTime := if a.start then some (clock st.clk) else none,
    stopTime := none, samples := [] }

/-- **The four things an operation can do to the task table**: leave it alone (the display operations, and
every operation that raises `KeyError`; `Progress.start` / `stop` flip the display flag `b`), append the new
task, remove the addressed task, or replace the addressed task by the operation's effect on it. -/
inductive TableStep (cfg : Cfg) (clock : Clock) (op : Op) (pre : Option Int) (st : State) : Res → Prop
  | same (k : Nat) (b : Bool) (err : Option Err) (hk : st.clk ≤ k)
      (hno : ∀ i, op.target = some i → lookup st.tasks i = none) :
      TableStep cfg clock op pre st ⟨⟨st.tasks, st.nextId, k, b⟩, err⟩
  | added (a : AddArgs) (k : Nat) (hop : op = .addTask a) (hk : st.clk ≤ k) :
      TableStep cfg clock op pre st ⟨⟨st.tasks ++ [newTask clock a st], st.nextId + 1, k, st.started⟩, none⟩
  | removed (i : Nat) (hop : op = .removeTask i) :
      TableStep cfg clock op pre st ⟨⟨st.tasks.filter (fun t => t.id != i), st.nextId, st.clk, st.started⟩, none⟩
  | changed (i : Nat) (x : Task) (r : Task × Nat) (htg : op.target = some i) (hl : lookup st.tasks i = some x)
      (hr : r = taskEffect cfg clock op pre (visCount (st.tasks.filter (fun t => t.id != i))) x st.clk)
      (hid : r.1.id = i) :
      TableStep cfg clock op pre st ⟨⟨setTask i r.1 st.tasks, st.nextId, r.2, st.started⟩, none⟩

theorem clkOnError_ge (clock : Clock) (op : Op) (pre : Option Int) (k : Nat) : k ≤ clkOnError clock op pre k := by
  unfold clkOnError
  split
  · exact nowOf_clk_ge clock pre k
  · exact nowOf_clk_ge clock pre k
  · exact Nat.le_refl k

theorem body_step (cfg : Cfg) (clock : Clock) (op : Op) (pre : Option Int) (st : State) :
    TableStep cfg clock op pre st (body cfg clock op pre st) := by
  cases op with
  | addTask a => exact .added a _ rfl (by split <;> omega)
  | refresh => exact .same _ _ _ (Nat.le_add_right _ _) (fun _ h => by cases h)
  | start | stop =>
    obtain ⟨ts, n, k, b⟩ := st
    cases b <;> exact .same _ _ _ (by first | exact Nat.le_refl k | exact Nat.le_add_right k _) (fun _ h => by cases h)
  | removeTask i =>
    simp only [body]
    cases hl : lookup st.tasks i with
    | none => exact .same _ _ _ (Nat.le_refl _) (fun j hj => by cases hj; exact hl)
    | some _ => exact .removed i rfl
  | startTask i | stopTask i | update i u | reset i r | advance i a =>
    dsimp only [body, Op.target]
    cases hl : lookup st.tasks i with
    | none =>
      exact .same _ _ _ (clkOnError_ge ..) (fun j hj => by cases hj; exact hl)
    | some x => exact .changed i x _ rfl hl rfl ((taskEffect_id ..).trans (lookup_some hl).2)

theorem body_clk_ge (cfg : Cfg) (clock : Clock) (op : Op) (pre : Option Int) (st : State) :
    st.clk ≤ (body cfg clock op pre st).st.clk := by
  have hs := body_step cfg clock op pre st
  generalize body cfg clock op pre st = r at hs ⊢
  cases hs with
  | same _ _ _ hk | added _ _ _ hk => exact hk
  | removed => exact Nat.le_refl _
  | changed _ _ _ _ _ hr _ => rw [hr]; exact taskEffect_clk_ge ..

/-- **Generic preservation** of a predicate on tasks, indexed by the clock counter and monotone in it, by the locked body. -/
theorem body_forall (cfg : Cfg) (clock : Clock) (op : Op) (pre : Option Int) (st : State) {P : Nat → Task → Prop}
    (hmono : ∀ {K K' t}, K ≤ K' → P K t → P K' t)
    (hnew : ∀ a K, op = .addTask a → st.clk ≤ K → P K (newTask clock a st))
    (heff : ∀ i x o, op.target = some i → lookup st.tasks i = some x → P st.clk x →
      P (taskEffect cfg clock op pre o x st.clk).2 (taskEffect cfg clock op pre o x st.clk).1)
    (h : ∀ t ∈ st.tasks, P st.clk t) :
    ∀ t ∈ (body cfg clock op pre st).st.tasks, P (body cfg clock op pre st).st.clk t := by
  have hclk := body_clk_ge cfg clock op pre st
  have hs := body_step cfg clock op pre st
  generalize body cfg clock op pre st = r at hs hclk ⊢
  intro t hm
  cases hs with
  | same => exact hmono hclk (h t hm)
  | added a _ ha =>
    rcases List.mem_append.mp hm with hm | hm
    · exact hmono hclk (h t hm)
    · rw [List.mem_singleton.mp hm]; exact hnew a _ ha hclk
  | removed => exact hmono hclk (h t (List.mem_filter.mp hm).1)
  | changed i x r htg hl hr _ =>
    rcases mem_setTask hm with rfl | ⟨hm, _⟩
    · rw [hr]; exact heff i x _ htg hl (h x (lookup_some hl).1)
    · exact hmono hclk (h t hm)

/-- sequentially it does not matter whether the clock is read before or under the lock -/
theorem step_eq_body_none (cfg : Cfg) (clock : Clock) (op : Op) (st : State) :
    step cfg clock op st = body cfg clock op none st := by
  unfold step preRead
  cases hro : op.readsOutside cfg
  · rfl
  · cases op with
    | advance i a => rfl
    | reset i r => rfl
    | _ => cases hro

/-- **Along a history.**  What is known of the operations still to come and of the state they start in holds
at the end, of no operations and the last state, if every operation hands it on to the rest. -/
theorem run_induction (cfg : Cfg) (clock : Clock) {I : List Op → State → Prop}
    (hstep : ∀ op ops st, I (op :: ops) st → I ops (step cfg clock op st).st) :
    ∀ ops st, I ops st → I [] (run cfg clock ops st) := by
  intro ops
  induction ops with
  | nil => exact fun _ h => h
  | cons op ops ih => exact fun st h => ih _ (hstep op ops st h)

theorem step_nextId_le (cfg : Cfg) (clock : Clock) (op : Op) (st : State) :
    st.nextId ≤ (step cfg clock op st).st.nextId := by
  rw [step_eq_body_none]
  have hs := body_step cfg clock op none st
  generalize body cfg clock op none st = r at hs ⊢
  cases hs <;> first | exact Nat.le_refl _ | exact Nat.le_succ _

theorem step_WF (cfg : Cfg) (clock : Clock) (op : Op) (st : State) (hwf : WF st) : WF (step cfg clock op st).st := by
  have hn := step_nextId_le cfg clock op st
  rw [step_eq_body_none] at hn ⊢
  apply body_forall cfg clock op none st (P := fun _ t => t.id < (body cfg clock op none st).st.nextId)
    (fun _ h => h) _ _ (fun t ht => Nat.lt_of_lt_of_le (hwf t ht) hn)
  · rintro a _ rfl _; exact Nat.lt_succ_self _
  · intro i x o _ _ h; rw [taskEffect_id]; exact h

theorem run_WF (cfg : Cfg) (clock : Clock) (ops : List Op) (st : State) (hwf : WF st) :
    WF (run cfg clock ops st) :=
  run_induction cfg clock (I := fun _ st => WF st) (fun op _ st => step_WF cfg clock op st) ops st hwf

/-- **Frame lemma.** After one operation, the task with id `id` is gone (it was removed), is the
effect of the operation on it (it was addressed), or is unchanged. -/
theorem step_lookup (cfg : Cfg) (clock : Clock) (op : Op) (st : State)
    (id : Nat) (t : Task) (h : lookup st.tasks id = some t) :
    (op = .removeTask id ∧ lookup (step cfg clock op st).st.tasks id = none) ∨
    (op.target = some id ∧
      lookup (step cfg clock op st).st.tasks id =
        some (taskEffect cfg clock op none (visCount (st.tasks.filter (fun x => x.id != id))) t st.clk).1 ∧
      (step cfg clock op st).err = none) ∨
    (op.target ≠ some id ∧ lookup (step cfg clock op st).st.tasks id = some t) := by
  rw [step_eq_body_none]
  have hid := lookup_some h
  have hs := body_step cfg clock op none st
  generalize body cfg clock op none st = r at hs ⊢
  cases hs with
  | same _ _ _ _ hno => exact Or.inr (Or.inr ⟨fun hc => (by rw [hno id hc] at h; cases h), h⟩)
  | added a _ hop =>
    refine Or.inr (Or.inr ⟨fun hc => (by subst hop; cases hc), ?_⟩)
    rw [lookup_append, h]; rfl
  | removed i hop =>
    by_cases hi : i = id
    · subst hi; exact Or.inl ⟨hop, lookup_filter_self⟩
    · refine Or.inr (Or.inr ⟨fun hc => hi (Option.some.inj (by subst hop; exact hc)), ?_⟩)
      rw [lookup_filter_other (Ne.symm hi), h]
  | changed i x r htg hl hr hri =>
    by_cases hi : i = id
    · subst hi
      rw [h] at hl; cases hl
      refine Or.inr (Or.inl ⟨htg, ?_, rfl⟩)
      rw [lookup_setTask hri, h, Option.map_some, if_pos hid.2, hr]
    · refine Or.inr (Or.inr ⟨fun hc => hi (Option.some.inj (htg ▸ hc)), ?_⟩)
      rw [lookup_setTask hri, h, Option.map_some, if_neg (fun hc => hi (hc.symm.trans hid.2))]

theorem step_lookup_none (cfg : Cfg) (clock : Clock) (op : Op) (st : State)
    (id : Nat) (hlt : id < st.nextId) (h : lookup st.tasks id = none) :
    lookup (step cfg clock op st).st.tasks id = none := by
  rw [step_eq_body_none, lookup_eq_none_iff] at *
  exact body_forall cfg clock op none st (P := fun _ t => t.id ≠ id) (fun _ h => h)
    (fun _ _ _ _ => Nat.ne_of_gt hlt) (fun _ _ _ _ _ h => by rw [taskEffect_id]; exact h) h

theorem step_addTask_lookup (cfg : Cfg) (clock : Clock) (st : State) (hwf : WF st) (a : AddArgs) :
    lookup (step cfg clock (.addTask a) st).st.tasks st.nextId = some (newTask clock a st) := by
  rw [step_eq_body_none]
  show lookup (st.tasks ++ [newTask clock a st]) _ = _
  rw [lookup_append, lookup_none_of_lt hwf (Nat.le_refl _)]
  exact List.find?_cons_of_pos (p := fun t : Task => t.id == st.nextId) (beq_self_eq_true st.nextId)

theorem run_lookup_none (cfg : Cfg) (clock : Clock) (ops : List Op) (st : State)
    (id : Nat) (hlt : id < st.nextId) (h : lookup st.tasks id = none) :
    lookup (run cfg clock ops st).tasks id = none ∧ id < (run cfg clock ops st).nextId :=
  run_induction cfg clock (I := fun _ st => lookup st.tasks id = none ∧ id < st.nextId)
    (fun op _ st h => ⟨step_lookup_none cfg clock op st id h.2 h.1, Nat.lt_of_lt_of_le h.2 (step_nextId_le cfg clock op st)⟩)
    ops st ⟨h, hlt⟩

/-- ids in `_tasks` (insertion order) are strictly increasing — in particular pairwise distinct -/
def IdsSorted (st : State) : Prop := List.Pairwise (fun a b : Task => a.id < b.id) st.tasks

theorem setTask_idsSorted {id : Nat} {r : Task} {l : List Task} (hr : r.id = id)
    (h : List.Pairwise (fun a b : Task => a.id < b.id) l) :
    List.Pairwise (fun a b : Task => a.id < b.id) (setTask id r l) := by
  unfold setTask
  rw [List.pairwise_map]
  refine List.Pairwise.imp ?_ h
  intro a b hab
  have ha : (if a.id = id then r else a).id = a.id := by split <;> simp_all
  have hb : (if b.id = id then r else b).id = b.id := by split <;> simp_all
  rw [ha, hb]; exact hab

theorem run_idsSorted (cfg : Cfg) (clock : Clock) (ops : List Op) (st : State) (hwf : WF st)
    (h : IdsSorted st) : IdsSorted (run cfg clock ops st) := by
  refine (run_induction cfg clock (I := fun _ st => WF st ∧ IdsSorted st) (fun op _ st ⟨hwf, h⟩ => ?_) ops st ⟨hwf, h⟩).2
  refine ⟨step_WF cfg clock op st hwf, ?_⟩
  unfold IdsSorted at *
  rw [step_eq_body_none]
  have hs := body_step cfg clock op none st
  generalize body cfg clock op none st = r at hs ⊢
  cases hs with
  | same => exact h
  | added =>
    rw [List.pairwise_append]
    refine ⟨h, List.pairwise_singleton _ _, fun x hx y hy => ?_⟩
    rw [List.mem_singleton.mp hy]; exact hwf x hx
  | removed => exact List.Pairwise.sublist List.filter_sublist h
  | changed _ _ _ _ _ _ hri => exact setTask_idsSorted hri h

end RichModel.Progress
