import RichModel.Lemmas.Live
/-!
What an operation of a live display may write to, under arbitrary faults: rendering (`hooked`, `doPrint`,
`doRefresh`) only the shape, the renderable and the call counter (`Draws`); every operation but `start` / `stop` keeps
the control fields, the overflow mode and the pending text of a stream that is not redirected (`Edits`).  `Keeps R st r` says that of a result
`r`, together with "writes no show / hide".  `step_does` is the one case analysis over the operations other than
`start` / `stop`: each sets such fields and then asks the console for nothing, a refresh or a print (`Ask`, `Does`).
-/
namespace RichModel.Live
open RichModel RichModel.Screen

/-- Two states with the same control fields. -/
structure CtlEq (a b : St) : Prop where
  started : a.started = b.started
  hooks : a.hooks = b.hooks
  so : a.stdoutDepth = b.stdoutDepth
  se : a.stderrDepth = b.stderrDepth
  rso : a.restoreStdout = b.restoreStdout
  rse : a.restoreStderr = b.restoreStderr

theorem CtlEq.refl (a : St) : CtlEq a a := ⟨rfl, rfl, rfl, rfl, rfl, rfl⟩

theorem CtlEq.trans {a b c : St} (h1 : CtlEq a b) (h2 : CtlEq b c) : CtlEq a c :=
  ⟨h1.started.trans h2.started, h1.hooks.trans h2.hooks, h1.so.trans h2.so, h1.se.trans h2.se, h1.rso.trans h2.rso,
    h1.rse.trans h2.rse⟩

theorem setBuf_eq (st : St) (e : Bool) (b : Line) :
    setBuf st e b = { st with bufOut := if e then st.bufOut else b, bufErr := if e then b else st.bufErr } := by
  cases e <;> rfl

theorem setBuf_ctl (st : St) (err : Bool) (b : Line) : CtlEq (setBuf st err b) st := by
  rw [setBuf_eq]; exact ⟨rfl, rfl, rfl, rfl, rfl, rfl⟩

theorem getBuf_setBuf_same (st : St) (e : Bool) (b : Line) : getBuf (setBuf st e b) e = b := by
  cases e <;> rfl

theorem getBuf_setBuf_other (st : St) (e : Bool) (b : Line) : getBuf (setBuf st e b) (!e) = getBuf st (!e) := by
  cases e <;> rfl

theorem proxied_setBuf (st : St) (e e' : Bool) (b : Line) : proxied (setBuf st e b) e' = proxied st e' := by
  cases e <;> rfl

theorem proxied_of_ctlEq {a b : St} (h : CtlEq a b) (e : Bool) : proxied a e = proxied b e := by
  cases e <;> simp [proxied, h.so, h.se]

theorem getBuf_of_bufs {a b : St} (h : a.bufOut = b.bufOut ∧ a.bufErr = b.bufErr) (e : Bool) : getBuf a e = getBuf b e := by
  cases e <;> simp [getBuf, h.1, h.2]

/-- `a` is `b` up to what rendering touches: the recorded shape, the renderable and the call counter. -/
def Draws (a b : St) : Prop := ∃ sh r c, a = { b with shape := sh, renderable := r, calls := c }

theorem Draws.refl (a : St) : Draws a a := ⟨_, _, _, rfl⟩

theorem Draws.trans {a b c : St} (h1 : Draws a b) (h2 : Draws b c) : Draws a c := by
  obtain ⟨_, _, _, rfl⟩ := h1
  obtain ⟨_, _, _, rfl⟩ := h2
  exact ⟨_, _, _, rfl⟩

theorem Draws.bufs {a b : St} (h : Draws a b) : a.bufOut = b.bufOut ∧ a.bufErr = b.bufErr := by
  obtain ⟨_, _, _, rfl⟩ := h
  exact ⟨rfl, rfl⟩

/-- What operations other than `start` and `stop` keep of a state `b` in reaching `a`: the control fields, the overflow
mode, and the pending text of every stream that is not redirected.  (They write what rendering touches, the tasks, the
console width and the pending text of a redirected stream.) -/
structure Edits (a b : St) : Prop where
  ctl : CtlEq a b
  overflow : a.overflow = b.overflow
  pend : ∀ e, proxied b e = false → getBuf a e = getBuf b e

theorem Edits.refl (a : St) : Edits a a := ⟨.refl a, rfl, fun _ _ => rfl⟩

theorem Edits.fields {b : St} {r : Frame} {ts : List Task} {ti : Nat} {w : Option Nat} :
    Edits { b with renderable := r, tasks := ts, taskIndex := ti, width := w } b :=
  ⟨⟨rfl, rfl, rfl, rfl, rfl, rfl⟩, rfl, fun _ _ => rfl⟩

theorem Edits.of_setBuf {st : St} {e : Bool} (h : proxied st e = true) (b : Line) : Edits (setBuf st e b) st := by
  refine ⟨setBuf_ctl st e b, by rw [setBuf_eq], fun e' he => ?_⟩
  cases e' <;> cases e
  · rw [h] at he; cases he
  · rfl
  · rfl
  · rw [h] at he; cases he

theorem Edits.trans {a b c : St} (h1 : Edits a b) (h2 : Edits b c) : Edits a c :=
  ⟨h1.ctl.trans h2.ctl, h1.overflow.trans h2.overflow,
    fun e he => (h1.pend e ((proxied_of_ctlEq h2.ctl e).trans he)).trans (h2.pend e he)⟩

theorem Draws.edits {a b : St} (h : Draws a b) : Edits a b := by
  obtain ⟨_, _, _, rfl⟩ := h
  exact ⟨⟨rfl, rfl, rfl, rfl, rfl, rfl⟩, rfl, fun _ _ => rfl⟩

theorem Draws.ctl {a b : St} (h : Draws a b) : CtlEq a b := h.edits.ctl

/-- The result `r` of something run from `st`: its state is `R`-related to `st`, and it writes no show / hide. -/
structure Keeps (R : St → St → Prop) (st : St) (r : Res) : Prop where
  rel : R r.st st
  quiet : Quiet r.out

theorem Keeps.silent {R : St → St → Prop} {st : St} {r : Res} (h : R r.st st) (ho : r.out = [] := by rfl) : Keeps R st r :=
  ⟨h, ho ▸ Quiet.nil⟩

/-- The same result keeps what follows from what it kept (for this `r`; the callers give a fact about the relations). -/
theorem Keeps.mono {R R' : St → St → Prop} {st st' : St} {r : Res} (h : Keeps R st r) (hR : R r.st st → R' r.st st') :
    Keeps R' st' r :=
  ⟨hR h.rel, h.quiet⟩

theorem hooked_renders (cfg : Cfg) (fails : Nat → Bool) (st : St) (U : List Line) :
    Keeps Draws st (hooked cfg fails st U) := by
  have q (f : Frame) : Quiet (positionCursor st.shape ++ emitCells cfg U ++ emitFrame f) :=
    ((quiet_positionCursor _).append (quiet_emitLines _)).append (quiet_emitFrame _)
  unfold hooked
  cases cfg.kind
  case progress => exact ⟨⟨_, _, _, rfl⟩, q _⟩
  all_goals exact ite_of (Keeps Draws st) (.silent ⟨_, _, _, rfl⟩) ⟨⟨_, _, _, rfl⟩, q _⟩

theorem doPrint_renders (cfg : Cfg) (fails : Nat → Bool) (st : St) (U : List Line) :
    Keeps Draws st (doPrint cfg fails st U) := by
  have plain : Keeps Draws st { st := st, out := emitCells cfg U } := ⟨Draws.refl _, quiet_emitLines _⟩
  have file : Keeps Draws st (hookedFile cfg fails st U) :=
    ite_of (Keeps Draws st) (.silent ⟨_, _, _, rfl⟩) ⟨⟨_, _, _, rfl⟩, (quiet_emitLines _).append (quiet_emitFrame _)⟩
  exact ite_of (Keeps Draws st) (ite_of (Keeps Draws st) (hooked_renders cfg fails st U) (ite_of (Keeps Draws st) file plain)) plain

theorem doRefresh_renders (cfg : Cfg) (fails : Nat → Bool) (st : St) : Keeps Draws st (doRefresh cfg fails st) := by
  have silent : Keeps Draws st { st := st } := .silent (Draws.refl _)
  unfold doRefresh
  cases cfg.kind
  case progress =>
    refine ite_of (Keeps Draws st) silent ?_
    generalize columnCalls fails st.calls st.tasks = cc
    obtain ⟨c, ok⟩ := cc
    exact ite_of (Keeps Draws st) (.silent ⟨_, _, _, rfl⟩)
      (ite_of (Keeps Draws st)
        ((hooked_renders cfg fails { st with calls := c, renderable := taskRows st.tasks } []).mono (·.trans ⟨_, _, _, rfl⟩))
        (.silent ⟨_, _, _, rfl⟩))
  all_goals
    exact ite_of (Keeps Draws st) (ite_of (Keeps Draws st) (hooked_renders cfg fails st []) silent)
      (ite_of (Keeps Draws st) (doPrint_renders cfg fails st []) silent)

theorem doRefresh_ctl (cfg : Cfg) (fails : Nat → Bool) (st : St) : Keeps CtlEq st (doRefresh cfg fails st) :=
  (doRefresh_renders cfg fails st).mono Draws.ctl

theorem doPrint_bufs (cfg : Cfg) (fails : Nat → Bool) (st : St) (U : List Line) :
    (doPrint cfg fails st U).st.bufOut = st.bufOut ∧ (doPrint cfg fails st U).st.bufErr = st.bufErr :=
  (doPrint_renders cfg fails st U).rel.bufs

theorem doRefresh_bufs (cfg : Cfg) (fails : Nat → Bool) (st : St) :
    (doRefresh cfg fails st).st.bufOut = st.bufOut ∧ (doRefresh cfg fails st).st.bufErr = st.bufErr :=
  (doRefresh_renders cfg fails st).rel.bufs

/-- What an operation other than `start` / `stop` asks of the console once it has set its fields. -/
inductive Ask where
  | nothing
  | refresh
  | print (U : List Line)

def Ask.lines : Ask → List Line
  | .nothing => []
  | .refresh => []
  | .print U => U

/-- Does the request redraw the display (when the hook is installed)? -/
def Ask.draws : Ask → Bool
  | .nothing => false
  | .refresh => true
  | .print _ => true

def Ask.res (cfg : Cfg) (fails : Nat → Bool) (st1 : St) : Ask → Res
  | .nothing => { st := st1 }
  | .refresh => doRefresh cfg fails st1
  | .print U => doPrint cfg fails st1 U

theorem Ask.res_renders (cfg : Cfg) (fails : Nat → Bool) (st1 : St) (a : Ask) : Keeps Draws st1 (a.res cfg fails st1) := by
  cases a
  · exact .silent (.refl _)
  · exact doRefresh_renders cfg fails st1
  · exact doPrint_renders cfg fails st1 _

theorem redraws_eq {cfg : Cfg} {st : St} {op : Op} (hs : op ≠ .start) :
    redraws cfg st op = (op.displays cfg.kind && reaches st op && decide (st.hooks > 0)) := by
  have : (op == Op.start) = false := by simpa using hs
  simp only [redraws, this, Bool.false_and, Bool.or_false, Bool.and_right_comm]

/-- What an operation other than `start` / `stop` does, whatever fails (`asks`): it sets fields that only a later
rendering reads (`st1`; the recorded shape is not among them, nor — unless it is a `write` — the pending stream text), asks the console for nothing, a refresh or a print, and
`add_task` then advances the task index unless the refresh raised.  `said` and `draws` say the same of the
specification: the view gains the lines printed, and an operation that displays and reaches the console (`redraws_eq`)
is one that asks something.  Outside this form (`odd`) are the as-found bare print (a line feed past the hooks), `update` sent to a
Progress and `KeyError`: what `bareBypass = false`, `Op.applies` and `err = none` exclude. -/
inductive Does (cfg : Cfg) (fails : Nat → Bool) (st : St) (op : Op) : Prop
  | asks (st1 : St) (a : Ask) (bump : Bool) (sets : Edits st1 st) (shape : st1.shape = st.shape)
      (pends : (∀ e l t, op ≠ .write e l t) → st1.bufOut = st.bufOut ∧ st1.bufErr = st.bufErr)
      (res : step cfg fails st op =
        if bump then { a.res cfg fails st1 with st := bumpIndex (a.res cfg fails st1).st } else a.res cfg fails st1)
      (said : ∀ v : View, (viewStep cfg st v op).printed = v.printed ++ a.lines)
      (draws : (op.displays cfg.kind && reaches st op) = a.draws)
  | odd (out : List TermOp) (err : Option Err) (q : Quiet out)
      (res : step cfg fails st op = { st := st, out := out, err := err })
      (why : cfg.bareBypass = true ∨ op.applies cfg.kind = false ∨ err ≠ none)

theorem step_does (cfg : Cfg) (fails : Nat → Bool) (st : St) (op : Op) (hs : op ≠ .start) (hp : op ≠ .stop) :
    Does cfg fails st op := by
  have nil (v : View) : v.printed = v.printed ++ [] := (List.append_nil _).symm
  cases op with
  | start => exact absurd rfl hs
  | stop => exact absurd rfl hp
  | print ls => exact .asks st (.print ls) false (.refl _) rfl (fun _ => ⟨rfl, rfl⟩) rfl (fun _ => rfl) rfl
  | printBare =>
    cases hb : cfg.bareBypass
    · exact .asks st (.print [[]]) false (.refl _) rfl (fun _ => ⟨rfl, rfl⟩) (by simp only [step, hb]; rfl) (fun _ => rfl)
        rfl
    · exact .odd [.lf] none (.cons nofun nofun .nil) (by simp only [step, hb]; rfl) (.inl hb)
  | refresh => exact .asks st .refresh false (.refl _) rfl (fun _ => ⟨rfl, rfl⟩) rfl nil rfl
  | update f rf =>
    cases hk : cfg.kind with
    | progress => exact .odd [] none .nil (by simp only [step, hk]) (.inr (.inl (by rw [hk]; rfl)))
    | live =>
      cases rf with
      | true =>
        exact .asks { st with renderable := f } .refresh false .fields rfl (fun _ => ⟨rfl, rfl⟩) (by simp only [step, hk]; rfl) nil
          rfl
      | false =>
        exact .asks { st with renderable := f } .nothing false .fields rfl (fun _ => ⟨rfl, rfl⟩) (by simp only [step, hk]; rfl) nil
          (by rw [hk]; rfl)
    | status =>
      exact .asks { st with renderable := statusFrame cfg.cw f } .refresh false .fields rfl (fun _ => ⟨rfl, rfl⟩) (by simp only [step, hk]; rfl) nil
        (by rw [hk]; cases rf <;> rfl)
  | addTask desc vis tot =>
    refine .asks (addTaskSt st desc vis tot) .refresh (doRefresh cfg fails (addTaskSt st desc vis tot)).err.isNone
      .fields rfl (fun _ => ⟨rfl, rfl⟩) ?_ nil rfl
    dsimp only [step, Ask.res]
    generalize doRefresh cfg fails (addTaskSt st desc vis tot) = r
    obtain ⟨_, _, err⟩ := r
    cases err <;> rfl
  | updateTask id ed rf =>
    cases hf : findTask st.tasks id with
    | none => exact .odd [] (some .keyError) .nil (by simp only [step, hf]) (.inr (.inr nofun))
    | some t =>
      cases rf with
      | true =>
        exact .asks { st with tasks := replaceTask st.tasks (ed.apply t) } .refresh false .fields rfl (fun _ => ⟨rfl, rfl⟩)
          (by simp only [step, hf]; rfl) nil rfl
      | false =>
        exact .asks { st with tasks := replaceTask st.tasks (ed.apply t) } .nothing false .fields rfl (fun _ => ⟨rfl, rfl⟩)
          (by simp only [step, hf]; rfl) nil rfl
  | removeTask id =>
    cases hf : findTask st.tasks id with
    | none => exact .odd [] (some .keyError) .nil (by simp only [step, hf]) (.inr (.inr nofun))
    | some t =>
      exact .asks { st with tasks := st.tasks.filter (fun u => !(u.id == id)) } .nothing false .fields rfl (fun _ => ⟨rfl, rfl⟩)
        (by simp only [step, hf]; rfl) nil rfl
  | resize w => exact .asks { st with width := some w } .nothing false .fields rfl (fun _ => ⟨rfl, rfl⟩) rfl nil rfl
  | write err lines tail =>
    cases hx : proxied st err with
    | false =>
      exact .asks st .nothing false (.refl _) rfl (fun h => absurd rfl (h _ _ _)) (by simp only [step, doWrite, hx]; rfl)
        (fun v => by cases lines <;> simp [viewStep, hx, Ask.lines]) (by rw [reaches, hx, Bool.and_false]; rfl)
    | true =>
      cases lines with
      | nil =>
        exact .asks _ .nothing false (.of_setBuf hx (getBuf st err ++ tail)) (by rw [setBuf_eq]) (fun h => absurd rfl (h _ _ _)) (by simp only [step, doWrite, hx]; rfl) nil
          rfl
      | cons l rest =>
        exact .asks _ (.print ((getBuf st err ++ l) :: rest)) false (.of_setBuf hx tail) (by rw [setBuf_eq]) (fun h => absurd rfl (h _ _ _))
          (by simp only [step, doWrite, hx]; rfl) (fun v => by simp only [viewStep, hx, if_true]; rfl)
          (by rw [reaches, hx]; rfl)

theorem step_edits (cfg : Cfg) (fails : Nat → Bool) (st : St) (op : Op) (hs : op ≠ .start) (hp : op ≠ .stop) :
    Keeps Edits st (step cfg fails st op) := by
  cases step_does cfg fails st op hs hp with
  | odd out err q res _ => rw [res]; exact ⟨.refl _, q⟩
  | asks st1 a bump sets _ _ res _ _ =>
    have hr := (a.res_renders cfg fails st1).mono (·.edits.trans sets)
    rw [res]
    cases bump
    · exact hr
    · exact ⟨Edits.trans .fields hr.rel, hr.quiet⟩

theorem step_bufs (cfg : Cfg) (fails : Nat → Bool) (st : St) (op : Op) (hs : op ≠ .start) (hp : op ≠ .stop)
    (hw : ∀ e l t, op ≠ .write e l t) :
    (step cfg fails st op).st.bufOut = st.bufOut ∧ (step cfg fails st op).st.bufErr = st.bufErr := by
  cases step_does cfg fails st op hs hp with
  | odd out err q res _ => rw [res]; exact ⟨rfl, rfl⟩
  | asks st1 a bump _ _ pends res _ _ =>
    have hr := (a.res_renders cfg fails st1).rel.bufs
    rw [res]
    cases bump <;> exact ⟨hr.1.trans (pends hw).1, hr.2.trans (pends hw).2⟩

end RichModel.Live
