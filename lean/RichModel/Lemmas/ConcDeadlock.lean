import RichModel.Lemmas.ConcInv
/-!
Deadlock freedom of `Model/Conc.lean`: the locks are taken in rank order (live < console < record), so the
waits-for relation cannot contain a cycle, and in every reachable state with an unfinished thread some
thread can move.
-/
namespace RichModel.Conc
open RichModel

/-- Thread `t` stands in front of `acquire(lk)` and `lk` is owned by another thread. -/
def Blocked (cfg : Cfg) (s : State) (t : Nat) (lk : Lock) : Prop :=
  ∃ g r u, (s.th t).cont = ⟨g, .acq lk⟩ :: r ∧ guardOn cfg (s.th t).depth (s.th t).hooked g = true ∧
    s.sh.owner lk = some u ∧ u ≠ t

theorem stuck_blocked {cfg : Cfg} {s : State} (inv : Inv cfg s) {t : Nat} (h : stepT cfg s t = none)
    (hd : (s.th t).done = false) : ∃ lk, Blocked cfg s t lk := by
  rcases stepT_none h with hdone | ⟨g, act, r, hc, hg, hn⟩
  · exact absurd hdone (hd ▸ Bool.false_ne_true)
  · -- a checked thread is refused only a lock that another thread owns
    rcases exec_eff (t := t) (sh := s.sh) (hc ▸ inv.sim t) hg with ⟨lk, u, rfl, ho, hu, _⟩ | ⟨_, _, he, _⟩
    · exact ⟨lk, g, r, u, hc, hg, ho, hu⟩
    · nomatch hn.symm.trans he

/-- The owner of a lock is not finished, and if it is blocked itself it waits for a lock of higher rank. -/
theorem blocked_rank {cfg : Cfg} {s : State} (inv : Inv cfg s) {t : Nat} {lk : Lock} (hb : Blocked cfg s t lk) :
    ∃ u, s.sh.owner lk = some u ∧ u ≠ t ∧ (s.th u).done = false ∧
      ∀ lk', Blocked cfg s u lk' → lk.rank < lk'.rank := by
  obtain ⟨g, r, u, hc, hg, ho, hu⟩ := hb
  refine ⟨u, ho, hu, ?_, ?_⟩
  · -- a finished thread holds nothing
    have hm : lk ∈ (s.th u).held := (inv.own lk u).mp ho
    cases hcu : (s.th u).cont with
    | cons _ _ => simp [Local.done, hcu]
    | nil =>
      rw [show (s.th u).held = [] from congrArg Abs.held (inv.idle hcu)] at hm
      nomatch hm
  · intro lk' ⟨g', r', u', hc', hg', ho', hu'⟩
    rcases sim_acq (a := (s.th u).abs) hg' (hc' ▸ inv.sim u) with hin | hall
    · exact absurd (Option.some.inj (ho' ▸ (inv.own lk' u).mpr hin)) hu'
    · exact hall lk ((inv.own lk u).mp ho)

/-- A relation "`a` waits at rank `k`" in which every wait leads to a wait at a higher rank, all ranks below `n`, is empty. -/
theorem no_ascending_chain {α : Type} {W : α → Nat → Prop} {n : Nat} (bound : ∀ a k, W a k → k < n)
    (next : ∀ a k, W a k → ∃ a' k', W a' k' ∧ k < k') : ∀ a k, ¬ W a k := by
  suffices h : ∀ d a k, n ≤ k + d → ¬ W a k from fun a k => h n a k (Nat.le_add_left _ _)
  intro d
  induction d with
  | zero => exact fun a k hk hw => absurd (bound a k hw) (by omega)
  | succ d ih =>
    intro a k hk hw
    obtain ⟨a', k', hw', hlt⟩ := next a k hw
    exact ih a' k' (by omega) hw'

theorem Lock.rank_lt (lk : Lock) : lk.rank < 3 := by cases lk <;> decide

/-- **No deadlock**: whenever some thread is not finished, some thread can perform a step. -/
theorem progress {cfg : Cfg} {s : State} (inv : Inv cfg s) (h : ∃ t, (s.th t).done = false) :
    ∃ t, (stepT cfg s t).isSome = true := by
  apply Classical.byContradiction
  intro hno
  have hnone : ∀ t, stepT cfg s t = none := fun t => Option.not_isSome_iff_eq_none.mp fun hs => hno ⟨t, hs⟩
  obtain ⟨t, ht⟩ := h
  obtain ⟨lk, hb⟩ := stuck_blocked inv (hnone t) ht
  -- the owner of the lock a thread waits for waits itself, for a lock of higher rank
  refine no_ascending_chain (W := fun t k => ∃ lk, Blocked cfg s t lk ∧ lk.rank = k) (n := 3)
    (fun _ _ ⟨lk, _, e⟩ => e ▸ lk.rank_lt) (fun t _ ⟨lk, hb, e⟩ => ?_) t _ ⟨lk, hb, rfl⟩
  obtain ⟨u, _, _, hud, hrank⟩ := blocked_rank inv hb
  obtain ⟨lk', hb'⟩ := stuck_blocked inv (hnone u) hud
  exact ⟨u, _, ⟨lk', hb', rfl⟩, e ▸ hrank lk' hb'⟩

end RichModel.Conc
