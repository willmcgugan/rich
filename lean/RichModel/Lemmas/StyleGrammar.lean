import RichModel.Lemmas.Style
import RichModel.Lemmas.ColorParse
/-!
The grammar of style definitions.  The loop of `Style.parse` reads a definition item by item — an attribute
word, `not` and an attribute word, a colour, `on` and a colour, `link` and a word — and each item makes one
assignment to the loop's variables.  `Spells` says which words are which item, `Reads` is a sequence of
items.  `parseLoop_spec` is the one walk through the loop: it returns what a sequence of items leaves and
raises `StyleSyntaxError` or what `Color.parse` let through; `parseLoop_ok_iff` says that it succeeds on
exactly these sequences.
-/
namespace RichModel
open AsciiStr
namespace Style
variable {T : StrTables} [hT : T.Lawful]

theorem mem_of_attrIndex {w : List Char} {i : Nat} (h : attrIndex w = some i) : (w, i) ∈ styleAttributes := by
  obtain ⟨p, hp, rfl⟩ := Option.map_eq_some_iff.mp h
  have hw : p.1 = w := by simpa using List.find?_some hp
  subst hw
  exact List.mem_of_find?_eq_some hp

/-- The key words are `on not link none` and the attribute words, in table order. -/
theorem mem_keywords_of_attrIndex {w : List Char} {i : Nat} (h : attrIndex w = some i) : w ∈ styleKeywords := by
  have hk : styleKeywords = [cl! "on", cl! "not", cl! "link", cl! "none"] ++ styleAttributes.map (·.1) := rfl
  rw [hk]
  exact List.mem_append_right _ (List.mem_map_of_mem (f := (·.1)) (mem_of_attrIndex h))

theorem styleAttributes_tbl : styleAttributes.all (fun p => litWord p.1 && decide (p.2 < 13)) = true := by
  decide +kernel

theorem attr_word {n : List Char} {i : Nat} (h : attrIndex n = some i) : T.Word n ∧ i < 13 := by
  have := List.all_eq_true.mp styleAttributes_tbl _ (mem_of_attrIndex h)
  simp only [Bool.and_eq_true, decide_eq_true_eq] at this
  exact ⟨T.word_of_lit this.1, this.2⟩

theorem color_not_keyword {v : StyleVariant} {w : List Char} {c : Color} (h : Color.parseT T v w = .ok c) :
    w ∉ styleKeywords := fun hk => by
  rw [keyword_not_color T v hk] at h
  cases h

/-- One item of a style definition, as the assignment it makes. -/
inductive Tok where
  | attr (i : Nat) (on : Bool)
  | fg (w : List Char)
  | bg (w : List Char)
  | link (w : List Char)

def Tok.apply (st : ParseState) : Tok → ParseState
  | .attr i b => { st with attributes := st.attributes.set i (some b) }
  | .fg w => { st with color := some w }
  | .bg w => { st with bgcolor := some w }
  | .link w => { st with link := some w }

/-- The words `ws` are the item `t`.  A word is lower-cased before it is looked at; the word after `on`,
`not` or `link` is taken as it stands (`Color.parse` lower-cases for itself). -/
inductive Spells (T : StrTables) (v : StyleVariant) : List (List Char) → Tok → Prop
  | attr {ow i} : attrIndex (T.lower ow) = some i → Spells T v [ow] (.attr i true)
  | notAttr {ow w i} : T.lower ow = cl! "not" → attrIndex w = some i → Spells T v [ow, w] (.attr i false)
  | fg {ow c} : Color.parseT T v (T.lower ow) = .ok c → Spells T v [ow] (.fg (T.lower ow))
  | bg {ow w c} : T.lower ow = cl! "on" → Color.parseT T v w = .ok c → Spells T v [ow, w] (.bg w)
  | link {ow w} : T.lower ow = cl! "link" → Spells T v [ow, w] (.link w)

/-- The loop tests for `on`, `not`, `link` first, then for an attribute word, then for a colour: an attribute word is
none of the three, a colour is no key word. -/
theorem parseLoop_spells {v : StyleVariant} {ws t} (h : Spells T v ws t) (rest : List (List Char)) (st : ParseState) :
    parseLoopT T v (ws ++ rest) st = parseLoopT T v rest (t.apply st) := by
  cases h with
  | @attr ow i hi =>
    have hk : ∀ k, attrIndex k = none → T.lower ow ≠ k := fun k hk e => by rw [e, hk] at hi; cases hi
    rw [List.singleton_append, parseLoopT.eq_def]
    simp [hk _ (by decide : attrIndex (cl! "on") = none), hk _ (by decide : attrIndex (cl! "not") = none),
      hk _ (by decide : attrIndex (cl! "link") = none), hi, Tok.apply]
  | notAttr hw hi => rw [parseLoopT.eq_def]; simp [hw, hi, Tok.apply]
  | @fg ow c hc =>
    have hk : ∀ k ∈ styleKeywords, T.lower ow ≠ k := fun k hk e => color_not_keyword hc (e ▸ hk)
    have h5 : attrIndex (T.lower ow) = none := by
      cases hi : attrIndex (T.lower ow) with
      | none => rfl
      | some i => exact absurd rfl (hk _ (mem_keywords_of_attrIndex hi))
    rw [List.singleton_append, parseLoopT.eq_def]
    simp [hk _ (by decide : cl! "on" ∈ styleKeywords), hk _ (by decide : cl! "not" ∈ styleKeywords),
      hk _ (by decide : cl! "link" ∈ styleKeywords), h5, hc, Tok.apply]
  | bg hw hc => rw [parseLoopT.eq_def]; simp [hw, hc, Tok.apply]
  | link hw => rw [parseLoopT.eq_def]; simp [hw, Tok.apply]

/-- `ws` is a sequence of items that takes the variables of the loop from `st` to `st'`. -/
inductive Reads (T : StrTables) (v : StyleVariant) : List (List Char) → ParseState → ParseState → Prop
  | nil (st) : Reads T v [] st st
  | cons {ws t rest st st'} : Spells T v ws t → Reads T v rest (t.apply st) st' → Reads T v (ws ++ rest) st st'

theorem parseLoop_reads {v : StyleVariant} {ws st st'} (h : Reads T v ws st st') (rest : List (List Char)) :
    parseLoopT T v (ws ++ rest) st = parseLoopT T v rest st' := by
  induction h with
  | nil st => rfl
  | cons hs _ ih => rw [List.append_assoc, parseLoop_spells hs, ih]

omit hT in
/-- The one walk through the loop: what it returns is what a sequence of items leaves; what it raises is
`StyleSyntaxError` (at words that are no item; `ColorParseError` is turned into it), or what else
`Color.parse` raised at a colour word. -/
theorem parseLoop_spec (v : StyleVariant) (ws : List (List Char)) (st : ParseState) :
    (parseLoopT T v ws st).Post (Reads T v ws st) (v.Raises .styleSyntax) := by
  -- the cases in the order of the definition: 1 no word left; 2-5 `on` (nothing after it, not a colour, another error
  -- of `Color.parse`, a colour); 6-8 `not`; 9-10 `link`; 11 an attribute word; 12-14 any other word, as after `on`
  fun_induction parseLoopT T v ws st with
  | case1 st => exact .nil _
  | case4 ow st _ _ w rest' e hne hp => exact .inr ((Color.parseT_err T hp).resolve_left hne)
  | case5 ow st _ hw w rest' a hp ih => exact ih.imp (fun _ => .cons (.bg (by simpa using hw) hp)) fun _ => id
  | case8 ow st _ _ hw w rest' i hi ih => exact ih.imp (fun _ => .cons (.notAttr (by simpa using hw) hi)) fun _ => id
  | case10 ow st _ _ _ hw w rest' ih => exact ih.imp (fun _ => .cons (.link (by simpa using hw))) fun _ => id
  | case11 ow rest st _ _ _ _ i hi ih => exact ih.imp (fun _ => .cons (.attr hi)) fun _ => id
  | case13 ow rest st _ _ _ _ _ e hne hp => exact .inr ((Color.parseT_err T hp).resolve_left hne)
  | case14 ow rest st _ _ _ _ _ a hp ih => exact ih.imp (fun _ => .cons (.fg hp)) fun _ => id
  | _ => exact .inl rfl

omit hT in
/-- `parseLoop_ok_iff.mp`, which holds of every table (the converse needs a lawful one). -/
theorem reads_of_parseLoop {v : StyleVariant} {ws st st'} (h : parseLoopT T v ws st = .ok st') : Reads T v ws st st' :=
  (parseLoop_spec v ws st).of_ok h

omit hT in
theorem parseLoop_err {v : StyleVariant} {ws st e} (h : parseLoopT T v ws st = .error e) : v.Raises .styleSyntax e :=
  (parseLoop_spec v ws st).of_error h

theorem parseLoop_ok_iff {v : StyleVariant} {ws st st'} : parseLoopT T v ws st = .ok st' ↔ Reads T v ws st st' :=
  ⟨reads_of_parseLoop, fun h => by simpa [parseLoopT] using parseLoop_reads h []⟩

omit hT in
theorem Reads.append {v : StyleVariant} {ws ws' st st' st''} (h : Reads T v ws st st') (h' : Reads T v ws' st' st'') :
    Reads T v (ws ++ ws') st st'' := by
  induction h with
  | nil st => exact h'
  | cons hs _ ih => rw [List.append_assoc]; exact .cons hs (ih h')

omit hT in
theorem Reads.one {v : StyleVariant} {ws t} (h : Spells T v ws t) (st : ParseState) : Reads T v ws st (t.apply st) := by
  simpa using Reads.cons h (.nil _)

omit hT in
/-- Only `Color.parse` looks at the code variant, and its successes do not depend on it. -/
theorem Reads.indep {v v' : StyleVariant} {ws st st'} (h : Reads T v ws st st') : Reads T v' ws st st' := by
  induction h with
  | nil st => exact .nil st
  | cons hs _ ih =>
    refine .cons ?_ ih
    cases hs with
    | attr hi => exact .attr hi
    | notAttr hw hi => exact .notAttr hw hi
    | fg hc => exact .fg (Color.parseT_ok_indep T hc)
    | bg hw hc => exact .bg hw (Color.parseT_ok_indep T hc)
    | link hw => exact .link hw

/-- The loop remembers only colour words that `Color.parse` accepted (so `__init__` will not raise on them). -/
structure ColorsOk (T : StrTables) (v : StyleVariant) (st : ParseState) : Prop where
  color : ∀ w, st.color = some w → ∃ c, Color.parseT T v w = .ok c
  bgcolor : ∀ w, st.bgcolor = some w → ∃ c, Color.parseT T v w = .ok c

omit hT in
theorem Reads.colorsOk {v : StyleVariant} {ws st st'} (h : Reads T v ws st st') (h0 : ColorsOk T v st) :
    ColorsOk T v st' := by
  induction h with
  | nil st => exact h0
  | cons hs _ ih =>
    refine ih ?_
    cases hs with
    | fg hc => exact ⟨fun w hw => by cases hw; exact ⟨_, hc⟩, h0.bgcolor⟩
    | bg _ hc => exact ⟨h0.color, fun w hw => by cases hw; exact ⟨_, hc⟩⟩
    | _ => exact ⟨h0.color, h0.bgcolor⟩

theorem parseLoop_none_word (v : StyleVariant) (st : ParseState) :
    parseLoopT T v [cl! "none"] st = .error .styleSyntax := by
  rw [parseLoopT.eq_def]
  have h1 : T.lower (cl! "none") = cl! "none" := (T.word_of_lit (by decide)).low
  have h2 : attrIndex (cl! "none") = none := by decide
  have h3 := keyword_not_color T v (k := cl! "none") (by decide)
  simp [h1, h2, h3]

theorem parse_none (v : StyleVariant) : parseT T v (cl! "none") = .ok Style.null := by
  unfold parseT
  have : T.strip (cl! "none") = cl! "none" := T.strip_noSpace (T.word_of_lit (by decide)).nospace
  simp [this]

/-- The definition is not `none`, which is no item. -/
theorem parseT_of_reads (v : StyleVariant) {d : List Char} {ws : List (List Char)} {st : ParseState}
    (hs : T.split d = ws) (hd : d ≠ []) (h : Reads T v ws {} st) :
    parseT T v d = initT T v (st.color.map .str) (st.bgcolor.map .str) st.attributes st.link := by
  have hl := parseLoop_ok_iff.mpr h
  have h1 : (T.strip d == cl! "none") = false := beq_false_of_ne fun e => by
    rw [← hs, T.split_of_strip_eq e (by decide) (T.word_of_lit (by decide)).nospace, parseLoop_none_word] at hl
    cases hl
  rw [parseT, h1, List.isEmpty_eq_false_iff.mpr hd, hs, hl]
  rfl

end Style
end RichModel
