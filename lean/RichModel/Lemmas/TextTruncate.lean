import RichModel.Lemmas.TextPad
/-!
`rstrip`, `truncate`, `align`: reference semantics and invariant (repaired variant); before them what `str.rstrip()`
leaves of a string (`pyRstrip`, `rstripLen`).
-/
namespace RichModel
namespace Text
variable {σ : Type} {t u : Text σ} {b bu : σ} {v w : List (Char × List σ)}

theorem dropWhile_ne_nil_of_mem {α : Type} (p : α → Bool) (l : List α) (x : α) (hx : x ∈ l) (hp : p x = false) :
    l.dropWhile p ≠ [] := by
  intro h
  have hl := List.takeWhile_append_dropWhile (p := p) (l := l)
  rw [h, List.append_nil] at hl
  rw [← hl] at hx
  rw [mem_takeWhile_true p l x hx] at hp; cases hp

/-- number of characters left by `str.rstrip()` -/
def rstripLen (s : List Char) : Nat := (pyRstrip s).length

theorem pyRstrip_eq_take (s : List Char) : pyRstrip s = s.take (rstripLen s) :=
  List.prefix_iff_eq_take.1 ⟨_, pyRstrip_append_trailing s⟩

theorem pyRstrip_append_drop (s : List Char) : pyRstrip s ++ s.drop (rstripLen s) = s := by
  rw [pyRstrip_eq_take]; exact List.take_append_drop _ _

theorem pyRstrip_prefix (s : List Char) : ∃ t, s = pyRstrip s ++ t := ⟨_, (pyRstrip_append_trailing s).symm⟩

theorem trailing_add_rstripLen (s : List Char) : trailingSpaceCount s + rstripLen s = s.length := by
  have h := congrArg List.length (pyRstrip_append_trailing s)
  simp only [List.length_append, List.length_reverse] at h
  unfold trailingSpaceCount rstripLen
  omega

theorem drop_rstripLen_space (s : List Char) : ∀ c ∈ s.drop (rstripLen s), pyIsSpace c = true := by
  rw [show rstripLen s = s.length - trailingSpaceCount s by have := trailing_add_rstripLen s; omega]
  exact drop_trailing_space s

theorem drop_space (s : List Char) (k : Nat) (hk : rstripLen s ≤ k) : ∀ c ∈ s.drop k, pyIsSpace c = true := by
  intro c hc
  have : s.drop k = (s.drop (rstripLen s)).drop (k - rstripLen s) := by rw [List.drop_drop]; congr 1; omega
  rw [this] at hc
  exact drop_rstripLen_space s c (List.mem_of_mem_drop hc)

theorem rstripLen_le (s : List Char) : rstripLen s ≤ s.length := by
  unfold rstripLen; rw [pyRstrip_eq_take]; exact List.length_take_le' _ _

theorem pyRstrip_append_space (a b : List Char) (hb : ∀ c ∈ b, pyIsSpace c = true) : pyRstrip (a ++ b) = pyRstrip a := by
  unfold pyRstrip
  simp only [List.reverse_append]
  rw [List.dropWhile_append_of_pos (by intro c hc; exact hb c (List.mem_reverse.mp hc))]

theorem pyRstrip_append_of_nonspace (a b : List Char) (h : ∃ c ∈ b, pyIsSpace c = false) :
    pyRstrip (a ++ b) = a ++ pyRstrip b := by
  obtain ⟨c, hc, hs⟩ := h
  have hne := dropWhile_ne_nil_of_mem pyIsSpace b.reverse c (List.mem_reverse.mpr hc) hs
  unfold pyRstrip
  rw [List.reverse_append, List.dropWhile_append, if_neg (by simpa using hne), List.reverse_append,
    List.reverse_reverse]

theorem pyRstrip_take (s : List Char) (k : Nat) (hk : rstripLen s ≤ k) : pyRstrip (s.take k) = pyRstrip s := by
  have hsp := drop_rstripLen_space s
  have h1 : s.take k = pyRstrip s ++ (s.drop (rstripLen s)).take (k - rstripLen s) := by
    conv => lhs; rw [← pyRstrip_append_drop s]
    rw [List.take_append, List.take_of_length_le (Nat.le_trans (Nat.le_refl _) hk)]; rfl
  rw [h1, pyRstrip_append_space _ _ (fun c hc => hsp c (List.mem_of_mem_take hc))]
  conv => rhs; rw [← pyRstrip_append_drop s, pyRstrip_append_space _ _ hsp]

theorem inv_rstrip (t : Text σ) (h : Inv t) : Inv t.rstrip := by
  unfold rstrip
  apply inv_setPlain _ _ h
  rw [pyRstrip_eq_take]
  exact NoCtl.take _ h.2.1

/-- `rstrip()`: the text without its trailing whitespace, every remaining character as it was -/
theorem view_rstrip (t : Text σ) (h : Inv t) : t.rstrip.view = t.view.take (pyRstrip t.plain).length := by
  unfold rstrip
  rw [view_setPlain _ _ h, view_eq_annot, ← annot_take, ← rstripLen, ← pyRstrip_eq_take]

/-- `truncate` on an ordinary string (`ov` is the effective overflow) -/
def truncStr (cw : Char → Nat) (s : List Char) (maxWidth : Int) (ov : Overflow) (pad : Bool) : List Char :=
  if ov != Overflow.ignore then
    let length : Int := cellLen cw s
    let s1 :=
      if length > maxWidth then
        if ov == Overflow.ellipsis then setCellSizeI cw s (maxWidth - 1) ++ ['…'] else setCellSizeI cw s maxWidth
      else s
    if pad && length < maxWidth then s1 ++ List.replicate (maxWidth - length).toNat ' ' else s1
  else s

theorem truncate_none (cw : Char → Nat) (t : Text σ) (w : Int) (pad : Bool) :
    t.truncate cw w none pad = t.truncate cw w (some (t.overflow.getD Overflow.fold)) pad := by
  unfold truncate
  cases t.overflow <;> rfl

/-- every branch of `set_cell_size` is control-free -/
theorem noCtl_setCellSizeI (cw : Char → Nat) (s : List Char) (w : Int) (h : NoCtl s) : NoCtl (setCellSizeI cw s w) :=
  have hsp : NoCtl [' '] := NoCtl.replicate 1 ' ' noCtl_space
  .ite h (.ite (.append h (.replicate _ _ noCtl_space)) (.ite (.append (.take _ h) hsp) (.take _ h)))

theorem noCtl_truncStr (cw : Char → Nat) (s : List Char) (w : Int) (o : Overflow) (pad : Bool) (h : NoCtl s) :
    NoCtl (truncStr cw s w o pad) :=
  have hcut : NoCtl (if (cellLen cw s : Int) > w then
      (if o == Overflow.ellipsis then setCellSizeI cw s (w - 1) ++ ['…'] else setCellSizeI cw s w) else s) :=
    .ite (.ite (.append (noCtl_setCellSizeI cw s _ h) (NoCtl.replicate 1 '…' noCtl_ellipsis)) (noCtl_setCellSizeI cw s _ h)) h
  .ite (.ite (.append hcut (.replicate _ _ noCtl_space)) hcut) h

/-- On a consistent text `truncate` is the `plain` setter at what `truncate` makes of the string: the cuts go through the
setter as written; the padding writes the string directly, which on a consistent text is the setter too, since the
string does not shrink (`setPlain_grow`). -/
theorem truncate_eq (cw : Char → Nat) (t : Text σ) (w : Int) (ov : Option Overflow) (pad : Bool) (h : Inv t) :
    t.truncate cw w ov pad =
      t.setPlain (truncStr cw t.plain w ((ov.orElse (fun _ => t.overflow)).getD Overflow.fold) pad) := by
  have hself : t.setPlain t.plain = t := by rw [setPlain_eq, if_neg (by simp)]
  unfold truncate truncStr
  simp only []
  generalize (ov.orElse (fun _ => t.overflow)).getD Overflow.fold = o
  -- both sides take the same branch
  by_cases hig : (o != Overflow.ignore) = true
  · rw [if_pos hig, if_pos hig]
    by_cases hgt : (cellLen cw t.plain : Int) > w
    · have hpad : (pad && decide ((cellLen cw t.plain : Int) < w)) = false := by
        rw [decide_eq_false (by omega), Bool.and_false]
      rw [if_pos hgt, if_pos hgt, hpad, if_neg Bool.false_ne_true, if_neg Bool.false_ne_true]
      by_cases hel : (o == Overflow.ellipsis) = true
      · rw [if_pos hel, if_pos hel]
      · rw [if_neg hel, if_neg hel]
    · rw [if_neg hgt, if_neg hgt]
      by_cases hp : (pad && decide ((cellLen cw t.plain : Int) < w)) = true
      · rw [if_pos hp, if_pos hp]
        exact (setPlain_grow t _ h (by simp)).symm
      · rw [if_neg hp, if_neg hp]
        exact hself.symm
  · rw [if_neg hig, if_neg hig]
    exact hself.symm

/-- `truncate(max_width, overflow, pad)`: the string is what `truncate` makes of an ordinary string,
`len()` follows, and every position keeps the style that was attached to it -/
theorem truncate_spec (cw : Char → Nat) (t : Text σ) (w : Int) (ov : Option Overflow) (pad : Bool) (h : Inv t) :
    Inv (t.truncate cw w ov pad) ∧
    (t.truncate cw w ov pad).plain = truncStr cw t.plain w ((ov.orElse (fun _ => t.overflow)).getD Overflow.fold) pad ∧
    (t.truncate cw w ov pad).style = t.style ∧
    (t.truncate cw w ov pad).view = annot (t.truncate cw w ov pad).plain t.effStyle 0 := by
  rw [truncate_eq cw t w ov pad h]
  exact ⟨inv_setPlain _ _ h (noCtl_truncStr cw _ w _ pad h.2.1), setPlain_plain _ _, setPlain_style _ _,
    by rw [view_setPlain _ _ h, setPlain_plain]⟩

/-- the repaired `align` is `truncate(width)` followed by padding with the excess, a non-positive excess counting as 0 -/
theorem align_eq (cw : Char → Nat) (t : Text σ) (m : AlignMethod) (w : Int) (ch : Char) :
    t.align Variant.repaired cw m w ch =
      (let t1 := t.truncate cw w
       let k := (w - (cellLen cw t1.plain : Int)).toNat
       match m with
       | .left => t1.padRight (k : Int) ch
       | .center => (t1.padLeft ((k / 2 : Nat) : Int) ch).padRight ((k - k / 2 : Nat) : Int) ch
       | .right => t1.padLeft (k : Int) ch) := by
  unfold Text.align
  simp only [Variant.repaired, Bool.false_eq_true, if_false]
  generalize t.truncate cw w = t1
  by_cases hex : w - (cellLen cw t1.plain : Int) > 0
  · obtain ⟨k, hk⟩ : ∃ k : Nat, w - (cellLen cw t1.plain : Int) = (k : Int) := ⟨_, (Int.toNat_of_nonneg (by omega)).symm⟩
    rw [hk] at hex ⊢
    rw [if_pos (by simpa using hex), Int.toNat_natCast,
      show ((k : Int) / 2) = ((k / 2 : Nat) : Int) by omega,
      show (k : Int) - ((k / 2 : Nat) : Int) = ((k - k / 2 : Nat) : Int) by omega]
    cases m <;> rfl
  · -- no excess: `pad_left(0)` and `pad_right(0)` return the text as it is
    rw [if_neg (by simpa using hex), show (w - (cellLen cw t1.plain : Int)).toNat = 0 by omega]
    cases m <;> rfl

namespace Shows

/-- `align(method, width, ch)`: `truncate(width)`, then base-styled padding characters up to the width,
on the right / both sides / the left; no character of the truncated text moves or changes style -/
theorem align (h : Shows t b v) (cw : Char → Nat)
    (m : AlignMethod) (w : Int) (ch : Char) (hch : isStripCode ch = false) :
    Shows (t.align Variant.repaired cw m w ch) b
      (let t1 := t.truncate cw w
       let excess := (w - (cellLen cw t1.plain : Int)).toNat
       match m with
       | .left => t1.view ++ List.replicate excess (ch, [b])
       | .center => List.replicate (excess / 2) (ch, [b]) ++ t1.view ++ List.replicate (excess - excess / 2) (ch, [b])
       | .right => List.replicate excess (ch, [b]) ++ t1.view) := by
  obtain ⟨hi, _, hsty, _⟩ := truncate_spec cw t w none false h.inv
  have h1 : Shows (t.truncate cw w) b (t.truncate cw w).view := ⟨hi, hsty.trans h.style, rfl⟩
  rw [align_eq]
  cases m with
  | left => exact h1.padRight _ ch hch
  | right => exact h1.padLeft _ ch hch
  | center => exact (h1.padLeft _ ch hch).padRight _ ch hch

end Shows

end Text
end RichModel
