import RichModel.Model.FramesStyled
import RichModel.Lemmas.FramesRect
/-!
Lemmas for the styled layer (`Model/FramesStyled.lean`): the line structure of `Padding`, `Panel`, `Align`
and `VerticalCenter` with the style every added cell carries.
-/
namespace RichModel.Frames
open RichModel
variable {σ : Type}

/-- the blanks that complete a line carry the style handed to `split_and_crop_lines`: `None` in rich as found, `s` repaired -/
theorem renderLinesS_pad_style (cw : Char → Nat) (A : SOps σ) (sv : SVariant) (rendered : List (Segment σ)) (w : Int)
    (style : Option σ) :
    renderLinesS cw A sv rendered w style true =
      (splitLinesTagged (applyStyle A style rendered)).map (fun p =>
        adjustLineLength cw p.1 w.toNat (if sv.linesPadUnstyled then none else style) true) := by
  unfold renderLinesS
  rw [splitAndCrop_eq_tagged]
  simp

/-- `apply_style(s)` on one segment: `s + own style`, a control segment loses its style -/
def restyle (A : SOps σ) (s : σ) (g : Segment σ) : Segment σ :=
  { text := g.text, style := if g.control then none else some (A.addO s g.style), control := g.control }

theorem applyStyle_some (A : SOps σ) (s : σ) (segs : List (Segment σ)) :
    applyStyle A (some s) segs = segs.map (restyle A s) := rfl

theorem applyStyle_mem (A : SOps σ) (s : σ) (segs : List (Segment σ)) (g : Segment σ) (h : g ∈ applyStyle A (some s) segs) :
    ∃ g0 ∈ segs, g.text = g0.text ∧ g.control = g0.control ∧
      g.style = (if g0.control then none else some (A.addO s g0.style)) := by
  rw [applyStyle_some] at h
  obtain ⟨g0, h0, rfl⟩ := List.mem_map.mp h
  exact ⟨g0, h0, rfl, rfl, rfl⟩

theorem applyStyle_stream_chars (A : SOps σ) (style : Option σ) (segs : List (Segment σ)) :
    (stream (applyStyle A style segs)).map (fun x => (x.1, x.2.2)) = (stream segs).map (fun x => (x.1, x.2.2)) := by
  cases style with
  | none => rfl
  | some s =>
    induction segs with
    | nil => rfl
    | cons g rest ih =>
      simp only [applyStyle, List.map_cons, stream_cons, List.map_append, List.map_map] at ih ⊢
      rw [ih]
      simp [Function.comp_def]

/-! ## Padding -/

/-- the pads of a body line in the padding's style -/
def padLeftSegsS (s : σ) (p : PadDims) : List (Segment σ) := if p.left != 0 then [segS (some s) (rep p.left ' ')] else []
def padRightSegsS (s : σ) (p : PadDims) : List (Segment σ) := if p.right != 0 then [segS (some s) (rep p.right ' ')] else []

/-- the lines `Padding(child, pad, style=s)` draws -/
def paddingLinesS (cw : Char → Nat) (A : SOps σ) (sv : SVariant) (s : σ) (p : PadDims) (expand : Bool) (c : Child σ) (w : Int) :
    List (List (Segment σ)) :=
  let width := paddingWidth sv.base p expand c w
  let childW := paddingChildWidth sv.base p expand c w
  List.replicate p.top (blankLineS (some s) width)
    ++ (c.linesAtS cw A sv childW (some s) false).map (fun l =>
          padLeftSegsS s p ++ adjustLineLength cw l childW.toNat (some s) ++ padRightSegsS s p)
    ++ List.replicate p.bottom (blankLineS (some s) width)

theorem paddingConsoleS_lines (cw : Char → Nat) (_hsp : cw ' ' = 1) (_h2 : ∀ c, cw c ≤ 2) (A : SOps σ) (sv : SVariant) (s : σ)
    (p : PadDims) (expand : Bool) (c : Child σ) (w : Int) :
    splitLines (paddingConsoleS cw A sv s p expand c w) = paddingLinesS cw A sv s p expand c w := by
  simp only [paddingConsoleS, setShape_fit cw _ _ none _ (Nat.le_refl _)]
  exact (emits_padded cw (some s) _ _ _ _ _ _ _ (nlFree_optBlank (some s) p.left _) (nlFree_optBlank (some s) p.right _)
    (splitAndCrop_nlFree cw _ _ _ false)).splitLines

theorem linesAtS_of_lt_one (cw : Char → Nat) (A : SOps σ) (sv : SVariant) (c : Child σ) (w : Int) (style : Option σ) (pad : Bool)
    (h : w < 1) : c.linesAtS cw A sv w style pad = [] := by
  cases style <;> simp [Child.linesAtS, Child.renderAt, h, renderLinesS, applyStyle, splitAndCropLines]

/-- `padLeftSegsS s p`, `padRightSegsS s p` are `padSegs (some s) p.left`, `padSegs (some s) p.right` by definition -/
theorem paddingLinesS_width_any (cw : Char → Nat) (hsp : cw ' ' = 1) (h2 : ∀ c, cw c ≤ 2) (A : SOps σ) (sv : SVariant) (s : σ)
    (p : PadDims) (expand : Bool) (c : Child σ) (w : Int) :
    ∀ l ∈ paddingLinesS cw A sv s p expand c w, lineLength cw l = (paddingWidth sv.base p expand c w).toNat :=
  padded_width cw hsp h2 (some s) (some s) _ _ _ _ _ _ (linesAtS_of_lt_one cw A sv c _ _ false)

theorem paddingLinesS_width (cw : Char → Nat) (hsp : cw ' ' = 1) (h2 : ∀ c, cw c ≤ 2) (A : SOps σ) (sv : SVariant) (s : σ)
    (p : PadDims) (expand : Bool) (c : Child σ) (w : Int) (_hfit : (p.left : Int) + p.right ≤ paddingWidth sv.base p expand c w) :
    ∀ l ∈ paddingLinesS cw A sv s p expand c w, lineLength cw l = (paddingWidth sv.base p expand c w).toNat :=
  paddingLinesS_width_any cw hsp h2 A sv s p expand c w

/-! ## Panel -/

/-- the top border line of the styled panel as `split_lines` sees it: the border, or the title oracle's rendering between the
corner pieces, all in the border style `s + b` -/
def panelTopLineS (A : SOps σ) (env : Env) (sv : SVariant) (s b : σ) (title : Option (TitleO σ)) (box : Box) (cwid : Int) :
    Option (List (Segment σ)) :=
  match title with
  | none => some [segS (some (A.add s b)) (boxTop box cwid)]
  | some t =>
    match t.render (A.add s b) (cwid - 2) box.top (if sv.titleAtConsoleWidth then (env.consoleWidth : Int) else cwid - 2) with
    | none => none
    | some ts => some ([segS (some (A.add s b)) [box.topLeft, box.top]] ++ ts ++ [segS (some (A.add s b)) [box.top, box.topRight]])

theorem panelTopLineS_none (A : SOps σ) (env : Env) (sv : SVariant) (s b : σ) (box : Box) (cwid : Int) :
    panelTopLineS A env sv s b none box cwid = some [segS (some (A.add s b)) (boxTop box cwid)] := rfl

theorem panelTopLineS_some (A : SOps σ) (env : Env) (sv : SVariant) (s b : σ) (t : TitleO σ) (box : Box) (cwid : Int) :
    panelTopLineS A env sv s b (some t) box cwid =
      (t.render (A.add s b) (cwid - 2) box.top (if sv.titleAtConsoleWidth then (env.consoleWidth : Int) else cwid - 2)).map
        fun ts => [segS (some (A.add s b)) [box.topLeft, box.top]] ++ ts ++ [segS (some (A.add s b)) [box.top, box.topRight]] := by
  unfold panelTopLineS
  dsimp only
  generalize t.render _ _ _ _ = r
  cases r <;> rfl

/-- The top border for a title oracle that renders to the `cwid − 2` cells it was aligned to (`hr`, `hw`; a simple title by
`simpleTitle_own_width`, a `Text` by `textTitleO_own_width`), where the title is rendered at that width (fix 0e1edf7): corner,
one `top`, the title part, one `top`, corner are `cwid + 2` cells, like every other line of the panel. -/
theorem panelTopLineS_titled (cw : Char → Nat) {box : Box} (hbox : box.Narrow cw) (A : SOps σ) (env : Env) {sv : SVariant}
    (hsv : sv.titleAtConsoleWidth = false) (s b : σ) (t : TitleO σ) {cwid : Int} (h2 : 2 ≤ cwid) {ts : List (Segment σ)}
    (hr : t.render (A.add s b) (cwid - 2) box.top (cwid - 2) = some ts) (hw : lineLength cw ts = (cwid - 2).toNat) :
    ∃ top, panelTopLineS A env sv s b (some t) box cwid = some top ∧ lineLength cw top = (cwid + 2).toNat :=
  ⟨_, by rw [panelTopLineS_some, hsv, if_neg Bool.false_ne_true, hr]; rfl, by rw [hbox.lineLength_titled, hw]; omega⟩

/-- a title oracle is well behaved: whatever it renders is free of line feeds -/
def TitleO.NlFreeO (t : TitleO σ) : Prop := ∀ st n ch rw ts, t.render st n ch rw = some ts → NlFree ts

theorem panelConsoleS_lines (cw : Char → Nat) (A : SOps σ) (env : Env) (sv : SVariant)
    (o : PanelOpts) (s b : σ) (title : Option (TitleO σ)) (c : Child σ) (w : Int) (p : PadDims) (box : Box)
    (out : List (Segment σ)) (hp : unpackPad o.padding = .ok p)
    (hb : boxAt (substituteBox env (o.safeBox.getD env.safeBox) o.box) = some box) (hnn : box.NoNl)
    (ht : ∀ t, title = some t → t.NlFreeO)
    (h : panelConsoleS cw A env sv o s b title c w = .ok (some out)) :
    let cwid := panelChildWidthS sv o title (panelInnerS cw A sv p c) w
    ∃ top, panelTopLineS A env sv s b title box cwid = some top ∧
      splitLines out = [top]
        ++ ((panelInnerS cw A sv p c).linesAtS cw A sv cwid (some s) true).map
            (fun l => [segS (some (A.add s b)) [box.midLeft]] ++ l ++ [segS (some (A.add s b)) [box.midRight]])
        ++ [[segS (some (A.add s b)) (boxBottom box cwid)]] := by
  dsimp only
  unfold panelConsoleS at h
  simp only [hp, hb] at h
  generalize panelChildWidthS sv o title (panelInnerS cw A sv p c) w = cwid at h ⊢
  simp only [show cwid + 2 - 2 = cwid by omega, show cwid + 2 - 4 = cwid - 2 by omega] at h
  refine (emits_panel (some (A.add s b)) hnn cwid _ (splitAndCrop_nlFree cw _ _ _ true)
    (panelTopLineS A env sv s b title box cwid) (fun top htop => ?_) out h).imp fun _ h => ⟨h.1, h.2.splitLines⟩
  cases title with
  | none => exact Option.some.inj htop ▸ hnn.top _ cwid
  | some t =>
    rw [panelTopLineS_some] at htop
    obtain ⟨ts, hts, rfl⟩ := Option.map_eq_some_iff.mp htop
    exact hnn.titled _ (ht t rfl _ _ _ _ ts hts)

/-- what the oracle of a simple title renders: nothing in no space (`Console.render`), else the aligned title through
`textConsoleSimple`, every segment in the requested style -/
theorem simpleTitle_eq_some {cw : Char → Nat} {v : Variant} {title : List Char} {a : AlignM} {t : TitleO σ}
    (h : simpleTitle cw v title a = some t) :
    ∃ t0, panelTitle title = some t0 ∧ ∀ st n ch rw, t.render st n ch rw =
      if rw < 1 then some [] else
        (textConsoleSimple cw v (textAlign cw t0 a n ch) [] rw).map (List.map fun g : Segment σ => { g with style := some st }) := by
  unfold simpleTitle at h
  cases hT : panelTitle title with
  | none => simp [hT] at h
  | some t0 =>
    simp only [hT, Option.some.injEq] at h
    subst h
    refine ⟨t0, rfl, fun st n ch rw => ?_⟩
    simp only
    split
    · rfl
    · cases textConsoleSimple (σ := σ) cw v (textAlign cw t0 a n ch) [] rw <;> rfl

theorem simpleTitle_nlFree (cw : Char → Nat) (v : Variant) (title : List Char) (a : AlignM) (t : TitleO σ)
    (h : simpleTitle cw v title a = some t) : t.NlFreeO := by
  obtain ⟨t0, _, hr⟩ := simpleTitle_eq_some h
  intro st n ch rw ts hts
  rw [hr] at hts
  split at hts
  · exact Option.some.inj hts ▸ NlFree.nil
  · obtain ⟨ts0, hx, rfl⟩ := Option.map_eq_some_iff.mp hts
    intro g hg
    obtain ⟨g0, hg0, rfl⟩ := List.mem_map.mp hg
    exact textConsoleSimple_nlFree cw v _ _ ts0 hx g0 hg0

/-- Rendered at the width `n` it was aligned to, a simple title whose aligned form stays in the simple domain is exactly `n`
cells, provided `rstrip_end` strips nothing (`hlen`: asked of rich 9.10.0 as found only, see `textConsoleSimple_unstripped`). -/
theorem simpleTitle_own_width (cw : Char → Nat) (hsp : cw ' ' = 1) (h2 : ∀ c, cw c ≤ 2) {v : Variant} {title : List Char}
    {a : AlignM} {t : TitleO σ} (ht : simpleTitle cw v title a = some t) (st : σ) (n : Int) (ch : Char) (hch : cw ch = 1)
    (hsimple : ∀ t0, panelTitle title = some t0 → (textAlign cw t0 a n ch).all simpleChar = true)
    (hlen : v.rstripCountsChars = true → ∀ t0, panelTitle title = some t0 → ((textAlign cw t0 a n ch).length : Int) ≤ n) :
    ∃ ts, t.render st n ch n = some ts ∧ lineLength cw ts = n.toNat := by
  obtain ⟨t0, hT, hr⟩ := simpleTitle_eq_some ht
  rw [hr]
  have hw := textAlign_cellLen cw hsp h2 t0 a n ch hch
  split
  · exact ⟨[], rfl, by rw [Int.toNat_eq_zero.mpr (by omega)]; rfl⟩
  · obtain ⟨ts0, hx⟩ : ∃ ts0 : List (Segment σ), textConsoleSimple cw v (textAlign cw t0 a n ch) [] n = some ts0 :=
      ⟨_, textConsoleSimple_eq_some.mpr ⟨⟨hsimple t0 hT, by rw [hw]; omega⟩, rfl⟩⟩
    refine ⟨_, by rw [hx]; rfl, ?_⟩
    -- the style of a segment does not count
    rw [lineLength_of_textCtl cw _ ts0 (by simp [textCtl, Function.comp_def]),
      textConsoleSimple_of_fits cw v _ _ ts0 hx fun hv => hlen hv t0 hT, hw]

/-! ## Align -/

theorem lineToks_restyle (A : SOps σ) (s : σ) (g : Segment σ) :
    lineToks (restyle A s g) = (lineToks g).map (Option.map (restyle A s)) := by
  by_cases hc : (g.text.contains '\n' && !g.control) = true
  · have hctl : g.control = false := by simpa using (Bool.and_eq_true_iff.mp hc).2
    rw [lineToks, lineToks, if_pos hc, if_pos (show ((restyle A s g).text.contains '\n' && !(restyle A s g).control) = true from hc),
      List.map_flatMap]
    refine congrArg (fun f => List.flatMap f _) (funext fun p => ?_)
    cases h1 : p.1.isEmpty <;> cases h2 : p.2 <;> simp [pieceToks, restyle, hctl, h1, h2]
  · rw [lineToks, lineToks, if_neg hc, if_neg (show ¬ ((restyle A s g).text.contains '\n' && !(restyle A s g).control) = true from hc)]
    rfl

theorem splitLines_applyStyle (A : SOps σ) (st : Option σ) (segs : List (Segment σ)) :
    splitLines (applyStyle A st segs) = (splitLines segs).map (applyStyle A st) := by
  cases st with
  | none => exact (List.map_id _).symm
  | some s =>
    show splitLines (applyStyle A (some s) segs) = (splitLines segs).map (List.map (restyle A s))
    rw [applyStyle_some]
    have htoks : (segs.map (restyle A s)).flatMap lineToks = (segs.flatMap lineToks).map (Option.map (restyle A s)) := by
      rw [List.flatMap_map, List.map_flatMap]
      exact congrArg (fun f => List.flatMap f segs) (funext (lineToks_restyle A s))
    rw [splitLines_eq_group, splitLines_eq_group, htoks]
    have := groupToks_map (restyle A s) (segs.flatMap lineToks) []
    rw [List.map_nil] at this
    rw [this, List.map_map, List.map_map]
    rfl

/-- the lines `Align(child, align, style=…)` draws: the pads in the requested style around the child's own
lines, the whole then restyled by `apply_style(style)` -/
def alignLinesS (cw : Char → Nat) (A : SOps σ) (env : Env) (sv : SVariant) (o : AlignOpts) (style : Option σ) (c : Child σ) (w : Int) :
    List (List (Segment σ)) :=
  let L := alignChildLines env sv.base o c w
  let sw := shapeWidth cw L
  let pads : List (Segment σ) × List (Segment σ) := alignPadsS o style (w - sw)
  ((L.map (fun l => adjustLineLength cw l sw none)).map (fun l => pads.1 ++ l ++ pads.2)).map (applyStyle A style)

theorem alignConsoleS_lines (cw : Char → Nat) (A : SOps σ) (env : Env) (sv : SVariant)
    (o : AlignOpts) (style : Option σ) (c : Child σ) (w : Int) :
    splitLines (alignConsoleS cw A env sv o style c w) = alignLinesS cw A env sv o style c w := by
  simp only [alignConsoleS, setShape_fit cw _ _ (some _) none (Nat.le_refl _), splitLines_applyStyle]
  exact congrArg (List.map (applyStyle A style)) (emits_aligned cw o style _ _ _ (splitLines_nlFree _)).splitLines

theorem alignConsoleS_none (cw : Char → Nat) (A : SOps σ) (env : Env) (v : Variant) (o : AlignOpts) (c : Child σ) (w : Int) :
    alignConsoleS cw A env { base := v } o none c w = alignConsole cw env v o c w := rfl

/-! ## VerticalCenter -/

theorem flatten_replicate_pair {α : Type} (n : Nat) (a : List α) :
    (List.replicate n a).flatten = (List.replicate n a).flatMap id := by
  simp [List.flatMap_id]

/-- the lines `VerticalCenter` draws: blank lines of the child's shape width (in the requested style), the
child's own lines, blank lines — `console.height` lines in all unless the child is taller -/
def verticalCenterLinesS (cw : Char → Nat) (height : Int) (style : Option σ) (c : Child σ) (w : Int) :
    List (List (Segment σ)) :=
  let lines := c.linesAt cw w false
  let width := shapeWidth cw lines
  let topSpace : Int := (height - lines.length) / 2
  let bottomSpace : Int := height - topSpace - lines.length
  List.replicate topSpace.toNat [segS style (rep width ' ')] ++ lines ++ List.replicate bottomSpace.toNat [segS style (rep width ' ')]

theorem verticalCenterConsoleS_lines (cw : Char → Nat) (height : Int)
    (style : Option σ) (c : Child σ) (w : Int) :
    splitLines (verticalCenterConsoleS cw height style c w) = verticalCenterLinesS cw height style c w := by
  -- a run of blank lines is left out when its count is not positive: none either way
  have hblank : ∀ (n : Int) (x : Int), Emits (if n > 0 then (List.replicate n.toNat [segS style (rep x ' '), nl]).flatten else [])
      (List.replicate n.toNat [segS style (rep x ' ')]) := by
    intro n x
    split
    · exact (Emits.line (l := [segS style (rep x ' ')]) (nlFree_segS _ _ (rep_no_nl _))).replicate _
    · rw [show n.toNat = 0 by omega]; exact Emits.nil
  exact (((hblank _ _).append (Emits.lines_id (linesAt_nlFree cw c w false))).append (hblank _ _)).splitLines

end RichModel.Frames
