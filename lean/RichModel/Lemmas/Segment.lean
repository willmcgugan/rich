import RichModel.Model.Segment
import RichModel.Lemmas.Cells
/-! `Model/Segment`, read through `stream` (characters with style and control flag) and `lineLength`.  `split_lines` and
`split_and_crop_lines` are both stated against one tagged splitter, and that splitter has a closed form (`lineToks`,
`groupToks`) on which everything said about lines rests. -/
namespace RichModel
variable {σ : Type}

@[simp] theorem stream_nil : stream ([] : List (Segment σ)) = [] := rfl
@[simp] theorem stream_cons (s : Segment σ) (l : List (Segment σ)) :
    stream (s :: l) = s.text.map (fun c => (c, s.style, s.control)) ++ stream l := by
  simp [stream]
@[simp] theorem stream_append (a b : List (Segment σ)) : stream (a ++ b) = stream a ++ stream b := by
  simp [stream]

theorem stream_flatten (L : List (List (Segment σ))) : stream L.flatten = (L.map stream).flatten := by
  induction L with
  | nil => rfl
  | cons l L ih => rw [List.flatten_cons, stream_append, ih]; rfl

theorem Segment.cellLength_control (cw : Char → Nat) {s : Segment σ} (h : s.control = true) : s.cellLength cw = 0 := by
  rw [Segment.cellLength, if_pos h]

theorem Segment.cellLength_text (cw : Char → Nat) {s : Segment σ} (h : s.control = false) :
    s.cellLength cw = cellLen cw s.text := by
  rw [Segment.cellLength, h, if_neg Bool.false_ne_true]

@[simp] theorem lineLength_nil (cw : Char → Nat) : lineLength cw ([] : List (Segment σ)) = 0 := rfl
@[simp] theorem lineLength_cons (cw : Char → Nat) (s : Segment σ) (l : List (Segment σ)) :
    lineLength cw (s :: l) = s.cellLength cw + lineLength cw l := by
  simp [lineLength]
@[simp] theorem lineLength_append (cw : Char → Nat) (a b : List (Segment σ)) :
    lineLength cw (a ++ b) = lineLength cw a + lineLength cw b := by
  simp [lineLength, List.sum_append]

theorem lineLength_of_control (cw : Char → Nat) {l : List (Segment σ)} (h : ∀ s ∈ l, s.control = true) :
    lineLength cw l = 0 := by
  induction l with
  | nil => rfl
  | cons a rest ih =>
    rw [lineLength_cons, Segment.cellLength_control cw (h a List.mem_cons_self),
      ih fun s hs => h s (List.mem_cons_of_mem _ hs)]

theorem lineLength_eq_cellLen (cw : Char → Nat) (l : List (Segment σ)) :
    lineLength cw l = cellLen cw (l.flatMap fun s => if s.control then [] else s.text) := by
  induction l with
  | nil => rfl
  | cons s l ih =>
    rw [lineLength_cons, List.flatMap_cons, cellLen_append, ih]
    unfold Segment.cellLength
    split <;> simp [cellLen_nil]

/-- The crop loop keeps whole segments while they fit (control segments always) and cuts the first that does not with
`set_cell_size`, in that segment's own style; nothing behind it survives. -/
theorem cropLoop_cut (cw : Char → Nat) (length : Nat) (line : List (Segment σ)) (acc : Nat) (h : acc ≤ length) :
    (cropLoop cw length line acc = line ∧ acc + lineLength cw line ≤ length) ∨
    ∃ pre seg post, line = pre ++ seg :: post ∧ acc + lineLength cw pre ≤ length ∧ seg.control = false ∧
      cropLoop cw length line acc = pre ++
        [{ text := setCellSize cw seg.text (length - (acc + lineLength cw pre)), style := seg.style, control := false }] := by
  induction line generalizing acc with
  | nil => exact Or.inl ⟨rfl, h⟩
  | cons seg rest ih =>
    unfold cropLoop
    simp only
    by_cases hc : (decide (acc + seg.cellLength cw < length) || seg.control) = true
    · rw [if_pos hc]
      have hacc : acc + seg.cellLength cw ≤ length := by
        simp only [Bool.or_eq_true, decide_eq_true_eq] at hc
        rcases hc with hc | hc
        · omega
        · rw [Segment.cellLength_control cw hc]; exact h
      rcases ih (acc + seg.cellLength cw) hacc with ⟨e, hle⟩ | ⟨pre, s, post, rfl, hle, hs, e⟩
      · exact Or.inl ⟨by rw [e], by rw [lineLength_cons]; omega⟩
      · refine Or.inr ⟨seg :: pre, s, post, rfl, by rw [lineLength_cons]; omega, hs, ?_⟩
        rw [e, lineLength_cons, Nat.add_assoc]; rfl
    · rw [if_neg hc]
      simp only [Bool.or_eq_true, not_or, Bool.not_eq_true] at hc
      exact Or.inr ⟨[], seg, rest, rfl, h, hc.2, rfl⟩

theorem cropLoop_exact (cw : Char → Nat) (hsp : cw ' ' = 1) (h2 : ∀ c, cw c ≤ 2) (length : Nat)
    (line : List (Segment σ)) (acc : Nat) (h1 : acc ≤ length) (hgt : acc + lineLength cw line > length) :
    acc + lineLength cw (cropLoop cw length line acc) = length := by
  rcases cropLoop_cut cw length line acc h1 with ⟨_, hle⟩ | ⟨pre, s, post, _, hle, _, e⟩
  · omega
  · rw [e, lineLength_append, lineLength_cons, lineLength_nil, Segment.cellLength_text cw rfl,
      cellLen_setCellSize cw hsp h2]
    omega

theorem adjust_of_le (cw : Char → Nat) (line : List (Segment σ)) (length : Nat) (st : Option σ) (pad : Bool)
    (h : lineLength cw line ≤ length) :
    adjustLineLength cw line length st pad =
      line ++ (if pad = true ∧ lineLength cw line < length then
        [{ text := List.replicate (length - lineLength cw line) ' ', style := st, control := false }] else []) := by
  unfold adjustLineLength
  simp only
  by_cases hlt : lineLength cw line < length
  · cases pad <;> simp [hlt]
  · have : ¬ lineLength cw line > length := by omega
    simp [hlt, this]

theorem adjust_of_gt (cw : Char → Nat) (line : List (Segment σ)) (length : Nat) (st : Option σ) (pad : Bool)
    (h : length < lineLength cw line) : adjustLineLength cw line length st pad = cropLoop cw length line 0 := by
  unfold adjustLineLength
  simp only
  rw [if_neg (Nat.lt_asymm h), if_pos h]

theorem adjust_lineLength (cw : Char → Nat) (hsp : cw ' ' = 1) (h2 : ∀ c, cw c ≤ 2)
    (line : List (Segment σ)) (length : Nat) (st : Option σ) (pad : Bool) :
    lineLength cw (adjustLineLength cw line length st pad) =
      if pad = true ∨ length ≤ lineLength cw line then length else lineLength cw line := by
  rcases Nat.lt_or_ge length (lineLength cw line) with hgt | hle
  · rw [adjust_of_gt cw line length st pad hgt, if_pos (Or.inr (Nat.le_of_lt hgt))]
    have := cropLoop_exact cw hsp h2 length line 0 (Nat.zero_le _) (by omega)
    omega
  · rw [adjust_of_le cw line length st pad hle, lineLength_append]
    by_cases hp : pad = true ∧ lineLength cw line < length
    · rw [if_pos hp, if_pos (Or.inl hp.1), lineLength_cons, lineLength_nil, Segment.cellLength_text cw rfl,
        cellLen_replicate_space cw hsp]
      omega
    · rw [if_neg hp, lineLength_nil, Nat.add_zero]
      split
      · next hq => exact Nat.le_antisymm hle (hq.elim (fun hpad => Nat.le_of_not_lt fun hlt => hp ⟨hpad, hlt⟩) id)
      · rfl

theorem adjust_exact (cw : Char → Nat) (hsp : cw ' ' = 1) (h2 : ∀ c, cw c ≤ 2)
    (line : List (Segment σ)) (length : Nat) (st : Option σ) (pad : Bool)
    (h : pad = true ∨ length ≤ lineLength cw line) :
    lineLength cw (adjustLineLength cw line length st pad) = length := by
  rw [adjust_lineLength cw hsp h2, if_pos h]

theorem adjust_le (cw : Char → Nat) (hsp : cw ' ' = 1) (h2 : ∀ c, cw c ≤ 2)
    (line : List (Segment σ)) (length : Nat) (st : Option σ) (pad : Bool) :
    lineLength cw (adjustLineLength cw line length st pad) ≤ length := by
  rw [adjust_lineLength cw hsp h2]
  split <;> omega

/-- What holds of every segment of a line, of the text of a non-control one among them cut by `set_cell_size`, and of
the padding when there is any, holds of every segment of the adjusted line. -/
theorem adjust_forall {Q : Segment σ → Prop} (cw : Char → Nat) (line : List (Segment σ)) (length : Nat) (st : Option σ)
    (pad : Bool)
    (hcut : ∀ seg k, Q seg → seg.control = false →
      Q { text := setCellSize cw seg.text k, style := seg.style, control := false })
    (hpad : pad = true → ∀ k, Q { text := List.replicate k ' ', style := st, control := false })
    (h : ∀ s ∈ line, Q s) : ∀ s ∈ adjustLineLength cw line length st pad, Q s := by
  intro s hs
  rcases Nat.lt_or_ge length (lineLength cw line) with hgt | hle
  · rw [adjust_of_gt cw line length st pad hgt] at hs
    rcases cropLoop_cut cw length line 0 (Nat.zero_le _) with ⟨e, _⟩ | ⟨pre, seg, post, rfl, _, hc, e⟩
    · exact h s (e ▸ hs)
    · rcases List.mem_append.mp (e ▸ hs) with hs | hs
      · exact h s (List.mem_append_left _ hs)
      · cases List.mem_singleton.mp hs
        exact hcut seg _ (h seg (by simp)) hc
  · rw [adjust_of_le cw line length st pad hle] at hs
    rcases List.mem_append.mp hs with hs | hs
    · exact h s hs
    · split at hs
      · next hp => cases List.mem_singleton.mp hs; exact hpad hp.1 _
      · cases hs

theorem adjust_pad_stream (cw : Char → Nat) (line : List (Segment σ)) (length : Nat) (st : Option σ)
    (h : lineLength cw line ≤ length) :
    stream (adjustLineLength cw line length st true) =
      stream line ++ List.replicate (length - lineLength cw line) (' ', st, false) := by
  rw [adjust_of_le cw line length st true h]
  by_cases hlt : lineLength cw line < length
  · simp [hlt]
  · simp [hlt, show length - lineLength cw line = 0 by omega]

/-- Cropping keeps a prefix of the (character, style, control) stream, followed only by spaces of one style (they stand
for the cut half of a double-width character; `cropLoop_cut` says in which segment's style and where). -/
theorem cropLoop_stream (cw : Char → Nat) (length : Nat) (line : List (Segment σ)) (acc : Nat) (h1 : acc ≤ length) :
    ∃ k m sty, stream (cropLoop cw length line acc) = (stream line).take k ++ List.replicate m (' ', sty, false) := by
  rcases cropLoop_cut cw length line acc h1 with ⟨e, _⟩ | ⟨pre, s, post, rfl, _, hs, e⟩
  · exact ⟨(stream line).length, 0, none, by rw [e]; simp⟩
  · obtain ⟨k, m, hk⟩ := setCellSize_shape cw s.text (length - (acc + lineLength cw pre))
    refine ⟨(stream pre).length + min k s.text.length, m, s.style, ?_⟩
    rw [e, stream_append, stream_append, stream_cons, stream_cons, stream_nil, List.append_nil, List.take_append,
      List.take_of_length_le (Nat.le_add_right _ _), Nat.add_sub_cancel_left, hk, hs,
      List.take_append_of_le_length (by simp; omega), List.append_assoc]
    simp [List.map_take]

theorem setShape_length (cw : Char → Nat) (lines : List (List (Segment σ))) (w : Nat) (h : Option Nat)
    (st : Option σ) : (setShape cw lines w h st).length = max lines.length (h.getD lines.length) := by
  simp [setShape]; omega

theorem setShape_fit (cw : Char → Nat) (lines : List (List (Segment σ))) (n : Nat) (h : Option Nat) (st : Option σ)
    (hh : h.getD lines.length ≤ lines.length) :
    setShape cw lines n h st = lines.map (fun l => adjustLineLength cw l n st) := by
  simp [setShape, Nat.sub_eq_zero_of_le hh]

theorem setShape_rect (cw : Char → Nat) (hsp : cw ' ' = 1) (h2 : ∀ c, cw c ≤ 2)
    (lines : List (List (Segment σ))) (w : Nat) (h : Option Nat) (st : Option σ) :
    ∀ l ∈ setShape cw lines w h st, lineLength cw l = w := by
  intro l hl
  simp only [setShape, List.mem_append, List.mem_map, List.mem_replicate] at hl
  rcases hl with ⟨l0, _, rfl⟩ | ⟨_, rfl⟩
  · exact adjust_exact cw hsp h2 l0 w st true (Or.inl rfl)
  · rw [lineLength_cons, lineLength_nil, Segment.cellLength_text cw rfl, cellLen_replicate_space cw hsp, Nat.add_zero]

theorem simplifyLoop_stream [BEq σ] [LawfulBEq σ] : ∀ (rest : List (Segment σ)) (last : Segment σ),
    stream (simplifyLoop false last rest) = stream (last :: rest)
  | [], last => by simp [simplifyLoop]
  | seg :: rest, last => by
      unfold simplifyLoop
      split
      · rename_i hc
        simp only [Bool.false_or, Bool.and_eq_true, Bool.not_eq_true', beq_iff_eq] at hc
        rw [simplifyLoop_stream rest]
        obtain ⟨⟨h1, h2⟩, h3⟩ := hc
        simp [stream_cons, h1, h2, h3]
      · rw [stream_cons, simplifyLoop_stream rest seg]; simp

/-- Specification-level splitter: the lines, each tagged with "was terminated by a newline". -/
def taggedStep (st : List (Segment σ) × List (List (Segment σ) × Bool)) (seg : Segment σ) :
    List (Segment σ) × List (List (Segment σ) × Bool) :=
  if seg.text.contains '\n' && !seg.control then
    (nlPieces seg.text []).foldl (fun (st : List (Segment σ) × List (List (Segment σ) × Bool)) p =>
      let line := if p.1.isEmpty then st.1 else st.1 ++ [{ text := p.1, style := seg.style, control := false }]
      if p.2 then ([], (line, true) :: st.2) else (line, st.2)) st
  else (st.1 ++ [seg], st.2)

def splitLinesTagged (segs : List (Segment σ)) : List (List (Segment σ) × Bool) :=
  let st := segs.foldl taggedStep ([], [])
  (if st.1.isEmpty then st.2 else (st.1, false) :: st.2).reverse

/-! `split_lines` in closed form: every segment is cut into tokens (`lineToks`: its pieces, `none` for a line end), and the
token list is grouped into lines (`groupToks`).  The step of each splitter feeds the segment's tokens to its state one by one,
so a loop over segments is a loop over tokens, and whatever is to be said about the lines of a segment list follows from one
fact about `lineToks` and one induction over the tokens. -/
/-- the tokens of one piece of a segment's text: the piece, unless it is empty, and `none` for the line feed after it -/
def pieceToks (sty : Option σ) (p : List Char × Bool) : List (Option (Segment σ)) :=
  (if p.1.isEmpty then [] else [some { text := p.1, style := sty, control := false }]) ++ (if p.2 then [none] else [])

/-- what one segment contributes to the line structure: its pieces in order, `none` marking a line end -/
def lineToks (seg : Segment σ) : List (Option (Segment σ)) :=
  if seg.text.contains '\n' && !seg.control then (nlPieces seg.text []).flatMap (pieceToks seg.style) else [some seg]

/-- the lines a token list denotes, `cur` being the line under construction; each with "ended by a line feed" -/
def groupToks : List (Option (Segment σ)) → List (Segment σ) → List (List (Segment σ) × Bool)
  | [], cur => if cur.isEmpty then [] else [(cur, false)]
  | some s :: r, cur => groupToks r (cur ++ [s])
  | none :: r, cur => (cur, true) :: groupToks r []

/-- the tagged splitter's state fed one token -/
def feedTok (st : List (Segment σ) × List (List (Segment σ) × Bool)) :
    Option (Segment σ) → List (Segment σ) × List (List (Segment σ) × Bool)
  | some s => (st.1 ++ [s], st.2)
  | none => ([], (st.1, true) :: st.2)

theorem foldl_toks {S : Type} {step : S → Segment σ → S} {feed : S → Option (Segment σ) → S}
    (h : ∀ st seg, step st seg = (lineToks seg).foldl feed st) (segs : List (Segment σ)) (st : S) :
    segs.foldl step st = (segs.flatMap lineToks).foldl feed st := by
  rw [List.foldl_flatMap]
  exact congrArg (fun f => List.foldl f st segs) (funext fun st => funext fun seg => h st seg)

theorem taggedStep_eq_feed (st : List (Segment σ) × List (List (Segment σ) × Bool)) (seg : Segment σ) :
    taggedStep st seg = (lineToks seg).foldl feedTok st := by
  by_cases hc : (seg.text.contains '\n' && !seg.control) = true
  · rw [taggedStep, lineToks, if_pos hc, if_pos hc, List.foldl_flatMap]
    exact congrArg (fun f => List.foldl f st _) (funext fun st => funext fun ⟨txt, nl⟩ => by cases nl <;> cases txt <;> rfl)
  · rw [taggedStep, lineToks, if_neg hc, if_neg hc]; rfl

/-- the state of `split_lines` (line under construction, finished lines reversed) fed one token -/
def feedLine (st : List (Segment σ) × List (List (Segment σ))) :
    Option (Segment σ) → List (Segment σ) × List (List (Segment σ))
  | some s => (st.1 ++ [s], st.2)
  | none => ([], st.1 :: st.2)

theorem splitLinesStep_eq_feed (st : List (Segment σ) × List (List (Segment σ))) (seg : Segment σ) :
    splitLinesStep st seg = (lineToks seg).foldl feedLine st := by
  by_cases hc : (seg.text.contains '\n' && !seg.control) = true
  · rw [splitLinesStep, lineToks, if_pos hc, if_pos hc, List.foldl_flatMap]
    exact congrArg (fun f => List.foldl f st _) (funext fun st => funext fun ⟨txt, nl⟩ => by cases nl <;> cases txt <;> rfl)
  · rw [splitLinesStep, lineToks, if_neg hc, if_neg hc]; rfl

theorem group_feed (toks : List (Option (Segment σ))) (st : List (Segment σ) × List (List (Segment σ) × Bool)) :
    (let r := toks.foldl feedTok st; (if r.1.isEmpty then r.2 else (r.1, false) :: r.2).reverse) =
      st.2.reverse ++ groupToks toks st.1 := by
  induction toks generalizing st with
  | nil => obtain ⟨cur, out⟩ := st; cases cur <;> simp [groupToks]
  | cons tok r ih =>
    cases tok with
    | some s => exact ih (st.1 ++ [s], st.2)
    | none =>
      have := ih ([], (st.1, true) :: st.2)
      rwa [List.reverse_cons, List.append_assoc] at this

theorem splitLinesTagged_eq_group (segs : List (Segment σ)) :
    splitLinesTagged segs = groupToks (segs.flatMap lineToks) [] := by
  unfold splitLinesTagged
  rw [foldl_toks taggedStep_eq_feed]
  simpa using group_feed (segs.flatMap lineToks) ([], [])

/-- token by token, feeding commutes with forgetting the tags -/
theorem splitLines_eq_tagged (segs : List (Segment σ)) :
    splitLines segs = (splitLinesTagged segs).map (·.1) := by
  let φ : List (Segment σ) × List (List (Segment σ) × Bool) → List (Segment σ) × List (List (Segment σ)) :=
    fun b => (b.1, b.2.map (·.1))
  have key : (segs.flatMap lineToks).foldl feedLine ([], []) = φ ((segs.flatMap lineToks).foldl feedTok ([], [])) :=
    List.foldl_hom φ (init := ([], [])) fun b tok => by cases tok <;> rfl
  unfold splitLines splitLinesTagged
  rw [foldl_toks splitLinesStep_eq_feed, foldl_toks taggedStep_eq_feed, key]
  generalize (segs.flatMap lineToks).foldl feedTok ([], []) = st
  simp only [φ]
  split <;> simp

/-- `split_and_crop_lines` (repaired code) is `split_lines` followed by `adjust_line_length` on
every line with the *requested* padding style, plus the newline segment where one was consumed:
its state is the tagged splitter's with every finished line already cropped. -/
theorem splitAndCrop_eq_tagged (cw : Char → Nat) (segs : List (Segment σ)) (length : Nat) (style : Option σ)
    (pad inclNL : Bool) :
    splitAndCropLines cw segs length style pad inclNL false =
      (splitLinesTagged segs).map (fun p =>
        adjustLineLength cw p.1 length style pad ++
          (if p.2 && inclNL then [{ text := ['\n'], style := none, control := false }] else [])) := by
  let post : List (Segment σ) × Bool → List (Segment σ) := fun p =>
    adjustLineLength cw p.1 length style pad ++
      (if p.2 && inclNL then [{ text := ['\n'], style := none, control := false }] else [])
  let φ : List (Segment σ) × List (List (Segment σ) × Bool) → CropState σ :=
    fun b => { line := b.1, padStyle := style, out := b.2.map post }
  have hstep : ∀ b seg, splitAndCropStep cw length pad inclNL false (φ b) seg = φ (taggedStep b seg) := by
    intro b seg
    unfold splitAndCropStep taggedStep
    by_cases hc : (seg.text.contains '\n' && !seg.control) = true
    · rw [if_pos hc, if_pos hc]
      exact List.foldl_hom φ fun st p => by cases p.2 <;> cases inclNL <;> simp [φ, post]
    · rw [if_neg hc, if_neg hc]
  have key : segs.foldl (splitAndCropStep cw length pad inclNL false) { line := [], padStyle := style, out := [] } =
      φ (segs.foldl taggedStep ([], [])) :=
    List.foldl_hom φ (init := ([], [])) hstep
  unfold splitAndCropLines splitLinesTagged
  rw [key]
  generalize segs.foldl taggedStep ([], []) = st
  simp only [φ]
  split <;> simp [post]

theorem groupToks_map (f : Segment σ → Segment σ) (toks : List (Option (Segment σ))) (cur : List (Segment σ)) :
    groupToks (toks.map (Option.map f)) (cur.map f) = (groupToks toks cur).map fun p => (p.1.map f, p.2) := by
  induction toks generalizing cur with
  | nil => cases cur <;> simp [groupToks]
  | cons tok r ih =>
    cases tok with
    | some x => simpa [groupToks] using ih (cur ++ [x])
    | none => simpa [groupToks] using ih []

theorem splitLines_eq_group (segs : List (Segment σ)) :
    splitLines segs = (groupToks (segs.flatMap lineToks) []).map (·.1) := by
  rw [splitLines_eq_tagged, splitLinesTagged_eq_group]

theorem contains_nl_false_iff (t : List Char) : t.contains '\n' = false ↔ ∀ c ∈ t, c ≠ '\n' := by
  simp only [List.contains_eq_mem, decide_eq_false_iff_not]
  constructor
  · intro h c hc heq; subst heq; exact h hc
  · intro h hm; exact h _ hm rfl

theorem nlFree_seg_iff {s : Segment σ} (hc : s.control = false) :
    (s.text.contains '\n' && !s.control) = false ↔ ∀ c ∈ s.text, c ≠ '\n' := by
  rw [hc, Bool.not_false, Bool.and_true, contains_nl_false_iff]

theorem lineToks_of_nlFree (seg : Segment σ) (h : (seg.text.contains '\n' && !seg.control) = false) :
    lineToks seg = [some seg] := by
  rw [lineToks, if_neg (by rw [h]; exact Bool.false_ne_true)]

theorem nlPieces_append_nl : ∀ (t rest cur : List Char), (∀ c ∈ t, c ≠ '\n') →
    nlPieces (t ++ '\n' :: rest) cur = (cur.reverse ++ t, true) :: nlPieces rest []
  | [], rest, cur, _ => by simp [nlPieces]
  | c :: t, rest, cur, h => by
    have hc : (c == '\n') = false := by simpa using h c (by simp)
    simp only [List.cons_append, nlPieces, hc, Bool.false_eq_true, if_false]
    rw [nlPieces_append_nl t rest (c :: cur) (fun d hd => h d (by simp [hd]))]
    simp

/-- a text segment `t + "\n"` (`Segment.line()` for `t = ""`): the piece `t`, if there is one, then a line end -/
theorem lineToks_text_nl (t : List Char) (st : Option σ) (h : ∀ c ∈ t, c ≠ '\n') :
    lineToks ({ text := t ++ ['\n'], style := st, control := false } : Segment σ) =
      (if t.isEmpty then [] else [some { text := t, style := st, control := false }]) ++ [none] := by
  have hc : ((t ++ ['\n']).contains '\n' && !false) = true := by simp
  rw [lineToks, if_pos hc]
  simp only []
  rw [nlPieces_append_nl t [] [] h]
  simp [nlPieces, pieceToks]

namespace Frames

/-- no segment of the line would be split by `split_lines` -/
def NlFree (l : List (Segment σ)) : Prop := ∀ s ∈ l, (s.text.contains '\n' && !s.control) = false

theorem NlFree.nil : NlFree ([] : List (Segment σ)) := fun _ hs => nomatch hs

theorem NlFree.append {a b : List (Segment σ)} (ha : NlFree a) (hb : NlFree b) : NlFree (a ++ b) :=
  List.forall_mem_append.mpr ⟨ha, hb⟩

theorem NlFree.of_append_left {a b : List (Segment σ)} (h : NlFree (a ++ b)) : NlFree a :=
  fun s hs => h s (List.mem_append.mpr (Or.inl hs))

theorem NlFree.of_append_right {a b : List (Segment σ)} (h : NlFree (a ++ b)) : NlFree b :=
  fun s hs => h s (List.mem_append.mpr (Or.inr hs))

theorem NlFree.cons {s : Segment σ} {l : List (Segment σ)} (hs : (s.text.contains '\n' && !s.control) = false)
    (hl : NlFree l) : NlFree (s :: l) :=
  List.forall_mem_cons.mpr ⟨hs, hl⟩

end Frames

theorem foldl_step_nlFree (l cur : List (Segment σ)) (acc : List (List (Segment σ)))
    (h : Frames.NlFree l) :
    l.foldl splitLinesStep (cur, acc) = (cur ++ l, acc) := by
  induction l generalizing cur with
  | nil => simp
  | cons s rest ih =>
    rw [List.foldl_cons, splitLinesStep_eq_feed, lineToks_of_nlFree s (h s List.mem_cons_self)]
    simpa [feedLine] using ih (cur ++ [s]) fun x hx => h x (List.mem_cons_of_mem _ hx)

theorem splitLinesStep_text_nl (st : Option σ) (t : List Char) (h : ∀ c ∈ t, c ≠ '\n') (cur : List (Segment σ))
    (acc : List (List (Segment σ))) :
    splitLinesStep (cur, acc) { text := t ++ ['\n'], style := st, control := false } =
      ([], (if t.isEmpty then cur else cur ++ [{ text := t, style := st, control := false }]) :: acc) := by
  rw [splitLinesStep_eq_feed, lineToks_text_nl t st h]
  split <;> rfl

/-- `out`, fed to `split_lines` at a line start, is exactly the whole lines `Ls` and ends at a line start again. The rules
`Emits.nil / append / flatMap / replicate` follow, read back with `Emits.splitLines`; those for the pieces frames are made of
(`Emits.line`, `Emits.textNl`, `Emits.lines`) are in `Lemmas/Frames.lean`, where `nl` and `segS` exist. -/
def Emits (out : List (Segment σ)) (Ls : List (List (Segment σ))) : Prop :=
  ∀ acc, out.foldl splitLinesStep ([], acc) = ([], Ls.reverse ++ acc)

theorem Emits.nil : Emits ([] : List (Segment σ)) [] := fun _ => rfl

theorem Emits.append {a b : List (Segment σ)} {La Lb : List (List (Segment σ))} (ha : Emits a La) (hb : Emits b Lb) :
    Emits (a ++ b) (La ++ Lb) := by
  intro acc
  rw [List.foldl_append, ha, hb, List.reverse_append, List.append_assoc]

theorem Emits.splitLines {out : List (Segment σ)} {Ls : List (List (Segment σ))} (h : Emits out Ls) :
    splitLines out = Ls := by
  simp [RichModel.splitLines, h []]

theorem Emits.flatMap {α : Type} {xs : List α} {f : α → List (Segment σ)} {g : α → List (List (Segment σ))}
    (h : ∀ x ∈ xs, Emits (f x) (g x)) : Emits (xs.flatMap f) (xs.flatMap g) := by
  induction xs with
  | nil => exact Emits.nil
  | cons x xs ih =>
    rw [List.flatMap_cons, List.flatMap_cons]
    exact (h x List.mem_cons_self).append (ih fun y hy => h y (List.mem_cons_of_mem _ hy))

theorem Emits.replicate {a l : List (Segment σ)} (h : Emits a [l]) (k : Nat) :
    Emits (List.replicate k a).flatten (List.replicate k l) := by
  induction k with
  | zero => exact Emits.nil
  | succ k ih => rw [List.replicate_succ, List.flatten_cons]; exact h.append ih

theorem nlPieces_flat : ∀ (text cur : List Char),
    (nlPieces text cur).flatMap (·.1) = cur.reverse ++ text.filter (fun c => c != '\n')
  | [], cur => by
      unfold nlPieces
      cases cur <;> simp
  | c :: rest, cur => by
      unfold nlPieces
      by_cases hc : c = '\n'
      · subst hc
        simp [nlPieces_flat rest []]
      · have : (c == '\n') = false := by simpa using hc
        simp only [this, Bool.false_eq_true, if_false]
        rw [nlPieces_flat rest (c :: cur)]
        simp [hc]

theorem nlPieces_total (text cur : List Char) :
    (nlPieces text cur).flatMap (fun p => p.1 ++ if p.2 then ['\n'] else []) = cur.reverse ++ text := by
  induction text generalizing cur with
  | nil => unfold nlPieces; cases cur <;> simp
  | cons c rest ih =>
    unfold nlPieces
    by_cases hc : c = '\n'
    · subst hc; simp [ih]
    · simp [hc, ih]

/-- what of the stream survives `split_lines`: everything but the line feeds of non-control segments -/
def keepChar (x : Char × Option σ × Bool) : Bool := x.2.2 || x.1 != '\n'

theorem groupToks_segs (toks : List (Option (Segment σ))) (cur : List (Segment σ)) :
    (groupToks toks cur).flatMap (·.1) = cur ++ toks.filterMap id := by
  induction toks generalizing cur with
  | nil => cases cur <;> simp [groupToks]
  | cons tok r ih => cases tok <;> simp [groupToks, ih]

theorem pieceToks_stream (sty : Option σ) (ps : List (List Char × Bool)) :
    stream ((ps.flatMap (pieceToks sty : _ → List (Option (Segment σ)))).filterMap id) =
      (ps.flatMap (·.1)).map (fun c => (c, sty, false)) := by
  induction ps with
  | nil => rfl
  | cons p ps ih =>
    obtain ⟨txt, nl⟩ := p
    rw [List.flatMap_cons, List.filterMap_append, stream_append, ih, List.flatMap_cons, List.map_append]
    congr 1
    cases txt with
    | nil => cases nl <;> rfl
    | cons c cs => cases nl <;> exact List.append_nil _

theorem lineToks_stream (seg : Segment σ) : stream ((lineToks seg).filterMap id) = (stream [seg]).filter keepChar := by
  unfold lineToks
  split
  · next h =>
    simp only [Bool.and_eq_true, Bool.not_eq_true'] at h
    rw [pieceToks_stream, nlPieces_flat]
    simp only [List.reverse_nil, List.nil_append, stream_cons, stream_nil, List.append_nil, List.filter_map, h.2]
    congr 1
  · next h =>
    -- a segment left whole is a control segment or holds no line feed: every character is kept
    show stream [seg] = _
    refine (List.filter_eq_self.mpr fun x hx => ?_).symm
    simp only [stream_cons, stream_nil, List.append_nil, List.mem_map] at hx
    obtain ⟨c, hc, rfl⟩ := hx
    cases hctl : seg.control with
    | true => rfl
    | false => simp [keepChar, (nlFree_seg_iff hctl).mp (by simpa using h) c hc]

theorem splitLines_flatten (segs : List (Segment σ)) :
    (splitLines segs).flatten = (segs.flatMap lineToks).filterMap id := by
  rw [splitLines_eq_group, ← List.flatMap_def, groupToks_segs, List.nil_append]

theorem splitLines_stream (segs : List (Segment σ)) :
    ((splitLines segs).map stream).flatten = (stream segs).filter keepChar := by
  rw [← stream_flatten, splitLines_flatten]
  induction segs with
  | nil => rfl
  | cons s r ih =>
    rw [List.flatMap_cons, List.filterMap_append, stream_append, ih, lineToks_stream, ← List.filter_append,
      ← stream_append]
    rfl

/-! the tokens read back as segments: what `split_and_crop_lines(include_new_lines=True)` chains when no line is cut -/

/-- the line feed `split_and_crop_lines` puts back after a finished line -/
def nlSeg : Segment σ := { text := ['\n'], style := none, control := false }

/-- a token read back as a segment: itself, or the line feed for a line end -/
def tokSeg : Option (Segment σ) → Segment σ
  | some s => s
  | none => nlSeg

theorem groupToks_laid (toks : List (Option (Segment σ))) (cur : List (Segment σ)) :
    (groupToks toks cur).flatMap (fun p => p.1 ++ if p.2 then [nlSeg] else []) = cur ++ toks.map tokSeg := by
  induction toks generalizing cur with
  | nil => cases cur <;> simp [groupToks]
  | cons tok r ih => cases tok <;> simp [groupToks, ih, tokSeg]

theorem mem_groupToks {toks : List (Option (Segment σ))} {cur : List (Segment σ)} {p : List (Segment σ) × Bool}
    (hp : p ∈ groupToks toks cur) {s : Segment σ} (hs : s ∈ p.1) : s ∈ cur ∨ some s ∈ toks := by
  have : s ∈ (groupToks toks cur).flatMap (·.1) := List.mem_flatMap.mpr ⟨p, hp, hs⟩
  rw [groupToks_segs] at this
  exact (List.mem_append.mp this).imp_right fun h => by simpa using h

/-- **When every line fits, `split_and_crop_lines(pad=False, include_new_lines=True)` only cuts the segments anew at their
line feeds**: chained, its lines are the tokens of the segments read back. -/
theorem crop_recut (cw : Char → Nat) (segs : List (Segment σ)) (w : Nat) (st : Option σ)
    (hfit : ∀ l ∈ splitLines segs, lineLength cw l ≤ w) :
    (splitAndCropLines cw segs w st false true false).flatten = (segs.flatMap lineToks).map tokSeg := by
  have h := groupToks_laid (segs.flatMap lineToks) []
  rw [List.nil_append, ← splitLinesTagged_eq_group, List.flatMap_def] at h
  rw [splitLines_eq_tagged] at hfit
  rw [← h, splitAndCrop_eq_tagged]
  refine congrArg List.flatten (List.map_congr_left fun p hp => ?_)
  rw [adjust_of_le cw p.1 w st false (hfit p.1 (List.mem_map_of_mem hp)), if_neg (fun h => Bool.false_ne_true h.1),
    List.append_nil, Bool.and_true]
  rfl

/-- A property of segments kept by `split_and_crop_lines(…, pad=False)`: it holds for every piece of a segment that
has it (same style, characters of the segment or blanks), and for the bare newline segment. -/
structure CropClosed (Q : Segment σ → Prop) : Prop where
  sub : ∀ (seg : Segment σ) (text' : List Char), Q seg → (∀ c ∈ text', c ∈ seg.text ∨ c = ' ') →
    Q { text := text', style := seg.style, control := false }
  nl : Q { text := ['\n'], style := none, control := false }

theorem mem_nlPieces {text : List Char} {p : List Char × Bool} (hp : p ∈ nlPieces text []) {c : Char} (hc : c ∈ p.1) :
    c ∈ text ∧ c ≠ '\n' := by
  have : c ∈ (nlPieces text []).flatMap (·.1) := List.mem_flatMap.mpr ⟨p, hp, hc⟩
  rw [nlPieces_flat] at this
  simpa using this

theorem mem_pieceToks {sty : Option σ} {p : List Char × Bool} {x : Segment σ} (h : some x ∈ pieceToks sty p) :
    x = { text := p.1, style := sty, control := false } := by
  unfold pieceToks at h
  rcases List.mem_append.mp h with h | h
  · split at h
    · cases h
    · exact Option.some.inj (List.mem_singleton.mp h)
  · split at h
    · cases List.mem_singleton.mp h
    · cases h

/-- A token of a segment that is a segment: the segment itself where it is not split; else a piece of it, in its style, made
of characters of its text other than the line feed. -/
theorem mem_lineToks {seg x : Segment σ} (h : some x ∈ lineToks seg) :
    (x = seg ∧ (seg.text.contains '\n' && !seg.control) = false) ∨
    ∃ t, x = { text := t, style := seg.style, control := false } ∧ ∀ c ∈ t, c ∈ seg.text ∧ c ≠ '\n' := by
  unfold lineToks at h
  split at h
  · obtain ⟨p, hp, hx⟩ := List.mem_flatMap.mp h
    exact .inr ⟨p.1, mem_pieceToks hx, fun c hc => mem_nlPieces hp hc⟩
  · next hno => exact .inl ⟨(Option.some.inj (List.mem_singleton.mp h)), by simpa using hno⟩

/-- **`split_and_crop_lines(…, pad=False, include_new_lines=True)` keeps every such property**: its lines are the grouped
tokens, cropped, with the line feed put back. -/
theorem splitAndCrop_closed (Q : Segment σ → Prop) (hQ : CropClosed Q) (cw : Char → Nat) (segs : List (Segment σ)) (n : Nat)
    (st : Option σ) (h : ∀ s ∈ segs, Q s) : ∀ s ∈ (splitAndCropLines cw segs n st false true false).flatten, Q s := by
  intro s hs
  rw [splitAndCrop_eq_tagged, splitLinesTagged_eq_group] at hs
  obtain ⟨l, hl, hsl⟩ := List.mem_flatten.mp hs
  obtain ⟨p, hp, rfl⟩ := List.mem_map.mp hl
  rcases List.mem_append.mp hsl with hsl | hsl
  · refine adjust_forall cw p.1 n st false (fun seg _ hq _ => hQ.sub seg _ hq (setCellSize_chars cw seg.text _))
      (fun hp => nomatch hp) (fun x hx => ?_) s hsl
    obtain ⟨seg, hseg, hx⟩ := List.mem_flatMap.mp ((mem_groupToks hp hx).resolve_left (fun h => nomatch h))
    rcases mem_lineToks hx with ⟨rfl, _⟩ | ⟨t, rfl, ht⟩
    · exact h _ hseg
    · exact hQ.sub seg t (h seg hseg) fun c hc => .inl (ht c hc).1
  · split at hsl
    · cases List.mem_singleton.mp hsl; exact hQ.nl
    · cases hsl

theorem lineToks_text (seg : Segment σ) : ((lineToks seg).map tokSeg).flatMap (·.text) = seg.text := by
  unfold lineToks
  split
  · refine Eq.trans ?_ (nlPieces_total seg.text [])
    rw [List.flatMap_map, List.flatMap_assoc]
    congr 1; funext ⟨t, nl⟩
    cases nl <;> by_cases he : t = [] <;> simp [pieceToks, tokSeg, nlSeg, he]
  · simp [tokSeg]

theorem lineToks_control (seg : Segment σ) : ∀ x ∈ (lineToks seg).map tokSeg, x.control = seg.control := by
  intro x hx
  obtain ⟨tok, htok, rfl⟩ := List.mem_map.mp hx
  cases hc : seg.control with
  | true =>
    rw [lineToks_of_nlFree seg (by simp [hc])] at htok
    cases List.mem_singleton.mp htok; exact hc
  | false =>
    cases tok with
    | none => rfl
    | some y =>
      rcases mem_lineToks htok with ⟨rfl, _⟩ | ⟨t, rfl, _⟩
      · exact hc
      · rfl

theorem lineToks_nlFree {seg x : Segment σ} (h : some x ∈ lineToks seg) : (x.text.contains '\n' && !x.control) = false := by
  rcases mem_lineToks h with ⟨rfl, hno⟩ | ⟨t, rfl, ht⟩
  · exact hno
  · exact (nlFree_seg_iff rfl).mpr fun c hc => (ht c hc).2

def textCtl (s : Segment σ) : List Char × Bool := (s.text, s.control)

theorem applyStyle_textCtl (add : σ → σ → σ) (truthy : σ → Bool) (segs : List (Segment σ)) (st ps : Option σ) :
    (applyStyle add truthy segs st ps).map textCtl = segs.map textCtl := by
  unfold applyStyle
  cases st <;> cases ps <;> simp [List.map_map, Function.comp_def, textCtl]

theorem applyStyle_control_unstyled (add : σ → σ → σ) (truthy : σ → Bool) (segs : List (Segment σ)) (st ps : Option σ)
    (h : st.isSome ∨ ps.isSome) :
    ∀ s ∈ applyStyle add truthy segs st ps, s.control = true → s.style = none := by
  unfold applyStyle
  intro s hs hc
  -- whichever pass ran last rebuilt `s`, copying the control flag and leaving a control segment unstyled
  cases ps with
  | some p =>
    obtain ⟨a, _, rfl⟩ := List.mem_map.1 hs
    exact if_pos hc
  | none =>
    cases st with
    | none => simp at h
    | some t =>
      obtain ⟨a, _, rfl⟩ := List.mem_map.1 hs
      exact if_pos hc

theorem stream_chars (segs : List (Segment σ)) :
    (stream segs).map (fun x => (x.1, x.2.2)) = segs.flatMap (fun s => s.text.map (fun c => (c, s.control))) := by
  induction segs with
  | nil => rfl
  | cons a r ih => simp [stream_cons, List.map_append, ih, List.map_map, Function.comp_def]

theorem visible_eq_stream {α : Type} (g : Char → Option σ → α) (l : List (Segment σ)) :
    (l.filter (fun s => !s.control)).flatMap (fun s => s.text.map (fun c => g c s.style)) =
      ((stream l).filter (fun x => !x.2.2)).map (fun x => g x.1 x.2.1) := by
  induction l with
  | nil => rfl
  | cons s l ih =>
    rw [stream_cons, List.filter_append, List.map_append, ← ih, List.filter_cons]
    cases s.control
    · simp [Function.comp_def, List.filter_eq_self.mpr]
    · simp [List.filter_map, Function.comp_def]

theorem chars_of_textCtl (a b : List (Segment σ)) (h : a.map textCtl = b.map textCtl) :
    a.flatMap (fun s => s.text.map (fun c => (c, s.control))) = b.flatMap (fun s => s.text.map (fun c => (c, s.control))) := by
  have e : ∀ l : List (Segment σ), l.flatMap (fun s => s.text.map (fun c => (c, s.control))) =
      (l.map textCtl).flatMap (fun p => p.1.map (fun c => (c, p.2))) := fun l => by
    rw [List.flatMap_map]; rfl
  rw [e a, e b, h]

theorem lineLength_of_textCtl (cw : Char → Nat) (a b : List (Segment σ)) (h : a.map textCtl = b.map textCtl) :
    lineLength cw a = lineLength cw b := by
  have e : ∀ l : List (Segment σ), lineLength cw l =
      ((l.map textCtl).map (fun p => if p.2 then 0 else cellLen cw p.1)).sum := fun l => by
    rw [List.map_map]; rfl
  rw [e a, e b, h]

theorem stripStyles_textCtl (segs : List (Segment σ)) : (stripStyles segs).map textCtl = segs.map textCtl := by
  simp [stripStyles, List.map_map, Function.comp_def, textCtl]

theorem removeColor_textCtl (truthy : σ → Bool) (noColor : σ → σ) (segs : List (Segment σ)) :
    (removeColor truthy noColor segs).map textCtl = segs.map textCtl := by
  simp [removeColor, List.map_map, Function.comp_def, textCtl]

theorem stripLinks_textCtl (truthy : σ → Bool) (noLink : σ → σ) (segs : List (Segment σ)) :
    (stripLinks truthy noLink segs).map textCtl = segs.map textCtl := by
  unfold stripLinks
  rw [List.map_map]
  apply List.map_congr_left
  intro s _
  simp only [Function.comp, textCtl]
  cases hs : s.style with
  | none => rfl
  | some st =>
    simp only
    by_cases hc : s.control = true
    · simp [hc]
    · have : s.control = false := by simpa using hc
      simp [this]

theorem filterControl_flag (segs : List (Segment σ)) (b : Bool) : ∀ s ∈ filterControl segs b, s.control = b := by
  intro s hs
  simp only [filterControl, List.mem_filter, beq_iff_eq] at hs
  exact hs.2

theorem filterControl_cons (a : Segment σ) (r : List (Segment σ)) (b : Bool) :
    filterControl (a :: r) b = if a.control = b then a :: filterControl r b else filterControl r b := by
  unfold filterControl
  rw [List.filter_cons]
  cases a.control <;> cases b <;> rfl

theorem filterControl_count (segs : List (Segment σ)) :
    (filterControl segs true).length + (filterControl segs false).length = segs.length := by
  induction segs with
  | nil => rfl
  | cons a r ih =>
    rw [filterControl_cons, filterControl_cons]
    cases a.control
    · rw [if_neg Bool.false_ne_true, if_pos rfl, List.length_cons, List.length_cons, ← ih]; rfl
    · rw [if_pos rfl, if_neg (fun h => Bool.false_ne_true h.symm), List.length_cons, List.length_cons, ← ih]; omega

theorem filterControl_lineLength (cw : Char → Nat) (segs : List (Segment σ)) :
    lineLength cw (filterControl segs false) = lineLength cw segs := by
  induction segs with
  | nil => rfl
  | cons a r ih =>
    rw [filterControl_cons, lineLength_cons]
    cases h : a.control
    · rw [if_pos rfl, lineLength_cons, ih]
    · rw [if_neg (fun h => Bool.false_ne_true h.symm), ih, Segment.cellLength_control cw h, Nat.zero_add]

theorem filterControl_sublist (segs : List (Segment σ)) (b : Bool) : (filterControl segs b).Sublist segs := by
  unfold filterControl; exact List.filter_sublist

theorem foldl_max_ge_nat (xs : List Nat) : ∀ (a : Nat), a ≤ xs.foldl max a ∧ ∀ x ∈ xs, x ≤ xs.foldl max a := by
  induction xs with
  | nil => intro a; simp
  | cons y ys ih =>
    intro a
    simp only [List.foldl_cons]
    have := ih (max a y)
    refine ⟨by omega, ?_⟩
    intro x hx
    rcases List.mem_cons.mp hx with hx | hx
    · subst hx; omega
    · exact this.2 x hx

theorem getShape_spec (cw : Char → Nat) (lines : List (List (Segment σ))) :
    (getShape cw lines).2 = lines.length ∧ ∀ l ∈ lines, lineLength cw l ≤ (getShape cw lines).1 := by
  refine ⟨rfl, ?_⟩
  intro l hl
  exact (foldl_max_ge_nat (lines.map (lineLength cw)) 0).2 _ (List.mem_map_of_mem hl)

theorem setCellSize_no_nl (cw : Char → Nat) (t : List Char) (n : Nat)
    (h : ∀ c ∈ t, c ≠ '\n') : ∀ c ∈ setCellSize cw t n, c ≠ '\n' := fun c hc =>
  (setCellSize_chars cw t n c hc).elim (h c) fun e => e ▸ by decide

theorem adjust_nlFree (cw : Char → Nat) (line : List (Segment σ))
    (n : Nat) (st : Option σ) (pad : Bool) (h : Frames.NlFree line) : Frames.NlFree (adjustLineLength cw line n st pad) := by
  refine adjust_forall cw line n st pad (fun seg k hq hc => ?_) (fun _ k => ?_) h
  · exact (nlFree_seg_iff rfl).mpr (setCellSize_no_nl cw seg.text k ((nlFree_seg_iff hc).mp hq))
  · exact (nlFree_seg_iff rfl).mpr fun c hc => (List.mem_replicate.mp hc).2 ▸ by decide

theorem splitLines_nlFree (segs : List (Segment σ)) : ∀ l ∈ splitLines segs, Frames.NlFree l := by
  intro l hl s hs
  rw [splitLines_eq_group] at hl
  obtain ⟨p, hp, rfl⟩ := List.mem_map.mp hl
  obtain ⟨seg, _, h⟩ := List.mem_flatMap.mp ((mem_groupToks hp hs).resolve_left (fun h => nomatch h))
  exact lineToks_nlFree h

theorem splitAndCrop_mem {cw : Char → Nat} {segs : List (Segment σ)} {n : Nat} {st : Option σ} {pad : Bool}
    {l : List (Segment σ)} (hl : l ∈ splitAndCropLines cw segs n st pad false false) :
    ∃ l0 ∈ splitLines segs, l = adjustLineLength cw l0 n st pad := by
  rw [splitAndCrop_eq_tagged] at hl
  simp only [Bool.and_false, Bool.false_eq_true, if_false, List.append_nil, List.mem_map] at hl
  obtain ⟨p, hp, rfl⟩ := hl
  exact ⟨p.1, by rw [splitLines_eq_tagged]; exact List.mem_map_of_mem hp, rfl⟩

theorem splitAndCrop_nlFree (cw : Char → Nat) (segs : List (Segment σ)) (n : Nat)
    (st : Option σ) (pad : Bool) : ∀ l ∈ splitAndCropLines cw segs n st pad false false, Frames.NlFree l := by
  intro l hl
  obtain ⟨l0, h0, rfl⟩ := splitAndCrop_mem hl
  exact adjust_nlFree cw _ _ _ _ (splitLines_nlFree segs l0 h0)

theorem splitAndCrop_exact (cw : Char → Nat) (hsp : cw ' ' = 1) (h2 : ∀ c, cw c ≤ 2) (segs : List (Segment σ)) (n : Nat)
    (st : Option σ) : ∀ l ∈ splitAndCropLines cw segs n st true false false, lineLength cw l = n := by
  intro l hl
  obtain ⟨l0, _, rfl⟩ := splitAndCrop_mem hl
  exact adjust_exact cw hsp h2 l0 n st true (Or.inl rfl)

theorem splitAndCrop_le (cw : Char → Nat) (hsp : cw ' ' = 1) (h2 : ∀ c, cw c ≤ 2) (segs : List (Segment σ)) (n : Nat)
    (st : Option σ) (pad : Bool) : ∀ l ∈ splitAndCropLines cw segs n st pad false false, lineLength cw l ≤ n := by
  intro l hl
  obtain ⟨l0, _, rfl⟩ := splitAndCrop_mem hl
  exact adjust_le cw hsp h2 l0 n st pad

end RichModel
