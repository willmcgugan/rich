import RichModel.Lemmas.AnsiBuffer
/-!
Lemmas for property C03: histories of calls on shared `Style` objects (repaired code).  Every writing step
writes the tokens of the cache-free specification `specOpsToks`, and those mean what `specOps` says for the styles
as they are at that moment.  Core Lean only.
-/
namespace RichModel.AnsiRender
open RichModel RichModel.AnsiTerm

variable {cc : Cfg} {P : Palettes}

/-- A heap of objects with empty caches. -/
def freshHeap (styles : List Style) : Heap := styles.map fun s => { style := s, ansi := none }

theorem freshHeap_styles (styles : List Style) : (freshHeap styles).map (·.style) = styles := by
  simp [freshHeap, Function.comp_def]

/-- The cache-free specification of a history: only the styles are tracked; every writing step must
show what `expectedCells` / `expected` say for the styles as they are at that moment. -/
def specOps (cc : Cfg) (P : Palettes) : List Style → List Op → List (List Cell)
  | _, [] => []
  | styles, .newStyle s :: rest => specOps cc P (styles ++ [s]) rest
  | styles, .copy i :: rest =>
    match styles[i]? with
    | some s => specOps cc P (styles ++ [Style.copy s]) rest
    | none => []
  | styles, .updateLink i link :: rest =>
    match styles[i]? with
    | some s => specOps cc P (styles ++ [Style.updateLink StyleVariant.fixed s link]) rest
    | none => []
  | styles, .render cfg segs :: rest =>
    expectedCells cc P cfg (freshHeap styles) segs :: specOps cc P styles rest
  | styles, .styleRender i text cs lw :: rest =>
    (let e := expected cc P ⟨cs, false, true, lw⟩ styles[i]?
     text.map fun c => (⟨c, e.1, e.2⟩ : Cell)) :: specOps cc P styles rest

/-- Well-formed histories: new styles are well-formed, indices name existing objects (`n` = number of
objects so far). -/
def OpsOK : Nat → List Op → Prop
  | _, [] => True
  | n, .newStyle s :: rest => StyleWF s ∧ OpsOK (n + 1) rest
  | n, .copy i :: rest => i < n ∧ OpsOK (n + 1) rest
  | n, .updateLink i _ :: rest => i < n ∧ OpsOK (n + 1) rest
  | n, .render _ segs :: rest => (∀ seg ∈ segs, ∀ i, seg.style = some i → i < n) ∧ OpsOK n rest
  | n, .styleRender i _ _ _ :: rest => i < n ∧ OpsOK n rest

theorem styleWF_null : StyleWF Style.null := by
  constructor <;> simp [Style.null, strTruthy]

/-- A non-null style with the colours and attribute masks of a sound object's style may take over its cache:
`_make_ansi_codes` reads nothing else. -/
theorem objOK_same_codes {o : StyleObj} (ho : ObjOK cc P o) (s : Style) (hn : s.isNull = false)
    (h1 : s.color = o.style.color) (h2 : s.bgcolor = o.style.bgcolor) (h3 : s.attributes = o.style.attributes)
    (h4 : s.setAttributes = o.style.setAttributes) : ObjOK cc P { style := s, ansi := o.ansi } :=
  ⟨⟨h1 ▸ ho.1.color, h2 ▸ ho.1.bgcolor, fun h => by rw [hn] at h; cases h⟩,
   fun cs codes hc => (computeCodes_congr cc P o.style s cs h1 h2 h3 h4).trans (ho.2 cs codes hc)⟩

theorem objOK_copy {o : StyleObj} (ho : ObjOK cc P o) :
    ObjOK cc P { style := Style.copy o.style, ansi := if o.style.isNull then none else o.ansi } := by
  by_cases hn : o.style.isNull = true
  · simp only [Style.copy, hn, if_true]
    exact objOK_fresh styleWF_null
  · simp only [Style.copy, hn, Bool.false_eq_true, if_false]
    exact objOK_same_codes ho _ rfl rfl rfl rfl rfl

theorem objOK_updateLink {o : StyleObj} (ho : ObjOK cc P o) (link : Option (List Char)) :
    ObjOK cc P { style := Style.updateLink StyleVariant.fixed o.style link, ansi := o.ansi } :=
  objOK_same_codes ho _ rfl rfl rfl rfl rfl

theorem heapOK_append {heap : Heap} {o : StyleObj} (h : HeapOK cc P heap) (ho : ObjOK cc P o) :
    HeapOK cc P (heap ++ [o]) :=
  List.forall_mem_append.2 ⟨h, List.forall_mem_singleton.2 ho⟩

/-- The cache-free token specification of a history; `specOps` is its image under `interp` (`runOps_spec`). -/
def specOpsToks (cc : Cfg) (P : Palettes) : List Style → List Op → List (List Tok)
  | _, [] => []
  | styles, .newStyle s :: rest => specOpsToks cc P (styles ++ [s]) rest
  | styles, .copy i :: rest =>
    match styles[i]? with
    | some s => specOpsToks cc P (styles ++ [Style.copy s]) rest
    | none => []
  | styles, .updateLink i link :: rest =>
    match styles[i]? with
    | some s => specOpsToks cc P (styles ++ [Style.updateLink StyleVariant.fixed s link]) rest
    | none => []
  | styles, .render cfg segs :: rest =>
    specToks cc P cfg (freshHeap styles) segs :: specOpsToks cc P styles rest
  | styles, .styleRender i text cs lw :: rest =>
    (match styles[i]? with
     | some s => freshToks cc P s text cs lw
     | none => []) :: specOpsToks cc P styles rest

/-- One step of a well-formed history on a sound heap (repaired code): it does not raise, keeps the heap sound, and is
one step of both specifications — what it wrote heads `specOpsToks`, what that means heads `specOps`. -/
theorem stepOp_spec (cc : Cfg) (hP : P.ok = true) (heap : Heap) (hok : HeapOK cc P heap) (op : Op) (rest : List Op)
    (hops : OpsOK heap.length (op :: rest)) :
    ∃ heap' out, stepOp .repaired cc P heap op = .ok (heap', out) ∧ HeapOK cc P heap' ∧ OpsOK heap'.length rest ∧
      specOpsToks cc P (heap.map (·.style)) (op :: rest) = out.toList ++ specOpsToks cc P (heap'.map (·.style)) rest ∧
      specOps cc P (heap.map (·.style)) (op :: rest) =
        (out.map interp).toList ++ specOps cc P (heap'.map (·.style)) rest ∧
      ∀ t ∈ out, finalState t = {} := by
  have hget : ∀ i, i < heap.length → ∃ o, heap[i]? = some o ∧ ObjOK cc P o := fun i hi =>
    ⟨heap[i], by simp [hi], hok _ (List.getElem_mem hi)⟩
  cases op with
  | newStyle s =>
    exact ⟨_, none, rfl, heapOK_append hok (objOK_fresh hops.1), by simpa using hops.2,
      by simp [specOpsToks], by simp [specOps], by simp⟩
  | copy i =>
    obtain ⟨o, ho, hoo⟩ := hget i hops.1
    exact ⟨_, none, by simp [stepOp, ho], heapOK_append hok (objOK_copy hoo), by simpa using hops.2,
      by simp [specOpsToks, ho], by simp [specOps, ho], by simp⟩
  | updateLink i link =>
    obtain ⟨o, ho, hoo⟩ := hget i hops.1
    exact ⟨_, none, by simp [stepOp, ho], heapOK_append hok (objOK_updateLink hoo link), by simpa using hops.2,
      by simp [specOpsToks, ho], by simp [specOps, ho], by simp⟩
  | render cfg segs =>
    obtain ⟨heap', g1, g2, g3⟩ := renderBuffer_toks hP cfg heap segs hok hops.1
    have hlen : heap'.length = heap.length := by simpa using congrArg List.length g3
    have hm := specToks_means cc hP cfg heap (fun o ho => (hok o ho).1) segs
    refine ⟨heap', some (specToks cc P cfg heap segs), by simp [stepOp, g1, bind, Except.bind], g2, hlen ▸ hops.2, ?_, ?_, ?_⟩
    · simp [specOpsToks, g3, specToks, loopToks_congr cc P cfg _ (freshHeap_styles _) segs]
    · simp [specOps, g3, expectedCells_congr cc P cfg (freshHeap_styles _) segs, interp, hm]
    · simp [finalState, hm]
  | styleRender i text cs lw =>
    obtain ⟨o, ho, hoo⟩ := hget i hops.1
    obtain ⟨o', g1, g2, g3⟩ := styleRender_eq_fresh .repaired rfl hP o hoo text cs lw
    have hm := freshToks_means cc hP ⟨cs, false, true, lw⟩ o.style hoo.1 text (by intro h; cases h)
    refine ⟨heap.set i o', some (freshToks cc P o.style text cs lw), by simp [stepOp, ho, g1, liftPy, bind, Except.bind],
      forall_mem_set hok i g3, by simpa using hops.2, ?_, ?_, ?_⟩
    · simp [specOpsToks, map_style_set ho g2, ho]
    · simp [specOps, map_style_set ho g2, ho, interp, hm]
    · simp [finalState, hm]

theorem runOps_spec (cc : Cfg) (hP : P.ok = true) (ops : List Op) :
    ∀ heap : Heap, HeapOK cc P heap → OpsOK heap.length ops →
      runOps .repaired cc P heap ops = (specOpsToks cc P (heap.map (·.style)) ops).map Except.ok ∧
      (specOpsToks cc P (heap.map (·.style)) ops).map interp = specOps cc P (heap.map (·.style)) ops ∧
      ∀ o ∈ specOpsToks cc P (heap.map (·.style)) ops, finalState o = {} := by
  induction ops with
  | nil => intro heap _ _; exact ⟨rfl, rfl, fun o ho => by cases ho⟩
  | cons op rest ih =>
    intro heap hok hops
    obtain ⟨heap', out, h1, h2, h3, h4, h5, h6⟩ := stepOp_spec cc hP heap hok op rest hops
    obtain ⟨i1, i2, i3⟩ := ih heap' h2 h3
    rw [h4, h5, runOps, h1]
    cases out with
    | none => exact ⟨i1, i2, i3⟩
    | some toks => exact ⟨by simp [i1], by simp [i2], by simpa using ⟨h6 toks rfl, i3⟩⟩

end RichModel.AnsiRender
