import RichModel.Lemmas.LiveInv
/-!
Every non-`stop` operation of a well-formed history preserves the invariant `Good`, and while its
output is replayed the cursor stays at or below the first row under the printed lines.
-/
namespace RichModel.Live
open RichModel RichModel.Screen

variable {cfg : Cfg} {st st1 : St} {v : View} {s : Screen}

/-- The invariant through one request (`Ask`) made from a state `st1` that differs from `st` only in what a later
rendering reads: the view gains the lines printed, and the frame is the one drawn if the hook is installed. -/
theorem good_ask (hc : cfg.plain = true) (hH : 1 ≤ cfg.height) (g : Good cfg st v s)
    (hsets : Edits st1 st) (h1 : st1.shape = st.shape) (a : Ask)
    (hfit : (a.draws && decide (st.hooks > 0)) = true → (shown cfg (a.res cfg noFault st1).st).length ≤ cfg.height) :
    ∃ s', Run cfg.height v.printed.length s (a.res cfg noFault st1).out s' ∧
      Good cfg (a.res cfg noFault st1).st
        { printed := v.printed ++ a.lines
          frame := if (a.draws && decide (st.hooks > 0)) = true then shown cfg (a.res cfg noFault st1).st else v.frame } s' := by
  have g1 : Good cfg st1 v s := good_silent g h1 hsets.ctl.hooks hsets.ctl.started
  rw [← hsets.ctl.hooks] at hfit ⊢
  cases a with
  | nothing => exact ⟨s, Run.nil _ _ _, (List.append_nil v.printed).symm ▸ g1⟩
  | refresh =>
    by_cases hh : st1.hooks > 0
    · rw [decide_eq_true hh] at hfit ⊢
      exact good_hooked g1 hh ((doRefresh_noFault cfg hc st1).1 hh) (hfit rfl) hH
    · obtain ⟨e1, e2, e3, e4, e5⟩ := (doRefresh_noFault cfg hc st1).2 (Nat.eq_zero_of_not_pos hh)
      rw [decide_eq_false hh]
      exact ⟨s, e2 ▸ Run.nil _ _ _, (List.append_nil v.printed).symm ▸ good_silent g1 e3 e4 e5⟩
  | print U =>
    show ∃ s', Run _ _ s (doPrint cfg noFault st1 U).out s' ∧ Good cfg (doPrint cfg noFault st1 U).st
      ⟨v.printed ++ U, if (true && decide (st1.hooks > 0)) = true then shown cfg (doPrint cfg noFault st1 U).st else v.frame⟩ s'
    change _ → (shown cfg (doPrint cfg noFault st1 U).st).length ≤ _ at hfit
    rw [doPrint_plain hc] at hfit ⊢
    by_cases hh : st1.hooks > 0
    · rw [decide_eq_true hh, if_pos hh] at hfit ⊢
      exact good_hooked g1 hh (hooked_noFault cfg st1 U) (hfit rfl) hH
    · rw [decide_eq_false hh, if_neg hh]
      exact good_idle_print U g1 (Nat.eq_zero_of_not_pos hh)

theorem good_start (hc : cfg.plain = true) (hH : 1 ≤ cfg.height) (g : Good cfg st v s)
    (herr : (step cfg noFault st .start).err = none)
    (hfit : redraws cfg st .start = true → (shown cfg (step cfg noFault st .start).st).length ≤ cfg.height) :
    ∃ s', Run cfg.height v.printed.length s (step cfg noFault st .start).out s' ∧
      Good cfg (step cfg noFault st .start).st (viewStep cfg st v .start) s' := by
  cases hst : st.started
  case true =>
    have er : redraws cfg st .start = false := by simp [redraws, Op.displays, hst]
    unfold viewStep; rw [er, step, doStart_started hst]
    exact ⟨s, Run.nil _ _ _, g⟩
  case false =>
    have hrow : v.printed.length ≤ s.row := by
      obtain ⟨k, hs, _⟩ := g.shown; have := shown_row_ge hs; rwa [List.length_map] at this
    have hh0 : st.hooks = 0 := by have := g.hooks; rwa [hst] at this
    have g1 : Good cfg { enableRedirect cfg st with started := true, hooks := st.hooks + 1 } v
        (Screen.step cfg.height s .hideCursor) :=
      good_of_rows (s := s) ⟨g.shown, (enableRedirect_shape cfg st).symm ▸ g.shape, by simp [hh0], nofun⟩ rfl rfl rfl
    obtain ⟨a, hl, hd, e⟩ := doStart_asks hst herr
    unfold viewStep
    rw [step, e, hd] at hfit ⊢
    have hook : decide (st.hooks + 1 > 0) = true := decide_eq_true (Nat.succ_pos _)
    obtain ⟨s', hrun, hg⟩ := good_ask hc hH g1 (.refl _) rfl a (by rw [hook, Bool.and_true]; exact hfit)
    rw [hl, List.append_nil, hook, Bool.and_true] at hg
    refine ⟨s', ?_, hg⟩
    rw [hideOp, if_pos (plain_ansi hc)]
    exact Run.cons hrow hrun

theorem good_step (hc : cfg.plain = true) (hb : cfg.bareBypass = false)
    (hH : 1 ≤ cfg.height) (g : Good cfg st v s) (op : Op) (hne : op ≠ .stop)
    (happ : op.applies cfg.kind = true) (herr : (step cfg noFault st op).err = none)
    (hfit : redraws cfg st op = true → (shown cfg (step cfg noFault st op).st).length ≤ cfg.height) :
    ∃ s', Run cfg.height v.printed.length s (step cfg noFault st op).out s' ∧
      Good cfg (step cfg noFault st op).st (viewStep cfg st v op) s' := by
  by_cases hs : op = .start
  · subst hs; exact good_start hc hH g herr hfit
  cases step_does cfg noFault st op hs hne with
  | odd out err q res why =>
    rw [res] at herr
    rcases why with h | h | h
    · rw [hb] at h; cases h
    · rw [happ] at h; cases h
    · exact absurd herr h
  | asks st1 a bump sets shape _ res said draws =>
    have hsh : shown cfg (step cfg noFault st op).st = shown cfg (a.res cfg noFault st1).st := by
      rw [res]; cases bump <;> rfl
    rw [redraws_eq hs, draws, hsh] at hfit
    obtain ⟨s', hrun, hg⟩ := good_ask hc hH g sets shape a hfit
    have hview : viewStep cfg st v op =
        { printed := v.printed ++ a.lines
          frame := if (a.draws && decide (st.hooks > 0)) = true then shown cfg (a.res cfg noFault st1).st else v.frame } :=
      congr (congrArg View.mk (said v)) (by rw [redraws_eq hs, draws, hsh])
    rw [hview, res]
    cases bump
    · exact ⟨s', hrun, hg⟩
    · exact ⟨s', hrun, good_silent hg rfl rfl rfl⟩

end RichModel.Live
