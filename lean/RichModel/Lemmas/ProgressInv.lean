import RichModel.Lemmas.ProgressSeq
/-!
Invariants of sequential histories on a monotone clock.  Of the sample deque (all instances of
`run_samples_inv`): it is sorted by timestamp and its amounts are non-negative (`SamplesNonneg`); after the first
pruning loop of `update` / `advance` (`while _progress and _progress[0].timestamp < old_sample_time:
popleft()`) no two samples are further apart than `speed_estimate_period` (`SamplesInWindow`).  Of the task: unfinished
with samples, it is below its total (`BelowTotalWhileSampled`).  Then what these give for `speed` and
`time_remaining`.
-/
namespace RichModel.Progress

def Mono (clock : Clock) : Prop := ∀ i j, i ≤ j → clock i ≤ clock j

/-- samples sorted by timestamp and not later than the reading at `K` -/
structure SamplesInPast (clock : Clock) (K : Nat) (l : List Sample) : Prop where
  sorted : List.Pairwise (fun a b => a.ts ≤ b.ts) l
  past : ∀ s ∈ l, s.ts ≤ clock K

theorem samplesInPast_nil (clock : Clock) (K : Nat) : SamplesInPast clock K [] := ⟨List.Pairwise.nil, nofun⟩

theorem samplesInPast_mono {clock : Clock} (hm : Mono clock) {K K' : Nat} {l : List Sample} (h : SamplesInPast clock K l) (hk : K ≤ K') :
    SamplesInPast clock K' l :=
  ⟨h.sorted, fun s hs => Int.le_trans (h.past s hs) (hm K K' hk)⟩

theorem samplesInPast_sublist {clock : Clock} {K : Nat} {l l' : List Sample} (h : SamplesInPast clock K l) (hs : l'.Sublist l) :
    SamplesInPast clock K l' :=
  ⟨h.sorted.sublist hs, fun s m => h.past s (hs.subset m)⟩

theorem samplesInPast_append {clock : Clock} (hm : Mono clock) {K K' k : Nat} {l : List Sample} {amt : Int}
    (h : SamplesInPast clock K l) (hk : K ≤ k) (hk' : k < K') : SamplesInPast clock K' (l ++ [⟨clock k, amt⟩]) := by
  have h' := samplesInPast_mono hm h hk
  refine ⟨List.pairwise_append.mpr ⟨h.sorted, List.pairwise_singleton _ _, fun a ha b hb => ?_⟩,
    fun s hs => Int.le_trans ?_ (hm k K' (Nat.le_of_lt hk'))⟩
  · rw [List.mem_singleton.mp hb]; exact h'.past a ha
  · rcases List.mem_append.mp hs with hs | hs
    · exact h'.past s hs
    · rw [List.mem_singleton.mp hs]; exact Int.le_refl _

/-- `SamplesInPast`, and all amounts non-negative -/
structure SamplesNonneg (clock : Clock) (K : Nat) (l : List Sample) : Prop extends SamplesInPast clock K l where
  amt_nonneg : ∀ s ∈ l, 0 ≤ s.amt

/-- a history in which `advance` amounts are non-negative -/
def NonnegAdvances (ops : List Op) : Prop := ∀ op ∈ ops, op.nonneg

theorem run_samples_inv (cfg : Cfg) (clock : Clock) {Q : Nat → List Sample → Prop}
    (hmono : ∀ {K K' l}, K ≤ K' → Q K l → Q K' l) (hnil : ∀ K, Q K [])
    (hprune : ∀ {K now l}, Q K l → Q K (prune cfg now l)) (ops : List Op)
    (happ : ∀ {K k K' l amt}, Q K l → K ≤ k → k < K' → (NonnegAdvances ops → 0 ≤ amt) →
      Q K' (prune cfg (clock k) l ++ [⟨clock k, amt⟩])) :
    ∀ st, (∀ t ∈ st.tasks, Q st.clk t.samples) →
      ∀ t ∈ (run cfg clock ops st).tasks, Q (run cfg clock ops st).clk t.samples :=
  fun st => run_forall cfg clock (P := fun K t => Q K t.samples)
    (H := fun ops' _ => NonnegAdvances ops → NonnegAdvances ops') hmono
    (fun h hn o ho => h hn o (List.mem_cons_of_mem _ ho)) (fun _ K _ _ => hnil K)
    (fun _ x o hH _ _ hx => taskEffect_samples_inv cfg clock _ o x _ hmono hnil hprune
      (fun hl hk hk' ha => happ hl hk hk' (fun hn => ha (hH hn _ List.mem_cons_self))) hx) ops st id

theorem run_samplesNonneg (cfg : Cfg) (clock : Clock) (hm : Mono clock) (ops : List Op) (hnn : NonnegAdvances ops) (st : State)
    (h : ∀ t ∈ st.tasks, SamplesNonneg clock st.clk t.samples) :
    ∀ t ∈ (run cfg clock ops st).tasks, SamplesNonneg clock (run cfg clock ops st).clk t.samples :=
  run_samples_inv cfg clock (Q := SamplesNonneg clock)
    (fun hk h => ⟨samplesInPast_mono hm h.toSamplesInPast hk, h.amt_nonneg⟩) (fun K => ⟨samplesInPast_nil clock K, nofun⟩)
    (fun h => ⟨samplesInPast_sublist h.toSamplesInPast (prune_sublist ..),
      fun s m => h.amt_nonneg s ((prune_sublist ..).subset m)⟩) ops
    (fun h hk hk' ha => ⟨samplesInPast_append hm (samplesInPast_sublist h.toSamplesInPast (prune_sublist ..)) hk hk',
      fun s hs => by
      rcases List.mem_append.mp hs with hs | hs
      · exact h.amt_nonneg s ((prune_sublist ..).subset hs)
      · rw [List.mem_singleton.mp hs]; exact ha hnn⟩) st h

/-- after the first loop every sample left is inside the window (the deque being sorted): the first one left is
not older than `old`, the others are not older than the first -/
theorem dropOld_ge (old : Int) (l : List Sample) (hp : List.Pairwise (fun a b => a.ts ≤ b.ts) l) :
    ∀ s ∈ dropOld old l, old ≤ s.ts := by
  rw [dropOld_eq_dropWhile]
  have hs := hp.sublist (List.dropWhile_suffix (fun s => decide (s.ts < old))).sublist
  have hh := List.head?_dropWhile_not (fun s : Sample => decide (s.ts < old)) l
  cases hd : l.dropWhile (fun s => decide (s.ts < old)) with
  | nil => nofun
  | cons a r =>
    rw [hd] at hs hh
    have ha : old ≤ a.ts := by simpa using hh
    intro s hm
    rcases List.mem_cons.mp hm with rfl | hm
    · exact ha
    · exact Int.le_trans ha ((List.pairwise_cons.mp hs).1 s hm)

/-- `SamplesInPast`, and no two samples further apart than `speed_estimate_period` -/
structure SamplesInWindow (cfg : Cfg) (clock : Clock) (K : Nat) (l : List Sample) : Prop
    extends SamplesInPast clock K l where
  within : ∀ s ∈ l, ∀ s' ∈ l, s'.ts - s.ts ≤ cfg.period

theorem run_samplesInWindow (cfg : Cfg) (clock : Clock) (hm : Mono clock) (hp : 0 ≤ cfg.period) (ops : List Op) (st : State)
    (h : ∀ t ∈ st.tasks, SamplesInWindow cfg clock st.clk t.samples) :
    ∀ t ∈ (run cfg clock ops st).tasks, SamplesInWindow cfg clock (run cfg clock ops st).clk t.samples := by
  refine run_samples_inv cfg clock (Q := SamplesInWindow cfg clock)
    (fun hk h => ⟨samplesInPast_mono hm h.toSamplesInPast hk, h.within⟩)
    (fun K => ⟨samplesInPast_nil clock K, nofun⟩)
    (fun h => ⟨samplesInPast_sublist h.toSamplesInPast (prune_sublist ..), fun s m s' m' =>
      h.within s ((prune_sublist ..).subset m) s' ((prune_sublist ..).subset m')⟩)
    ops (fun {K k K' l amt} h hk hk' _ => ?_) st h
  -- pruned at `clock k`, what is left lies in `[clock k - period, clock k]`, and the new sample at `clock k`
  have hsub := prune_sublist cfg (clock k) l
  have hpr := samplesInPast_sublist h.toSamplesInPast hsub
  have hold : ∀ s ∈ prune cfg (clock k) l, clock k - cfg.period ≤ s.ts :=
    fun s hs => dropOld_ge _ l h.sorted s (List.mem_of_mem_drop hs)
  have hle : ∀ s ∈ prune cfg (clock k) l, s.ts ≤ clock k := (samplesInPast_mono hm hpr hk).past
  refine ⟨samplesInPast_append hm hpr hk hk', fun s hs s' hs' => ?_⟩
  simp only [List.mem_append, List.mem_singleton] at hs hs'
  rcases hs with hs | rfl <;> rcases hs' with hs' | rfl
  · exact h.within s (hsub.subset hs) s' (hsub.subset hs')
  · have := hold s hs; simp only; omega
  · have := hle s' hs'; simp only; omega
  · simp only; omega

/-- a task that has samples is finished or below its total (what keeps `time_remaining` non-negative: `speed` is
there only with samples) -/
def BelowTotalWhileSampled (t : Task) : Prop :=
  t.samples ≠ [] → t.finishedTime.isSome ∨ t.completed < t.total

theorem taskEffect_belowTotalWhileSampled (cfg : Cfg) (clock : Clock) (op : Op) (o : Nat) (t : Task) (k : Nat)
    (hst : ∀ i, op.progresses = some i → t.startTime.isSome) (h : BelowTotalWhileSampled t) :
    BelowTotalWhileSampled (taskEffect cfg clock op none o t k).1 := by
  cases hp : op.progresses with
  | some i =>
    -- `advance` / `update` on a started task: the finish check has just run
    obtain ⟨_, hf⟩ := taskEffect_progresses hp cfg clock o t k (hst i hp) rfl
    intro _
    by_cases hc : (taskEffect cfg clock op none o t k).1.total ≤ (taskEffect cfg clock op none o t k).1.completed
    · exact Or.inl (hf.mpr (Or.inr hc))
    · exact Or.inr (Int.not_le.mp hc)
  | none =>
    -- the others keep the samples, the counters and the finish time, or empty the deque
    cases op with
    | startTask i => simp only [taskEffect]; split <;> exact h
    | reset i r => exact fun hne => absurd rfl hne
    | update i u | advance i a => cases hp
    | _ => exact h

/-- a history in which every advance/update finds its task started (checked along the run) -/
def StartedWhenAdvanced (cfg : Cfg) (clock : Clock) : List Op → State → Prop
  | [], _ => True
  | op :: ops, st =>
    (∀ i t, op.progresses = some i → lookup st.tasks i = some t → t.startTime.isSome) ∧
    StartedWhenAdvanced cfg clock ops (step cfg clock op st).st

/-- executable check of `StartedWhenAdvanced` -/
def startedWhenAdvancedB (cfg : Cfg) (clock : Clock) : List Op → State → Bool
  | [], _ => true
  | op :: ops, st =>
    (match op.progresses with
     | none => true
     | some i =>
       match lookup st.tasks i with
       | none => true
       | some t => t.startTime.isSome) &&
    startedWhenAdvancedB cfg clock ops (step cfg clock op st).st

theorem startedWhenAdvanced_of_check (cfg : Cfg) (clock : Clock) (ops : List Op) (st : State)
    (h : startedWhenAdvancedB cfg clock ops st = true) : StartedWhenAdvanced cfg clock ops st := by
  induction ops generalizing st with
  | nil => trivial
  | cons op ops ih =>
    simp only [startedWhenAdvancedB, Bool.and_eq_true] at h
    refine ⟨?_, ih _ h.2⟩
    intro i t hi hl
    have h1 := h.1
    simp only [hi, hl] at h1
    exact h1

theorem run_belowTotalWhileSampled (cfg : Cfg) (clock : Clock) (ops : List Op) :
    ∀ st, StartedWhenAdvanced cfg clock ops st → (∀ t ∈ st.tasks, BelowTotalWhileSampled t) →
      ∀ t ∈ (run cfg clock ops st).tasks, BelowTotalWhileSampled t :=
  run_forall cfg clock (P := fun _ t => BelowTotalWhileSampled t) (fun _ h => h) And.right
    (fun _ _ _ _ hne => absurd rfl hne)
    (fun i x o hH htg hl hx => taskEffect_belowTotalWhileSampled cfg clock _ o x _ (fun j hj => hH.1 j x hj (by
      cases htg.symm.trans (target_of_progresses hj); exact hl)) hx) ops

theorem sumAmt_nonneg {l : List Sample} (h : ∀ s ∈ l, 0 ≤ s.amt) : 0 ≤ sumAmt l := by
  induction l with
  | nil => simp [sumAmt]
  | cons s r ih =>
    simp only [sumAmt]
    have h1 := h s List.mem_cons_self
    have h2 := ih (fun x hx => h x (List.mem_cons_of_mem _ hx))
    omega

theorem getLast?_getD_mem (s0 : Sample) (rest : List Sample) : rest.getLast?.getD s0 ∈ s0 :: rest := by
  cases h : rest.getLast? with
  | none => exact List.mem_cons_self
  | some l => exact List.mem_cons_of_mem _ (List.mem_of_getLast? h)

theorem first_le_last {s0 : Sample} {rest : List Sample} (h : List.Pairwise (fun a b => a.ts ≤ b.ts) (s0 :: rest)) :
    s0.ts ≤ (rest.getLast?.getD s0).ts := by
  rcases List.mem_cons.mp (getLast?_getD_mem s0 rest) with h' | h'
  · rw [h']; exact Int.le_refl _
  · exact (List.pairwise_cons.mp h).1 _ h'

theorem speed_of_samplesNonneg {clock : Clock} {K : Nat} {t : Task} (h : SamplesNonneg clock K t.samples) :
    ∀ n d, t.speed = some (n, d) → 0 ≤ n ∧ 0 < d := by
  intro n d hs
  obtain ⟨s0, rest, ⟨hsm, rfl, rfl, hne, _⟩⟩ := speed_eq_some hs
  rw [hsm] at h
  have := first_le_last h.sorted
  exact ⟨sumAmt_nonneg (fun x hx => h.amt_nonneg x (List.mem_cons_of_mem _ hx)), by omega⟩

theorem ceilDiv_nonneg {a b : Int} (ha : 0 ≤ a) (hb : 0 < b) : 0 ≤ ceilDiv a b := by
  unfold ceilDiv
  have := @Int.ediv_nonpos_of_nonpos_of_neg (-a) b (by omega) hb
  omega

theorem timeRemaining_nonneg {clock : Clock} {K : Nat} (cfg : Cfg) (htps : 0 < cfg.tps) {t : Task}
    (h : SamplesNonneg clock K t.samples) (hr : BelowTotalWhileSampled t) : ∀ r, t.timeRemaining cfg = some r → 0 ≤ r := by
  intro r hr'
  unfold Task.timeRemaining at hr'
  split at hr'
  · cases hr'; exact Int.le_refl _
  · next hfin =>
    split at hr'
    · cases hr'
    · next n d hsp =>
      have hs := speed_of_samplesNonneg h n d hsp
      split at hr'
      · cases hr'
      · next hn0 =>
        cases hr'
        obtain ⟨s0, rest, hsp⟩ := speed_eq_some hsp
        have hlt : t.completed < t.total := (hr (hsp.samples ▸ List.cons_ne_nil s0 rest)).resolve_left hfin
        have hden : 0 < n * cfg.tps := Int.mul_pos (by omega) htps
        rw [if_pos hden]
        exact ceilDiv_nonneg (Int.mul_nonneg (Int.le_of_lt (Int.sub_pos_of_lt hlt)) (Int.le_of_lt hs.2)) hden

theorem speed_of_samplesInWindow {cfg : Cfg} {clock : Clock} {K : Nat} {t : Task} (h : SamplesInWindow cfg clock K t.samples) :
    ∀ n d, t.speed = some (n, d) → 0 < d ∧ d ≤ cfg.period := by
  intro n d hs
  obtain ⟨s0, rest, ⟨hsm, rfl, rfl, hne, _⟩⟩ := speed_eq_some hs
  rw [hsm] at h
  have hle := first_le_last h.sorted
  exact ⟨by omega, h.within s0 List.mem_cons_self _ (getLast?_getD_mem s0 rest)⟩

end RichModel.Progress
