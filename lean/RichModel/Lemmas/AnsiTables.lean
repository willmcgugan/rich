import RichModel.Lemmas.AnsiEcma
/-!
Side conditions on the tables translated from the working tree (`SGR_STYLE_MAP`, `Style._style_map`), evaluated by
the kernel on every run, and on the tables translated from the running Python (`str.isdigit`, `int`), of which
only the rows of the ASCII digits are needed.
This is the table half of the round trip `decode_encode`: every SGR parameter the encoder emits is
read back by the decoder's table as the very attribute / colour it was emitted for.
-/
namespace RichModel
namespace Ansi
open AsciiStr

/-- The compared fields of a style, and `_null`. -/
structure Fields where
  color : Option Color
  bgcolor : Option Color
  attributes : Nat
  setAttributes : Nat
  link : Option (List Char)
  isNull : Bool
deriving DecidableEq, Repr

def fieldsOf (s : Style) : Fields := ⟨s.color, s.bgcolor, s.attributes, s.setAttributes, s.link, s.isNull⟩

/-- What the decoder adds for SGR code `code` when it is in the table. -/
def parsedFields (v : StyleVariant) (code : Nat) : Option Fields :=
  match sgrLookup code with
  | some d =>
    match Style.parse v d with
    | .ok s => some (fieldsOf s)
    | .error _ => none
  | none => none

/-- A parameter text is safe inside `ESC [ … m`: ASCII digits only (what `[0-9;:]*` of the repaired `re_ansi` admits). -/
def paramOk (c : List Char) (n : Nat) : Bool :=
  strIsDigit c && c.all (fun x => x != ';' && x != 'm' && x != '\n' && x != ESC && x != '\r') &&
    pyIntDigits c == some n && decide (n ≤ 255) && c.all (fun x => 48 ≤ x.toNat && x.toNat ≤ 57)

/-- Attribute bit `i`: the encoder's parameter is a number `k`, and the decoder's table reads `k` as
"attribute `i` on" and nothing else. -/
def bitOk (v : StyleVariant) (i : Nat) : Bool :=
  match styleMapCode i with
  | some c =>
    match pyIntDigits c with
    | some k =>
      paramOk c k && decide (k ≠ 0 ∧ k ≠ 24 ∧ k ≠ 25) &&
        parsedFields v k == some ⟨none, none, 2 ^ i, 2 ^ i, none, false⟩
    | none => false
  | none => false

def defaultColor : Color := { name := cl! "default", type := .default }

/-- The sixteen standard colours and `default`, foreground and background. -/
def colorRowsOk (v : StyleVariant) : Bool :=
  (List.range 8).all (fun n =>
    parsedFields v (30 + n) == some ⟨some (fromAnsi n), none, 0, 0, none, false⟩ &&
    parsedFields v (90 + n) == some ⟨some (fromAnsi (n + 8)), none, 0, 0, none, false⟩ &&
    parsedFields v (40 + n) == some ⟨none, some (fromAnsi n), 0, 0, none, false⟩ &&
    parsedFields v (100 + n) == some ⟨none, some (fromAnsi (n + 8)), 0, 0, none, false⟩) &&
  parsedFields v 39 == some ⟨some defaultColor, none, 0, 0, none, false⟩ &&
  parsedFields v 49 == some ⟨none, some defaultColor, 0, 0, none, false⟩

/-- Every entry of the decoder's table is a style definition that parses, to a non-null style without a
link whose attribute values lie inside its set attributes (13 bits). -/
def entriesOk (v : StyleVariant) : Bool :=
  Gen.sgrStyleMap.all fun p =>
    match Style.parse v p.2 with
    | .ok s => s.link == none && !s.isNull && decide (s.attributes &&& s.setAttributes = s.attributes) &&
        decide (s.setAttributes < 8192)
    | .error _ => false

/-- Code `k` only switches attributes off: at least those of `must`, at most those of `may`. -/
def offRow (v : StyleVariant) (k must may : Nat) : Bool :=
  match parsedFields v k with
  | some F => F.color.isNone && F.bgcolor.isNone && F.attributes == 0 && F.link.isNone && !F.isNull &&
      (F.setAttributes &&& must == must) && (F.setAttributes ||| may == may)
  | none => false

/-- The "off" codes as ECMA-48 numbers them: 22 normal intensity (not bold, not dim), 23 not italic,
24 not underlined (rich keeps the double underline; both readings are admitted), 25 steady (likewise for
the rapid blink), 27 positive image, 28 revealed, 29 not crossed out, 54 not framed / encircled, 55 not overlined. -/
def offRowsOk (v : StyleVariant) : Bool :=
  offRow v 22 3 3 && offRow v 23 4 4 && offRow v 24 8 520 && offRow v 25 16 48 && offRow v 27 64 64 &&
  offRow v 28 128 128 && offRow v 29 256 256 && offRow v 54 3072 3072 && offRow v 55 4096 4096

-- The last conjunct, `offRowsOk`, is there for the statement `sgr_table_inverts_style_map`: no lemma consumes it (the off
-- codes reach the proofs through `rows_agree`).
def tablesOk (v : StyleVariant) : Bool :=
  (List.range 13).all (bitOk v) && colorRowsOk v && entriesOk v &&
    sgrLookup 38 == none && sgrLookup 48 == none && offRowsOk v

/-- `str(n)` for the numbers that occur as SGR parameters. -/
def digitsOk : Bool := (List.range 256).all fun n => paramOk (natStr n) n

/-- Both obligations on the decoder's table in one evaluation: parsing a colour row walks `ANSI_COLOR_NAMES`, and
within one evaluation the kernel parses each row once, whichever check asks for it. -/
theorem tables_checked : (tablesOk StyleVariant.fixed && rowsAgree) = true := by decide +kernel

theorem tables_ok : tablesOk StyleVariant.fixed = true := (Bool.and_eq_true_iff.mp tables_checked).1

theorem rows_agree : rowsAgree = true := (Bool.and_eq_true_iff.mp tables_checked).2

/-- The obligations of `tablesOk` on the translated tables, by name. -/
structure TablesOk : Prop where
  bits : ∀ i < 13, bitOk StyleVariant.fixed i = true
  colorRows : colorRowsOk StyleVariant.fixed = true
  entries : entriesOk StyleVariant.fixed = true
  no38 : sgrLookup 38 = none
  no48 : sgrLookup 48 = none
  offRows : offRowsOk StyleVariant.fixed = true

theorem tablesOk_unpack : TablesOk := by
  have ht := tables_ok
  simp only [tablesOk, Bool.and_eq_true, List.all_eq_true, List.mem_range, beq_iff_eq] at ht
  obtain ⟨⟨⟨⟨⟨h1, h2⟩, h3⟩, h4⟩, h5⟩, h6⟩ := ht
  exact ⟨h1, h2, h3, h4, h5, h6⟩

theorem sgrLookup_mem {code : Nat} {d : List Char} (h : sgrLookup code = some d) : (code, d) ∈ Gen.sgrStyleMap := by
  obtain ⟨p, hf, rfl⟩ := Option.map_eq_some_iff.mp h
  have hc : p.1 = code := by simpa using List.find?_some hf
  exact hc ▸ List.mem_of_find?_eq_some hf

theorem asciiDigit_facts {c : Char} (h : c.isDigit = true) :
    pyIsDigit c = true ∧ pyDecimal c = some (c.toNat - 48) ∧ (48 ≤ c.toNat ∧ c.toNat ≤ 57) := by
  have hb : 48 ≤ c.toNat ∧ c.toNat ≤ 57 := by
    simp only [Char.isDigit, Bool.and_eq_true, decide_eq_true_eq, ge_iff_le, UInt32.le_iff_toNat_le] at h
    exact h
  refine ⟨?_, ?_, hb⟩
  · have : Gen.pyDigitRanges = (48, 57) :: Gen.pyDigitRanges.tail := rfl
    rw [pyIsDigit, inRanges, this, List.any_cons]
    simp [hb.1, hb.2]
  · have : Gen.pyDecimalRuns = (48, 57, 0) :: Gen.pyDecimalRuns.tail := rfl
    rw [pyDecimal, this, List.find?_cons_of_pos (by simp [hb.1, hb.2])]
    simp

theorem foldl_intStep_digits (l : List Char) (h : ∀ c ∈ l, c.isDigit = true) (a : Nat) :
    l.foldl intStep (some a) = some (Nat.ofDigitChars 10 l a) := by
  induction l generalizing a with
  | nil => rfl
  | cons c r ih =>
    rw [List.foldl_cons, Nat.ofDigitChars_cons, ← ih (fun x hx => h x (by simp [hx]))]
    simp [intStep, (asciiDigit_facts (h c (by simp))).2.1]

theorem natStr_paramOk {n : Nat} (hn : n < 256) : paramOk (natStr n) n = true := by
  have hd : ∀ c ∈ natStr n, c.isDigit = true := fun c hc => Nat.isDigit_of_mem_toDigits (by decide) (by decide) hc
  have hlen : (natStr n).length ≤ 3 := (Nat.length_toDigits_le_iff (by decide) (by decide)).mpr (by omega)
  have hint : pyIntDigits (natStr n) = some n := by
    have : ¬ (Gen.pyMaxStrDigits ≠ 0 ∧ Gen.pyMaxStrDigits < (natStr n).length) := by
      simp only [Gen.pyMaxStrDigits]; omega
    rw [pyIntDigits, if_neg this, foldl_intStep_digits _ hd, natStr, Nat.ofDigitChars_ten_toDigits]
  simp only [paramOk, strIsDigit, Bool.and_eq_true, List.all_eq_true, hint, beq_self_eq_true, decide_eq_true_eq,
    Bool.not_eq_true', bne_iff_ne, ne_eq]
  -- in the order of `paramOk`: non-empty (`?_`), `str.isdigit`, none of `;`, `m`, LF, ESC, CR (`?_`), `int()` reads `n` (`hint`, by `simp`),
  -- `n ≤ 255`, ASCII digits
  refine ⟨⟨⟨⟨⟨?_, fun c hc => (asciiDigit_facts (hd c hc)).1⟩, fun c hc => ?_⟩, trivial⟩, by omega⟩,
    fun c hc => by simpa using (asciiDigit_facts (hd c hc)).2.2⟩
  · cases h : natStr n with
    | nil => exact absurd h Nat.toDigits_ne_nil
    | cons _ _ => rfl
  · have := (asciiDigit_facts (hd c hc)).2.2
    refine ⟨⟨⟨⟨?_, ?_⟩, ?_⟩, ?_⟩, ?_⟩ <;> (rintro rfl; revert this; decide)

end Ansi
end RichModel
