import RichModel.Model.Progress
/-!
One task.  What an operation does to the task it addresses is stated component by component: the counters
(`aEffect`: clock-free, the same whatever reading the operation carries), start and stop time (`timesEffect`),
the finish time (`taskEffect_finishedTime`), the sample deque (`taskEffect_samples_inv`), and the clock counter.
-/
namespace RichModel.Progress

theorem finishCheck_fst (clock : Clock) (t : Task) (k : Nat) :
    (t.finishCheck clock k).1 =
      { t with finishedTime := if t.total ≤ t.completed ∧ t.finishedTime = none then (t.elapsedC clock k).1
                               else t.finishedTime } := by
  unfold Task.finishCheck; split <;> rfl

theorem elapsedC_isSome (clock : Clock) (t : Task) (k : Nat) (h : t.startTime.isSome) :
    (t.elapsedC clock k).1.isSome := by
  unfold Task.elapsedC
  cases hs : t.startTime with
  | none => simp [hs] at h
  | some s => cases t.stopTime <;> simp

theorem finishCheck_clk_ge (clock : Clock) (t : Task) (k : Nat) : k ≤ (t.finishCheck clock k).2 := by
  -- the counter afterwards is `k`, or that of `elapsedC`, which is `k` or `k + 1`
  unfold Task.finishCheck Task.elapsedC
  repeat' split
  all_goals simp

/-- the clamp inside `Task.percentage`: the fraction `n / d` (`d > 0`) cut to `[0, 100]` -/
def clampPair (n d : Int) : Int × Int := if n < 0 then (0, 1) else if 100 * d < n then (100, 1) else (n, d)

theorem percentage_eq (t : Task) :
    t.percentage = if t.total = 0 then (0, 1) else
      clampPair (if t.total < 0 then -(100 * t.completed) else 100 * t.completed) (if t.total < 0 then -t.total else t.total) :=
  rfl

theorem clampPair_range {n d : Int} (hd : 0 < d) :
    0 < (clampPair n d).2 ∧ 0 ≤ (clampPair n d).1 ∧ (clampPair n d).1 ≤ 100 * (clampPair n d).2 := by
  unfold clampPair
  split
  · decide
  · split
    · decide
    · exact ⟨hd, by omega, by omega⟩

theorem percentage_range (t : Task) :
    0 < t.percentage.2 ∧ 0 ≤ t.percentage.1 ∧ t.percentage.1 ≤ 100 * t.percentage.2 := by
  rw [percentage_eq]
  split
  · decide
  · exact clampPair_range (by split <;> omega)

theorem percentage_of_pos {t : Task} (h : 0 < t.total) :
    t.percentage = if t.completed < 0 then (0, 1) else if t.total < t.completed then (100, 1)
      else (100 * t.completed, t.total) := by
  have h1 : 100 * t.completed < 0 ↔ t.completed < 0 := by omega
  have h2 : 100 * t.total < 100 * t.completed ↔ t.total < t.completed := by omega
  simp only [Task.percentage, if_neg (Int.ne_of_gt h), if_neg (Int.not_lt.mpr (Int.le_of_lt h)), h1, h2]

theorem percentage_of_neg {t : Task} (h : t.total < 0) :
    t.percentage = if 0 < t.completed then (0, 1) else if t.completed < t.total then (100, 1)
      else (-(100 * t.completed), -t.total) := by
  have h1 : -(100 * t.completed) < 0 ↔ 0 < t.completed := by omega
  have h2 : 100 * -t.total < -(100 * t.completed) ↔ t.completed < t.total := by omega
  simp only [Task.percentage, if_neg (Int.ne_of_lt h), if_pos h, h1, h2]

/-- what `speed = some (n, d)` says: the task is started, its deque is `s0 :: rest`, `n` sums the amounts after the
first sample and `d ≠ 0` is the time from the first to the last -/
structure SpeedOver (t : Task) (n d : Int) (s0 : Sample) (rest : List Sample) : Prop where
  samples : t.samples = s0 :: rest
  num : n = sumAmt rest
  den : d = (rest.getLast?.getD s0).ts - s0.ts
  den_ne : d ≠ 0
  started : t.startTime.isSome

theorem speed_eq_some {t : Task} {n d : Int} (h : t.speed = some (n, d)) : ∃ s0 rest, SpeedOver t n d s0 rest := by
  unfold Task.speed at h
  cases hst : t.startTime with
  | none => rw [hst] at h; cases h
  | some s =>
    cases hsm : t.samples with
    | nil => rw [hst, hsm] at h; cases h
    | cons s0 rest =>
      simp only [hst, hsm] at h
      split at h
      · cases h
      · next hne =>
        cases h
        exact ⟨s0, rest, hsm, rfl, rfl, hne, by rw [hst]; rfl⟩

theorem applyUpd_eq (u : UpdArgs) (t : Task) :
    t.applyUpd u =
      { t with
        total := u.total.getD t.total
        samples := if u.total.isSome then [] else t.samples
        finishedTime := if u.total.isSome then none else t.finishedTime
        completed := u.completed.getD (t.completed + u.advance.getD 0)
        description := u.description.getD t.description
        visible := u.visible.getD t.visible
        fields := dictUpdate t.fields u.fields } := by
  obtain ⟨tot, comp, adv, vis, _, desc, _⟩ := u
  cases adv
  · simp only [Option.getD_none, Int.add_zero]
    cases tot <;> cases comp <;> cases desc <;> cases vis <;> rfl
  · cases tot <;> cases comp <;> cases desc <;> cases vis <;> rfl

theorem dropOld_eq_dropWhile (old : Int) (l : List Sample) : dropOld old l = l.dropWhile (fun s => s.ts < old) := by
  induction l with
  | nil => rfl
  | cons s r ih =>
    rw [dropOld, List.dropWhile_cons]
    by_cases h : s.ts < old
    · rw [if_pos h, if_pos (decide_eq_true h), ih]
    · rw [if_neg h, if_neg (by simpa using h)]

theorem dropOld_suffix (old : Int) (l : List Sample) : dropOld old l <:+ l :=
  dropOld_eq_dropWhile old l ▸ List.dropWhile_suffix _

theorem prune_sublist (cfg : Cfg) (now : Int) (l : List Sample) : (prune cfg now l).Sublist l :=
  ((List.drop_suffix _ _).trans (dropOld_suffix _ l)).sublist

theorem prune_length_le (cfg : Cfg) (now : Int) (l : List Sample) : (prune cfg now l).length ≤ cfg.maxLen := by
  unfold prune dropExcess
  simp only [List.length_drop]
  omega

theorem nowOf_clk_ge (clock : Clock) (pre : Option Int) (k : Nat) : k ≤ (nowOf clock pre k).2 := by
  cases pre
  · exact Nat.le_succ k
  · exact Nat.le_refl k

/-- `update` reads the clock after the refresh, if one was asked for -/
private theorem le_updateClk (cfg : Cfg) (b : Bool) (o : Nat) (t : Task) (k : Nat) :
    k ≤ (if b = true then refreshK cfg o t k else k) := by
  split
  · exact Nat.le_add_right _ _
  · exact Nat.le_refl k

theorem taskEffect_clk_ge (cfg : Cfg) (clock : Clock) (op : Op) (pre : Option Int) (o : Nat) (t : Task) (k : Nat) :
    k ≤ (taskEffect cfg clock op pre o t k).2 := by
  have hnow := nowOf_clk_ge clock pre k
  cases op with
  | startTask _ => simp only [taskEffect]; split <;> simp
  | stopTask _ => exact Nat.le_succ k
  | update _ u =>
    exact Nat.le_trans (Nat.le_succ_of_le (le_updateClk ..)) (finishCheck_clk_ge _ _ _)
  | advance _ a => exact Nat.le_trans hnow (finishCheck_clk_ge _ _ _)
  | reset => exact Nat.le_trans hnow (Nat.le_add_right _ _)
  | _ => exact Nat.le_refl k

/-- the counters of a task: everything that is not a timestamp -/
structure ATask where
  id : Nat
  total : Int
  completed : Int
  visible : Bool
  description : Nat
  fields : List (Nat × Int)
deriving DecidableEq, Repr

def absTask (t : Task) : ATask := ⟨t.id, t.total, t.completed, t.visible, t.description, t.fields⟩

/-- clock-free specification of what an operation does to the counters of the task it addresses -/
def aEffect (op : Op) (a : ATask) : ATask :=
  match op with
  | .update _ u =>
    { a with total := u.total.getD a.total,
             completed := u.completed.getD (a.completed + u.advance.getD 0),
             visible := u.visible.getD a.visible,
             description := u.description.getD a.description,
             fields := dictUpdate a.fields u.fields }
  | .reset _ r =>
    { a with total := r.total.getD a.total, completed := r.completed, visible := r.visible.getD a.visible,
             description := r.description.getD a.description,
             fields := if r.fields.isEmpty then a.fields else r.fields }
  | .advance _ amt => { a with completed := a.completed + amt }
  | _ => a

theorem absTask_taskEffect (cfg : Cfg) (clock : Clock) (op : Op) (pre : Option Int) (o : Nat) (t : Task) (k : Nat) :
    absTask (taskEffect cfg clock op pre o t k).1 = aEffect op (absTask t) := by
  cases op with
  | startTask i => simp only [taskEffect]; split <;> rfl
  | update i u =>
    simp only [taskEffect, Task.updateBody, absTask, aEffect, finishCheck_fst, applyUpd_eq]
  | advance i a =>
    simp only [taskEffect, Task.advanceBody, absTask, aEffect, finishCheck_fst]
  | _ => rfl

theorem taskEffect_id (cfg : Cfg) (clock : Clock) (op : Op) (pre : Option Int) (o : Nat) (t : Task) (k : Nat) :
    (taskEffect cfg clock op pre o t k).1.id = t.id :=
  (congrArg ATask.id (absTask_taskEffect cfg clock op pre o t k)).trans (by cases op <;> rfl)

/-- start and stop time `p` of a task after an operation on it, `now` being the clock reading the operation takes -/
def timesEffect (op : Op) (now : Int) (p : Option Int × Option Int) : Option Int × Option Int :=
  match op with
  | .startTask _ => (some (p.1.getD now), p.2)
  | .stopTask _ => (some (p.1.getD now), some now)
  | .reset _ r => (if r.start then some now else none, p.2)
  | _ => p

theorem taskEffect_times (cfg : Cfg) (clock : Clock) (op : Op) (o : Nat) (t : Task) (k : Nat) :
    ((taskEffect cfg clock op none o t k).1.startTime, (taskEffect cfg clock op none o t k).1.stopTime) =
      timesEffect op (clock k) (t.startTime, t.stopTime) := by
  cases op with
  | startTask _ => simp only [taskEffect, timesEffect]; cases hs : t.startTime <;> simp [hs]
  | update _ u => simp only [taskEffect, Task.updateBody, finishCheck_fst, applyUpd_eq, timesEffect]
  | advance _ a => simp only [taskEffect, Task.advanceBody, finishCheck_fst, timesEffect]
  | _ => rfl

/-- the id of the task an operation advances or updates -/
def Op.progresses : Op → Option Nat
  | .advance i _ => some i
  | .update i _ => some i
  | _ => none

theorem target_of_progresses {op : Op} {id : Nat} (h : op.progresses = some id) : op.target = some id := by
  cases op <;> first | exact h | cases h

theorem timesEffect_of_progresses {op : Op} {id : Nat} (hop : op.progresses = some id) (now : Int)
    (p : Option Int × Option Int) : timesEffect op now p = p := by
  cases op <;> first | rfl | cases hop

/-- operations after which a recorded finish time may change: reset, or an update giving a total -/
def clearsFinish (id : Nat) : Op → Bool
  | .reset i .. => i == id
  | .update i u => i == id && u.total.isSome
  | _ => false

/-- the finish time that the assignments of an operation on task `id` leave, before the finish check -/
def keptFinish (id : Nat) (op : Op) (t : Task) : Option Int := if clearsFinish id op then none else t.finishedTime

/-- The finish time after an operation: what its assignments leave; `advance` and `update` then record the
elapsed time (read at some later counter `kf`) if nothing is left and the total is reached. -/
theorem taskEffect_finishedTime (cfg : Cfg) (clock : Clock) (op : Op) (o : Nat) (t : Task) (k : Nat) (id : Nat)
    (htg : op.target = some id) {t' : Task} (ht' : t' = (taskEffect cfg clock op none o t k).1) :
    ∃ kf, k ≤ kf ∧
      t'.finishedTime =
        if op.progresses = some id ∧ t'.total ≤ t'.completed ∧ keptFinish id op t = none then (t'.elapsedC clock kf).1
        else keptFinish id op t := by
  subst ht'
  unfold keptFinish
  cases op with
  | startTask _ => exact ⟨k, Nat.le_refl k, by cases hs : t.startTime <;> simp [taskEffect, Op.progresses, clearsFinish, hs]⟩
  | update i u =>
    cases htg
    refine ⟨_, Nat.le_succ_of_le (le_updateClk cfg u.refresh o (t.applyUpd u) k), ?_⟩
    simp only [taskEffect, Task.updateBody, finishCheck_fst, applyUpd_eq, Op.progresses, clearsFinish, beq_self_eq_true,
      Bool.true_and, true_and]
    rfl
  | advance i a =>
    cases htg
    exact ⟨k + 1, Nat.le_succ k, by
      simp only [taskEffect, Task.advanceBody, finishCheck_fst, nowOf, Op.progresses, clearsFinish, true_and]; rfl⟩
  | reset i r => cases htg; exact ⟨k, Nat.le_refl k, by simp [taskEffect, Task.resetBody, Op.progresses, clearsFinish]⟩
  | removeTask i | stopTask i => exact ⟨k, Nat.le_refl k, by simp [taskEffect, Op.progresses, clearsFinish]⟩
  | _ => cases htg

theorem taskEffect_progresses {op : Op} {id : Nat} (hop : op.progresses = some id) (cfg : Cfg) (clock : Clock)
    (o : Nat) (t : Task) (k : Nat) (hs : t.startTime.isSome) {t' : Task}
    (ht' : t' = (taskEffect cfg clock op none o t k).1) :
    t'.startTime = t.startTime ∧ (t'.finishedTime.isSome ↔ ((keptFinish id op t).isSome ∨ t'.total ≤ t'.completed)) := by
  subst ht'
  have hst : (taskEffect cfg clock op none o t k).1.startTime = t.startTime :=
    congrArg Prod.fst ((taskEffect_times cfg clock op o t k).trans (timesEffect_of_progresses hop _ _))
  obtain ⟨kf, _, hf⟩ := taskEffect_finishedTime cfg clock op o t k id (target_of_progresses hop) rfl
  refine ⟨hst, ?_⟩
  rw [hf]
  split
  · next hc => exact iff_of_true (elapsedC_isSome clock _ kf (hst ▸ hs)) (Or.inr hc.2.1)
  · next hc => cases hk : keptFinish id op t <;> simp_all

/-- advances of the `advance` operation are non-negative -/
def Op.nonneg : Op → Prop
  | .advance _ a => 0 ≤ a
  | _ => True

/-- **What an operation does to the deque of its task**: it keeps it, empties it, prunes it, or
prunes it at the current reading and appends a sample with that timestamp. -/
theorem taskEffect_samples_inv (cfg : Cfg) (clock : Clock) {Q : Nat → List Sample → Prop} (op : Op) (o : Nat)
    (t : Task) (k : Nat)
    (hmono : ∀ {K K' l}, K ≤ K' → Q K l → Q K' l) (hnil : ∀ K, Q K [])
    (hprune : ∀ {K now l}, Q K l → Q K (prune cfg now l))
    (happ : ∀ {K k K' l amt}, Q K l → K ≤ k → k < K' → (op.nonneg → 0 ≤ amt) →
      Q K' (prune cfg (clock k) l ++ [⟨clock k, amt⟩]))
    (h : Q k t.samples) :
    Q (taskEffect cfg clock op none o t k).2 (taskEffect cfg clock op none o t k).1.samples := by
  cases op with
  | startTask i =>
    simp only [taskEffect]; split
    · exact hmono (Nat.le_succ _) h
    · exact h
  | stopTask i => exact hmono (Nat.le_succ _) h
  | reset i r => exact hnil _
  | update i u =>
    simp only [taskEffect, Task.updateBody, finishCheck_fst]
    generalize hk0 : (if u.refresh = true then refreshK cfg o (t.applyUpd u) k else k) = k0
    have hk : k ≤ k0 := hk0 ▸ le_updateClk ..
    have hge := fun x => finishCheck_clk_ge clock x (k0 + 1)
    have hbase : Q k0 (t.applyUpd u).samples := by
      simp only [applyUpd_eq]; split
      · exact hnil _
      · exact hmono hk h
    split
    · exact happ hbase (Nat.le_refl _) (hge _) (fun _ => by omega)
    · exact hmono (Nat.le_trans (Nat.le_succ _) (hge _)) (hprune hbase)
  | advance i a =>
    simp only [taskEffect, Task.advanceBody, finishCheck_fst, nowOf]
    exact happ h (Nat.le_refl _) (finishCheck_clk_ge clock _ (k + 1)) (fun hnn => by simp only [Op.nonneg] at hnn; omega)
  | _ => exact h

end RichModel.Progress
