import RichModel.Lemmas.AnsiHistory
import RichModel.Lemmas.AnsiWire
/-!
Lemmas for property C03, the character level: the tokens `_render_buffer` writes are fit for the wire (`WFTokS`) when
every segment text is `SafeText` (in particular when none contains ESC) and no link contains ESC / BEL — so the
*characters* written, read back by the terminal's tokenizer, mean what the tokens mean; the same for histories under
`OpsClean`.  Core Lean only.
-/
namespace RichModel.AnsiRender
open RichModel RichModel.AnsiTerm

variable {cc : Cfg} {P : Palettes}

/-- A hyperlink that can be framed by OSC 8: no ESC, no BEL. -/
def LinkClean (s : Style) : Prop := ∀ l, s.link = some l → ∀ c ∈ l, c ≠ ESC ∧ c ≠ BEL

/-- No ESC in any segment text, no ESC / BEL in any link of the heap. -/
def NoEscIn (heap : Heap) (segs : List Seg) : Prop :=
  (∀ seg ∈ segs, ESC ∉ seg.text) ∧ ∀ o ∈ heap, LinkClean o.style

theorem linkIdMask_clean : ∀ c ∈ linkIdMask, c ≠ ';' ∧ c ≠ ESC ∧ c ≠ BEL := by decide

theorem freshToks_wf (cc : Cfg) (P : Palettes) (s : Style) (text : List Char) (cs : Option ColorSystem) (lw : Bool)
    (ht : SafeText text) (hl : LinkClean s) : ∀ t ∈ freshToks cc P s text cs lw, WFTokS t := by
  have htext : WFTokS (.text text) := ht
  rcases plain_or_coded text cs with hp | ⟨c, rfl, hne⟩
  · simpa [freshToks_plain hp] using htext
  · rw [freshToks_some hne]
    cases computeCodes cc P s c with
    | error e => intro t h; cases h
    | ok codes =>
      refine forall_mem_runToks WFTokS s.link codes text lw htext trivial trivial ⟨linkIdMask_clean, ?_⟩ ⟨by simp, by simp⟩
      cases hlk : s.link with
      | none => simp
      | some l => simpa using hl l hlk

theorem linkClean_withoutColor (s : Style) (h : LinkClean s) : LinkClean (Style.withoutColor StyleVariant.fixed s) := by
  cases hn : s.isNull with
  | true => rw [Style.withoutColor_null _ hn]; intro l hl; simp [Style.null] at hl
  | false => rw [Style.withoutColor_of_not_null _ hn]; exact h

theorem linkClean_copy (s : Style) (h : LinkClean s) : LinkClean (Style.copy s) := by
  unfold Style.copy
  split
  · intro l hl; simp [Style.null] at hl
  · exact h

theorem specToks_wf (cc : Cfg) (P : Palettes) (cfg : Config) (heap : Heap) (segs : List Seg)
    (htext : ∀ seg ∈ segs, SafeText seg.text) (hlinks : ∀ o ∈ heap, LinkClean o.style) :
    ∀ t ∈ specToks cc P cfg heap segs, WFTokS t := by
  intro t ht
  simp only [specToks, loopToks, List.mem_flatMap, List.mem_filter] at ht
  obtain ⟨seg, ⟨hseg, _⟩, htk⟩ := ht
  have hsafe : WFTokS (.text seg.text) := htext seg hseg
  rcases segToks_cases cc P cfg _ heap seg with e | ⟨o, ho, e⟩ <;> rw [e] at htk
  · exact List.mem_singleton.mp htk ▸ hsafe
  · refine freshToks_wf cc P _ _ _ _ hsafe ?_ t htk
    split
    · exact linkClean_withoutColor _ (hlinks o ho)
    · exact hlinks o ho

/-- The characters `_render_buffer` writes mean the segments whenever every segment text is `SafeText` — each ESC in it
followed, inside the text, by something other than `[` and `]` — and no link holds ESC / BEL: the hypothesis of
`C03.stream_means_segments_chars` that the proof needs (`C03.trailing_esc_joins_next_segment`: a text that merely ends in
ESC already breaks the statement). -/
theorem renderBufferChars_means (hP : P.ok = true) (cfg : Config) (heap : Heap) (segs : List Seg)
    (hok : HeapOK cc P heap) (hrefs : RefsOK heap segs) (htext : ∀ seg ∈ segs, SafeText seg.text)
    (hlinks : ∀ o ∈ heap, LinkClean o.style) :
    ∃ chars heap', renderBufferChars .repaired cc P cfg heap segs = .ok (chars, heap') ∧ HeapOK cc P heap' ∧
      heap'.map (·.style) = heap.map (·.style) ∧
      interpFrom {} (tokenize chars) = ({}, expectedCells cc P cfg heap segs) := by
  obtain ⟨heap', g1, g2, g3⟩ := renderBuffer_toks hP cfg heap segs hok hrefs
  refine ⟨serialise (specToks cc P cfg heap segs), heap', by simp [renderBufferChars, g1], g2, g3, ?_⟩
  rw [interpFrom_tokenize_serialise _ (specToks_wf cc P cfg heap segs htext hlinks),
    specToks_means cc hP cfg heap (fun o ho => (hok o ho).1) segs]

theorem NoEscIn.safe {heap : Heap} {segs : List Seg} (h : NoEscIn heap segs) : ∀ seg ∈ segs, SafeText seg.text :=
  fun seg hs => safeText_of_noEsc _ (h.1 seg hs)

/-- No ESC in any text of the history, no ESC / BEL in any link. -/
def OpsClean : List Op → Prop
  | [] => True
  | .newStyle s :: rest => LinkClean s ∧ OpsClean rest
  | .copy _ :: rest => OpsClean rest
  | .updateLink _ link :: rest => (∀ l, link = some l → ∀ c ∈ l, c ≠ ESC ∧ c ≠ BEL) ∧ OpsClean rest
  | .render _ segs :: rest => (∀ seg ∈ segs, ESC ∉ seg.text) ∧ OpsClean rest
  | .styleRender _ text _ _ :: rest => ESC ∉ text ∧ OpsClean rest

theorem specOpsToks_wf (cc : Cfg) (P : Palettes) (ops : List Op) :
    ∀ styles : List Style, (∀ s ∈ styles, LinkClean s) → OpsClean ops →
      ∀ o ∈ specOpsToks cc P styles ops, ∀ t ∈ o, WFTokS t := by
  induction ops with
  | nil => intro styles _ _ o ho; cases ho
  | cons op rest ih =>
    intro styles hs hc
    have happ : ∀ s, LinkClean s → ∀ x ∈ styles ++ [s], LinkClean x := fun s hsl =>
      List.forall_mem_append.2 ⟨hs, List.forall_mem_singleton.2 hsl⟩
    cases op with
    | newStyle s => exact ih _ (happ s hc.1) hc.2
    | copy i =>
      rw [specOpsToks]
      cases hi : styles[i]? with
      | none => intro o ho; cases ho
      | some s => exact ih _ (happ _ (linkClean_copy s (hs s (List.mem_of_getElem? hi)))) hc
    | updateLink i link =>
      rw [specOpsToks]
      cases hi : styles[i]? with
      | none => intro o ho; cases ho
      | some s => exact ih _ (happ _ fun l hl => hc.1 l (Style.updateLink_link_some hl)) hc.2
    | render cfg segs =>
      rw [specOpsToks]
      exact List.forall_mem_cons.2 ⟨specToks_wf cc P cfg _ segs (fun seg hseg => safeText_of_noEsc _ (hc.1 seg hseg))
        (by simpa [freshHeap] using hs), ih styles hs hc.2⟩
    | styleRender i text cs lw =>
      rw [specOpsToks]
      refine List.forall_mem_cons.2 ⟨?_, ih styles hs hc.2⟩
      cases hi : styles[i]? with
      | none => intro t ht; cases ht
      | some s => exact freshToks_wf cc P s text cs lw (safeText_of_noEsc _ hc.1) (hs s (List.mem_of_getElem? hi))

/-- `hwf` is all that is asked of the texts and links of the history; `specOpsToks_wf` gives it under `OpsClean`. -/
theorem runOpsChars_means (hP : P.ok = true) (ops : List Op) (heap : Heap) (hok : HeapOK cc P heap)
    (hops : OpsOK heap.length ops) (hwf : ∀ o ∈ specOpsToks cc P (heap.map (·.style)) ops, ∀ t ∈ o, WFTokS t) :
    ∃ outs : List (List Char), runOpsChars .repaired cc P heap ops = outs.map Except.ok ∧
      outs.map (fun s => interp (tokenize s)) = specOps cc P (heap.map (·.style)) ops ∧
      ∀ s ∈ outs, finalState (tokenize s) = {} := by
  obtain ⟨h1, h2, h3⟩ := runOps_spec cc hP ops heap hok hops
  refine ⟨(specOpsToks cc P (heap.map (·.style)) ops).map serialise, ?_, ?_, ?_⟩
  · simp [runOpsChars, h1, List.map_map, Function.comp_def]
  · rw [← h2, List.map_map]
    apply List.map_congr_left
    intro o ho
    simp only [Function.comp_apply, interp, interpFrom_tokenize_serialise o (hwf o ho)]
  · intro s hs
    obtain ⟨o, ho, rfl⟩ := List.mem_map.mp hs
    simp only [finalState, interpFrom_tokenize_serialise o (hwf o ho)]
    exact h3 o ho

end RichModel.AnsiRender
