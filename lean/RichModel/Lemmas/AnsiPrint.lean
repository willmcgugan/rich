import RichModel.Lemmas.AnsiChars
import RichModel.Model.AnsiPrint
import RichModel.Lemmas.Segment
/-!
Lemmas for property C03: the route `Console.print` → `_buffer` → `_render_buffer` → terminal.  `Segment.apply_style` on
heap objects (`applyStyleHeap`) is `forE` of `applyStep`; what it allocates are sums of two objects of the heap (`SumsOf`),
so every cache stays sound and every link clean, and every non-control segment ends up printed with the *value*
`style + own style`.  The crop (`finishPrint`) keeps every property of segments that survives taking pieces of a text
(`splitAndCrop_closed`, Lemmas/Segment).  Core Lean only.
-/
namespace RichModel.AnsiRender
open RichModel RichModel.AnsiTerm

variable {cc : Cfg} {P : Palettes}

theorem styleWF_add (a b : Style) (ha : StyleWF a) (hb : StyleWF b) : StyleWF (Style.add StyleVariant.fixed a b) :=
  -- a colour of the merge is a colour of `b` or of `a`; the merge is not null
  Style.add_cases _ a b (fun _ => ha) (fun _ _ => hb) fun _ _ =>
    ⟨fun c hc => (Option.or_eq_some_iff.mp hc).elim (hb.color c) fun h => ha.color c h.2,
     fun c hc => (Option.or_eq_some_iff.mp hc).elim (hb.bgcolor c) fun h => ha.bgcolor c h.2,
     fun hn => by cases hn⟩

theorem linkClean_add (a b : Style) (ha : LinkClean a) (hb : LinkClean b) :
    LinkClean (Style.add StyleVariant.fixed a b) :=
  -- the link of the merge is the link of `b` if there is one, else that of `a`
  Style.add_cases _ a b (fun _ => ha) (fun _ _ => hb) fun _ _ l hl => by
    simp only [linkOr] at hl
    split at hl
    · exact hb l hl
    · exact ha l hl

/-- `self + seg_style` on objects: the result is an object of the heap afterwards carrying the sum as a value, and what
is allocated, if anything, is the sum of `sj` and the segment's object with an empty cache. -/
theorem addObj_spec (heap : Heap) (j : Nat) (sj : StyleObj)
    (hj : heap[j]? = some sj) (seg : Seg) (hr : ∀ i, seg.style = some i → i < heap.length) :
    ∃ k extra, addObj heap j sj seg.style = .ok (k, heap ++ extra) ∧ k < (heap ++ extra).length ∧
      ((heap ++ extra)[k]?).map (·.style) = some (Style.addOpt StyleVariant.fixed sj.style (segStyle heap seg)) ∧
      ∀ o ∈ extra, ∃ i oi, seg.style = some i ∧ heap[i]? = some oi ∧
        o = { style := Style.add StyleVariant.fixed sj.style oi.style, ansi := none } := by
  have hjl : j < heap.length := (List.getElem?_eq_some_iff.mp hj).1
  unfold addObj segStyle
  cases hs : seg.style with
  | none => exact ⟨j, [], by simp, by simpa using hjl, by simp [hj, Style.addOpt], by simp⟩
  | some i =>
    have hil := hr i hs
    obtain ⟨oi, hoi⟩ : ∃ oi, heap[i]? = some oi := ⟨heap[i], by simp [hil]⟩
    simp only [hoi, Option.map_some]
    by_cases hn : oi.style.isNull = true
    · exact ⟨j, [], by simp [hn], by simpa using hjl, by simp [hj, Style.addOpt, Style.add, hn], by simp⟩
    · by_cases hn2 : sj.style.isNull = true
      · exact ⟨i, [], by simp [hn, hn2], by simpa using hil, by simp [hoi, Style.addOpt, Style.add, hn, hn2], by simp⟩
      · exact ⟨heap.length, [{ style := Style.add StyleVariant.fixed sj.style oi.style, ansi := none }],
          by simp [hn, hn2], by simp, by simp [Style.addOpt],
          fun o ho => ⟨i, oi, rfl, hoi, List.mem_singleton.mp ho⟩⟩

/-- Every object of `extra` is the sum (`Style.__add__`, empty cache) of two objects of `heap`: what `apply_style`
allocates. -/
def SumsOf (heap extra : Heap) : Prop :=
  ∀ o ∈ extra, ∃ a ∈ heap, ∃ b ∈ heap, o = { style := Style.add StyleVariant.fixed a.style b.style, ansi := none }

theorem SumsOf.forall_mem {I : StyleObj → Prop} {heap extra : Heap} (hsum : SumsOf heap extra)
    (hadd : ∀ a b, I a → I b → I { style := Style.add StyleVariant.fixed a.style b.style, ansi := none })
    (h : ∀ o ∈ heap, I o) : ∀ o ∈ heap ++ extra, I o :=
  List.forall_mem_append.2 ⟨h, fun o ho => by
    obtain ⟨a, ha, b, hb, rfl⟩ := hsum o ho
    exact hadd a b (h a ha) (h b hb)⟩

theorem SumsOf.heapOK {heap extra : Heap} (hsum : SumsOf heap extra) (hok : HeapOK cc P heap) :
    HeapOK cc P (heap ++ extra) :=
  hsum.forall_mem (fun _ _ ha hb => objOK_fresh (styleWF_add _ _ ha.1 hb.1)) hok

/-- The body of `Segment.apply_style(segments, heap[j])`. -/
def applyStep (j : Nat) (heap : Heap) (seg : Seg) : Except RenderErr (List Seg × Heap) :=
  match heap[j]? with
  | none => .error .badRef
  | some sj =>
    if seg.control then .ok ([{ seg with style := none }], heap)
    else (addObj heap j sj seg.style).bind fun r => .ok ([{ seg with style := some r.1 }], r.2)

theorem applyStyleHeap_eq_forE (j : Nat) (segs : List Seg) :
    ∀ heap, applyStyleHeap j heap segs = forE (applyStep j) heap segs := by
  induction segs with
  | nil => intro heap; rfl
  | cons seg rest ih =>
    intro heap
    rw [applyStyleHeap, forE, applyStep]
    simp only [ih]
    cases heap[j]? with
    | none => rfl
    | some sj =>
      dsimp only
      split
      · rfl
      · dsimp only [bind]
        cases addObj heap j sj seg.style <;> rfl

/-- One step of `apply_style` when `heap[j] = sj` (`addObj_spec`, and the control segments): it does not raise; the
reference it returns is in range and names, as a value, `sj + own style` (nothing for a control segment); what it
appends, if anything, is that sum with an empty cache. -/
theorem applyStep_spec (heap : Heap) (j : Nat) (sj : StyleObj) (hj : heap[j]? = some sj) (seg : Seg)
    (hr : ∀ i, seg.style = some i → i < heap.length) :
    ∃ st extra, applyStep j heap seg = .ok ([{ seg with style := st }], heap ++ extra) ∧
      (∀ k, st = some k → k < (heap ++ extra).length) ∧
      segStyle (heap ++ extra) { seg with style := st } = printedStyle (some sj.style) seg.control (segStyle heap seg) ∧
      ∀ o ∈ extra, ∃ s, segStyle heap seg = some s ∧
        o = { style := Style.add StyleVariant.fixed sj.style s, ansi := none } := by
  rw [applyStep, hj]
  dsimp only
  by_cases hc : seg.control = true
  · exact ⟨none, [], by simp [hc], by simp, by simp [segStyle, printedStyle, hc], by simp⟩
  · obtain ⟨k, extra, a1, a2, a3, a4⟩ := addObj_spec heap j sj hj seg hr
    have hcf : seg.control = false := by simpa using hc
    refine ⟨some k, extra, by simp [hcf, a1, Except.bind], by simpa using a2, by simpa [printedStyle, hcf, segStyle] using a3,
      fun o ho => ?_⟩
    obtain ⟨i, oi, hi, hoi, rfl⟩ := a4 o ho
    exact ⟨oi.style, segStyle_of_get hi hoi, rfl⟩

theorem viewSegs_append_heap {heap : Heap} {segs : List Seg} (h : RefsOK heap segs) (extra : Heap) :
    viewSegs (heap ++ extra) segs = viewSegs heap segs :=
  List.map_congr_left fun s hs => by rw [segStyle_append heap extra s (h s hs)]

/-- `apply_style` does not raise; it only appends sums of two objects of the heap (one of them `heap[j]`); the segments
it yields carry, as values, `heap[j] + own style`. -/
theorem applyStyleHeap_spec (j : Nat) (sj : StyleObj) (segs : List Seg) (heap : Heap) (hj : heap[j]? = some sj)
    (hrefs : RefsOK heap segs) :
    ∃ segs' extra, applyStyleHeap j heap segs = .ok (segs', heap ++ extra) ∧ SumsOf heap extra ∧
      RefsOK (heap ++ extra) segs' ∧
      viewSegs (heap ++ extra) segs' =
        segs.map fun s => (s.text, s.control, printedStyle (some sj.style) s.control (segStyle heap s)) := by
  obtain ⟨r, h1, extra, h2, h3, h4, h5⟩ := (forE_post (applyStep j)
    (fun done out heap' => ∃ extra, heap' = heap ++ extra ∧ SumsOf heap extra ∧ RefsOK heap' out ∧
      viewSegs heap' out =
        done.map fun s => (s.text, s.control, printedStyle (some sj.style) s.control (segStyle heap s)))
    (fun _ => False) segs
    (fun seg hs done out heap1 ⟨ex, e, q1, q2, q3⟩ => by
      subst e
      have hseg : segStyle (heap ++ ex) seg = segStyle heap seg := segStyle_append heap ex seg (hrefs seg hs)
      obtain ⟨st, ex1, a1, a2, a3, a4⟩ := applyStep_spec (heap ++ ex) j sj
        (by rw [List.getElem?_append_left (List.getElem?_eq_some_iff.mp hj).1]; exact hj) seg
        (refsOK_append hrefs ex seg hs)
      rw [a1]
      refine ⟨ex ++ ex1, List.append_assoc .., List.forall_mem_append.2 ⟨q1, fun o ho => ?_⟩,
        List.forall_mem_append.2 ⟨refsOK_append q2 ex1, List.forall_mem_singleton.2 a2⟩, ?_⟩
      · obtain ⟨s, hs', rfl⟩ := a4 o ho
        obtain ⟨oi, hoi, rfl⟩ := segStyle_mem (hseg ▸ hs')
        exact ⟨sj, List.mem_of_getElem? hj, oi, hoi, rfl⟩
      · -- the segments already written do not see what the step allocated
        rw [viewSegs, List.map_append, ← viewSegs, viewSegs_append_heap q2, q3, List.map_append]
        simp only [List.map_cons, List.map_nil, a3, hseg])
    heap ⟨[], by simp, (by intro o ho; cases ho), (by intro s hs; cases hs), rfl⟩).returns
  exact ⟨r.1, extra, by rw [applyStyleHeap_eq_forE, h1, ← h2], h3, h2 ▸ h4, h2 ▸ h5⟩

/-- The references of one `print` call are in range. -/
def PrintOK (heap : Heap) (p : PrintCall) : Prop :=
  RefsOK heap p.segs ∧ ∀ j, p.style = some j → j < heap.length

theorem finishPrint_closed (Q : Seg → Prop) (hQ : CropClosed Q) (cw : Char → Nat) (env : PEnv) (p : PrintCall)
    (segs : List Seg) (h : ∀ s ∈ segs, Q s) : ∀ s ∈ finishPrint cw env p segs, Q s := by
  unfold finishPrint
  split
  · exact splitAndCrop_closed Q hQ cw segs env.width none h
  · exact h

theorem finishPrint_refs (cw : Char → Nat) (env : PEnv) (p : PrintCall) (heap : Heap) (segs : List Seg)
    (h : RefsOK heap segs) : RefsOK heap (finishPrint cw env p segs) :=
  finishPrint_closed (fun s => ∀ i, s.style = some i → i < heap.length)
    ⟨fun seg _ hq _ => hq, by intro i hi; cases hi⟩ cw env p segs h

theorem finishPrint_chars (cw : Char → Nat) (env : PEnv) (p : PrintCall) (segs : List Seg) :
    ∀ s ∈ finishPrint cw env p segs, ∀ c ∈ s.text, (∃ s0 ∈ segs, c ∈ s0.text) ∨ c = ' ' ∨ c = '\n' :=
  finishPrint_closed (fun s => ∀ c ∈ s.text, (∃ s0 ∈ segs, c ∈ s0.text) ∨ c = ' ' ∨ c = '\n')
    ⟨fun _ _ hq ht c hc => (ht c hc).elim (hq c) fun h => .inr (.inl h),
     fun _ hc => .inr (.inr (List.mem_singleton.mp hc))⟩
    cw env p segs fun s hs _ hc => .inl ⟨s, hs, hc⟩

theorem finishPrint_noEsc (cw : Char → Nat) (env : PEnv) (p : PrintCall) (segs : List Seg)
    (h : ∀ s ∈ segs, ESC ∉ s.text) : ∀ s ∈ finishPrint cw env p segs, ESC ∉ s.text := by
  intro s hs hm
  rcases finishPrint_chars cw env p segs s hs ESC hm with ⟨s0, hs0, hc⟩ | h' | h'
  · exact h s0 hs0 hc
  · revert h'; decide
  · revert h'; decide

/-- What `print` appends to `_buffer`: `apply_style` allocated `extra` (brand-new objects, each the sum of two objects of
the heap; nothing else changes); the buffer is the crop of segments `applied` that keep the rendered texts and control
flags and carry — as values — `style + own style`; the references of the buffer are in range. -/
theorem printBuffer_spec (cw : Char → Nat) (env : PEnv) (heap : Heap) (p : PrintCall) (hp : PrintOK heap p) :
    ∃ applied extra,
      printBuffer cw env heap p = .ok (finishPrint cw env p applied, heap ++ extra) ∧
      viewSegs (heap ++ extra) applied =
        p.segs.map (fun s => (s.text, s.control,
          printedStyle ((p.style.bind (heap[·]?)).map (·.style)) s.control (segStyle heap s))) ∧
      RefsOK (heap ++ extra) (finishPrint cw env p applied) ∧ SumsOf heap extra := by
  obtain ⟨hrefs, hst⟩ := hp
  cases hs : p.style with
  | none =>
    exact ⟨p.segs, [], by simp [printBuffer, hs], by simp [viewSegs, printedStyle],
      finishPrint_refs cw env p _ _ (by simpa using hrefs), fun o ho => by cases ho⟩
  | some j =>
    obtain ⟨sj, hsj⟩ : ∃ sj, heap[j]? = some sj := ⟨heap[j]'(hst j hs), by simp [hst j hs]⟩
    obtain ⟨segs', extra, a1, a2, a3, a4⟩ := applyStyleHeap_spec j sj p.segs heap hsj hrefs
    exact ⟨segs', extra, by simp [printBuffer, hs, a1, bind, Except.bind], by simp [a4, hsj],
      finishPrint_refs cw env p _ _ a3, a2⟩

/-- `print` keeps the buffer free of ESC: `apply_style` keeps the texts, the crop adds blanks and line feeds, and the
link of an allocated sum is one of the two links. -/
theorem printBuffer_noEsc (cw : Char → Nat) (env : PEnv) (heap : Heap) (p : PrintCall) (hp : PrintOK heap p)
    (hclean : NoEscIn heap p.segs) {buf : List Seg} {heap1 : Heap} (h : printBuffer cw env heap p = .ok (buf, heap1)) :
    NoEscIn heap1 buf := by
  obtain ⟨applied, extra, h1, h2, _, hsum⟩ := printBuffer_spec cw env heap p hp
  obtain ⟨rfl, rfl⟩ : finishPrint cw env p applied = buf ∧ heap ++ extra = heap1 := by simpa [h1] using h
  have ht : applied.map (·.text) = p.segs.map (·.text) := by
    simpa [viewSegs, Function.comp_def] using congrArg (List.map Prod.fst) h2
  refine ⟨finishPrint_noEsc cw env p applied fun s hs => ?_,
    hsum.forall_mem (I := fun o => LinkClean o.style) (fun a b => linkClean_add a.style b.style) hclean.2⟩
  have hm : s.text ∈ p.segs.map (·.text) := ht ▸ List.mem_map.mpr ⟨s, hs, rfl⟩
  obtain ⟨s0, hs0, e⟩ := List.mem_map.mp hm
  exact e ▸ hclean.1 s0 hs0

theorem printWrite_of_buffer {v : RVariant} {cw : Char → Nat} {cfg : Config} {env : PEnv} {heap heap1 : Heap}
    {p : PrintCall} {buf : List Seg} (h : printBuffer cw env heap p = .ok (buf, heap1)) :
    printWrite v cc P cw cfg env heap p = renderBuffer v cc P cfg heap1 buf := by
  simp [printWrite, h, bind, Except.bind]

theorem printChars_of_buffer {v : RVariant} {cw : Char → Nat} {cfg : Config} {env : PEnv} {heap heap1 : Heap}
    {p : PrintCall} {buf : List Seg} (h : printBuffer cw env heap p = .ok (buf, heap1)) :
    printChars v cc P cw cfg env heap p = renderBufferChars v cc P cfg heap1 buf := by
  rw [printChars, printWrite_of_buffer h]; rfl

end RichModel.AnsiRender
