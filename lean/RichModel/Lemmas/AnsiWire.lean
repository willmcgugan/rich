import RichModel.Lemmas.AnsiTerm
import RichModel.Lemmas.Lines
/-!
Lemmas for property C03, the wire format: the terminal's reading (`tokenize`) of what `serialise`
writes is the token list itself (up to merging adjacent text runs), for every token list whose hyperlink fields
contain no `;` / ESC / BEL where the format forbids them and whose text cannot start a sequence.

An ESC inside text is harmless for the terminal model exactly when it cannot start one of the two sequences the model
reads: `SafeText` — every ESC of the text is followed, *inside the same text*, by a character other than `[` and `]`
(so the last character is not ESC: what follows the text on the wire is not under its control).  Without it the
embedded sequence is executed: `serialise_text_inner` says precisely what the terminal then sees.  Core Lean only.
-/
namespace RichModel.AnsiTerm

theorem takeWhileP_append (p : Char → Bool) (a : List Char) (c : Char) (r : List Char)
    (ha : ∀ x ∈ a, p x = true) (hc : p c = false) : takeWhileP p (a ++ c :: r) = (a, c :: r) := by
  induction a with
  | nil => simp [takeWhileP, hc]
  | cons x xs ih =>
    have hx := ha x (by simp)
    have ih' := ih (fun y hy => ha y (by simp [hy]))
    simp [takeWhileP, hx, ih']

theorem splitSemi_eq (s : List Char) : splitSemi s = Lines.split (· == ';') s := by
  induction s with
  | nil => rfl
  | cons c cs ih =>
    by_cases hc : c = ';'
    · rw [splitSemi, if_pos hc, ih, Lines.split_cons_sep (by simpa using hc)]
    · rw [splitSemi, if_neg hc, ih, Lines.split_cons_free (by simpa using hc)]
      cases h : Lines.split (· == ';') cs with
      | nil => exact absurd h (Lines.split_ne_nil _ cs)
      | cons l ls => rfl

theorem joinSemi_eq (ds : List (List Char)) : joinSemi ds = Lines.join ';' ds := by
  fun_induction joinSemi ds <;> simp_all [Lines.join]

theorem splitSemi_ne_nil (s : List Char) : splitSemi s ≠ [] :=
  splitSemi_eq s ▸ Lines.split_ne_nil _ s

theorem natDigits_isDigit (n : Nat) (c : Char) (h : c ∈ natDigits n) : c.isDigit = true :=
  Nat.isDigit_of_mem_toDigits (by decide) (by decide) h

theorem isDigit_ne_semi (c : Char) (h : c.isDigit = true) : c ≠ ';' := by
  intro e; subst e; revert h; decide

theorem parseParam_natDigits (n : Nat) : parseParam (natDigits n) = n :=
  Nat.ofDigitChars_toDigits (by decide) (by decide)

theorem parseParams_joinSemi (ps : List Nat) : parseParams (joinSemi (ps.map natDigits)) = ps := by
  cases ps with
  | nil => rfl
  | cons p rest =>
    have hne : (p :: rest).map natDigits ≠ [] := by simp
    have hemp : (joinSemi ((p :: rest).map natDigits)).isEmpty = false := by
      rw [joinSemi_eq, List.isEmpty_eq_false_iff]
      exact fun h => hne (Lines.join_eq_nil h fun d hd => by
        obtain ⟨n, _, rfl⟩ := List.mem_map.mp hd
        exact Nat.toDigits_ne_nil)
    rw [parseParams, hemp, if_neg Bool.false_ne_true, splitSemi_eq, joinSemi_eq,
      Lines.split_join (by decide) hne fun d hd c hc => by
        obtain ⟨n, _, rfl⟩ := List.mem_map.mp hd
        exact beq_false_of_ne (isDigit_ne_semi _ (natDigits_isDigit n _ hc)),
      List.map_map]
    exact (List.map_congr_left fun n _ => parseParam_natDigits n).trans (List.map_id _)

theorem scanSgr_serialised (ps : List Nat) (rest : List Char) :
    scanSgr (joinSemi (ps.map natDigits) ++ 'm' :: rest) = some (ps, rest) := by
  have htw : takeWhileP isParamChar (joinSemi (ps.map natDigits) ++ 'm' :: rest) =
      (joinSemi (ps.map natDigits), 'm' :: rest) := by
    apply takeWhileP_append
    · intro c hc
      rcases Lines.mem_join (joinSemi_eq _ ▸ hc) with rfl | ⟨d, hd, hcd⟩
      · decide
      · obtain ⟨n, _, rfl⟩ := List.mem_map.mp hd
        simp [isParamChar, natDigits_isDigit n c hcd]
    · decide
  simp [scanSgr, htw, parseParams_joinSemi]

/-- The fields of a well-formed OSC 8 sequence. -/
def WFOsc (params uri : List Char) : Prop :=
  (∀ c ∈ params, c ≠ ';' ∧ c ≠ ESC ∧ c ≠ BEL) ∧ (∀ c ∈ uri, c ≠ ESC ∧ c ≠ BEL)

theorem scanOsc8_serialised (params uri rest : List Char) (h : WFOsc params uri) :
    scanOsc8 ('8' :: ';' :: (params ++ ';' :: (uri ++ ESC :: '\\' :: rest))) = some (.osc8 params uri, rest) := by
  have h1 : takeWhileP (fun c => c != ';' && c != ESC && c != BEL) (params ++ ';' :: (uri ++ ESC :: '\\' :: rest)) =
      (params, ';' :: (uri ++ ESC :: '\\' :: rest)) := by
    apply takeWhileP_append
    · intro c hc
      obtain ⟨a, b, d⟩ := h.1 c hc
      simp [a, b, d]
    · decide
  have h2 : takeWhileP (fun c => c != ESC && c != BEL) (uri ++ ESC :: '\\' :: rest) = (uri, ESC :: '\\' :: rest) := by
    apply takeWhileP_append
    · intro c hc
      obtain ⟨a, b⟩ := h.2 c hc
      simp [a, b]
    · decide
  have h3 : ESC ≠ BEL := by decide
  simp [scanOsc8, h1, h2, h3]

/-- Every ESC is followed, inside the text, by something that is neither `[` nor `]`. -/
def SafeText : List Char → Prop
  | [] => True
  | c :: cs => (c = ESC → ∃ k r, cs = k :: r ∧ k ≠ '[' ∧ k ≠ ']') ∧ SafeText cs

theorem safeText_of_noEsc (s : List Char) (h : ESC ∉ s) : SafeText s := by
  induction s with
  | nil => trivial
  | cons c cs ih =>
    exact ⟨fun e => absurd (by simp [e]) h, ih (fun hm => h (by simp [hm]))⟩

-- by hand: the `∃ k r, cs = k :: r ∧ …` of the definition is not found decidable by instance search
instance : (s : List Char) → Decidable (SafeText s)
  | [] => isTrue trivial
  | c :: cs =>
    have := instDecidableSafeText cs
    match cs with
    | [] => if h : c = ESC then isFalse (fun hs => by obtain ⟨k, r, e, _⟩ := hs.1 h; cases e) else isTrue ⟨fun e => absurd e h, trivial⟩
    | k :: r =>
      if h : c = ESC then
        if hk : k ≠ '[' ∧ k ≠ ']' then
          (match this with
           | isTrue t => isTrue ⟨fun _ => ⟨k, r, rfl, hk.1, hk.2⟩, t⟩
           | isFalse f => isFalse (fun hs => f hs.2))
        else isFalse (fun hs => by obtain ⟨k', r', e, h1, h2⟩ := hs.1 h; cases e; exact hk ⟨h1, h2⟩)
      else
        (match this with
         | isTrue t => isTrue ⟨fun e => absurd e h, t⟩
         | isFalse f => isFalse (fun hs => f hs.2))

/-- Tokens whose serialisation a terminal reads back unambiguously, with no ESC at all in text: the stronger of the two
(`wfTokS_of_wfTok`). -/
def WFTok : Tok → Prop
  | .text s => ESC ∉ s
  | .sgr _ => True
  | .osc8 p u => WFOsc p u

/-- Tokens whose serialisation a terminal reads back unambiguously — text may contain harmless ESCs. -/
def WFTokS : Tok → Prop
  | .text s => SafeText s
  | .sgr _ => True
  | .osc8 p u => WFOsc p u

theorem wfTokS_of_wfTok (t : Tok) (h : WFTok t) : WFTokS t := by
  cases t with
  | text s => exact safeText_of_noEsc s h
  | sgr ps => trivial
  | osc8 p u => exact h

/-- A token as `scan` hands it out: text one character at a time. -/
def explode : Tok → List Tok
  | .text s => s.map fun c => .text [c]
  | t => [t]

theorem scan_text (s : List Char) (hs : SafeText s) (rest : List Char) :
    ∀ fuel, (s ++ rest).length ≤ fuel →
      scan fuel (s ++ rest) = (s.map fun c => Tok.text [c]) ++ scan (fuel - s.length) rest := by
  induction s with
  | nil => intro fuel _; simp
  | cons c cs ih =>
    intro fuel hf
    cases fuel with
    | zero => simp at hf
    | succ f =>
      have hf' : (cs ++ rest).length ≤ f := by simp at hf ⊢; omega
      have e : f + 1 - (c :: cs).length = f - cs.length := by simp
      have hstep : scan (f + 1) (c :: (cs ++ rest)) = Tok.text [c] :: scan f (cs ++ rest) := by
        by_cases hc : c = ESC
        · obtain ⟨k, r, hk, h1, h2⟩ := hs.1 hc
          subst hk
          simp [scan, hc, h1, h2]
        · simp [scan, hc]
      rw [e, List.cons_append, List.map_cons, List.cons_append, hstep, ih hs.2 f hf']

theorem scan_sgr (ps : List Nat) (rest : List Char) (f : Nat) :
    scan (f + 1) (serialiseTok (.sgr ps) ++ rest) = .sgr ps :: scan f rest := by
  have : serialiseTok (.sgr ps) ++ rest = ESC :: '[' :: (joinSemi (ps.map natDigits) ++ 'm' :: rest) := by
    simp [serialiseTok]
  rw [this]
  simp [scan, scanSgr_serialised]

theorem scan_osc8 (p u rest : List Char) (h : WFOsc p u) (f : Nat) :
    scan (f + 1) (serialiseTok (.osc8 p u) ++ rest) = .osc8 p u :: scan f rest := by
  have : serialiseTok (.osc8 p u) ++ rest = ESC :: ']' :: '8' :: ';' :: (p ++ ';' :: (u ++ ESC :: '\\' :: rest)) := by
    simp [serialiseTok]
  rw [this]
  have hk : (']' : Char) ≠ '[' := by decide
  simp [scan, hk, scanOsc8_serialised p u rest h]

theorem serialise_cons (t : Tok) (ts : List Tok) : serialise (t :: ts) = serialiseTok t ++ serialise ts := by
  simp [serialise]

theorem scan_serialise (toks : List Tok) (h : ∀ t ∈ toks, WFTokS t) :
    ∀ fuel, (serialise toks).length ≤ fuel → scan fuel (serialise toks) = toks.flatMap explode := by
  induction toks with
  | nil =>
    intro fuel _
    cases fuel <;> simp [serialise, scan]
  | cons t ts ih =>
    intro fuel hf
    have iht := ih (fun x hx => h x (by simp [hx]))
    have ht := h t (by simp)
    rw [serialise_cons] at hf ⊢
    cases t with
    | text s =>
      simp only [serialiseTok] at hf ⊢
      rw [scan_text s ht _ fuel hf, iht _ (by simp at hf; omega)]
      simp [explode]
    | sgr ps =>
      cases fuel with
      | zero => simp [serialiseTok] at hf
      | succ f =>
        rw [scan_sgr, iht f (by simp [serialiseTok] at hf; omega)]
        simp [explode]
    | osc8 p u =>
      cases fuel with
      | zero => simp [serialiseTok] at hf
      | succ f =>
        rw [scan_osc8 p u _ ht, iht f (by simp [serialiseTok] at hf; omega)]
        simp [explode]

/-- `normalise (.text s :: rest)` in terms of `normalise rest`. -/
def consText (s : List Char) (L : List Tok) : List Tok :=
  if s.isEmpty then L
  else match L with
    | .text s' :: r => .text (s ++ s') :: r
    | r => .text s :: r

theorem normalise_text (s : List Char) (rest : List Tok) :
    normalise (.text s :: rest) = consText s (normalise rest) := by
  simp only [normalise, consText]
  split
  · rfl
  · split <;> simp_all

theorem consText_cons (c : Char) (s : List Char) (L : List Tok) :
    consText [c] (consText s L) = consText (c :: s) L := by
  cases s with
  | nil => simp [consText]
  | cons x xs =>
    cases L with
    | nil => simp [consText]
    | cons t r => cases t <;> simp [consText]

theorem normalise_singles (s : List Char) (Y : List Tok) :
    normalise ((s.map fun c => Tok.text [c]) ++ Y) = consText s (normalise Y) := by
  induction s with
  | nil => simp [consText]
  | cons c cs ih =>
    rw [List.map_cons, List.cons_append, normalise_text, ih, consText_cons]

theorem normalise_explode (toks : List Tok) : normalise (toks.flatMap explode) = normalise toks := by
  induction toks with
  | nil => rfl
  | cons t ts ih =>
    cases t with
    | text s => simp only [List.flatMap_cons, explode]; rw [normalise_singles, ih, normalise_text]
    | sgr ps => simp [explode, normalise, ih]
    | osc8 p u => simp [explode, normalise, ih]

theorem interpFrom_consText (st : TermState) (s : List Char) (L : List Tok) :
    interpFrom st (consText s L) = interpFrom st (.text s :: L) := by
  unfold consText
  by_cases hs : s.isEmpty = true
  · have : s = [] := by simpa using hs
    subst this
    simp [interpFrom, stepTok]
  · simp only [hs, Bool.false_eq_true, if_false]
    cases L with
    | nil => rfl
    | cons t r =>
      cases t with
      | text s' => simp [interpFrom, stepTok, List.map_append]
      | sgr ps => rfl
      | osc8 p u => rfl

theorem interpFrom_normalise (toks : List Tok) : ∀ st, interpFrom st (normalise toks) = interpFrom st toks := by
  induction toks with
  | nil => intro st; rfl
  | cons t ts ih =>
    intro st
    cases t with
    | text s =>
      rw [normalise_text, interpFrom_consText, interpFrom_cons, interpFrom_cons, ih]
    | sgr ps => simp only [normalise]; rw [interpFrom_cons, interpFrom_cons, ih]
    | osc8 p u => simp only [normalise]; rw [interpFrom_cons, interpFrom_cons, ih]

theorem tokenize_serialise_safe (toks : List Tok) (h : ∀ t ∈ toks, WFTokS t) :
    tokenize (serialise toks) = normalise toks := by
  unfold tokenize
  rw [scan_serialise toks h _ (Nat.le_refl _), normalise_explode]

theorem interpFrom_tokenize_serialise (toks : List Tok) (h : ∀ t ∈ toks, WFTokS t) (st : TermState) :
    interpFrom st (tokenize (serialise toks)) = interpFrom st toks := by
  rw [tokenize_serialise_safe toks h, interpFrom_normalise]

theorem serialise_append (a b : List Tok) : serialise (a ++ b) = serialise a ++ serialise b := by
  simp [serialise]

theorem serialise_text_inner (pre inner post : List Tok) :
    serialise (pre ++ [.text (serialise inner)] ++ post) = serialise (pre ++ inner ++ post) := by
  simp [serialise, serialiseTok]

end RichModel.AnsiTerm
