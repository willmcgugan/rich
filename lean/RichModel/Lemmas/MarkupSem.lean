import RichModel.Model.Markup
/-! The two reference semantics `sem` (characters) and `semC` (chunks) treat a tag in the same way, `stepO`,
and differ in how text is annotated; how they are related.  The render loop's step on a tag is written by
the same case distinction (`classify`). -/
namespace RichModel.Markup

theorem stripControl_append (a b : List Char) : stripControl (a ++ b) = stripControl a ++ stripControl b :=
  List.filter_append ..

theorem stripControl_idem (s : List Char) : stripControl (stripControl s) = stripControl s := by
  rw [stripControl, stripControl, List.filter_filter]
  simp

theorem chunkText_clean (cfg : Cfg) (s : List Char) : stripControl (chunkText cfg s) = chunkText cfg s :=
  stripControl_idem _

/-- what a tag does to the list of open tags (most recent first) in `sem` and `semC`;
`none` = a closing tag with nothing to close -/
def stepO (cfg : Cfg) (op : List OTag) (t : Tag) : Option (List OTag) :=
  match classify cfg t with
  | .opening o => some (o :: op)
  | .closeName n => closeRecent n op
  | .closeTop => op.tail?

theorem sem_tag (cfg : Cfg) (op : List OTag) (t : Tag) (r : List Ev) :
    sem cfg op (.tag t :: r) = (stepO cfg op t).bind (fun op' => sem cfg op' r) := by
  simp only [sem, stepO]
  cases classify cfg t with
  | opening o => rfl
  | closeName n => dsimp only; cases closeRecent n op <;> rfl
  | closeTop => cases op <;> rfl

theorem semC_tag (cfg : Cfg) (op : List OTag) (t : Tag) (r : List CEv) :
    semC cfg op (.tag t :: r) = (stepO cfg op t).bind (fun op' => semC cfg op' r) := by
  simp only [semC, stepO]
  cases classify cfg t with
  | opening o => rfl
  | closeName n => dsimp only; cases closeRecent n op <;> rfl
  | closeTop => cases op <;> rfl

theorem semC_txt (cfg : Cfg) (op : List OTag) (s : List Char) (r : List CEv) :
    semC cfg op (.txt s :: r) =
      (semC cfg op r).map (fun a => (chunkText cfg s).map (fun c => (c, op.reverse.map (·.style))) ++ a) := by
  rw [semC]
  cases semC cfg op r <;> rfl

theorem sem_chars (cfg : Cfg) (op : List OTag) (s : List Char) (r : List Ev) :
    sem cfg op (s.map Ev.chr ++ r) =
      (sem cfg op r).map (fun a => (stripControl s).map (fun c => (c, op.reverse.map (·.style))) ++ a) := by
  induction s with
  | nil => simp [stripControl]
  | cons c cs ih =>
    simp only [List.map_cons, List.cons_append, sem, ih]
    by_cases hc : isStripped c = true
    · simp [hc, stripControl]
    · cases sem cfg op r <;> simp [stripControl, hc]

/-- the loop decides as `classify` does; the position of the tag only goes into the error message -/
theorem step_tag (cfg : Cfg) (st : St) (pos : Nat) (t : Tag) :
    (step cfg st (.tag pos t)).toOption = match classify cfg t with
      | .opening _ => some { st with
          stack := { idx := st.slots.length, start := st.text.length,
                     tag := { name := cfg.norm t.name, params := t.params } } :: st.stack,
          slots := st.slots ++ [none] }
      | .closeName n => (popByName n st.stack).map (fun p => st.close p.1 p.2)
      | .closeTop => match st.stack with
        | e :: s' => some (st.close e s')
        | [] => none := by
  simp only [step, classify]
  by_cases h1 : t.name.head? = some '/'
  · rw [if_pos h1, if_pos h1]
    by_cases h2 : pyStrip cfg.isSpace t.name.tail ≠ []
    · rw [if_pos h2, if_pos h2]
      dsimp only
      cases popByName (cfg.norm (pyStrip cfg.isSpace t.name.tail)) st.stack <;> rfl
    · rw [if_neg h2, if_neg h2]
      dsimp only
      cases st.stack <;> rfl
  · rw [if_neg h1, if_neg h1]; rfl

theorem step_pos (cfg : Cfg) (st : St) (pos : Nat) (t : Tag) :
    (step cfg st (.tag pos t)).toOption = (step cfg st (.tag 0 t)).toOption := by
  rw [step_tag, step_tag]

theorem semC_eq_sem (cfg : Cfg) (hE : cfg.emoji = none) (cs : List CEv) (op : List OTag) :
    semC cfg op cs = sem cfg op (cs.flatMap CEv.evs) := by
  induction cs generalizing op with
  | nil => rfl
  | cons c cs ih =>
    cases c with
    | txt s =>
      have : chunkText cfg s = stripControl s := by simp [chunkText, hE]
      rw [semC_txt, List.flatMap_cons, CEv.evs, sem_chars, ih, this]
    | tag t =>
      rw [semC_tag, List.flatMap_cons, CEv.evs, List.singleton_append, sem_tag]
      cases stepO cfg op t with
      | none => rfl
      | some op' => exact ih op'

/-- whatever the emoji setting -/
theorem semC_none_iff (cfg : Cfg) (cs : List CEv) (op : List OTag) :
    semC cfg op cs = none ↔ sem cfg op (cs.flatMap CEv.evs) = none := by
  induction cs generalizing op with
  | nil => simp [semC, sem]
  | cons c cs ih =>
    cases c with
    | txt s => rw [semC_txt, List.flatMap_cons, CEv.evs, sem_chars, Option.map_eq_none_iff, Option.map_eq_none_iff, ih]
    | tag t =>
      rw [semC_tag, List.flatMap_cons, CEv.evs, List.singleton_append, sem_tag]
      cases stepO cfg op t with
      | none => simp
      | some op' => exact ih op'

end RichModel.Markup
