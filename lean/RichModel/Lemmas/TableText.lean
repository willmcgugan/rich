import RichModel.Lemmas.WrapWhole
import RichModel.Lemmas.TableRender
/-!
A TEXT cell as the table's oracle, built from C02's model of `Text.wrap` (read-only): `Padding(text, (pt, pr, pb, pl))`
rendered by `console.render_lines` at width `w` — the text wrapped at the content width `w - pl - pr` with overflow
"fold", every line brought to the content width, blank cells left and right, blank lines above and below.
Its oracle contract (exact widths, every non-whitespace character kept in order) follows from `Wrap.wrap_lines_fit`
(`Lemmas/WrapStrings`) and `Wrap.wrap_fold_keeps_nonspace` (`Lemmas/WrapWhole`), what C02 states.
-/
namespace RichModel
open RichModel.Text RichModel.Wrap

variable {σ : Type}

/-- One rendered line of the padded text cell. -/
def padTextLine (cw : Char → Nat) (pl pr cwid : Nat) (s : List Char) : List Char :=
  List.replicate pl ' ' ++ setCellSize cw s cwid ++ List.replicate pr ' '

/-- `render_lines(Padding(text, (pt, pr, pb, pl)), width = w, overflow = "fold", no_wrap = False, justify)` as plain lines. -/
def wrapCellLines [BEq σ] (chars : Bool) (cw : Char → Nat) (A : StyleAlg σ) (t : Text σ) (pt pr pb pl : Nat)
    (justify : Option Justify) (w : Nat) : List (List Char) :=
  match wrap (WVariant.fixed chars) cw A t (w - pl - pr) justify (some Overflow.fold) (some 8) (some false) with
  | .ok out =>
    List.replicate pt (List.replicate w ' ') ++ out.map (fun l => padTextLine cw pl pr (w - pl - pr) l.plain)
      ++ List.replicate pb (List.replicate w ' ')
  | .error _ => []

/-- The text cell as a table oracle (`meas` = what `Measurement.get` says of it; the table theorems used here do not read it). -/
def wrapCell [BEq σ] (chars : Bool) (cw : Char → Nat) (A : StyleAlg σ) (t : Text σ) (pt pr pb pl : Nat)
    (justify : Option Justify) (meas : Nat → Measurement) : Cell :=
  { measure := meas, renderLines := wrapCellLines chars cw A t pt pr pb pl justify }

theorem padTextLine_width (cw : Char → Nat) (hsp : cw ' ' = 1) (h2 : ∀ c, cw c ≤ 2) (pl pr cwid : Nat) (s : List Char) :
    cellLen cw (padTextLine cw pl pr cwid s) = pl + cwid + pr := by
  unfold padTextLine
  rw [cellLen_append, cellLen_append, cellLen_replicate, cellLen_replicate, (setCellSize_exact cw hsp h2 s cwid).1, hsp]
  omega

theorem padTextLine_nonspace (cw : Char → Nat) (isSp : Char → Bool) (hsp : isSp ' ' = true) (pl pr cwid : Nat) (s : List Char)
    (h : cellLen cw s ≤ cwid) :
    (padTextLine cw pl pr cwid s).filter (fun c => !isSp c) = s.filter (fun c => !isSp c) := by
  unfold padTextLine
  rw [setCellSize_pad cw s cwid h]
  simp only [List.filter_append, filter_replicate_space isSp hsp, List.nil_append, List.append_nil]

theorem flatten_map_nonspace (cw : Char → Nat) (isSp : Char → Bool) (hsp : isSp ' ' = true) (pl pr cwid : Nat) :
    ∀ (out : List (Text σ)), (∀ l ∈ out, cellLen cw l.plain ≤ cwid) →
      ((out.map (fun l => padTextLine cw pl pr cwid l.plain)).flatten).filter (fun c => !isSp c)
        = (out.flatMap (·.plain)).filter (fun c => !isSp c)
  | [], _ => rfl
  | l :: out, h => by
    simp only [List.map_cons, List.flatten_cons, List.flatMap_cons, List.filter_append,
      padTextLine_nonspace cw isSp hsp pl pr cwid l.plain (h l (by simp)),
      flatten_map_nonspace cw isSp hsp pl pr cwid out (fun x hx => h x (List.mem_cons_of_mem _ hx))]

/-- **The text cell's oracle contract.**  For a content width of at least 2 cells: every rendered line is exactly `w`
cells wide, and the lines, read in order with whitespace dropped, are the non-whitespace characters of the text. -/
theorem wrapCell_contract [BEq σ] [LawfulBEq σ] (chars : Bool) (cw : Char → Nat) (hsp : cw ' ' = 1) (h2 : ∀ c, cw c ≤ 2) (hel : cw '…' = 1)
    (A : StyleAlg σ) (t : Text σ) (ht : Inv t) (pt pr pb pl : Nat) (justify : Option Justify) (w : Nat)
    (hw : 2 ≤ w - pl - pr) (hfit : pl + pr ≤ w) :
    (∀ x ∈ wrapCellLines chars cw A t pt pr pb pl justify w, cellLen cw x = w) ∧
    ((wrapCellLines chars cw A t pt pr pb pl justify w).flatten).filter (fun c => !pyIsSpace c)
      = t.plain.filter (fun c => !pyIsSpace c) := by
  have hwc : ∀ c, cw c ≤ w - pl - pr := fun c => Nat.le_trans (h2 c) hw
  have hov : wrapOverflowOf t (some Overflow.fold) = Overflow.fold := rfl
  have hnw : noWrapOf t (some Overflow.fold) (some false) = false := rfl
  obtain ⟨out, hout, _, hkeep⟩ := Wrap.wrap_fold_keeps_nonspace (chars := chars) cw hsp h2 A t ht (w - pl - pr) hwc justify
    (some Overflow.fold) 8 (by omega) (some false) hov hnw
  have hfits := Wrap.wrap_lines_fit (WVariant.fixed chars) cw hsp h2 hel A t (w - pl - pr) (by omega) justify (some Overflow.fold)
    (some 8) (some false) out hout (by rw [hov]; decide)
  unfold wrapCellLines
  rw [hout]
  simp only
  refine ⟨?_, ?_⟩
  · intro x hx
    simp only [List.mem_append, List.mem_map] at hx
    rcases hx with (hx | ⟨l, _, rfl⟩) | hx
    · rw [List.eq_of_mem_replicate hx, cellLen_replicate, hsp]; omega
    · rw [padTextLine_width cw hsp h2]; omega
    · rw [List.eq_of_mem_replicate hx, cellLen_replicate, hsp]; omega
  · rw [List.flatten_append, List.flatten_append, List.filter_append, List.filter_append,
      filter_flatten_blank pyIsSpace space_isSpace, filter_flatten_blank pyIsSpace space_isSpace,
      flatten_map_nonspace cw pyIsSpace space_isSpace pl pr (w - pl - pr) out hfits, List.nil_append, List.append_nil]
    exact hkeep

end RichModel
