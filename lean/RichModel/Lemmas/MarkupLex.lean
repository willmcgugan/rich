import RichModel.Model.Markup
/-! The scanner for `RE_TAGS`, with an induction principle along the scan.  The two facts everything else
rests on: the items re-flatten to the input, and a self-contained text is scanned independently of what
follows it. -/
namespace RichModel.Markup

/-- the scanner with `k` pending backslashes -/
abbrev lexK (k : Nat) (s : List Char) : List Lx := lexGo 0 k s

theorem lexGo_skip (xs r : List Char) (k : Nat) : lexGo xs.length k (xs ++ r) = lexGo 0 k r := by
  induction xs with
  | nil => rfl
  | cons x xs ih => simp [lexGo, ih]

theorem untilClose_cons (c : Char) (cs : List Char) (h1 : c ≠ ']') (h2 : c ≠ '\n') :
    untilClose (c :: cs) = (untilClose cs).map (fun p => (c :: p.1, p.2)) := by
  rw [untilClose, if_neg h1, if_neg h2]
  cases untilClose cs <;> rfl

theorem untilClose_spec {cs b r : List Char} (h : untilClose cs = some (b, r)) :
    cs = b ++ ']' :: r ∧ ']' ∉ b ∧ '\n' ∉ b := by
  fun_induction untilClose cs generalizing b r with
  | case1 => cases h
  | case2 cs => cases h; simp
  | case3 => cases h
  | case4 c cs h1 h2 b' r' hu ih =>
    cases h
    obtain ⟨e, n1, n2⟩ := ih hu
    exact ⟨by rw [e]; rfl, by simp [n1, Ne.symm h1], by simp [n2, Ne.symm h2]⟩
  | case5 => cases h

theorem untilClose_prefix (u t : List Char) (n1 : ']' ∉ u) (n2 : '\n' ∉ u) :
    untilClose (u ++ t) = (untilClose t).map (fun p => (u ++ p.1, p.2)) := by
  induction u with
  | nil => simp
  | cons c u ih =>
    simp at n1 n2
    rw [List.cons_append, untilClose_cons c _ (fun h => n1.1 h.symm) (fun h => n2.1 h.symm), ih n1.2 n2.2,
      Option.map_map]
    rfl

theorem untilClose_of (b r : List Char) (n1 : ']' ∉ b) (n2 : '\n' ∉ b) :
    untilClose (b ++ ']' :: r) = some (b, r) := by
  rw [untilClose_prefix b _ n1 n2]
  simp [untilClose]

theorem isTagStart_ne {c : Char} (h : isTagStart c = true) : c ≠ ']' ∧ c ≠ '\n' ∧ c ≠ '\\' ∧ c ≠ '[' := by
  refine ⟨?_, ?_, ?_, ?_⟩ <;> (intro e; subst e; revert h; decide)

theorem tagBody_spec {cs b r : List Char} (h : tagBody cs = some (b, r)) :
    cs = b ++ ']' :: r ∧ ∃ c b', b = c :: b' ∧ isTagStart c = true ∧ ']' ∉ b' ∧ '\n' ∉ b' := by
  revert h
  fun_cases tagBody cs with
  | case1 => intro h; cases h
  | case2 c cs hc b' r' hu =>
    intro h; cases h
    obtain ⟨e, n1, n2⟩ := untilClose_spec hu
    exact ⟨by rw [e]; rfl, c, b', rfl, hc, n1, n2⟩
  | case3 => intro h; cases h
  | case4 => intro h; cases h

theorem tagBody_of (c : Char) (b' r : List Char) (hc : isTagStart c = true) (n1 : ']' ∉ b') (n2 : '\n' ∉ b') :
    tagBody (c :: b' ++ ']' :: r) = some (c :: b', r) := by
  simp [tagBody, hc, untilClose_of b' r n1 n2]

theorem tagBody_change_rest {cs b r : List Char} (h : tagBody cs = some (b, r)) (r' : List Char) :
    tagBody (b ++ ']' :: r') = some (b, r') := by
  obtain ⟨_, c, b', rfl, hc, n1, n2⟩ := tagBody_spec h
  exact tagBody_of c b' r' hc n1 n2

/-- where the look-ahead `.*?\]` ends: at the first `]` (found) or line feed (not found) -/
def isStop (c : Char) : Bool := c == ']' || c == '\n'

theorem isStop_of_ne {c : Char} (h1 : c ≠ ']') (h2 : c ≠ '\n') : isStop c = false := by
  rw [isStop, beq_false_of_ne h1, beq_false_of_ne h2]; rfl

theorem untilClose_eq_none_iff (t : List Char) : untilClose t = none ↔ t.find? isStop ≠ some ']' := by
  fun_induction untilClose t with
  | case1 => exact iff_of_true rfl nofun
  | case2 cs => exact iff_of_false nofun (fun h => h rfl)
  | case3 cs h => exact iff_of_true rfl (by rw [List.find?_cons_of_pos (by decide)]; decide)
  | case4 c cs h1 h2 b r hu ih =>
    rw [List.find?_cons_of_neg (by rw [isStop_of_ne h1 h2]; decide), ← ih, hu]
    exact iff_of_false nofun nofun
  | case5 c cs h1 h2 hu ih => rw [List.find?_cons_of_neg (by rw [isStop_of_ne h1 h2]; decide), ← ih, hu]

/-- whether `[` followed by `t` is a tag is decided by the class of the first character of `t` and by
which of `]` and line feed comes first in it -/
theorem tagBody_eq_none_iff (t : List Char) :
    tagBody t = none ↔ ¬ (t.head?.any isTagStart = true ∧ t.find? isStop = some ']') := by
  cases t with
  | nil => exact iff_of_true rfl (fun h => nomatch h.1)
  | cons c cs =>
    by_cases hc : isTagStart c = true
    · obtain ⟨h1, h2, _⟩ := isTagStart_ne hc
      have key : tagBody (c :: cs) = none ↔ untilClose cs = none := by
        rw [tagBody, if_pos hc]
        cases untilClose cs with
        | none => exact Iff.rfl
        | some p => exact ⟨nofun, nofun⟩
      rw [key, untilClose_eq_none_iff, List.find?_cons_of_neg (by rw [isStop_of_ne h1 h2]; decide)]
      exact ⟨fun h hx => h hx.2, fun h hx => h ⟨hc, hx⟩⟩
    · rw [tagBody, if_neg hc]
      exact iff_of_true rfl (fun h => hc h.1)

theorem tagBody_none_append {t : List Char} (x : List Char) (hm : ']' ∈ t) (h : tagBody t = none) :
    tagBody (t ++ x) = none := by
  rw [tagBody_eq_none_iff] at h ⊢
  have hf : (t.find? isStop).isSome = true := List.find?_isSome.2 ⟨']', hm, by decide⟩
  cases t with
  | nil => cases hm
  | cons c t => rwa [List.find?_append, Option.or_of_isSome hf]

theorem lexK_nil (k : Nat) : lexK k [] = List.replicate k (Lx.ch '\\') := by simp [lexK, lexGo]

theorem lexK_bs (k : Nat) (cs : List Char) : lexK k ('\\' :: cs) = lexK (k + 1) cs := by
  simp [lexK, lexGo]

theorem lexK_tag (k : Nat) {cs b r : List Char} (h : tagBody cs = some (b, r)) :
    lexK k ('[' :: cs) = Lx.tag k b :: lexK 0 r := by
  have hs : lexGo (b.length + 1) 0 cs = lexGo 0 0 r := by
    have := lexGo_skip (b ++ [']']) r 0
    rwa [List.length_append, List.length_singleton, List.append_assoc, List.singleton_append,
      ← (tagBody_spec h).1] at this
  simp [lexK, lexGo, h, hs]

theorem lexK_open (k : Nat) {cs : List Char} (h : tagBody cs = none) :
    lexK k ('[' :: cs) = List.replicate k (Lx.ch '\\') ++ Lx.ch '[' :: lexK 0 cs := by
  simp [lexK, lexGo, h]

theorem lexK_plain (k : Nat) (c : Char) (cs : List Char) (h1 : c ≠ '\\') (h2 : c ≠ '[') :
    lexK k (c :: cs) = List.replicate k (Lx.ch '\\') ++ Lx.ch c :: lexK 0 cs := by
  simp [lexK, lexGo, h1, h2]

theorem bsl_succ_append (k : Nat) (t : List Char) : bsl (k + 1) ++ t = bsl k ++ '\\' :: t := by
  simp [bsl, List.replicate_succ']

theorem lexK_bsl (j k : Nat) (t : List Char) : lexK j (bsl k ++ t) = lexK (j + k) t := by
  induction k generalizing t with
  | zero => rfl
  | succ k ih => rw [bsl_succ_append, ih, lexK_bs]; rfl

theorem lexK_induction {P : Nat → List Char → Prop}
    (nil : ∀ k, P k [])
    (bs : ∀ k cs, P (k + 1) cs → P k ('\\' :: cs))
    (tag : ∀ k cs b r, tagBody cs = some (b, r) → P 0 r → P k ('[' :: cs))
    (bracket : ∀ k cs, tagBody cs = none → P 0 cs → P k ('[' :: cs))
    (plain : ∀ k c cs, c ≠ '\\' → c ≠ '[' → P 0 cs → P k (c :: cs)) :
    ∀ (k : Nat) (s : List Char), P k s := by
  -- along the scanner's own recursion, which also steps over the characters of a match
  suffices ∀ skip k (s : List Char), P k (s.drop skip) from fun k s => this 0 k s
  intro skip k s
  fun_induction lexGo skip k s with
  | case1 skip k => rw [List.drop_nil]; exact nil k
  | case2 skip k x cs ih => exact ih
  | case3 k cs ih => exact bs k cs ih
  | case4 k cs b r h _ ih =>
    refine tag k cs b r h ?_
    rw [(tagBody_spec h).1] at ih
    simpa using ih
  | case5 k cs h _ ih => exact bracket k cs h ih
  | case6 k c cs h1 h2 ih => exact plain k c cs h1 h2 ih

/-- for `Lx.flat` and for `Lx.esc` -/
theorem flatMap_replicate_bs (f : Lx → List Char) (hf : f (Lx.ch '\\') = ['\\']) (k : Nat) :
    (List.replicate k (Lx.ch '\\')).flatMap f = bsl k := by
  induction k with
  | zero => rfl
  | succ k ih => rw [List.replicate_succ, List.flatMap_cons, hf, ih]; rfl

theorem flatten_replicate (k : Nat) : flatten (List.replicate k (Lx.ch '\\')) = bsl k :=
  flatMap_replicate_bs Lx.flat rfl k

theorem flatten_append (a b : List Lx) : flatten (a ++ b) = flatten a ++ flatten b := by
  simp [flatten]

theorem flatten_cons (a : Lx) (b : List Lx) : flatten (a :: b) = a.flat ++ flatten b := by
  simp [flatten]

theorem flatten_lexK (k : Nat) (s : List Char) : flatten (lexK k s) = bsl k ++ s := by
  induction k, s using lexK_induction with
  | nil k => rw [lexK_nil, flatten_replicate, List.append_nil]
  | bs k cs ih => rw [lexK_bs, ih, bsl_succ_append]
  | tag k cs b r h ih =>
    rw [lexK_tag k h, flatten_cons, ih, (tagBody_spec h).1]
    simp [Lx.flat, bsl]
  | bracket k cs h ih =>
    rw [lexK_open k h, flatten_append, flatten_replicate, flatten_cons, ih]
    rfl
  | plain k c cs h1 h2 ih =>
    rw [lexK_plain k c cs h1 h2, flatten_append, flatten_replicate, flatten_cons, ih]
    rfl

theorem flatten_lex (s : List Char) : flatten (lex s) = s := flatten_lexK 0 s

theorem lexK_no_bracket (s : List Char) (k : Nat) (h : '[' ∉ s) :
    lexK k s = List.replicate k (Lx.ch '\\') ++ s.map Lx.ch := by
  induction s generalizing k with
  | nil => simp [lexK_nil]
  | cons c cs ih =>
    simp at h
    by_cases h1 : c = '\\'
    · subst h1
      rw [lexK_bs, ih (k + 1) h.2]
      simp [List.replicate_succ']
    · rw [lexK_plain k c cs h1 (fun e => h.1 e.symm), ih 0 h.2]; simp

/-- every `[` is closed by a later `]` -/
def okTail : List Char → Bool
  | [] => true
  | c :: cs => (c != '[' || cs.contains ']') && okTail cs

/-- the side condition on `A` and `s` in `A ++ escape s ++ B` (`C04.render_escape_embedded`): the text
does not end in a backslash and every `[` in it is closed by a later `]` within it -/
def SelfContained (s : List Char) : Prop := s.getLast? ≠ some '\\' ∧ okTail s = true

instance (s : List Char) : Decidable (SelfContained s) := by unfold SelfContained; infer_instance

theorem okTail_iff (s : List Char) : okTail s = true ↔ ∀ pre post, s = pre ++ '[' :: post → ']' ∈ post := by
  induction s with
  | nil => simp [okTail]
  | cons c cs ih =>
    simp only [okTail, Bool.and_eq_true, Bool.or_eq_true, bne_iff_ne, ne_eq, List.contains_eq_mem,
      decide_eq_true_eq, ih]
    constructor
    · rintro ⟨h1, h2⟩ pre post e
      -- the `[` is `c` itself or lies in `cs`
      rcases List.cons_eq_append_iff.mp e with ⟨rfl, e'⟩ | ⟨pre', rfl, e'⟩
      · cases e'; exact h1.resolve_left (fun h => h rfl)
      · exact h2 pre' post e'
    · intro h
      exact ⟨(Decidable.em (c = '[')).symm.imp_right (fun hc => h [] cs (by rw [hc]; rfl)),
        fun pre post e => h (c :: pre) post (by rw [e]; rfl)⟩

theorem okTail_body (b E : List Char) : okTail (b ++ ']' :: E) = okTail E := by
  induction b with
  | nil => simp [okTail]
  | cons c b ih => simp [okTail, ih]

theorem getLast?_ne_of_suffix {c : Char} {w v : List Char} (h : w.getLast? ≠ some c) (hs : v <:+ w) :
    v.getLast? ≠ some c := by
  obtain ⟨u, rfl⟩ := hs
  intro hv
  rw [List.getLast?_append, hv] at h
  exact h rfl

/-- a text that does not leave the scanner in the middle of a backslash run or of a possible tag is
scanned independently of what follows it; `k` backslashes of it have been read already -/
theorem lexK_append (x : List Char) (k : Nat) (s : List Char) :
    (bsl k ++ s).getLast? ≠ some '\\' → okTail s = true → lexK k (s ++ x) = lexK k s ++ lexK 0 x := by
  induction k, s using lexK_induction with
  | nil k =>
    intro hl _
    cases k with
    | zero => rfl
    | succ k => rw [List.append_nil, bsl, List.replicate_succ', List.getLast?_concat] at hl; exact absurd rfl hl
  | bs k cs ih =>
    intro hl ho
    rw [List.cons_append, lexK_bs, lexK_bs]
    exact ih (by rwa [bsl_succ_append]) (by simpa [okTail] using ho)
  | tag k cs b r h ih =>
    intro hl ho
    have e := (tagBody_spec h).1
    have hx : tagBody (cs ++ x) = some (b, r ++ x) := by
      rw [e, List.append_assoc, List.cons_append]; exact tagBody_change_rest h _
    rw [e] at hl ho
    rw [List.cons_append, lexK_tag k hx, lexK_tag k h, List.cons_append,
      ih (getLast?_ne_of_suffix (v := r) hl ⟨bsl k ++ '[' :: b ++ [']'], by simp⟩)
        (by rw [← okTail_body b r]; simp only [okTail, Bool.and_eq_true] at ho; exact ho.2)]
  | bracket k cs h ih =>
    intro hl ho
    simp only [okTail, Bool.and_eq_true, bne_self_eq_false, Bool.false_or, List.contains_eq_mem,
      decide_eq_true_eq] at ho
    have hx : tagBody (cs ++ x) = none := tagBody_none_append x ho.1 h
    rw [List.cons_append, lexK_open k hx, lexK_open k h,
      ih (getLast?_ne_of_suffix (v := cs) hl ⟨bsl k ++ ['['], by simp⟩) ho.2]
    simp
  | plain k c cs h1 h2 ih =>
    intro hl ho
    simp only [okTail, Bool.and_eq_true] at ho
    rw [List.cons_append, lexK_plain k c _ h1 h2, lexK_plain k c _ h1 h2,
      ih (getLast?_ne_of_suffix (v := cs) hl ⟨bsl k ++ [c], by simp⟩) ho.2]
    simp

theorem lex_append {s : List Char} (x : List Char) (hs : SelfContained s) : lex (s ++ x) = lex s ++ lex x :=
  lexK_append x 0 s hs.1 hs.2

theorem events_append {a : List Char} (x : List Char) (ha : SelfContained a) :
    events (a ++ x) = events a ++ events x := by
  simp [events, lex_append x ha]

end RichModel.Markup
