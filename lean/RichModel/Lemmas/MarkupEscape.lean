import RichModel.Lemmas.MarkupLex
/-! `escape`: scanning the escaped text finds the items of the original with every backslash count
`k` turned into `2k+1` (so no tag is left); and escaping keeps a text self-contained. -/
namespace RichModel.Markup

/-- `escape` with `k` pending backslashes -/
def escK (k : Nat) (s : List Char) : List Char := (lexK k s).flatMap Lx.esc

/-- what escaping does to one item -/
def Lx.bump : Lx → Lx
  | .ch c => .ch c
  | .tag k b => .tag (2 * k + 1) b

theorem bsl_add (a b : Nat) : bsl (a + b) = bsl a ++ bsl b := by simp [bsl, List.replicate_append_replicate]

theorem esc_replicate (k : Nat) : (List.replicate k (Lx.ch '\\')).flatMap Lx.esc = bsl k :=
  flatMap_replicate_bs Lx.esc rfl k

theorem escK_nil (k : Nat) : escK k [] = bsl k := by rw [escK, lexK_nil, esc_replicate]

theorem escK_bs (k : Nat) (cs : List Char) : escK k ('\\' :: cs) = escK (k + 1) cs := by
  rw [escK, lexK_bs, escK]

theorem escK_tag (k : Nat) {cs b r : List Char} (h : tagBody cs = some (b, r)) :
    escK k ('[' :: cs) = bsl (2 * k + 1) ++ ('[' :: (b ++ ']' :: escK 0 r)) := by
  rw [escK, lexK_tag k h, List.flatMap_cons, Lx.esc, show 2 * k + 1 = k + k + 1 by omega, bsl_add, bsl_add]
  simp [escK, bsl]

theorem escK_open (k : Nat) {cs : List Char} (h : tagBody cs = none) :
    escK k ('[' :: cs) = bsl k ++ '[' :: escK 0 cs := by
  simp [escK, lexK_open k h, esc_replicate, Lx.esc]

theorem escK_plain (k : Nat) (c : Char) (cs : List Char) (h1 : c ≠ '\\') (h2 : c ≠ '[') :
    escK k (c :: cs) = bsl k ++ c :: escK 0 cs := by
  simp [escK, lexK_plain k c cs h1 h2, esc_replicate, Lx.esc]

/-! ### a `[` that is not the start of a tag is not one after escaping either

By `tagBody_eq_none_iff` this is decided by the first `]` or line feed and by the class of the first
character; escaping only adds backslashes, and adds them in front of tags only. -/

theorem find?_isStop_bsl (k : Nat) : (bsl k).find? isStop = none := by
  rw [bsl, List.find?_replicate]
  split <;> rfl

theorem find?_isStop_esc (l : List Lx) : (l.flatMap Lx.esc).find? isStop = (flatten l).find? isStop := by
  induction l with
  | nil => rfl
  | cons x xs ih =>
    rw [flatten_cons, List.flatMap_cons, List.find?_append, List.find?_append, ih]
    cases x with
    | ch c => rfl
    | tag k b =>
      congr 1
      simp only [Lx.esc, Lx.flat, List.find?_append, find?_isStop_bsl, Option.none_or,
        List.find?_cons_of_neg (show ¬ isStop '\\' = true by decide)]

theorem head?_esc (l : List Lx) (h : (l.flatMap Lx.esc).head?.any isTagStart = true) :
    (flatten l).head?.any isTagStart = true := by
  cases l with
  | nil => exact h
  | cons x xs =>
    rw [List.flatMap_cons] at h
    rw [flatten_cons]
    cases x with
    -- `exact h` alone is slow: the kernel first tries to identify the two tails
    | ch c => exact (show isTagStart c = true from h)
    | tag k b =>
      obtain ⟨t, ht⟩ : ∃ t, (Lx.tag k b).esc = '\\' :: t := by cases k <;> exact ⟨_, rfl⟩
      rw [ht] at h
      exact absurd rfl (isTagStart_ne (c := '\\') h).2.2.1

theorem tagBody_escK_none (cs : List Char) (h : tagBody cs = none) : tagBody (escK 0 cs) = none := by
  rw [tagBody_eq_none_iff] at h ⊢
  rw [escK, find?_isStop_esc]
  refine fun hx => h ⟨?_, ?_⟩
  · have := head?_esc _ hx.1
    rwa [flatten_lexK] at this
  · have := hx.2
    rwa [flatten_lexK] at this

theorem lexK_escK (k : Nat) (s : List Char) : lexK 0 (escK k s) = (lexK k s).map Lx.bump := by
  induction k, s using lexK_induction with
  | nil k =>
    have := lexK_bsl 0 k []
    rw [List.append_nil, Nat.zero_add] at this
    rw [escK_nil, this, lexK_nil, List.map_replicate]; rfl
  | bs k cs ih => rw [escK_bs, lexK_bs]; exact ih
  | tag k cs b r h ih =>
    rw [escK_tag k h, lexK_tag k h, lexK_bsl, Nat.zero_add,
      lexK_tag (2 * k + 1) (tagBody_change_rest h (escK 0 r)), ih]
    rfl
  | bracket k cs h ih =>
    rw [escK_open k h, lexK_open k h, lexK_bsl, Nat.zero_add, lexK_open k (tagBody_escK_none cs h), ih]
    simp [Lx.bump]
  | plain k c cs h1 h2 ih =>
    rw [escK_plain k c cs h1 h2, lexK_plain k c cs h1 h2, lexK_bsl, Nat.zero_add, lexK_plain k c _ h1 h2, ih]
    simp [Lx.bump]

theorem lex_escape (s : List Char) : lex (escape s) = (lex s).map Lx.bump := lexK_escK 0 s

theorem bump_div (k : Nat) : (2 * k + 1) / 2 = k := by
  rw [Nat.mul_add_div (by decide), Nat.add_zero]

theorem bump_mod (k : Nat) : (2 * k + 1) % 2 = 1 := Nat.mul_add_mod 2 k 1

theorem Lx.evs_bump (x : Lx) : x.bump.evs = x.flat.map Ev.chr := by
  cases x with
  | ch c => rfl
  | tag k b => simp [Lx.bump, Lx.evs, Lx.flat, bump_div, bump_mod]

theorem evs_bump (l : List Lx) : (l.map Lx.bump).flatMap Lx.evs = (flatten l).map Ev.chr := by
  rw [flatten, List.map_flatMap, List.flatMap_map]
  exact congrArg (List.flatMap · l) (funext Lx.evs_bump)

theorem events_escape (s : List Char) : events (escape s) = s.map Ev.chr := by
  rw [events, lex_escape, evs_bump, flatten_lex]

/-! ### escaping keeps a text self-contained

`escape` works item by item (`Lx.esc` for `Lx.flat`), and so do the two conditions: an item ends as
it did, and a tag item brings its own `]`. -/

theorem getLast?_esc (l : List Lx) : (l.flatMap Lx.esc).getLast? = (flatten l).getLast? := by
  rw [flatten, List.getLast?_flatMap, List.getLast?_flatMap]
  congr 1
  funext x
  cases x with
  | ch c => rfl
  | tag k b =>
    have e : ∀ u : List Char, (u ++ '[' :: b ++ [']']).getLast? = some ']' := fun u => by
      rw [show u ++ '[' :: b ++ [']'] = (u ++ '[' :: b) ++ [']'] by simp, List.getLast?_concat]
    rw [Lx.flat, e, Lx.esc, show bsl k ++ bsl k ++ '\\' :: '[' :: b ++ [']'] =
      (bsl k ++ bsl k ++ ['\\']) ++ '[' :: b ++ [']'] by simp, e]

theorem mem_esc (l : List Lx) (h : ']' ∈ flatten l) : ']' ∈ l.flatMap Lx.esc := by
  obtain ⟨x, hx, hm⟩ := List.mem_flatMap.mp h
  refine List.mem_flatMap.mpr ⟨x, hx, ?_⟩
  cases x with
  | ch c => exact hm
  | tag k b => simp [Lx.esc]

theorem okTail_esc (l : List Lx) (h : okTail (flatten l) = true) : okTail (l.flatMap Lx.esc) = true := by
  induction l with
  | nil => rfl
  | cons x xs ih =>
    rw [flatten_cons] at h
    rw [List.flatMap_cons]
    cases x with
    | ch c =>
      simp only [Lx.flat, Lx.esc, List.singleton_append, okTail, Bool.and_eq_true, Bool.or_eq_true,
        List.contains_eq_mem, decide_eq_true_eq] at h ⊢
      exact ⟨h.1.imp_right (mem_esc xs), ih h.2⟩
    | tag k b =>
      have e1 : (Lx.tag k b).flat ++ flatten xs = (bsl k ++ '[' :: b) ++ ']' :: flatten xs := by simp [Lx.flat]
      have e2 : (Lx.tag k b).esc ++ xs.flatMap Lx.esc =
          (bsl k ++ bsl k ++ '\\' :: '[' :: b) ++ ']' :: xs.flatMap Lx.esc := by simp [Lx.esc]
      rw [e1, okTail_body] at h
      rw [e2, okTail_body]
      exact ih h

theorem selfContained_escape {s : List Char} (h : SelfContained s) : SelfContained (escape s) := by
  have hs := flatten_lex s
  exact ⟨by rw [escape, getLast?_esc, hs]; exact h.1, okTail_esc (lex s) (by rw [hs]; exact h.2)⟩

end RichModel.Markup
