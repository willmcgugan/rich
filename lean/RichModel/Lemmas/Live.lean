import RichModel.Model.Live
import RichModel.Lemmas.Term
/-!
The screen effect of the pieces a live display writes: user lines, a frame, `position_cursor`, `restore_cursor`, their
composition `position_cursor ++ user lines ++ frame` (one hooked print) and the end of `stop`: line feed, show cursor,
`restore_cursor` of a transient display.
-/
namespace RichModel.Live
open RichModel RichModel.Screen

theorem region_length (F : Frame) : (region F).length = max F.length 1 := by
  cases F <;> simp [region] <;> omega

theorem region_length_pos (F : Frame) : 1 ≤ (region F).length := by
  rw [region_length]; exact Nat.le_max_right _ _

theorem liveFrame_length (cw : Char → Nat) (w H : Nat) (ov : Overflow) (r : Frame) (hfit : r.length ≤ H) :
    (liveFrame cw w H ov r).length = r.length := by
  simp only [liveFrame, List.length_map]
  rw [if_neg (by omega)]
  simp

theorem liveFrame_length_le (cw : Char → Nat) (w h : Nat) (ov : Overflow) (r : Frame) (hH : 1 ≤ h) (hov : ov ≠ .visible) :
    (liveFrame cw w h ov r).length ≤ h := by
  unfold liveFrame
  by_cases hl : (r.map (cropLine cw w)).length > h
  · rw [if_pos hl]
    cases ov with
    | crop => exact List.length_take_le _ _
    | ellipsis =>
      rw [List.length_append]
      exact Nat.le_trans (Nat.add_le_add_right (List.length_take_le _ _) 1) (Nat.le_of_eq (Nat.sub_add_cancel hH))
    | visible => exact absurd rfl hov
  · rw [if_neg hl]; exact Nat.le_of_not_gt hl

/-- Output without show / hide cursor operations. -/
def Quiet (ops : List TermOp) : Prop := ∀ op ∈ ops, op ≠ .showCursor ∧ op ≠ .hideCursor

theorem Quiet.nil : Quiet [] := by intro op h; cases h

theorem Quiet.cons {op : TermOp} {ops : List TermOp} (h1 : op ≠ .showCursor) (h2 : op ≠ .hideCursor) (h : Quiet ops) :
    Quiet (op :: ops) :=
  List.forall_mem_cons.2 ⟨⟨h1, h2⟩, h⟩

theorem Quiet.append {a b : List TermOp} (ha : Quiet a) (hb : Quiet b) : Quiet (a ++ b) := by
  intro op h
  rcases List.mem_append.mp h with h | h
  · exact ha op h
  · exact hb op h

theorem lastVis_quiet {ops : List TermOp} (h : Quiet ops) (v : Bool) : lastVis v ops = v := by
  induction ops generalizing v with
  | nil => rfl
  | cons op rest ih =>
    obtain ⟨⟨h1, h2⟩, hr⟩ := List.forall_mem_cons.1 h
    cases op with
    | showCursor => exact absurd rfl h1
    | hideCursor => exact absurd rfl h2
    | _ => exact ih hr v

theorem quiet_eraseUp (n : Nat) : Quiet (eraseUp n) := by
  induction n with
  | zero => exact Quiet.nil
  | succ n ih => exact .cons nofun nofun (.cons nofun nofun ih)

theorem quiet_positionCursor (sh : Option (Nat × Nat)) : Quiet (positionCursor sh) := by
  cases sh with
  | none => exact Quiet.nil
  | some wh => exact .cons nofun nofun (.cons nofun nofun (quiet_eraseUp _))

theorem quiet_restoreCursor (fix : Bool) (sh : Option (Nat × Nat)) : Quiet (restoreCursor fix sh) := by
  cases sh with
  | none => exact Quiet.nil
  | some wh => exact .cons nofun nofun (quiet_eraseUp _)

theorem textOp_eq (l : Line) : textOp l = if l.isEmpty then [] else [.text l] := rfl

theorem quiet_textOp (l : Line) : Quiet (textOp l) :=
  ite_of Quiet Quiet.nil (.cons nofun nofun Quiet.nil)

theorem quiet_emitLines (ls : List Line) : Quiet (emitLines ls) := by
  induction ls with
  | nil => exact Quiet.nil
  | cons l rest ih => exact (quiet_textOp l).append (.cons nofun nofun ih)

/-- `F` is on display below the printed lines `P`, followed by `k` blank rows; the cursor is at the end
of the last frame line. -/
structure Shown (s : Screen) (P : List Line) (F : Frame) (k : Nat) : Prop where
  rows : s.rows = P ++ region F ++ List.replicate k []
  row : s.row + 1 = P.length + (region F).length
  col : s.col = ((region F).getLast?.getD []).length

theorem region_split (F : Frame) :
    ∃ G g, region F = G ++ [g] ∧ emitFrame F = emitLines G ++ textOp g ∧ G.length = F.length - 1 := by
  induction F with
  | nil => exact ⟨[], [], rfl, rfl, rfl⟩
  | cons l rest ih =>
    cases rest with
    | nil => exact ⟨[], l, rfl, rfl, rfl⟩
    | cons l2 rest2 =>
      obtain ⟨G, g, h1, h2, h3⟩ := ih
      exact ⟨l :: G, g, by simpa [region] using h1, by simp [emitFrame, emitLines, h2], by simp [h3]⟩

theorem quiet_emitFrame (f : Frame) : Quiet (emitFrame f) := by
  obtain ⟨G, g, _, h, _⟩ := region_split f
  rw [h]; exact (quiet_emitLines G).append (quiet_textOp g)

theorem Shown.onRow {s : Screen} {P : List Line} {F : Frame} {k : Nat} {G : List Line} {g : Line}
    (h : Shown s P F k) (hF : region F = G ++ [g]) : OnRow s (P ++ G) g k :=
  ⟨by simp [h.rows, hF], by have := h.row; simp [hF] at this ⊢; omega, by simp [h.col, hF]⟩

theorem _root_.RichModel.Screen.OnRow.shown {s : Screen} {P : List Line} {F : Frame} {k : Nat} {G : List Line} {g : Line}
    (h : OnRow s (P ++ G) g k) (hF : region F = G ++ [g]) : Shown s P F k :=
  ⟨by simp [h.rows, hF], by simp [h.row, hF]; omega, by simp [h.col, hF]⟩

variable {H : Nat} {s : Screen} {P : List Line} {m : Nat}

theorem shown_nil_iff : Shown s P [] m ↔ OnRow s P [] m :=
  ⟨fun h => by simpa using h.onRow (G := []) rfl, fun h => OnRow.shown (G := []) (by simpa using h) rfl⟩

theorem run_textOp (h : OnRow s P [] m) (l : Line) : ∃ s', Run H P.length s (textOp l) s' ∧ OnRow s' P l m := by
  cases l with
  | nil => exact ⟨s, Run.nil _ _ _, h⟩
  | cons c l => exact ⟨_, Run.one (Nat.le_of_eq (h.text _).row.symm), h.text _⟩

theorem run_lines (U : List Line) : ∀ {s : Screen} {P : List Line} {m : Nat}, OnRow s P [] m →
    ∃ s', Run H P.length s (emitLines U) s' ∧ OnRow s' (P ++ U) [] (m - U.length) := by
  induction U with
  | nil => intro s P m h; exact ⟨s, Run.nil _ _ _, by simpa using h⟩
  | cons l rest ih =>
    intro s P m h
    obtain ⟨s1, hr1, h1⟩ := run_textOp (H := H) h l
    obtain ⟨s2, hr2, h2⟩ := ih (h1.lf (H := H))
    refine ⟨s2, Run.append hr1 (Run.cons (h1.lf (H := H)).le_row (hr2.weaken (length_le_append _ _))), ?_⟩
    · have e : m - (l :: rest).length = m - 1 - rest.length := by rw [List.length_cons]; omega
      rw [e]; simpa using h2

theorem run_frame (h : OnRow s P [] m) (F : Frame) :
    ∃ s', Run H P.length s (emitFrame F) s' ∧ Shown s' P F (m + 1 - (region F).length) := by
  obtain ⟨G, g, hF, hout, _⟩ := region_split F
  obtain ⟨s1, hr1, h1⟩ := run_lines (H := H) G h
  obtain ⟨s2, hr2, h2⟩ := run_textOp (H := H) h1 g
  refine ⟨s2, by rw [hout]; exact Run.append hr1 (hr2.weaken (length_le_append _ _)), OnRow.shown ?_ hF⟩
  have e : m + 1 - (region F).length = m - G.length := by simp [hF]
  rw [e]; exact h2

theorem eraseUp_succ (n : Nat) : eraseUp (n + 1) = eraseUp n ++ [.cuu 1, .el2] := by
  induction n with
  | zero => rfl
  | succ n ih =>
    show .cuu 1 :: .el2 :: eraseUp (n + 1) = (.cuu 1 :: .el2 :: eraseUp n) ++ _
    rw [ih]; rfl

/-- Going up over the rows `G`, all still on screen, and clearing each leaves only blank rows under `P`. -/
theorem run_eraseUp (G : List Line) : ∀ {s : Screen} {P : List Line} {m : Nat}, OnRow s (P ++ G) [] m →
    G.length + m + 1 ≤ H → ∃ s', Run H P.length s (eraseUp G.length) s' ∧ OnRow s' P [] (G.length + m) := by
  induction G with
  | nil => intro s P m h _; exact ⟨s, Run.nil _ _ _, by simpa using h⟩
  | cons g G ih =>
    intro s P m h hfit
    obtain ⟨s1, hr1, h1⟩ := ih (P := P ++ [g]) (by simpa using h) (by simp at hfit; omega)
    have h2 := h1.up (H := H) (by simp at hfit; omega)
    refine ⟨_, ?_, by simpa [Nat.add_right_comm] using h2⟩
    rw [List.length_cons, eraseUp_succ]
    refine Run.append (hr1.weaken (length_le_append _ _)) (Run.cons ?_ (Run.one (Nat.le_of_eq h2.row.symm)))
    exact Nat.le_of_eq h2.row.symm

theorem run_position {F : Frame} {k : Nat} (w : Nat) (h : Shown s P F k) (hfit : (region F).length + k ≤ H) :
    ∃ s', Run H P.length s (positionCursor (some (w, F.length))) s' ∧ OnRow s' P [] ((region F).length + k - 1) := by
  obtain ⟨G, g, hF, _, hG⟩ := region_split F
  have h1 := (h.onRow hF).clear (H := H)
  obtain ⟨s', hr, h'⟩ := run_eraseUp (H := H) G h1 (by simp [hF] at hfit; omega)
  refine ⟨s', ?_, by simpa [hF] using h'⟩
  rw [positionCursor, ← hG]
  exact Run.cons (h.onRow hF).le_row (Run.cons h1.le_row hr)

/-- The shape recorded for what is on display. -/
def ShapeOk (shape : Option (Nat × Nat)) (F : Frame) : Prop :=
  match shape with
  | none => F = []
  | some (_, h) => h = F.length

/-- A frame of `r` rows drawn on `x ≤ H` blank rows leaves `x - r` of them: frame and rest fit the screen, unless the
frame alone is taller. -/
theorem add_sub_le_max {r x H : Nat} (h : x ≤ H) : r + (x - r) ≤ max H r := by
  by_cases hr : r ≤ x
  · rw [Nat.add_sub_cancel' hr]; exact Nat.le_trans h (Nat.le_max_left _ _)
  · rw [Nat.sub_eq_zero_of_le (Nat.le_of_not_le hr)]; exact Nat.le_max_right _ _

/-- One hooked print: `position_cursor ++ user lines ++ frame`.  The new frame may have any height; what
is on display afterwards fits the screen if it does. -/
theorem run_hooked {H : Nat} {s : Screen} {P : List Line} {F : Frame} {k : Nat} {shape : Option (Nat × Nat)}
    (h : Shown s P F k) (hshape : ShapeOk shape F) (hfit : (region F).length + k ≤ H)
    (U : List Line) (F' : Frame) :
    ∃ s' k', Run H P.length s (positionCursor shape ++ emitLines U ++ emitFrame F') s' ∧
      Shown s' (P ++ U) F' k' ∧ (region F').length + k' ≤ max H (region F').length ∧ s'.visible = s.visible := by
  -- after the erase the cursor is on the first of at most `H` blank rows
  have hstart : ∃ s1 m, Run H P.length s (positionCursor shape) s1 ∧ OnRow s1 P [] m ∧ m + 1 ≤ H := by
    cases shape with
    | none =>
      cases (hshape : F = [])
      exact ⟨s, k, Run.nil _ _ _, shown_nil_iff.1 h, by simpa [region, Nat.add_comm] using hfit⟩
    | some wh =>
      obtain ⟨w, hh⟩ := wh
      cases (hshape : hh = F.length)
      obtain ⟨s1, hr, hb⟩ := run_position (H := H) w h hfit
      exact ⟨s1, _, hr, hb, by
        rw [Nat.sub_add_cancel (Nat.le_trans (region_length_pos F) (Nat.le_add_right _ _))]; exact hfit⟩
  obtain ⟨s1, m, hr1, hb1, hm⟩ := hstart
  obtain ⟨s2, hr2, hb2⟩ := run_lines (H := H) U hb1
  obtain ⟨s3, hr3, hs3⟩ := run_frame (H := H) hb2 F'
  have hrun := Run.append (Run.append hr1 hr2) (hr3.weaken (length_le_append _ _))
  refine ⟨s3, _, hrun, hs3, add_sub_le_max (Nat.le_trans (Nat.add_le_add_right (Nat.sub_le _ _) 1) hm), ?_⟩
  rw [← hrun.1, replay_visible, lastVis_quiet]
  exact (quiet_positionCursor _).append (quiet_emitLines _) |>.append (quiet_emitFrame _)

theorem region_leftBy {cfg : Cfg} (htr : cfg.transient = true) (F : Frame) :
    ∃ G, region F = leftBy cfg F ++ G ∧ G.length = restoreCount cfg.blankFix F.length := by
  rw [leftBy, if_pos htr, restoreCount]
  cases F <;> cases cfg.blankFix
  · exact ⟨[], rfl, rfl⟩
  · exact ⟨[[]], rfl, rfl⟩
  · exact ⟨_, rfl, rfl⟩
  · exact ⟨_, rfl, (Nat.max_eq_left (Nat.succ_pos _)).symm⟩

/-- The end of `stop` after its last refresh: line feed, cursor shown and, for a transient display,
`restore_cursor`. -/
theorem run_stopTail {H : Nat} {s : Screen} {P : List Line} {F : Frame} {k : Nat} (cfg : Cfg) (w : Nat)
    (h : Shown s P F k) (hk : (region F).length + k ≤ max H (region F).length) (hH : 1 ≤ H)
    (hfit : cfg.transient = true → restoreCount cfg.blankFix F.length + 1 ≤ H) :
    ∃ s' m, Run H P.length s
        ([.lf, .showCursor] ++ if cfg.transient = true then restoreCursor cfg.blankFix (some (w, F.length)) else []) s' ∧
      OnRow s' (P ++ leftBy cfg F) [] m ∧ m + 1 ≤ H := by
  obtain ⟨G, g, hF, _, _⟩ := region_split F
  have h1 : OnRow (Screen.step H (Screen.step H s .lf) .showCursor) (P ++ region F) [] (k - 1) := by
    rw [hF, ← List.append_assoc]; exact ((h.onRow hF).lf (H := H)).showCursor
  have hrow := h1.le_row
  have hr1 : Run H P.length s [.lf, .showCursor] _ := Run.cons hrow (Run.one hrow)
  -- blank rows are on screen, and so are the rows above them that leave a row free
  have hm (n : Nat) (h1 : n ≤ (region F).length) (h2 : n + 1 ≤ H) : n + (k - 1) + 1 ≤ H := by
    have := region_length_pos F; omega
  by_cases htr : cfg.transient = true
  · obtain ⟨E, hE, hlen⟩ := region_leftBy htr F
    have hm := hm E.length (by rw [hE, List.length_append]; exact Nat.le_add_left _ _) (hlen ▸ hfit htr)
    rw [hE, ← List.append_assoc] at h1
    obtain ⟨s', hr, h'⟩ := run_eraseUp (H := H) E (h1.cr (H := H)) hm
    rw [if_pos htr, restoreCursor, ← hlen]
    exact ⟨s', _, Run.append hr1 (Run.cons hrow (hr.weaken (length_le_append _ _))), h', hm⟩
  · rw [if_neg htr, leftBy, if_neg htr]
    exact ⟨_, k - 1, hr1, h1, by simpa using hm 0 (Nat.zero_le _) hH⟩

theorem shown_rows {s : Screen} {P : List Line} {F : Frame} {k : Nat} (h : Shown s P F k) :
    ∃ k', s.rows = P ++ F ++ List.replicate k' [] := by
  cases F with
  | nil => exact ⟨k + 1, by rw [h.rows]; simp [region, List.replicate_succ]⟩
  | cons l rest => exact ⟨k, by rw [h.rows]; simp [region]⟩

theorem shown_row_ge {s : Screen} {P : List Line} {F : Frame} {k : Nat} (h : Shown s P F k) : P.length ≤ s.row := by
  have := h.row; have := region_length_pos F; omega

end RichModel.Live
