import RichModel.Lemmas.AnsiRoundTrip
/-!
The repaired decoder reads every SGR parameter list the way ECMA-48 does (property C19, foreign ANSI).
-/
namespace RichModel
namespace Ansi
open AsciiStr Style

theorem absStyle_add (v : StyleVariant) {st b : Style} (hs : Inv st) (hb : Addend b) :
    absStyle (add v st b) = (effOf b).apply (absStyle st) := by
  have o := Over.add v hs hb
  simp only [absStyle, Effect.apply, effOf, Rend.mk.injEq]
  refine ⟨?_, ?_, ?_, o.link⟩
  · -- bit by bit, through `attr`
    apply Nat.eq_of_testBit_eq
    intro i
    rw [← attr_on_eq, o.attr]
    simp only [Nat.testBit_or, testBit_andNot, Nat.testBit_and, Style.attr]
    cases st.attributes.testBit i <;> cases st.setAttributes.testBit i <;> cases b.attributes.testBit i <;>
      cases b.setAttributes.testBit i <;> rfl
  · rw [o.color]; cases b.color <;> simp
  · rw [o.bgcolor]; cases b.bgcolor <;> simp

theorem codeAgrees_cases {cfg : Cfg} {c : Nat} (h : codeAgrees cfg c = true) :
    (sgrLookupV cfg c = none ∧ ecmaEffect c = none) ∨
    ∃ d b, sgrLookupV cfg c = some d ∧ Style.parse cfg.sv d = .ok b ∧ Addend b ∧ ecmaEffect c = some (effOf b) := by
  unfold codeAgrees at h
  cases hl : sgrLookupV cfg c with
  | none =>
    simp only [hl, beq_iff_eq] at h
    exact Or.inl ⟨rfl, h⟩
  | some d =>
    simp only [hl] at h
    cases hp : Style.parse cfg.sv d with
    | error e => simp [hp] at h
    | ok b =>
      simp only [hp, Bool.and_eq_true, beq_iff_eq, Bool.not_eq_true', decide_eq_true_eq] at h
      obtain ⟨⟨⟨⟨hlk, hnn⟩, hsub⟩, hlt⟩, heff⟩ := h
      exact Or.inr ⟨d, b, rfl, hp, ⟨⟨hsub, hlt, by intro h; rw [hnn] at h; cases h⟩, hnn, hlk⟩, heff⟩

theorem codeAgrees_all (cfg : Cfg) (ho : cfg.offSingle = false) (c : Nat)
    (h0 : c ≠ 0) (h26 : c ≠ 26) (h38 : c ≠ 38) (h48 : c ≠ 48) : codeAgrees cfg c = true := by
  have hsame : codeAgrees cfg c = codeAgrees Cfg.repaired c := by
    simp [codeAgrees, sgrLookupV, ho, Cfg.repaired]
  rw [hsame]
  have ht := rows_agree
  simp only [rowsAgree, Bool.and_eq_true, List.all_eq_true, Bool.or_eq_true, beq_iff_eq] at ht
  obtain ⟨⟨⟨hrows, h24⟩, h25⟩, hecma⟩ := ht
  cases hl : sgrLookupV Cfg.repaired c with
  | none =>
    -- no row: ECMA-48 has no meaning for `c` either, since all its codes have rows
    cases he : ecmaEffect c with
    | none => simp [codeAgrees, hl, he]
    | some e =>
      obtain ⟨p, hp, hpc⟩ : ∃ p ∈ ecmaTable, p.1 = c := by
        unfold ecmaEffect at he
        obtain ⟨p, hf, _⟩ := Option.map_eq_some_iff.mp he
        exact ⟨p, List.mem_of_find?_eq_some hf, by simpa using List.find?_some hf⟩
      have := hecma p hp
      rw [hpc, hl] at this
      cases this
  | some d =>
    by_cases c24 : c = 24
    · rw [c24]; exact h24
    · by_cases c25 : c = 25
      · rw [c25]; exact h25
      · simp only [sgrLookupV, c24, c25, if_false] at hl
        rcases hrows _ (sgrLookup_mem hl) with (((h | h) | h) | h) | h
        · exact absurd h h0
        · exact absurd h h26
        · exact absurd h h38
        · exact absurd h h48
        · exact h

theorem tableAgrees_of_offSingle (cfg : Cfg) (ho : cfg.offSingle = false) : tableAgrees cfg = true := by
  simp only [tableAgrees, Bool.and_eq_true, List.all_eq_true, Bool.or_eq_true, beq_iff_eq]
  refine ⟨⟨fun c _ => ?_, by decide +kernel⟩, by decide +kernel⟩
  by_cases h : ((c = 0 ∨ c = 26) ∨ c = 38) ∨ c = 48
  · exact Or.inl h
  · simp only [not_or] at h
    exact Or.inr (codeAgrees_all cfg ho c h.1.1.1 h.1.1.2 h.1.2 h.2)

theorem absColor_fromAnsi (n : Nat) : absColor (fromAnsi n) = some (.idx n) := by
  by_cases h : n < 16 <;> simp [absColor, fromAnsi, numberType, h]

theorem absColor_fromRgb (a b c : Nat) : absColor (fromRgb a b c) = some (.rgb a b c) := rfl

/-- The sub-parser of 38 / 48 and its ECMA counterpart go the same way, and a colour read has a meaning. -/
theorem ext_cases (r : List Nat) :
    (extColor r = none ∧ ecmaExt r = none) ∨ (∃ n, extColor r = some (none, n) ∧ ecmaExt r = some (none, n)) ∨
    ∃ col ck n, extColor r = some (some col, n) ∧ ecmaExt r = some (some ck, n) ∧ absColor col = some ck := by
  match r with
  | [] => exact Or.inl ⟨rfl, rfl⟩
  | ct :: r1 =>
    by_cases h5 : ct = 5
    · match r1 with
      | [] => simp [extColor, ecmaExt, h5]
      | n :: _ => exact Or.inr (Or.inr ⟨_, _, 2, by simp [extColor, h5], by simp [ecmaExt, h5], absColor_fromAnsi n⟩)
    · by_cases h2 : ct = 2
      · match r1 with
        | a :: b :: c :: _ =>
          exact Or.inr (Or.inr ⟨_, _, 4, by simp [extColor, h2], by simp [ecmaExt, h2], absColor_fromRgb a b c⟩)
        | [] | [_] | [_, _] => simp [extColor, ecmaExt, h2]
      · exact Or.inr (Or.inl ⟨1, by simp [extColor, h5, h2], by simp [ecmaExt, h5, h2]⟩)

theorem ecmaFold_ext (fg : Bool) (m : Rend) (r : List Nat) :
    ecmaFold m ((if fg then 38 else 48) :: r) 0 =
      match ecmaExt r with
      | none => m
      | some (some col, n) => ecmaFold (if fg then { m with fg := some col } else { m with bg := some col }) r n
      | some (none, n) => ecmaFold m r n := by
  cases fg <;> simp only [ecmaFold] <;> rcases ecmaExt r with _ | ⟨_ | c, n⟩ <;> rfl

theorem absStyle_addColor (v : StyleVariant) {st b : Style} {fg : Bool} {col : Color} (hs : Inv st)
    (hb : fieldsOf b = colorFields fg col) :
    Inv (add v st b) ∧ absStyle (add v st b) =
      (if fg then { absStyle st with fg := absColor col } else { absStyle st with bg := absColor col }) := by
  have hadd := addend_of_colorFields hb
  obtain ⟨hc, hg, _, hset, _, _⟩ := colorFields_unpack hb
  refine ⟨inv_add v hs hadd.inv, ?_⟩
  rw [absStyle_add v hs hadd]
  cases fg <;> simp [Effect.apply, effOf, hset, hc, hg, andNot, absStyle]

theorem absStyle_resetOf (cfg : Cfg) (hr : cfg.resetDropsLink = false) (st : Style) :
    absStyle (resetOf cfg st) = { on := 0, fg := none, bg := none, link := linkVal st.link } := by
  rw [resetOf_keeps_link cfg hr]
  by_cases hl : strTruthy st.link = true
  · simp [hl, absStyle, linkOnly, linkVal]
  · rw [if_neg hl, linkVal_of_falsy (by simpa using hl)]
    rfl

/-- **The decoder's loop over SGR parameters is the ECMA-48 interpreter** (repaired variant), from every
style that kept the constructors' invariant, for every parameter list without 26, whatever was consumed. -/
theorem applyCodes_means_ecma (cfg : Cfg) (hr : cfg.resetDropsLink = false) (ho : cfg.offSingle = false)
    (codes : List Nat) (h26 : ∀ c ∈ codes, c ≠ 26) (st : Style) (hs : Inv st) (k : Nat) :
    absStyle (applyCodes cfg st codes k).1 = ecmaFold (absStyle st) codes k := by
  induction codes generalizing st k with
  | nil => rfl
  | cons c r ih =>
    have h26r : ∀ x ∈ r, x ≠ 26 := fun x hx => h26 x (by simp [hx])
    cases k with
    | succ k => simpa [applyCodes, ecmaFold] using ih h26r st hs k
    | zero =>
      by_cases h0 : c = 0
      · subst h0
        have := ih h26r (resetOf cfg st) (unset_resetOf cfg st).inv 0
        rw [absStyle_resetOf cfg hr] at this
        simpa [applyCodes, ecmaFold, absStyle] using this
      · by_cases hx : c = 38 ∨ c = 48
        · obtain ⟨fg, rfl⟩ : ∃ fg : Bool, c = if fg then 38 else 48 := by
            rcases hx with rfl | rfl
            · exact ⟨true, rfl⟩
            · exact ⟨false, rfl⟩
          rw [applyCodes_ext, ecmaFold_ext]
          rcases ext_cases r with ⟨h1, h2⟩ | ⟨n, h1, h2⟩ | ⟨col, ck, n, h1, h2, hck⟩ <;> rw [h1, h2]
          -- in the first case (the list ends inside the colour) both sides stop where they are, and `rw` closes it
          · exact ih h26r st hs n
          · obtain ⟨hi, ha⟩ := absStyle_addColor cfg.sv hs (fieldsOf_fromColor cfg.sv fg col)
            have := ih h26r _ hi n
            rw [ha] at this
            cases fg <;> simpa [hck] using this
        · -- a plain code: the table and ECMA-48 agree on it
          have h38 : c ≠ 38 := fun h => hx (Or.inl h)
          have h48 : c ≠ 48 := fun h => hx (Or.inr h)
          simp only [applyCodes, ecmaFold, h0, h38, h48, if_false]
          rcases codeAgrees_cases (codeAgrees_all cfg ho c h0 (h26 c (by simp)) h38 h48) with
            ⟨hl, he⟩ | ⟨d, b, hl, hp, hadd, he⟩
          · simpa [hl, he] using ih h26r st hs 0
          · have := ih h26r (add cfg.sv st b) (inv_add cfg.sv hs hadd.inv) 0
            rw [absStyle_add cfg.sv hs hadd] at this
            simpa [hl, hp, he] using this

/-- a parameter as written: omitted, or a number in decimal -/
def paramText : Option Nat → List Char
  | none => []
  | some n => natStr n

theorem sgrCodes_params (cfg : Cfg) (he : cfg.emptyIgnored = false) (ps : List (Option Nat)) (hne : ps ≠ [])
    (hlt : ∀ n, some n ∈ ps → n < 256) :
    sgrCodes cfg (joinWith ';' (ps.map paramText)) = .ok (ps.map (·.getD 0)) := by
  have := sgrCodes_items cfg (ps.map fun o => (paramText o, o.getD 0)) ?_ (by simpa using hne)
  · simpa [List.map_map, Function.comp_def] using this
  · intro p hp
    obtain ⟨o, ho, rfl⟩ := List.mem_map.mp hp
    cases o with
    | none => exact Or.inr ⟨he, rfl⟩
    | some n => exact Or.inl (natStr_paramOk (hlt n ho))

theorem sgrCodes_empty (cfg : Cfg) (he : cfg.emptyIgnored = false) : sgrCodes cfg [] = .ok [0] := by
  simp [sgrCodes, splitOn, splitOnAux, codesLoop, he, Except.map]

end Ansi
end RichModel
