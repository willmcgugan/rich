import RichModel.Model.FramesColumns
/-
Column-first fill of `Columns.__rich_console__` (columns.py:90-111), for any number of items and columns.
The loop places item `idx` at row `row` of column `col` with `idx = colOff col + row`; its invariant `FillInv` says
where the loop stands and (`FillCells`) that exactly the cells whose item index is below `idx` are set.  From it: the
closed form of the matrix, that the loop never indexes out of range nor meets a non-positive `column_lengths[col]`, and
that the matrix read row by row is a permutation of the items followed by blanks only.
-/
namespace RichModel.Frames
open RichModel

/-- Number of items in column `j` of the column-first grid. -/
def colLen (n c j : Nat) : Nat := n / c + (if j < n % c then 1 else 0)
/-- Number of items in the columns before `j`. -/
def colOff (n c j : Nat) : Nat := j * (n / c) + min j (n % c)
/-- `row_count` (columns.py:97). -/
def rowCount (n c : Nat) : Nat := (n + c - 1) / c

theorem colOff_zero (n c : Nat) : colOff n c 0 = 0 := by simp [colOff]

theorem colOff_succ (n c j : Nat) : colOff n c (j+1) = colOff n c j + colLen n c j := by
  unfold colOff colLen
  rw [Nat.succ_mul]
  split <;> omega

theorem colOff_self {n c : Nat} (hc : 0 < c) : colOff n c c = n := by
  unfold colOff
  have h := Nat.div_add_mod n c
  have hr := Nat.mod_lt n hc
  rw [Nat.min_eq_right (Nat.le_of_lt hr)]
  exact h

theorem colOff_mono (n c : Nat) {a b : Nat} (h : a ≤ b) : colOff n c a ≤ colOff n c b := by
  unfold colOff
  have := Nat.mul_le_mul_right (n / c) h
  omega

theorem colOff_of_colLen_zero {n c j : Nat} (hc : 0 < c) (h : colLen n c j = 0) : colOff n c j = n := by
  unfold colLen at h
  unfold colOff
  have h1 := Nat.div_add_mod n c
  have hr := Nat.mod_lt n hc
  generalize n / c = q at *
  generalize n % c = r at *
  split at h
  · omega
  · have hq : q = 0 := by omega
    subst hq
    rw [Nat.mul_zero] at h1 ⊢
    omega

/-- while items remain after the columns up to `j`, column `j` exists and is not empty -/
theorem colLen_pos_of_colOff_lt {n c j : Nat} (hc : 0 < c) (h : colOff n c j < n) : j < c ∧ 0 < colLen n c j := by
  refine ⟨Nat.lt_of_not_le fun hle => ?_, Nat.pos_of_ne_zero fun h0 => ?_⟩
  · have := colOff_mono n c hle
    rw [colOff_self hc] at this; omega
  · have := colOff_of_colLen_zero hc h0; omega

theorem colLen_le_rowCount {n c : Nat} (hc : 0 < c) (j : Nat) : colLen n c j ≤ rowCount n c := by
  unfold colLen rowCount
  have h := Nat.div_add_mod n c
  rw [Nat.le_div_iff_mul_le hc, Nat.add_mul, Nat.mul_comm (n / c) c]
  split <;> omega

theorem le_rowCount_mul {n c : Nat} (hc : 0 < c) : n ≤ rowCount n c * c := by
  unfold rowCount
  have h := Nat.div_add_mod (n + c - 1) c
  have hr := Nat.mod_lt (n + c - 1) hc
  rw [Nat.mul_comm]
  omega

/-- Position `i * c + j` of the row-major reading is one of the first `n` iff the cell is occupied. -/
theorem colPos_lt_iff {n c i j : Nat} (hc : 0 < c) (hj : j < c) : i * c + j < n ↔ i < colLen n c j := by
  unfold colLen
  have h := Nat.div_add_mod n c
  have hr := Nat.mod_lt n hc
  generalize n / c = q at *
  generalize n % c = r at *
  rcases Nat.lt_trichotomy i q with hi | hi | hi
  · have := Nat.mul_le_mul_right c (show i + 1 ≤ q from hi)
    rw [Nat.add_mul, Nat.mul_comm q c] at this
    split <;> omega
  · subst hi; rw [Nat.mul_comm i c]; split <;> omega
  · have := Nat.mul_le_mul_right c (show q + 1 ≤ i from hi)
    rw [Nat.add_mul, Nat.mul_comm q c] at this
    split <;> omega

/-- an item index determines its column and its row -/
theorem colOff_add_inj {n c i j i' j' : Nat} (hi : i < colLen n c j) (hi' : i' < colLen n c j')
    (h : colOff n c j + i = colOff n c j' + i') : j = j' ∧ i = i' := by
  have h1 := colOff_succ n c j
  have h1' := colOff_succ n c j'
  have hjj : j = j' := by
    rcases Nat.lt_trichotomy j j' with hlt | heq | hgt
    · have := colOff_mono n c (show j + 1 ≤ j' from hlt); omega
    · exact heq
    · have := colOff_mono n c (show j' + 1 ≤ j from hgt); omega
  subst hjj
  exact ⟨rfl, by omega⟩


/-! ## `fillLoop` invariant -/

/-- reading `cells[i][j]` after `cells[row][col] = v` -/
theorem getD_set_set {α : Type} (d : α) (cells : List (List α)) (row col i j : Nat) (v : α) :
    ((cells.set row ((cells.getD row []).set col v)).getD i []).getD j d
      = if i = row ∧ j = col ∧ row < cells.length ∧ col < (cells.getD row []).length then v
        else (cells.getD i []).getD j d := by
  simp only [List.getD_eq_getElem?_getD, List.getElem?_set]
  by_cases h1 : row = i
  · subst h1
    by_cases h2 : row < cells.length
    · by_cases h3 : col = j
      · subst h3
        simp [h2, List.getElem?_set]
        split <;> simp_all
      · have : ¬ j = col := fun h => h3 h.symm
        simp [h2, h3, this]
    · simp [h2]
  · have : ¬ i = row := fun h => h1 h.symm
    simp [h1, this]

theorem length_getD_set_set {α : Type} (cells : List (List α)) (row col i : Nat) (v : α) :
    ((cells.set row ((cells.getD row []).set col v)).getD i []).length = (cells.getD i []).length := by
  simp only [List.getD_eq_getElem?_getD, List.getElem?_set]
  by_cases h1 : row = i
  · subst h1
    by_cases h2 : row < cells.length <;> simp [h2]
  · simp [h1]

/-- reading `lens[j]` after `lens[col] = v` -/
theorem getD_set {α : Type} (d : α) (lens : List α) (col j : Nat) (v : α) :
    (lens.set col v).getD j d = if j = col ∧ col < lens.length then v else lens.getD j d := by
  simp only [List.getD_eq_getElem?_getD, List.getElem?_set]
  by_cases h1 : col = j
  · subst h1
    by_cases h2 : col < lens.length <;> simp [h2]
  · have : ¬ j = col := fun h => h1 h.symm
    simp [h1, this]

/-- an entry table after one more cell `here` got its value: `P` says which cells were set before, `P'` which are now -/
theorem entry_after_set {α : Type} {here P P' : Prop} [Decidable here] [Decidable P] [Decidable P'] (v w : α)
    (hv : here → v = w) (hP : P' ↔ P ∨ here) :
    (if here then some v else if P then some w else none) = if P' then some w else none := by
  by_cases h1 : here
  · rw [if_pos h1, if_pos (hP.mpr (Or.inr h1)), hv h1]
  · rw [if_neg h1]
    by_cases h2 : P
    · rw [if_pos h2, if_pos (hP.mpr (Or.inl h2))]
    · rw [if_neg h2, if_neg (fun h => (hP.mp h).elim h2 h1)]

/-- What the loop has done to the matrix once the items below `idx` are placed: the shape is unchanged, the cells of
those items hold them, all others are blank. -/
structure FillCells (n c idx : Nat) (cells : List (List (Option Nat))) : Prop where
  hrows : cells.length = rowCount n c
  hrowLen : ∀ i, i < rowCount n c → (cells.getD i []).length = c
  hentry : ∀ i j, i < rowCount n c → j < c →
    (cells.getD i []).getD j none
      = if i < colLen n c j ∧ colOff n c j + i < idx then some (colOff n c j + i) else none

theorem FillCells.init (n c : Nat) : FillCells n c 0 (List.replicate (rowCount n c) (List.replicate c none)) where
  hrows := by simp
  hrowLen := by intro i hi; simp [List.getD_eq_getElem?_getD, hi]
  hentry := by intro i j hi hj; simp [List.getD_eq_getElem?_getD, hi, hj]

/-- Placing item `idx` at row `row` of column `col`, the only cell with that index: the assignment is in range. -/
theorem FillCells.set {n c idx row col : Nat} {cells : List (List (Option Nat))} (hc : 0 < c) (h : FillCells n c idx cells)
    (hidx : idx = colOff n c col + row) (hcol : col < c) (hrow : row < colLen n c col) :
    (row < cells.length ∧ col < (cells.getD row []).length) ∧
    FillCells n c (idx + 1) (cells.set row ((cells.getD row []).set col (some idx))) := by
  have hrow' : row < rowCount n c := Nat.lt_of_lt_of_le hrow (colLen_le_rowCount hc col)
  have s1 : row < cells.length := by rw [h.hrows]; exact hrow'
  have s2 : col < (cells.getD row []).length := by rw [h.hrowLen row hrow']; exact hcol
  refine ⟨⟨s1, s2⟩, by simp [h.hrows], fun i hi => by rw [length_getD_set_set]; exact h.hrowLen i hi, fun i j hi hj => ?_⟩
  rw [getD_set_set, h.hentry i j hi hj]
  refine entry_after_set _ _ (by rintro ⟨rfl, rfl, _, _⟩; exact hidx) ⟨?_, ?_⟩
  · rintro ⟨h1, h2⟩
    rcases Nat.lt_succ_iff_lt_or_eq.mp h2 with h3 | h3
    · exact Or.inl ⟨h1, h3⟩
    · obtain ⟨rfl, rfl⟩ := colOff_add_inj h1 hrow (h3.trans hidx)
      exact Or.inr ⟨rfl, rfl, s1, s2⟩
  · rintro (⟨h1, h2⟩ | ⟨rfl, rfl, _, _⟩)
    · exact ⟨h1, Nat.lt_succ_of_lt h2⟩
    · exact ⟨hrow, by omega⟩

/-- once all `n` items are placed the bound on the index says nothing more -/
theorem FillCells.entry_done {n c : Nat} {cells : List (List (Option Nat))} (hc : 0 < c) (h : FillCells n c n cells)
    (i j : Nat) (hi : i < rowCount n c) (hj : j < c) :
    (cells.getD i []).getD j none = if i < colLen n c j then some (colOff n c j + i) else none := by
  rw [h.hentry i j hi hj]
  by_cases h1 : i < colLen n c j
  · have h2 := colOff_mono n c (show j + 1 ≤ c from hj)
    rw [colOff_self hc, colOff_succ] at h2
    rw [if_pos ⟨h1, by omega⟩, if_pos h1]
  · rw [if_neg (fun h => h1 h.1), if_neg h1]

/-- The loop invariant of `fillLoop`, before placing item `idx` at `(row, col)` with `k` items to go: where the loop
stands, what `column_lengths` holds from the current column on, and the matrix so far. -/
structure FillInv (n c k idx row col : Nat) (lens : List Int) (cells : List (List (Option Nat))) : Prop where
  hk : k + idx = n
  hidx : idx = colOff n c col + row
  hpos : 0 < k → col < c ∧ row < colLen n c col
  hlensLen : lens.length = c
  hlens : ∀ j, col ≤ j → j < c → lens.getD j 0 = (colLen n c j : Int) - (if j = col then (row : Int) else 0)
  hcells : FillCells n c idx cells

theorem columnLengths_getD (n c j : Nat) (hj : j < c) : (columnLengths n c).getD j 0 = (colLen n c j : Int) := by
  simp only [columnLengths, colLen, List.getD_eq_getElem?_getD, List.getElem?_map, List.getElem?_range hj]
  simp
  split <;> simp

theorem FillInv.init {n c : Nat} (hc : 0 < c) :
    FillInv n c n 0 0 0 (columnLengths n c) (List.replicate (rowCount n c) (List.replicate c none)) where
  hk := rfl
  hidx := by simp [colOff_zero]
  hpos := fun hn => colLen_pos_of_colOff_lt hc (by rw [colOff_zero]; exact hn)
  hlensLen := by simp [columnLengths]
  hlens := by intro j _ hj; rw [columnLengths_getD n c j hj]; split <;> simp
  hcells := FillCells.init n c

/-- One iteration: the two assignments are in range and `column_lengths[col]` is positive (the two "cannot happen" remarks
of the model); then the invariant holds at the next cell, which the model's own test on the updated counter chooses — one
row down while the column has items left, else the top of the next column. -/
theorem FillInv.step {n c k idx row col : Nat} {lens : List Int} {cells : List (List (Option Nat))}
    (hc : 0 < c) (h : FillInv n c (k+1) idx row col lens cells) :
    (row < cells.length ∧ col < (cells.getD row []).length ∧ col < lens.length ∧ 0 < lens.getD col 0) ∧
    if (lens.set col (lens.getD col 0 - 1)).getD col 0 != 0 then
      FillInv n c k (idx+1) (row+1) col (lens.set col (lens.getD col 0 - 1))
        (cells.set row ((cells.getD row []).set col (some idx)))
    else
      FillInv n c k (idx+1) 0 (col+1) (lens.set col (lens.getD col 0 - 1))
        (cells.set row ((cells.getD row []).set col (some idx))) := by
  obtain ⟨hcol, hrow⟩ := h.hpos (Nat.succ_pos k)
  obtain ⟨⟨s1, s2⟩, hcells⟩ := h.hcells.set hc h.hidx hcol hrow
  have s3 : col < lens.length := by rw [h.hlensLen]; exact hcol
  have hlc : lens.getD col 0 = (colLen n c col : Int) - row := by simpa using h.hlens col (Nat.le_refl _) hcol
  have hk := h.hk
  have hidx := h.hidx
  have hoff := colOff_succ n c col
  refine ⟨⟨s1, s2, s3, by omega⟩, ?_⟩
  -- the counters from column `j ≥ col` on, after the update
  have hlens' : ∀ j, col ≤ j → j < c → (lens.set col (lens.getD col 0 - 1)).getD j 0
      = (colLen n c j : Int) - (if j = col then (row : Int) + 1 else 0) := by
    intro j hj hjc
    rw [getD_set, h.hlens j hj hjc]
    by_cases hjcol : j = col
    · subst hjcol; simp only [s3, and_self, if_true]; omega
    · simp only [hjcol, false_and, if_false]
  split
  · rename_i hne
    have hne : lens.getD col 0 - 1 ≠ 0 := by simpa [getD_set, s3] using hne
    exact ⟨by omega, by omega, fun _ => ⟨hcol, by omega⟩, by simp [h.hlensLen],
      fun j hj hjc => by rw [hlens' j hj hjc]; split <;> simp, hcells⟩
  · rename_i hz
    have hz : lens.getD col 0 - 1 = 0 := by simpa [getD_set, s3] using hz
    -- items are left, so this was not the last column, and the next one is not empty
    have hnext : 0 < k → col + 1 < c ∧ 0 < colLen n c (col + 1) := fun hk0 =>
      colLen_pos_of_colOff_lt hc (by omega)
    exact ⟨by omega, by omega, hnext, by simp [h.hlensLen],
      fun j hj hjc => by rw [hlens' j (by omega) hjc, if_neg (by omega)]; split <;> simp, hcells⟩

/-- `fillLoop` with the two Python failure modes made explicit: `none` = `cells[row][col] = index`
out of range (`IndexError`) or `column_lengths[col]` not positive on entry. -/
def fillLoopChk : Nat → Nat → Nat → Nat → List Int → List (List (Option Nat)) → Option (List (List (Option Nat)))
  | 0, _, _, _, _, cells => some cells
  | k+1, idx, row, col, lens, cells =>
    if row < cells.length ∧ col < (cells.getD row []).length ∧ col < lens.length ∧ 0 < lens.getD col 0 then
      let cells := cells.set row ((cells.getD row []).set col (some idx))
      let lens := lens.set col (lens.getD col 0 - 1)
      if lens.getD col 0 != 0 then fillLoopChk k (idx+1) (row+1) col lens cells
      else fillLoopChk k (idx+1) 0 (col+1) lens cells
    else none

/-- the loop runs without either failure and leaves the matrix with all `n` items placed -/
theorem fillLoop_spec {n c : Nat} (hc : 0 < c) :
    ∀ (k idx row col : Nat) (lens : List Int) (cells : List (List (Option Nat))),
      FillInv n c k idx row col lens cells →
      fillLoopChk k idx row col lens cells = some (fillLoop k idx row col lens cells) ∧
      FillCells n c n (fillLoop k idx row col lens cells) := by
  intro k
  induction k with
  | zero =>
    intro idx row col lens cells h
    have := h.hk
    exact ⟨rfl, (show idx = n by omega) ▸ h.hcells⟩
  | succ k ih =>
    intro idx row col lens cells h
    obtain ⟨hs, hn⟩ := h.step hc
    unfold fillLoop fillLoopChk
    simp only [hs, and_self, if_true]
    split <;> rename_i hb <;> simp only [hb, if_true] at hn <;> exact ih _ _ _ _ _ hn

/-- The column-first matrix built by `iter_renderables`. -/
def fillMatrix (n c : Nat) : List (List (Option Nat)) :=
  fillLoop n 0 0 0 (columnLengths n c) (List.replicate ((n + c - 1) / c) (List.replicate c none))

/-- The column-first fill in closed form: `rowCount n c` rows of length `c`, all `n` items placed (with
`FillCells.entry_done`: entry `(r, j)` is `some (colOff j + r)` for `r < colLen j` and blank otherwise). -/
theorem fillMatrix_cells {n c : Nat} (hc : 0 < c) : FillCells n c n (fillMatrix n c) :=
  (fillLoop_spec hc _ _ _ _ _ _ (FillInv.init (n := n) hc)).2

/-- The loop never indexes out of range and never sees a non-positive `column_lengths[col]`. -/
theorem fillMatrix_safe {n c : Nat} (hc : 0 < c) :
    fillLoopChk n 0 0 0 (columnLengths n c) (List.replicate ((n + c - 1) / c) (List.replicate c none))
      = some (fillMatrix n c) :=
  (fillLoop_spec hc _ _ _ _ _ _ (FillInv.init (n := n) hc)).1


/-! ## Reading the matrix row by row -/

/-- a matrix of `R` rows of length `c` is the table of its entries -/
theorem matrix_eq_table {α : Type} (d : α) (R c : Nat) (M : List (List α)) (hR : M.length = R)
    (hc : ∀ i, i < R → (M.getD i []).length = c) :
    M = (List.range R).map fun i => (List.range c).map fun j => (M.getD i []).getD j d := by
  subst hR
  apply List.ext_getElem (by simp)
  intro i h1 h2
  have hi := hc i h1
  simp only [List.getD_eq_getElem?_getD, List.getElem?_eq_getElem h1, Option.getD_some] at hi
  apply List.ext_getElem (by simp [hi])
  intro j h3 h4
  simp [List.getD_eq_getElem?_getD, h1, h3]

/-- reading a table row by row: position `p` holds entry `(p / c, p % c)` -/
theorem flatten_table {α : Type} (f : Nat → Nat → α) (R : Nat) {c : Nat} (hc : 0 < c) :
    ((List.range R).map fun i => (List.range c).map (f i)).flatten
      = (List.range (R * c)).map fun p => f (p / c) (p % c) := by
  induction R with
  | zero => simp
  | succ R ih =>
    rw [List.range_succ, List.map_append, List.flatten_append, ih, Nat.succ_mul, List.range_add, List.map_append]
    congr 1
    simp only [List.map_cons, List.map_nil, List.flatten_cons, List.flatten_nil, List.append_nil, List.map_map]
    apply List.map_congr_left
    intro j hj
    have hj := List.mem_range.mp hj
    simp only [Function.comp]
    rw [Nat.mul_comm R c, Nat.mul_add_div hc, Nat.div_eq_of_lt hj, Nat.mul_add_mod, Nat.mod_eq_of_lt hj, Nat.add_zero]

/-- The index at position `p` of the column-first order: column `p % c`, row `p / c`. -/
def columnFirstIndex (n c p : Nat) : Nat := colOff n c (p % c) + p / c

/-- row `r`, column `j` of the row-major reading holds the `r`-th item of column `j` -/
theorem columnFirstIndex_mul_add (n : Nat) {c j : Nat} (r : Nat) (hj : j < c) : columnFirstIndex n c (r * c + j) = colOff n c j + r := by
  unfold columnFirstIndex
  rw [Nat.mul_comm, Nat.mul_add_mod, Nat.mod_eq_of_lt hj, Nat.mul_add_div (Nat.lt_of_le_of_lt (Nat.zero_le j) hj),
    Nat.div_eq_of_lt hj]
  rfl

/-- position `p` of the row-major reading lies in row `p / c` of column `p % c`, which is occupied when `p < n` -/
theorem div_lt_colLen {n c p : Nat} (hc : 0 < c) (hp : p < n) : p / c < colLen n c (p % c) := by
  have hpe := Nat.div_add_mod p c
  rw [Nat.mul_comm] at hpe
  exact (colPos_lt_iff hc (Nat.mod_lt p hc)).mp (by omega)

/-- **The flattened matrix is the `n` items followed only by blanks** (columns with the extra item
come first, so the blanks of the last row are at its end). -/
theorem fillMatrix_flatten {n c : Nat} (hc : 0 < c) :
    (fillMatrix n c).flatten
      = ((List.range n).map (columnFirstIndex n c)).map some ++ List.replicate (rowCount n c * c - n) none := by
  have hM := fillMatrix_cells (n := n) hc
  have hent := hM.entry_done hc
  obtain ⟨k, hk⟩ : ∃ k, rowCount n c * c = n + k := ⟨_, (Nat.add_sub_cancel' (le_rowCount_mul hc)).symm⟩
  have hrow : ∀ p, p < n + k → p / c < rowCount n c := fun p hp => (Nat.div_lt_iff_lt_mul hc).mpr (hk ▸ hp)
  rw [matrix_eq_table none _ c _ hM.hrows hM.hrowLen, flatten_table _ _ hc, hk, Nat.add_sub_cancel_left, List.range_add, List.map_append,
    List.map_map, List.map_map]
  -- the first `n` positions are occupied (`colPos_lt_iff`), the other `k` are blank
  congr 1
  · refine List.map_congr_left fun p hp => ?_
    have hp := List.mem_range.mp hp
    simp only [Function.comp, hent _ _ (hrow p (by omega)) (Nat.mod_lt p hc), if_pos (div_lt_colLen hc hp), columnFirstIndex]
  · refine List.eq_replicate_iff.mpr ⟨by simp, fun x hx => ?_⟩
    obtain ⟨p, hp, rfl⟩ := List.mem_map.mp hx
    have hp := List.mem_range.mp hp
    have hpe := Nat.div_add_mod (n + p) c
    rw [Nat.mul_comm] at hpe
    show ((fillMatrix n c).getD ((n + p) / c) []).getD ((n + p) % c) none = none
    rw [hent _ _ (hrow (n + p) (by omega)) (Nat.mod_lt _ hc),
      if_neg fun h => by have := (colPos_lt_iff hc (Nat.mod_lt (n + p) hc)).mpr h; omega]

theorem takeWhile_isSome_map_some_append {α : Type} (L : List α) (k : Nat) :
    (L.map some ++ List.replicate k none).takeWhile (·.isSome) = L.map some := by
  rw [List.takeWhile_append_of_pos (by simp)]
  cases k <;> simp [List.replicate_succ]

theorem itemOrder_columnFirst_eq {n c : Nat} (hc : 0 < c) :
    itemOrder true n c = (List.range n).map (columnFirstIndex n c) := by
  have h := fillMatrix_flatten (n := n) hc
  unfold fillMatrix at h
  simp only [itemOrder, if_true]
  rw [h, takeWhile_isSome_map_some_append]
  simp [List.filterMap_map]


/-! ## The column-first order is a permutation of `0 .. n-1` in the documented order -/

theorem itemOrder_columnFirst_length {n c : Nat} (hc : 0 < c) : (itemOrder true n c).length = n := by
  simp [itemOrder_columnFirst_eq hc]

theorem itemOrder_rowFirst (n c : Nat) : itemOrder false n c = List.range n := by simp [itemOrder]

theorem itemOrder_length {n c : Nat} (hc : 0 < c) (cf : Bool) : (itemOrder cf n c).length = n := by
  cases cf
  · simp [itemOrder_rowFirst]
  · exact itemOrder_columnFirst_length hc

/-- **Documented order**: position `r * c + j` (row `r`, column `j`) holds item `off j + r`, i.e. every
column holds consecutive increasing indices top to bottom, columns left to right. -/
theorem itemOrder_columnFirst_getElem? {n c : Nat} (hc : 0 < c) (r j : Nat) (hj : j < c)
    (hp : r * c + j < n) : (itemOrder true n c)[r * c + j]? = some (colOff n c j + r) := by
  rw [itemOrder_columnFirst_eq hc, List.getElem?_map, List.getElem?_range hp, Option.map_some, columnFirstIndex_mul_add n r hj]

theorem itemOrder_columnFirst_pos_iff {n c : Nat} (hc : 0 < c) (r j : Nat) (hj : j < c) :
    r * c + j < n ↔ r < colLen n c j := colPos_lt_iff hc hj

theorem columnFirstIndex_lt {n c p : Nat} (hc : 0 < c) (hp : p < n) : columnFirstIndex n c p < n := by
  have hi := div_lt_colLen hc hp
  have h1 := colOff_succ n c (p % c)
  have h2 := colOff_mono n c (show p % c + 1 ≤ c from Nat.mod_lt p hc)
  rw [colOff_self hc] at h2
  unfold columnFirstIndex; omega

theorem columnFirstIndex_inj {n c p p' : Nat} (hc : 0 < c) (hp : p < n) (hp' : p' < n)
    (h : columnFirstIndex n c p = columnFirstIndex n c p') : p = p' := by
  obtain ⟨e1, e2⟩ := colOff_add_inj (div_lt_colLen hc hp) (div_lt_colLen hc hp') h
  rw [← Nat.div_add_mod p c, ← Nat.div_add_mod p' c, e1, e2]

theorem itemOrder_columnFirst_nodup {n c : Nat} (hc : 0 < c) : (itemOrder true n c).Nodup := by
  rw [itemOrder_columnFirst_eq hc, List.nodup_iff_pairwise_ne, List.pairwise_map]
  have := List.nodup_iff_pairwise_ne.mp (List.nodup_range (n := n))
  refine List.Pairwise.imp_of_mem ?_ this
  intro a b ha hb hab h
  exact hab (columnFirstIndex_inj hc (List.mem_range.mp ha) (List.mem_range.mp hb) h)

/-- pigeonhole: `n` distinct numbers below `n` are all of them -/
theorem perm_range_of_nodup {l : List Nat} {n : Nat} (hd : l.Nodup) (hlt : ∀ x ∈ l, x < n) (hlen : l.length = n) :
    l.Perm (List.range n) := by
  rw [List.perm_ext_iff_of_nodup hd List.nodup_range]
  intro a
  rw [List.mem_range]
  refine ⟨hlt a, fun ha => Decidable.byContradiction fun hna => ?_⟩
  have := hd.length_le_of_subset (l₂ := (List.range n).erase a) fun x hx =>
    (List.mem_erase_of_ne (fun h : x = a => hna (h ▸ hx))).mpr (List.mem_range.mpr (hlt x hx))
  rw [List.length_erase, if_pos (List.mem_range.mpr ha), List.length_range] at this
  omega

theorem itemOrder_columnFirst_perm {n c : Nat} (hc : 0 < c) :
    (itemOrder true n c).Perm (List.range n) := by
  refine perm_range_of_nodup (itemOrder_columnFirst_nodup hc) ?_ (itemOrder_columnFirst_length hc)
  rw [itemOrder_columnFirst_eq hc]
  intro x hx
  obtain ⟨p, hp, rfl⟩ := List.mem_map.mp hx
  exact columnFirstIndex_lt hc (List.mem_range.mp hp)

theorem itemOrder_perm {n c : Nat} (hc : 0 < c) (cf : Bool) : (itemOrder cf n c).Perm (List.range n) := by
  cases cf
  · rw [itemOrder_rowFirst]
  · exact itemOrder_columnFirst_perm hc

end RichModel.Frames
