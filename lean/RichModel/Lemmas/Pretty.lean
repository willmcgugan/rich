import RichModel.Model.Pretty
import RichModel.Lemmas.Cells
/-!
The render side of the pretty-printer model (property C16).  `check_length` is a comparison of sums; the render loop
computes a structural specification (`specLine`: a line that must be expanded becomes its opening line, the lines of
its children, its closing line); the layout facts are proved on that specification, by induction on the tree.
-/
namespace RichModel.Pretty
open RichModel

theorem cellLen_nil (cw : Char → Nat) : cellLen cw [] = 0 := RichModel.cellLen_nil cw

/-- `check_length` on at least one token compares the sum with the width (on no token it answers `True`). -/
theorem checkLoop_cons_iff (cw : Char → Nat) (m : Int) (ts : List Str) (t : Str) (s : Nat) :
    Node.checkLoop cw m s (t :: ts) = true ↔ ((s + cellLen cw (t :: ts).flatten : Nat) : Int) ≤ m := by
  induction ts generalizing t s with
  | nil => simp [Node.checkLoop]
  | cons u us ih =>
    rw [Node.checkLoop, List.flatten_cons, cellLen_append, ← Nat.add_assoc]
    by_cases h : ((s + cellLen cw t : Nat) : Int) > m
    · rw [if_pos h]
      exact iff_of_false Bool.false_ne_true fun hle =>
        Int.lt_irrefl m (Int.lt_of_lt_of_le h (Int.le_trans (Int.ofNat_le.mpr (Nat.le_add_right _ _)) hle))
    · rw [if_neg h]; exact ih u (s + cellLen cw t)

theorem Node.tokens_ne_nil_of_container (n : Node) (h : n.isContainer = true) : n.tokens ≠ [] := by
  cases n with
  | mk k vr o cl e la t ic ch =>
    cases h
    rw [Node.tokens]
    -- after the key, a container yields its value, its braces or its `empty` text
    cases vr <;> cases ch <;> exact fun h => nomatch (List.append_eq_nil_iff.mp h).2

theorem Node.checkLength_iff (cw : Char → Nat) (n : Node) (s : Nat) (m : Int) (h : n.isContainer = true) :
    n.checkLength cw s m = true ↔ ((s + cellLen cw n.str : Nat) : Int) ≤ m := by
  obtain ⟨t, ts, ht⟩ := List.exists_cons_of_ne_nil (Node.tokens_ne_nil_of_container n h)
  rw [Node.checkLength, Node.str, ht]
  exact checkLoop_cons_iff cw m ts t s

/-- the cells a line needs: the quantity `check_length` compares with the width. -/
def Line.cells (cw : Char → Nat) (l : Line) : Nat :=
  l.whitespace.length + cellLen cw l.text + cellLen cw l.suffix +
    (match l.node with | some n => cellLen cw n.str | none => 0)

theorem Line.checkLength_iff (cw : Char → Nat) (w : Int) {l : Line} {n : Node} (hn : l.node = some n)
    (hc : n.isContainer = true) : l.checkLength cw n w = true ↔ (l.cells cw : Int) ≤ w := by
  rw [Line.checkLength, Node.checkLength_iff _ _ _ _ hc, Line.cells, hn]

theorem mustExpand_iff (cw : Char → Nat) (w : Int) (ea : Bool) {l : Line} {n : Node} (hn : l.node = some n)
    (hc : n.isContainer = true) : mustExpand cw w ea l n = true ↔ ea = true ∨ w < (l.cells cw : Int) := by
  simp [mustExpand, Bool.eq_false_iff, Line.checkLength_iff cw w hn hc]

-- the parameters of one `Node.render`: width function, code variant, `max_width`, `indent_size`, `expand_all`
structure Cfg where
  cw : Char → Nat
  v : Variant
  w : Int
  ind : Int
  ea : Bool

/- The structural specification of the render loop: the lines a line `l` holding node `n` ends up as (`specLine`), and
those of a child list at indentation `ws` (`specKids`; `one` = the children are the single item of a tuple, whose
line gets the suffix `,`, as in `Node.tokensList`).  `specOf` is `specLine` for a line that may hold no node. -/
mutual
def specLine (c : Cfg) (l : Line) : Node → List Line
  | .mk k vr o cl e la t ic ch =>
    if ic && !ch.isEmpty && !l.expanded && mustExpand c.cw c.w c.ea l (.mk k vr o cl e la t ic ch) then
      l.expandHead (.mk k vr o cl e la t ic ch) ::
        (specKids c (l.whitespace ++ List.replicate c.ind.toNat ' ') (t && ch.length == 1) ch
          ++ [l.expandClose c.v (.mk k vr o cl e la t ic ch)])
    else [l]
def specKids (c : Cfg) (ws : Str) (one : Bool) : List Node → List Line
  | [] => []
  | x :: xs =>
    specLine c { node := some x, whitespace := ws, suffix := if one then [','] else x.separator } x
      ++ specKids c ws one xs
end

def specOf (c : Cfg) (l : Line) : List Line :=
  match l.node with
  | some n => specLine c l n
  | none => [l]

theorem specKids_eq (c : Cfg) (ws : Str) (one : Bool) (ch : List Node) :
    specKids c ws one ch =
      (ch.map fun x => ({ node := some x, whitespace := ws, suffix := if one then [','] else x.separator } : Line)).flatMap (specOf c) := by
  induction ch with
  | nil => simp [specKids]
  | cons x xs ih => simp [specKids, ih, specOf]

theorem Node.induct {P : Node → Prop} (h : ∀ n : Node, (∀ x ∈ n.children, P x) → P n) (n : Node) : P n :=
  Node.rec (motive_1 := P) (motive_2 := fun ch => ∀ x ∈ ch, P x)
    (fun k vr o cl e la t ic ch ih => h (.mk k vr o cl e la t ic ch) ih) (fun _ hx => nomatch hx)
    (fun _ _ hx hxs => List.forall_mem_cons.mpr ⟨hx, hxs⟩) n

-- a container with children: what `_Line.expandable` asks of the line's node
def Node.expandable (n : Node) : Bool := n.isContainer && !n.children.isEmpty

theorem Line.expandable_iff {l : Line} : l.expandable = true ↔ ∃ m, l.node = some m ∧ m.expandable = true := by
  unfold Line.expandable Node.expandable
  cases l.node <;> simp

/-- the loop replaces the line `l` of node `n` by its expansion. -/
def expands (c : Cfg) (l : Line) (n : Node) : Bool :=
  n.expandable && !l.expanded && mustExpand c.cw c.w c.ea l n

theorem specLine_eq (c : Cfg) (l : Line) (n : Node) :
    specLine c l n =
      if expands c l n then
        l.expandHead n ::
          (specKids c (l.whitespace ++ List.replicate c.ind.toNat ' ') n.tupleOfOne n.children ++ [l.expandClose c.v n])
      else [l] := by
  cases n; rw [specLine]; rfl

theorem specLine_of_expands {c : Cfg} {l : Line} {n : Node} (h : expands c l n = true) :
    specLine c l n = l.expandHead n ::
      (specKids c (l.whitespace ++ List.replicate c.ind.toNat ' ') n.tupleOfOne n.children ++ [l.expandClose c.v n]) :=
  (specLine_eq c l n).trans (if_pos h)

theorem specLine_of_not_expands {c : Cfg} {l : Line} {n : Node} (h : expands c l n = false) : specLine c l n = [l] :=
  (specLine_eq c l n).trans (if_neg (Bool.eq_false_iff.mp h))

theorem expands_iff (c : Cfg) {l : Line} {n : Node} (hn : l.node = some n) :
    expands c l n = true ↔
      n.expandable = true ∧ l.expanded = false ∧ (c.ea = true ∨ c.w < (l.cells c.cw : Int)) := by
  by_cases hc : n.isContainer = true
  · simp [expands, mustExpand_iff c.cw c.w c.ea hn hc, and_assoc]
  · simp [expands, Node.expandable, hc]

theorem specLine_unfold (c : Cfg) (l : Line) (n : Node) :
    specLine c l n =
      if n.isContainer && !n.children.isEmpty && !l.expanded && mustExpand c.cw c.w c.ea l n then
        l.expandHead n :: ((l.expandTail c.v n c.ind).flatMap (specOf c))
      else [l] := by
  rw [specLine_eq, specKids_eq]
  simp [expands, Node.expandable, Line.expandTail, Line.expandKids, specOf, Line.expandClose]

theorem mem_specKids {c : Cfg} {ws : Str} {one : Bool} {ch : List Node} {l' : Line} :
    l' ∈ specKids c ws one ch ↔
      ∃ x ∈ ch, l' ∈ specLine c { node := some x, whitespace := ws, suffix := if one then [','] else x.separator } x := by
  induction ch with
  | nil => simp [specKids]
  | cons x xs ih => simp [specKids, ih]

theorem mem_specLine {c : Cfg} {l : Line} {n : Node} {l' : Line} :
    l' ∈ specLine c l n ↔
      (expands c l n = false ∧ l' = l) ∨
      (expands c l n = true ∧ (l' = l.expandHead n ∨
        (∃ x ∈ n.children, l' ∈ specLine c
          { node := some x, whitespace := l.whitespace ++ List.replicate c.ind.toNat ' ',
            suffix := if n.tupleOfOne then [','] else x.separator } x) ∨
        l' = l.expandClose c.v n)) := by
  cases h : expands c l n
  · simp [specLine_of_not_expands h]
  · simp [specLine_of_expands h, mem_specKids]

theorem specKids_congr {c c' : Cfg} {ws : Str} {one : Bool} {ch : List Node}
    (h : ∀ x ∈ ch, specLine c { node := some x, whitespace := ws, suffix := if one then [','] else x.separator } x =
      specLine c' { node := some x, whitespace := ws, suffix := if one then [','] else x.separator } x) :
    specKids c ws one ch = specKids c' ws one ch := by
  induction ch with
  | nil => rfl
  | cons x xs ih =>
    rw [specKids, specKids, h x List.mem_cons_self, ih fun y hy => h y (List.mem_cons_of_mem _ hy)]

/-- Width and `expand_all` enter the rendering only through the decision `expands`. -/
theorem specLine_congr {c c' : Cfg} (hv : c.v = c'.v) (hi : c.ind = c'.ind)
    (he : ∀ l n, expands c l n = expands c' l n) (n : Node) : ∀ l : Line, specLine c l n = specLine c' l n := by
  induction n using Node.induct with | _ n ih =>
  intro l
  rw [specLine_eq, specLine_eq, he, hv, hi, specKids_congr fun x hx => ih x hx _]

theorem specOf_eq (c : Cfg) (l : Line) :
    specOf c l = match l.expandNode with
      | some n =>
        if mustExpand c.cw c.w c.ea l n then l.expandHead n :: (l.expandTail c.v n c.ind).flatMap (specOf c) else [l]
      | none => [l] := by
  rw [specOf, Line.expandNode]
  cases l.node with
  | none => rfl
  | some n =>
    show specLine c l n = _
    rw [specLine_unfold]
    cases h : n.isContainer && !n.children.isEmpty && !l.expanded <;> simp [h]

theorem renderLoop_eq_spec (c : Cfg) (todo done : List Line) :
    renderLoop c.cw c.v c.w c.ind c.ea todo done = done.reverse ++ todo.flatMap (specOf c) := by
  fun_induction renderLoop c.cw c.v c.w c.ind c.ea todo done with
  | case1 done => simp
  | case2 l rest done n h hm ih => rw [ih, List.flatMap_cons, specOf_eq c l, h]; simp [hm]
  | case3 l rest done n h hm ih => rw [ih, List.flatMap_cons, specOf_eq c l, h]; simp [hm]
  | case4 l rest done h ih => rw [ih, List.flatMap_cons, specOf_eq c l, h]; simp

theorem renderLines_eq_spec (cw : Char → Nat) (v : Variant) (n : Node) (w ind : Int) (ea : Bool) :
    renderLines cw v n w ind ea = specLine ⟨cw, v, w, ind, ea⟩ (rootLine n) n := by
  rw [renderLines, renderLoop_eq_spec ⟨cw, v, w, ind, ea⟩]
  simp [specOf, rootLine]

/- The one-line form with `sep` between items (`", "` gives `__str__`: `Node.str_eq_flat`); `compact`, with `","`, is a
rendered line or tree with its layout erased.  The two facts about them are proved by the mutual recursion of the
definitions. -/
mutual
def Node.flat (sep : Str) : Node → Str
  | .mk k v o c e _ tup ic ch =>
    (if k.isEmpty then [] else k ++ [':', ' ']) ++
    (if !v.isEmpty then v
     else if ic then
       (if !ch.isEmpty then o ++ flatList sep (tup && ch.length == 1) ch ++ c else e)
     else [])
def flatList (sep : Str) (one : Bool) : List Node → Str
  | [] => []
  | x :: xs => x.flat sep ++ (if one then [','] else if !x.last then sep else []) ++ flatList sep one xs
end

mutual
theorem Node.str_eq_flat : ∀ n : Node, n.tokens.flatten = n.flat [',', ' ']
  | .mk k v o c e la tup ic ch => by
    simp [Node.tokens, Node.flat, apply_ite List.flatten, tokensList_flat (tup && ch.length == 1) ch]
theorem tokensList_flat (one : Bool) : ∀ ch : List Node, (Node.tokensList one ch).flatten = flatList [',', ' '] one ch
  | [] => rfl
  | x :: xs => by
    simp [Node.tokensList, flatList, apply_ite List.flatten, Node.str_eq_flat x, tokensList_flat one xs]
end

def Node.compact (n : Node) : Str := n.flat [',']
def Line.compact (l : Line) : Str :=
  l.text ++ (match l.node with | some n => n.compact | none => []) ++ l.suffix

mutual
/-- what `_traverse` builds: only a container has children, and one that has children has no `value_repr`. -/
def Node.wf : Node → Bool
  | .mk _ vr _ _ _ _ _ ic ch => (ic || ch.isEmpty) && (!(ic && !ch.isEmpty) || vr.isEmpty) && wfList ch
def wfList : List Node → Bool
  | [] => true
  | x :: xs => x.wf && wfList xs
end

theorem Line.compact_expandHead (l : Line) (n : Node) :
    (l.expandHead n).compact = (if n.keyRepr.isEmpty then [] else n.keyRepr ++ [':', ' ']) ++ n.openBrace := by
  unfold Line.expandHead
  cases h : n.keyRepr.isEmpty <;> simp [Line.compact]

mutual
theorem specLine_compact (c : Cfg) (hv : c.v.dropSuffix = false) :
    ∀ (n : Node) (l : Line), n.wf = true → l.text = [] → l.node = some n →
      ((specLine c l n).map Line.compact).flatten = l.compact
  | .mk k vr o cl e la t ic ch, l, hw, ht, hn => by
    rw [specLine]
    split
    · rename_i hc
      -- a well-formed container with children has no `value_repr`
      simp only [Bool.and_eq_true, Bool.not_eq_true'] at hc
      obtain ⟨⟨⟨hic, hch⟩, _⟩, _⟩ := hc
      simp only [Node.wf, hic, hch, Bool.and_eq_true, Bool.or_eq_true] at hw
      have hvr : vr.isEmpty = true := by simpa using hw.1.2
      rw [List.map_cons, List.map_append, List.flatten_cons, List.flatten_append,
        specKids_compact c hv ch _ _ hw.2, Line.compact_expandHead]
      simp [Line.compact, hn, ht, Node.compact, Node.flat, hvr, hic, hch, Line.expandClose, hv, Node.keyRepr, Node.openBrace,
        Node.closeBrace]
    · simp
theorem specKids_compact (c : Cfg) (hv : c.v.dropSuffix = false) :
    ∀ (ch : List Node) (ws : Str) (one : Bool), wfList ch = true →
      ((specKids c ws one ch).map Line.compact).flatten = flatList [','] one ch
  | [], ws, one, _ => rfl
  | x :: xs, ws, one, hw => by
    rw [wfList, Bool.and_eq_true] at hw
    rw [specKids, flatList, List.map_append, List.flatten_append, specLine_compact c hv x _ hw.1 rfl rfl,
      specKids_compact c hv xs ws one hw.2]
    cases one <;> cases hl : x.last <;> simp [Line.compact, Node.compact, Node.separator, hl]
end

theorem specLine_ne_nil (c : Cfg) (l : Line) (n : Node) : specLine c l n ≠ [] := by
  rw [specLine_eq]; split <;> exact List.cons_ne_nil _ _

theorem Line.expandHead_whitespace (l : Line) (n : Node) : (l.expandHead n).whitespace = l.whitespace := by
  unfold Line.expandHead; split <;> rfl

theorem Line.expandHead_node (l : Line) (n : Node) : (l.expandHead n).node = none := by
  unfold Line.expandHead; split <;> rfl

theorem specLine_head_whitespace (c : Cfg) (l : Line) (n : Node) :
    (specLine c l n).head?.map (·.whitespace) = some l.whitespace := by
  rw [specLine_eq]
  split
  · exact congrArg some (l.expandHead_whitespace n)
  · rfl

theorem specKids_ne_nil {c : Cfg} {l : Line} {n : Node} (h : expands c l n = true) (ws : Str) (one : Bool) :
    specKids c ws one n.children ≠ [] := by
  -- there is a child, and no line renders to nothing
  cases hch : n.children with
  | nil => simp [expands, Node.expandable, hch] at h
  | cons x xs => rw [specKids]; exact fun h => specLine_ne_nil _ _ _ (List.append_eq_nil_iff.mp h).1

theorem specLine_length_of_expands {c : Cfg} {l : Line} {n : Node} (h : expands c l n = true) :
    3 ≤ (specLine c l n).length := by
  rw [specLine_of_expands h, List.length_cons, List.length_append, List.length_singleton]
  exact Nat.add_le_add_right (Nat.add_le_add_right (List.length_pos_iff.mpr (specKids_ne_nil h _ _)) 1) 1

theorem specLine_length_eq_one_iff {c : Cfg} {l : Line} {n : Node} :
    (specLine c l n).length = 1 ↔ expands c l n = false := by
  cases h : expands c l n with
  | false => rw [specLine_of_not_expands h]; exact iff_of_true rfl rfl
  | true => exact iff_of_false (fun h1 => absurd (h1 ▸ specLine_length_of_expands h) (by decide)) nofun

theorem specLine_kept_fits (c : Cfg) (n : Node) :
    ∀ (l : Line), l.node = some n → l.expanded = false →
      ∀ l' ∈ specLine c l n, l'.expandable = true → c.ea = false ∧ (l'.cells c.cw : Int) ≤ c.w := by
  induction n using Node.induct with | _ n ih =>
  intro l hn hex l' hl' he
  rcases mem_specLine.mp hl' with ⟨h, rfl⟩ | ⟨_, rfl | ⟨x, hx, hl'⟩ | rfl⟩
  · -- kept although it could be expanded: neither `expand_all` nor too long
    obtain ⟨m, hm, he⟩ := Line.expandable_iff.mp he
    cases hn.symm.trans hm
    have hno := mt (expands_iff c hn).mpr (h ▸ Bool.false_ne_true)
    exact ⟨Bool.eq_false_iff.mpr fun hea => hno ⟨he, hex, Or.inl hea⟩, Int.not_lt.mp fun hlt => hno ⟨he, hex, Or.inr hlt⟩⟩
  · rw [Line.expandable, Line.expandHead_node] at he; cases he
  · exact ih x hx _ rfl rfl l' hl' he
  · cases he

theorem specLine_eq_expandAll (c : Cfg) (n : Node) :
    ∀ l : Line, l.node = some n → (∀ l' ∈ specLine c l n, l'.expandable = false) →
      specLine c l n = specLine { c with ea := true } l n := by
  induction n using Node.induct with | _ n ih =>
  intro l hn hno
  have hiff := expands_iff c hn
  have hiff' := expands_iff { c with ea := true } hn
  cases h : expands c l n with
  | true =>
    have h' : expands { c with ea := true } l n = true := hiff'.mpr ⟨(hiff.mp h).1, (hiff.mp h).2.1, Or.inl rfl⟩
    rw [specLine_of_expands h, specLine_of_expands h', specKids_congr (c' := { c with ea := true }) fun x hx =>
      ih x hx _ rfl fun y hy => hno y (mem_specLine.mpr (Or.inr ⟨h, Or.inr (Or.inl ⟨x, hx, hy⟩)⟩))]
  | false =>
    -- the line itself is kept, so it holds no non-empty container, and `expand_all` keeps it too
    have hl := hno l (mem_specLine.mpr (Or.inl ⟨h, rfl⟩))
    rw [specLine_of_not_expands h, specLine_of_not_expands (Bool.eq_false_iff.mpr fun h' =>
      Bool.false_ne_true (hl.symm.trans (Line.expandable_iff.mpr ⟨n, hn, (hiff'.mp h').1⟩)))]

/-- A kept container line fits the width: at a width `≤ 0`, with one-line forms of non-zero width, none is kept. -/
theorem specLine_nonpos (c : Cfg) (hw : c.w ≤ 0) (n : Node) (l : Line) (hn : l.node = some n) (hex : l.expanded = false)
    (hpos : ∀ l' ∈ specLine c l n, ∀ m, l'.node = some m → m.expandable = true → 0 < cellLen c.cw m.str) :
    specLine c l n = specLine { c with ea := true } l n := by
  refine specLine_eq_expandAll c n l hn fun l' hl' => Bool.eq_false_iff.mpr fun he => ?_
  obtain ⟨m, hm, hme⟩ := Line.expandable_iff.mp he
  have hfit := (specLine_kept_fits c n l hn hex l' hl' he).2
  have := hpos l' hl' m hm hme
  simp only [Line.cells, hm] at hfit
  omega

theorem specKids_kept_fits (c : Cfg) :
    ∀ (ch : List Node) (ws : Str) (one : Bool), ∀ l' ∈ specKids c ws one ch, ∀ n', l'.node = some n' →
      n'.expandable = true → c.ea = false ∧ l'.checkLength c.cw n' c.w = true := by
  intro ch ws one l' hl' n' hn' he'
  obtain ⟨x, _, hl'⟩ := mem_specKids.mp hl'
  obtain ⟨h1, h2⟩ := specLine_kept_fits c x _ rfl rfl l' hl' (Line.expandable_iff.mpr ⟨n', hn', he'⟩)
  exact ⟨h1, (Line.checkLength_iff c.cw c.w hn' (Bool.and_eq_true_iff.mp he').1).mpr h2⟩

theorem replicate_indent (ws : Str) (k d : Nat) :
    ws ++ List.replicate k ' ' ++ List.replicate (d * k) ' ' = ws ++ List.replicate ((d + 1) * k) ' ' := by
  rw [List.append_assoc, List.replicate_append_replicate, Nat.add_comm, Nat.succ_mul]

theorem specLine_indent (c : Cfg) (n : Node) :
    ∀ (l : Line), ∀ l' ∈ specLine c l n,
      ∃ d, l'.whitespace = l.whitespace ++ List.replicate (d * c.ind.toNat) ' ' := by
  induction n using Node.induct with | _ n ih =>
  intro l l' hl'
  rcases mem_specLine.mp hl' with ⟨_, rfl⟩ | ⟨_, rfl | ⟨x, hx, hl'⟩ | rfl⟩
  · exact ⟨0, by simp⟩
  · exact ⟨0, by simp [Line.expandHead_whitespace]⟩
  · obtain ⟨d, hd⟩ := ih x hx _ l' hl'
    exact ⟨d + 1, hd.trans (replicate_indent _ _ d)⟩
  · exact ⟨0, by simp [Line.expandClose]⟩

theorem specKids_indent (c : Cfg) :
    ∀ (ch : List Node) (ws : Str) (one : Bool), ∀ l' ∈ specKids c ws one ch,
      ∃ d, l'.whitespace = ws ++ List.replicate (d * c.ind.toNat) ' ' := by
  intro ch ws one l' hl'
  obtain ⟨x, _, hl'⟩ := mem_specKids.mp hl'
  exact specLine_indent c x _ l' hl'

/-- the loop as an iteration with an explicit step budget. -/
def renderLoopFuel (cw : Char → Nat) (v : Variant) (maxWidth indentSize : Int) (expandAll : Bool) :
    Nat → List Line → List Line → Option (List Line)
  | 0, _, _ => none
  | _ + 1, [], done => some done.reverse
  | f + 1, l :: rest, done =>
    match l.expandNode with
    | some n =>
      if mustExpand cw maxWidth expandAll l n then
        renderLoopFuel cw v maxWidth indentSize expandAll f (l.expandTail v n indentSize ++ rest) (l.expandHead n :: done)
      else renderLoopFuel cw v maxWidth indentSize expandAll f rest (l :: done)
    | none => renderLoopFuel cw v maxWidth indentSize expandAll f rest (l :: done)

theorem Line.weight_pos (l : Line) : 0 < l.weight := by
  unfold Line.weight
  cases l.node with
  | none => exact Nat.one_pos
  | some n => exact Nat.lt_add_right _ Nat.one_pos

theorem todoWeight_tail_lt {l : Line} {rest : List Line} {fuel : Nat} (h : todoWeight (l :: rest) < fuel + 1) :
    todoWeight rest < fuel :=
  Nat.lt_of_lt_of_le (Nat.lt_add_of_pos_left l.weight_pos) (Nat.le_of_lt_succ h)

/-- a budget above the weight of the pending lines is never used up: each step of the loop lowers that weight. -/
theorem renderLoopFuel_eq (cw : Char → Nat) (v : Variant) (w ind : Int) (ea : Bool) (todo done : List Line) :
    ∀ fuel, todoWeight todo < fuel →
      renderLoopFuel cw v w ind ea fuel todo done = some (renderLoop cw v w ind ea todo done) := by
  fun_induction renderLoop cw v w ind ea todo done with
  | case1 done =>
    intro fuel hf
    obtain ⟨f, rfl⟩ := Nat.exists_eq_add_one_of_ne_zero (Nat.ne_zero_of_lt hf)
    rfl
  | case2 l rest done n h hm ih =>
    intro fuel hf
    obtain ⟨f, rfl⟩ := Nat.exists_eq_add_one_of_ne_zero (Nat.ne_zero_of_lt hf)
    simp only [renderLoopFuel, h, hm, if_true]
    apply ih
    rw [todoWeight_append, todoWeight_expandTail]
    simp only [todoWeight, Line.weight, expandNode_some h] at hf
    omega
  | case3 l rest done n h hm ih =>
    intro fuel hf
    obtain ⟨f, rfl⟩ := Nat.exists_eq_add_one_of_ne_zero (Nat.ne_zero_of_lt hf)
    simp only [renderLoopFuel, h, hm]
    exact ih f (todoWeight_tail_lt hf)
  | case4 l rest done h ih =>
    intro fuel hf
    obtain ⟨f, rfl⟩ := Nat.exists_eq_add_one_of_ne_zero (Nat.ne_zero_of_lt hf)
    simp only [renderLoopFuel, h]
    exact ih f (todoWeight_tail_lt hf)
end RichModel.Pretty
