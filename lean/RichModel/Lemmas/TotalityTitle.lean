import RichModel.Model.TotalityTitle
import RichModel.Lemmas.Except
import RichModel.Lemmas.FramesTitleRule
import RichModel.Lemmas.TextPad
/-!
Lemmas for C14: `expand_tabs()` without argument on a user `Text` (Rule / Panel title, `with_indent_guides`)
is total for the repaired variant, for every documented `tab_size` (`None` or an int ≥ 1).
-/
namespace RichModel
namespace Totality
open RichModel.Text

variable {σ : Type}

/-- a documented `tab_size` option: `None`, or a number of spaces ≥ 1 -/
def TabOk (t : Text σ) : Prop := ∀ n, t.tabSize = some n → 0 < n

theorem TabOk.of_tabSize_eq {t u : Text σ} (ht : TabOk t) (h : u.tabSize = t.tabSize) : TabOk u :=
  fun n hn => ht n (h ▸ hn)

theorem noCtl_nlToSpace (s : List Char) (h : NoCtl s) : NoCtl (nlToSpace s) :=
  (Frames.replaceNl_spec s h).1

theorem TabOk.getD_pos {t : Text σ} (h : TabOk t) : 0 < t.tabSize.getD 8 := by
  cases hts : t.tabSize with
  | none => decide
  | some n => exact h n hts

/-- the repaired `expand_tabs()` is C05's `expand_tabs(tab_size or 8)` -/
theorem expandTabsV_total [BEq σ] (t : Text σ) (hi : Inv t) (ht : TabOk t) :
    (expandTabsV false Variant.repaired t none).Returns Inv :=
  .mono (expandTabs_view t hi (some (t.tabSize.getD 8)) _ ht.getD_pos rfl) fun _ hq => hq.1

/-- the code as found is C05's `expandTabs` (the model C08's titles use) -/
theorem expandTabsV_found [BEq σ] (v : Variant) (t : Text σ) (ts : Option Nat) :
    expandTabsV true v t ts = t.expandTabs v ts := rfl

end Totality
end RichModel
