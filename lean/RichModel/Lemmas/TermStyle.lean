import RichModel.Model.TermStyle
/-! Replaying a stream and replaying its style-free normal form give the same screen (rows, cursor, visibility). -/
namespace RichModel.Screen
open RichModel

theorem writeAt_writeAt (col : Nat) (a b r : List Char) :
    writeAt (col + a.length) b (writeAt col a r) = writeAt col (a ++ b) r := by
  -- after the first write the row is `A ++ a ++ rest` with `A.length = col`: the second write needs no padding, and its
  -- `take` / `drop` split that row at the seam behind `a`
  unfold writeAt
  generalize hA : (r ++ List.replicate (col - r.length) ' ').take col = A
  have hlen : (A ++ a).length = col + a.length := by
    rw [← hA, List.length_append, List.length_take, List.length_append, List.length_replicate]; omega
  have hpad : col + a.length - (A ++ a ++ List.drop (col + a.length) r).length = 0 :=
    Nat.sub_eq_zero_of_le (by rw [List.length_append, hlen]; exact Nat.le_add_right _ _)
  rw [hpad, List.replicate_zero, List.append_nil, List.take_left' hlen, ← List.drop_drop, List.drop_left' hlen,
    List.drop_drop, List.length_append, Nat.add_assoc, List.append_assoc, List.append_assoc, List.append_assoc, List.append_assoc]

theorem step_text_text (H : Nat) (s : Screen) (a b : List Char) :
    step H (step H s (.text a)) (.text b) = step H s (.text (a ++ b)) := by
  simp only [step]
  by_cases h : s.row < s.rows.length
  · simp [List.getD_eq_getElem?_getD, h, writeAt_writeAt, Nat.add_assoc]
  · have : s.rows.length ≤ s.row := by omega
    simp [List.set_eq_of_length_le this, Nat.add_assoc]

theorem replay_consText (H : Nat) (s : Screen) (a : List Char) (r : List TermOp) :
    replay H s (consText a r) = replay H s (.text a :: r) := by
  cases r with
  | nil => rfl
  | cons o more => cases o <;> simp [consText, replay, step_text_text]

theorem replay_plainOps (H : Nat) (ops : List TermOp) : ∀ s : Screen,
    replay H s (plainOps ops) = replay H s ops := by
  induction ops with
  | nil => intro s; rfl
  | cons o rest ih =>
    intro s
    cases o with
    | text a => rw [plainOps, replay_consText]; simpa [replay] using ih _
    | sgr ps => simpa [plainOps, replay, step] using ih s
    | osc8 u => simpa [plainOps, replay, step] using ih s
    | _ => simpa [plainOps, replay] using ih _

theorem replay_eq_of_plainOps_eq (H : Nat) (s : Screen) (o1 o2 : List TermOp) (h : plainOps o1 = plainOps o2) :
    replay H s o1 = replay H s o2 := by
  rw [← replay_plainOps, h, replay_plainOps]

end RichModel.Screen
