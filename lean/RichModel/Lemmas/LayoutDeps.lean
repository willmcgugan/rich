import RichModel.Lemmas.Cells
import RichModel.Lemmas.Segment
import RichModel.Lemmas.Ratio
import RichModel.Lemmas.TableRender
import RichModel.Lemmas.TableWidths
import RichModel.Lemmas.Collapse
import RichModel.Lemmas.TableGeneral
import RichModel.Gen.CellWidths
import RichModel.Gen.TableBoxes
/-!
The width function at the generated cell-width table (`cwD`) and what the `Layout*.lean` lemma files and `Props/C07.lean` need of the
table library at it, proved from the lemma modules only (`Lemmas/Table*.lean`, `Lemmas/Collapse.lean`) and the generated tables
(`Gen.cellWidths`, `Gen.tableBoxes`; the finite facts about them in one kernel evaluation, `Dep.tables_ok`) — so that no `Layout*.lean`
file imports a property file.  The statements are the same as, or where noted a variant of, the facts of the same names in
`Props/C07.lean` (`cwD` is, by definition, the width function `cw` of that file).  The frames' half is Lemmas/LayoutDepsFrames.lean.
-/
namespace RichModel.Layout
open RichModel

/-- `get_character_cell_size` at the table translated from `rich/_cell_widths.py` on this run. -/
def cwD : Char → Nat := charWidthT Gen.cellWidths

theorem cwD_le_two (c : Char) : cwD c ≤ 2 := charWidthT_cellWidths_le_two c

theorem cwD_space : cwD ' ' = 1 := by decide

namespace Dep

/-- Executable form of "every box literal of rich/box.py is 8 lines of 4 characters, each one cell wide". -/
def boxesOk : Bool :=
  Gen.tableBoxes.all (fun e => match RichModel.Box.ofLines? e.2.2 with
    | some b => decide (b.wf cwD)
    | none => false)

/-- The finite facts about the generated tables `Gen.cellWidths` and `Gen.tableBoxes` in one kernel evaluation: the binary searches of
all these characters probe the same few rows of the width table. -/
theorem tables_ok : (cwD '\n' = 0 ∧ cwD '…' = 1) ∧ boxesOk = true := by decide +kernel

end Dep

theorem cwD_nl : cwD '\n' = 0 := Dep.tables_ok.1.1
theorem cwD_ellipsis : cwD '…' = 1 := Dep.tables_ok.1.2

namespace Dep

theorem boxes_wellformed : boxesOk = true := tables_ok.2

/-- every box constant of rich/box.py parses into a box all of whose characters occupy exactly one cell -/
theorem boxes_all_wf : ∀ e ∈ Gen.tableBoxes, ∃ b, RichModel.Box.ofLines? e.2.2 = some b ∧ b.wf cwD := by
  intro e he
  have h := boxes_wellformed
  unfold boxesOk at h
  rw [List.all_eq_true] at h
  have := h e he
  split at this
  · rename_i b hb; exact ⟨b, hb, of_decide_eq_true this⟩
  · cases this

/-- With at least one column the rectangle's width is `_extra_width` plus the column widths. -/
theorem bodyWidth_eq (t : Table) (widths : List Nat) (hlen : widths.length = t.columns.length) (hne : t.columns ≠ []) :
    (t.bodyWidth widths : Int) = t.extraWidth + (widths.sum : Int) :=
  RichModel.bodyWidth_eq t widths hlen hne

/-- every line of the rendered table body has the same cell width (`leading` repaired) -/
theorem table_rect (fl : Flags) (hfl : fl.leadingRepeat = false) (t : Table) (hwf : ∀ b, t.box = some b → b.wf cwD)
    (widths : List Nat) (hlen : widths.length = t.columns.length) :
    ∀ l ∈ t.renderBody fl cwD widths, cellLen cwD l.text = t.bodyWidth widths :=
  fun l hl => (renderBody_onceWide cwD cwD_space cwD_le_two fl hfl t hwf widths hlen l hl).text_width

theorem collapse_widths_keep (widths : List Int) (wrapable : List Bool) (maxWidth : Int)
    (hlen : widths.length = wrapable.length) (hall : ∀ b ∈ wrapable, b = true) (h1 : ∀ w ∈ widths, 1 ≤ w)
    (hmw : (widths.length : Int) ≤ maxWidth) : ∀ w ∈ collapseWidths widths wrapable maxWidth, 1 ≤ w :=
  collapseWidths_keep widths wrapable maxWidth hlen hall h1 hmw

/-- **width_fits** (no active ratio column): `_calculate_column_widths` succeeds, gives every column at least one cell, and
the table is never wider than the width on offer. -/
theorem width_fits (fl : Flags) (t : Table) (maxWidth : Int) (hnr : t.NoRatio) (hfree : t.AllFree)
    (hne : t.columns ≠ []) (hnw : ∀ c ∈ t.columns, c.noWrap = false) (hmw : (t.columns.length : Int) ≤ maxWidth) :
    ∃ ws, t.calcWidths fl maxWidth = some ws ∧ ws.sum ≤ maxWidth ∧ ws.length = t.columns.length ∧ ∀ w ∈ ws, 1 ≤ w :=
  calcWidths_free_fits fl t maxWidth (firstWidths_free fl t hnr hfree maxWidth) hfree hne hnw hmw

/-- Variant of `width_fits_of_keep` of `Props/C07.lean`: `width_fits` (so `NoRatio` in place of a given first pass) with the "collapse
keeps one cell per column" fact as an extra hypothesis, which is not used (it always holds: `collapse_widths_keep`). -/
theorem width_fits_of_keep (fl : Flags) (t : Table) (maxWidth : Int) (hnr : t.NoRatio) (hfree : t.AllFree)
    (hne : t.columns ≠ []) (hnw : ∀ c ∈ t.columns, c.noWrap = false) (hmw : (t.columns.length : Int) ≤ maxWidth)
    (hkeep : ∀ ws0, t.firstWidths fl maxWidth = some ws0 → ∀ w ∈ collapseWidths ws0 t.wrapable maxWidth, 1 ≤ w) :
    ∃ ws, t.calcWidths fl maxWidth = some ws ∧ ws.sum ≤ maxWidth ∧ ws.length = t.columns.length ∧ ∀ w ∈ ws, 1 ≤ w :=
  have _ := hkeep
  width_fits fl t maxWidth hnr hfree hne hnw hmw

/-- A text-like cell oracle: natural width `|s|`, one line padded (or cut) to the width offered. -/
def wCell (s : List Char) : Cell :=
  { measure := fun w => ⟨min s.length w, min s.length w⟩, renderLines := fun w => [(s ++ List.replicate (w - s.length) ' ').take w] }

/-- an expanding grid with a ratio column next to a column that measures 0 -/
def wTableRatio : Table :=
  { columns := [{ header := wCell [], footer := wCell [], cells := [wCell ['a', 'b', 'c']], ratio := some 1 },
                { header := wCell [], footer := wCell [], cells := [wCell []] }],
    rowEndSection := [false], box := none, showHeader := false, expandFlag := true, padding := (0, 0, 0, 0) }

theorem floorSum_nonneg (t : Table) : 0 ≤ t.floorSum := RichModel.floorSum_nonneg t

/-- **The structural minimum, and the exact bound, for ARBITRARY columns** (`width_bound_general` of `Props/C07.lean`).
Let `ws0` be the first-pass widths (every column at least one cell).  If `max_width` is at least
`Σ ws0 over the columns that may not shrink + 1 per column that may` (`nonWrapSum + wrapCount`): `_calculate_column_widths`
succeeds, gives every column at least one cell, and the table is at most `max_width + floorSum` wide. -/
theorem width_bound_general (fl : Flags) (t : Table) (maxWidth : Int) (hsane : t.Sane) (hne : t.columns ≠ [])
    (ws0 : List Int) (h0 : t.firstWidths fl maxWidth = some ws0) (hl : ws0.length = t.columns.length) (hp : ∀ w ∈ ws0, 1 ≤ w)
    (hbudget : nonWrapSum (ws0.zip t.wrapable) + wrapCount (ws0.zip t.wrapable) ≤ maxWidth) :
    ∃ ws, t.calcWidths fl maxWidth = some ws ∧ ws.sum ≤ maxWidth + t.floorSum ∧ ws.length = t.columns.length ∧ ∀ w ∈ ws, 1 ≤ w :=
  let ⟨ws, h1, h2, h3, h4, _⟩ := calcWidths_budget fl t maxWidth hsane.measures hne ws0 ⟨h0, hl, hp⟩ hbudget
  ⟨ws, h1, h2, h3, h4⟩

end Dep
end RichModel.Layout
