import RichModel.Lemmas.Conc
/-!
What a step of `Model/Conc.lean` does.  `Eff` lists, class by class, the effects an executed action of a thread that passes
the static check `Sim` can have, and `exec_eff` is the walk over the actions of `exec` that shows it; the invariants of
`ConcInv`, `ConcOut`, `ConcCount`, `ConcRecord` are kept by every step because they are kept by every class they care about.
(`ConcStable` walks over `exec` a second time, for its own check `SimS`: see `execS` there.)
-/
namespace RichModel.Conc
open RichModel
open RichModel.Live (Line Frame)

theorem exec_acq (cfg : Cfg) (t : Nat) (sh : Shared) (l : Local) (lk : Lock) :
    exec cfg t sh l (.acq lk) =
      if sh.owner lk = none ∨ sh.owner lk = some t then
        some ({ sh with owner := updLock sh.owner lk (some t) }, { l with held := lk :: l.held })
      else none := by
  rw [exec]
  cases h : sh.owner lk with
  | none => simp
  | some u => by_cases hu : u = t <;> simp [hu]

/-- What one executed action of a thread whose code passes the static check does: to the shared state `sh`, and to the
thread's own state `l` (its continuation already without the action).  Every action falls in one class; the
hypotheses of a class are those of the checks of `Sim` in front of its actions that an invariant rests on (the rank
order of the locks is read off `Sim` directly: `sim_acq`). -/
inductive Eff (cfg : Cfg) (t : Nat) (sh : Shared) (l : Local) : Act → Shared → Local → Prop
  /-- `enter`, `exitDec`, `capBegin`, `readHooks`, `readRenderable`, and the early exit of `guardStarted` / `advance`:
  control state of the thread only -/
  | ctrl {act : Act} {d : Nat} {m : List Nat} {hk : Bool} {rc : Frame} {rs : Bool} {c : List GAct}
      (hc : c = l.cont ∨ c = [ga (.rel .live)]) :
      Eff cfg t sh l act sh { l with depth := d, marks := m, hooked := hk, rcopy := rc, raised := rs, cont := c }
  /-- `setRenderable`, `tableRender`, `pushHook`, `popHook`, `setStarted`, `guardStarted`, `saveOverflow`, `resetShape`,
  `advance`, `flushProxies`: the display only -/
  | disp {act : Act} {shape : Option (Nat × Nat)} {rend : Frame} {ov ov0 : Live.Overflow} {hooks : Nat} {started : Bool}
      {tasks : List Live.Task} :
      Eff cfg t sh l act { sh with shape := shape, renderable := rend, overflow := ov, overflow0 := ov0, hooks := hooks,
                                   started := started, tasks := tasks } l
  | acq (lk : Lock) (free : sh.owner lk = none ∨ sh.owner lk = some t) :
      Eff cfg t sh l (.acq lk) { sh with owner := updLock sh.owner lk (some t) } { l with held := lk :: l.held }
  | rel (lk : Lock) (hm : lk ∈ l.held) (hc : lk = .console → l.recDone = false) (hx : lk = .record → l.xread = false) :
      Eff cfg t sh l (.rel lk) { sh with owner := if lk ∈ l.held.erase lk then sh.owner else updLock sh.owner lk none }
        { l with held := l.held.erase lk }
  /-- `hookPos`, `pushUser`, `pushCtl`, `restorePush`, `renderFrame` (which also records the shape of its frame) -/
  | push {act : Act} (b : Body) (shape : Option (Nat × Nat)) (hd : l.recDone = false) :
      Eff cfg t sh l act { sh with shape := shape } (l.push t b)
  | recAppend (hc : Lock.console ∈ l.held) (hr : Lock.record ∈ l.held) (hd : l.recDone = false) (hx : l.xread = false) :
      Eff cfg t sh l .recAppend { sh with record := sh.record ++ l.buffer } { l with recDone := true }
  | write (hc : Lock.console ∈ l.held) (hd : cfg.record = true → l.recDone = true) :
      Eff cfg t sh l .write
        { sh with file := sh.file ++ if l.buffer.any nonEmpty then [⟨t, l.nops - 1, l.buffer⟩] else [] }
        { l with buffer := [], recDone := false, dirty := false }
  | capEnd (hd : l.recDone = false) :
      Eff cfg t sh l .capEnd sh
        { l with captured := l.captured ++ [l.buffer.drop (l.marks.headD 0)], buffer := l.buffer.take (l.marks.headD 0),
                 marks := l.marks.tail }
  | exportRead (hr : Lock.record ∈ l.held) :
      Eff cfg t sh l .exportRead sh { l with xcopy := sh.record, xread := true }
  | exportEnd (c : Bool) (hr : Lock.record ∈ l.held) (hx : l.xread = true) :
      Eff cfg t sh l (.exportEnd c)
        { sh with record := if c then [] else sh.record, exports := if c then sh.exports ++ [(t, l.xcopy)] else sh.exports }
        { l with results := l.results ++ [l.xcopy], xread := false }

/-- Soundness of the static check. -/
theorem exec_eff {cfg : Cfg} {t : Nat} {sh : Shared} {l : Local} {g : Guard} {act : Act} {r : List GAct}
    (hs : Sim cfg (⟨g, act⟩ :: r) l.abs = true) (hg : guardOn cfg l.depth l.hooked g = true) :
    (∃ lk u, act = .acq lk ∧ sh.owner lk = some u ∧ u ≠ t ∧ exec cfg t sh { l with cont := r } act = none) ∨
    ∃ sh' l', exec cfg t sh { l with cont := r } act = some (sh', l') ∧ Sim cfg l'.cont l'.abs = true ∧
      Eff cfg t sh { l with cont := r } act sh' l' := by
  have hg' : guardOn cfg l.abs.depth l.abs.hooked g = true := hg
  cases act
  case readHooks =>
    simp only [Sim, hg', if_true, Bool.and_eq_true] at hs
    refine .inr ⟨_, _, rfl, ?_, .ctrl (.inl rfl)⟩
    show Sim cfg r ⟨l.held, l.depth, decide (0 < sh.hooks), l.recDone, l.dirty, l.xread⟩ = true
    cases decide (0 < sh.hooks)
    · exact hs.2
    · exact hs.1
  case guardStarted want =>
    simp only [Sim, hg', if_true] at hs
    rw [Bool.and_eq_true] at hs
    dsimp only [exec]
    by_cases h : sh.started = want
    · rw [if_pos h]; exact .inr ⟨_, _, rfl, hs.1, .disp⟩
    · rw [if_neg h]; exact .inr ⟨_, _, rfl, sim_exit (a := l.abs) hs.2, .ctrl (.inr rfl)⟩
  case advance id n =>
    simp only [Sim, hg', if_true] at hs
    rw [Bool.and_eq_true] at hs
    dsimp only [exec]
    cases Live.findTask sh.tasks id with
    | some tk => exact .inr ⟨_, _, rfl, hs.1, .disp⟩
    | none => exact .inr ⟨_, _, rfl, sim_exit (a := l.abs) hs.2, .ctrl (.inr rfl)⟩
  all_goals
    obtain ⟨a', ha, hsim⟩ := sim_generic rfl hg' hs
    simp only [absAct, Option.ite_none_right_eq_some, Option.ite_none_left_eq_some, Option.some.injEq, List.all_eq_true,
      decide_eq_true_eq, Bool.not_eq_true] at ha
  case acq lk =>
    obtain ⟨-, rfl⟩ := ha
    rw [exec_acq]
    by_cases hfree : sh.owner lk = none ∨ sh.owner lk = some t
    · rw [if_pos hfree]
      exact .inr ⟨_, _, rfl, hsim, .acq lk hfree⟩
    · rw [if_neg hfree]
      cases ho : sh.owner lk with
      | none => exact absurd (.inl ho) hfree
      | some u => exact .inl ⟨lk, u, rfl, ho, fun e => hfree (.inr (e ▸ ho)), rfl⟩
  all_goals dsimp only [exec]
  case rel lk =>
    obtain ⟨hc, rfl⟩ := ha
    rw [if_pos (show lk ∈ l.held from hc.1)]
    exact .inr ⟨_, _, rfl, hsim, .rel lk hc.1 hc.2.1 hc.2.2⟩
  case exitDec =>
    obtain ⟨hd, rfl⟩ := ha
    rw [if_neg (show ¬ l.depth = 0 from hd)]
    exact .inr ⟨_, _, rfl, hsim, .ctrl (.inl rfl)⟩
  case hookPos | pushUser | pushCtl | restorePush =>
    obtain ⟨hd, rfl⟩ := ha
    exact .inr ⟨_, _, rfl, hsim, .push _ _ hd⟩
  case renderFrame =>
    obtain ⟨hd, rfl⟩ := ha
    cases cfg.kind <;> exact .inr ⟨_, _, rfl, hsim, .push _ _ hd⟩
  case recAppend =>
    obtain ⟨hc, rfl⟩ := ha
    exact .inr ⟨_, _, rfl, hsim, .recAppend hc.1 hc.2.1 hc.2.2.1 hc.2.2.2⟩
  case write =>
    obtain ⟨hc, rfl⟩ := ha
    refine .inr ⟨_, _, rfl, hsim, ?_⟩
    have := Eff.write (cfg := cfg) (t := t) (sh := sh) (l := { l with cont := r }) hc.1 hc.2
    by_cases hany : l.buffer.any nonEmpty = true
    · simpa only [if_pos hany] using this
    · simpa only [if_neg hany, List.append_nil] using this
  case capEnd =>
    obtain ⟨hd, rfl⟩ := ha
    exact .inr ⟨_, _, rfl, hsim, .capEnd hd⟩
  case exportRead =>
    obtain ⟨hc, rfl⟩ := ha
    exact .inr ⟨_, _, rfl, hsim, .exportRead hc.1⟩
  case exportEnd c =>
    obtain ⟨hc, rfl⟩ := ha
    exact .inr ⟨_, _, rfl, hsim, .exportEnd c hc.1 hc.2⟩
  case enter | capBegin | readRenderable =>
    cases ha
    exact .inr ⟨_, _, rfl, hsim, .ctrl (.inl rfl)⟩
  all_goals
    cases ha
    exact .inr ⟨_, _, rfl, hsim, .disp⟩

theorem upd_same {α : Type} (f : Nat → α) (t : Nat) (v : α) : upd f t v t = v := by simp [upd]
theorem upd_other {α : Type} (f : Nat → α) {t u : Nat} (v : α) (h : u ≠ t) : upd f t v u = f u := by simp [upd, h]

theorem stepT_nil {cfg : Cfg} {s : State} {t : Nat} (hc : (s.th t).cont = []) :
    stepT cfg s t = match (s.th t).prog with
      | [] => none
      | op :: rest => some { s with th := upd s.th t { s.th t with prog := rest, cont := code cfg op, nops := (s.th t).nops + 1 } } := by
  simp only [stepT, hc]
  cases (s.th t).prog <;> rfl

theorem stepT_cons {cfg : Cfg} {s : State} {t : Nat} {g : GAct} {r : List GAct} (hc : (s.th t).cont = g :: r) :
    stepT cfg s t =
      if guardOn cfg (s.th t).depth (s.th t).hooked g.g then
        (exec cfg t s.sh { s.th t with cont := r } g.a).map (fun x => { sh := x.1, th := upd s.th t x.2 })
      else some { s with th := upd s.th t { s.th t with cont := r } } := by
  simp only [stepT, hc]

/-- The three ways in which `stepT cfg s t` answers `some`; `sh'` is the shared state and `l'` the state of thread `t`
afterwards. -/
inductive StepT (cfg : Cfg) (s : State) (t : Nat) : Shared → Local → Prop
  | load (op : Op) (rest : List Op) (hc : (s.th t).cont = []) (hp : (s.th t).prog = op :: rest) :
      StepT cfg s t s.sh { s.th t with prog := rest, cont := code cfg op, nops := (s.th t).nops + 1 }
  | skip (g : Guard) (act : Act) (r : List GAct) (hc : (s.th t).cont = ⟨g, act⟩ :: r)
      (hg : guardOn cfg (s.th t).depth (s.th t).hooked g = false) : StepT cfg s t s.sh { s.th t with cont := r }
  | exec (g : Guard) (act : Act) (r : List GAct) {sh' : Shared} {l' : Local} (hc : (s.th t).cont = ⟨g, act⟩ :: r)
      (hg : guardOn cfg (s.th t).depth (s.th t).hooked g = true)
      (he : Conc.exec cfg t s.sh { s.th t with cont := r } act = some (sh', l')) : StepT cfg s t sh' l'

theorem stepT_some {cfg : Cfg} {s s' : State} {t : Nat} (h : stepT cfg s t = some s') :
    ∃ sh' l', s' = ⟨sh', upd s.th t l'⟩ ∧ StepT cfg s t sh' l' := by
  cases hc : (s.th t).cont with
  | nil =>
    rw [stepT_nil hc] at h
    split at h
    · nomatch h
    · rename_i op rest hp
      cases h
      exact ⟨_, _, rfl, .load op rest hc hp⟩
  | cons g r =>
    obtain ⟨g, act⟩ := g
    rw [stepT_cons hc] at h
    split at h
    · rename_i hg
      obtain ⟨⟨sh', l'⟩, he, rfl⟩ := Option.map_eq_some_iff.mp h
      exact ⟨sh', l', rfl, .exec g act r hc hg he⟩
    · rename_i hg
      cases h
      exact ⟨_, _, rfl, .skip g act r hc (by simpa using hg)⟩

theorem stepT_none {cfg : Cfg} {s : State} {t : Nat} (h : stepT cfg s t = none) :
    (s.th t).done = true ∨ ∃ g act r, (s.th t).cont = ⟨g, act⟩ :: r ∧
      guardOn cfg (s.th t).depth (s.th t).hooked g = true ∧ exec cfg t s.sh { s.th t with cont := r } act = none := by
  cases hc : (s.th t).cont with
  | nil =>
    rw [stepT_nil hc] at h
    split at h
    · next hp => exact .inl (by simp [Local.done, hc, hp])
    · nomatch h
  | cons g r =>
    obtain ⟨g, act⟩ := g
    rw [stepT_cons hc] at h
    split at h
    · next hg => exact .inr ⟨g, act, r, rfl, hg, Option.map_eq_none_iff.mp h⟩
    · nomatch h

theorem run_induction {cfg : Cfg} {P : State → Prop} (hstep : ∀ {s s' t}, P s → stepT cfg s t = some s' → P s')
    (sched : List Nat) : ∀ {s : State}, P s → P (run cfg s sched) := by
  induction sched with
  | nil => exact id
  | cons t rest ih =>
    intro s h
    rw [run, List.foldl_cons]
    cases hs : stepT cfg s t with
    | none => exact ih h
    | some s' => exact ih (hstep h hs)

end RichModel.Conc
