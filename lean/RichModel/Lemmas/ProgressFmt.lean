import RichModel.Model.ProgressFmt
/-!
Lemmas about `Model/ProgressFmt.lean`: the two unit-selection loops of rich/filesize.py, and that
`str(timedelta)` never prints `-:--:--`.
-/
namespace RichModel.ProgressFmt

/-- what the `pick_unit_and_suffix` loop, entered at suffix index `i` with `last` the index of the last suffix,
returns as `r = (unit, index)`: `c` is the offset between the suffix index and the exponent of the unit (0 here, 1 in
`_to_str`); the lower bound is missing for the first suffix, the upper bound for the last -/
structure PickOk (size base : Int) (c i last : Nat) (r : Int × Nat) : Prop where
  unit_eq : r.1 = base ^ (r.2 + c)
  idx_ge : i ≤ r.2
  idx_le : r.2 ≤ last
  low : r.2 = i ∨ r.1 ≤ size
  up : r.2 = last ∨ size < r.1 * base

theorem pickFrom_spec (size base : Int) (c : Nat) : ∀ (rem i : Nat) (unit : Int), unit = base ^ (i + c) →
    PickOk size base c i (rem + i) (pickFrom size base rem i unit) := by
  intro rem
  induction rem with
  | zero => intro i unit hu; exact ⟨hu, Nat.le_refl _, Nat.le_add_left _ _, Or.inl rfl, Or.inl (Nat.zero_add i).symm⟩
  | succ rem ih =>
    intro i unit hu
    simp only [pickFrom]
    split
    · next h => exact ⟨hu, Nat.le_refl _, Nat.le_add_left _ _, Or.inl rfl, Or.inr h⟩
    · next h =>
      have hu' : unit * base = base ^ (i + 1 + c) := by rw [hu, Nat.add_right_comm, Int.pow_succ]
      have := ih (i + 1) (unit * base) hu'
      refine ⟨this.unit_eq, by have := this.idx_ge; omega, by have := this.idx_le; omega, Or.inr ?_,
        by have := this.up; omega⟩
      rcases this.low with h2 | h2
      · rw [this.unit_eq, h2, ← hu']; exact Int.not_lt.mp h
      · exact h2

/-- the loop of `_to_str` is the loop of `pick_unit_and_suffix` one power of the base further on -/
theorem toStrFrom_eq_pickFrom (size base : Int) : ∀ (rem j : Nat) (unit : Int),
    toStrFrom size base rem j (unit * base) =
      ((pickFrom size base rem j unit).1 * base, (pickFrom size base rem j unit).2) := by
  intro rem
  induction rem with
  | zero => intro j unit; rfl
  | succ rem ih =>
    intro j unit
    simp only [toStrFrom, pickFrom]
    split
    · rfl
    · exact ih _ _

theorem pow_mono_of_one_le {base : Int} (hb : 1 ≤ base) {a b : Nat} (h : a ≤ b) : base ^ a ≤ base ^ b := by
  induction h with
  | refl => exact Int.le_refl _
  | @step m _ ih =>
    have := Int.mul_le_mul_of_nonneg_left hb (Int.le_of_lt (Int.pow_pos (m := m) (show 0 < base by omega)))
    rw [Int.mul_one] at this
    rw [Int.pow_succ]; exact Int.le_trans ih this

/-- for a base ≥ 1 the specification determines the index: of two answers the one with the smaller index has
its upper bound, the other its lower bound, `size < base^(a+c+1) ≤ base^(b+c) ≤ size` -/
theorem PickOk.index_unique {size base : Int} (hb : 1 ≤ base) {c i last : Nat} {r r' : Int × Nat}
    (h : PickOk size base c i last r) (h' : PickOk size base c i last r') : r.2 = r'.2 := by
  have key : ∀ {a b : Int × Nat}, PickOk size base c i last a → PickOk size base c i last b → ¬ a.2 < b.2 := by
    intro a b ha hb' hlt
    have h3 := pow_mono_of_one_le hb (show a.2 + c + 1 ≤ b.2 + c by omega)
    rw [Int.pow_succ, ← ha.unit_eq, ← hb'.unit_eq] at h3
    have := ha.up; have := hb'.low; have := ha.idx_ge; have := hb'.idx_le
    omega
  exact Nat.le_antisymm (Nat.not_lt.mp (key h' h)) (Nat.not_lt.mp (key h h'))

theorem digitChar_ne_dash (d : Nat) : digitChar d ≠ '-' ∧ digitChar d ≠ ':' := by
  have h : ∀ k, k < 10 → Char.ofNat (48 + k) ≠ '-' ∧ Char.ofNat (48 + k) ≠ ':' := by decide
  exact h (d % 10) (Nat.mod_lt _ (by omega))

theorem natDigitsAux_head (fuel n : Nat) (acc : List Char) (h : 0 < fuel ∨ ∃ d r, acc = digitChar d :: r) :
    ∃ d r, natDigitsAux fuel n acc = digitChar d :: r := by
  induction fuel generalizing n acc with
  | zero => exact h.resolve_left (Nat.lt_irrefl 0)
  | succ fuel ih =>
    simp only [natDigitsAux]
    split
    · exact ⟨n, acc, rfl⟩
    · exact ih _ _ (Or.inr ⟨_, _, rfl⟩)

theorem natDigitsAux_ne_nil : ∀ (fuel n : Nat) (acc : List Char), acc ≠ [] ∨ 0 < fuel → natDigitsAux fuel n acc ≠ [] := by
  intro fuel n acc h
  cases fuel with
  | zero => exact h.resolve_right (Nat.lt_irrefl 0)
  | succ fuel =>
    obtain ⟨d, r, hd⟩ := natDigitsAux_head (fuel + 1) n acc (Or.inl (Nat.succ_pos fuel))
    rw [hd]; exact List.cons_ne_nil _ _

/-- a number, and `-` before a number, differ from `-:--:--` in the first or second character -/
theorem natStr_append_ne_dashes (n : Nat) (rest : List Char) :
    natStr n ++ rest ≠ dashes ∧ '-' :: (natStr n ++ rest) ≠ dashes := by
  obtain ⟨d, r, hd⟩ := natDigitsAux_head (n + 1) n [] (Or.inl (Nat.succ_pos n))
  rw [natStr, hd]
  exact ⟨fun hc => (digitChar_ne_dash d).1 (List.cons.inj hc).1,
    fun hc => (digitChar_ne_dash d).2 (List.cons.inj (List.cons.inj hc).2).1⟩

theorem tdStr_overflow_iff (n : Int) : tdStr n = .error .overflow ↔ 999999999 < (tdFields n).1.natAbs := by
  by_cases hov : 999999999 < (tdFields n).1.natAbs
  · exact iff_of_true (if_pos hov) hov
  · refine iff_of_false (fun hc => ?_) hov
    rw [tdStr, if_neg hov] at hc
    split at hc <;> cases hc

theorem tdStr_ne_dashes (n : Int) : tdStr n ≠ .ok dashes := by
  intro hc
  simp only [tdStr] at hc
  by_cases h1 : 999999999 < (tdFields n).1.natAbs
  · rw [if_pos h1] at hc; cases hc
  · rw [if_neg h1] at hc
    by_cases h2 : (tdFields n).1 = 0
    · rw [if_pos h2, List.append_assoc] at hc
      exact (natStr_append_ne_dashes _ _).1 (Except.ok.inj hc)
    · rw [if_neg h2, List.append_assoc] at hc
      by_cases h3 : (tdFields n).1 < 0
      · rw [if_pos h3, List.cons_append] at hc
        exact (natStr_append_ne_dashes _ _).2 (Except.ok.inj hc)
      · rw [if_neg h3] at hc
        exact (natStr_append_ne_dashes _ _).1 (Except.ok.inj hc)

end RichModel.ProgressFmt
