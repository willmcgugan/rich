import RichModel.Lemmas.TextShows
/-!
Everything that appends: `append(str)`, the token step `appendTok` of `append_tokens`, `append_text`, `append(Text)` —
invariant and reference semantics of each —, the loop lemma `Shows.foldl` ("every round adds its own contribution"), and
the operations that are such loops or one such step on a copy: `join`, `assemble`, `append_tokens`, `+`.
-/
namespace RichModel
namespace Text
variable {σ : Type} {t u : Text σ} {b bu : σ} {v w : List (Char × List σ)}

/-- `t` with the characters `s` and the spans `extra` added at the end: what every append operation makes of its
receiver, with `extra` starting at or after the old end -/
def extend (t : Text σ) (s : List Char) (extra : List (Span σ)) : Text σ :=
  { t with plain := t.plain ++ s, spans := t.spans ++ extra, length := t.length + (s.length : Int) }

theorem inv_extend {s : List Char} {extra : List (Span σ)} (h : Inv t) (hs : NoCtl s)
    (hex : SpansIn extra (t.length + (s.length : Int))) : Inv (extend t s extra) :=
  ⟨by simp [extend, h.1], NoCtl.append h.2.1 hs,
    SpansIn.append (SpansIn.mono h.2.2 (Int.le_add_of_nonneg_right (Int.natCast_nonneg _))) hex⟩

/-- the old characters keep their styles: no new span reaches back to them; the new ones show the base style and the new
spans: no old span reaches them -/
theorem view_extend {s : List Char} {extra : List (Span σ)} (h : Inv t) (hex : ∀ sp ∈ extra, t.length ≤ sp.start) :
    (extend t s extra).view = t.view ++ annot s (fun i => t.style :: spanIds extra i) t.plain.length := by
  have hl := h.1
  rw [view_eq_annot, view_eq_annot]
  simp only [extend, annot_append, Nat.zero_add]
  congr 1 <;> apply annot_congr <;> intro i h1 h2 <;> simp only [effStyle, spanIds_append]
  · rw [spanIds_eq_nil extra i (fun sp hsp => by have := hex sp hsp; omega), List.append_nil]
  · rw [spanIds_beyond h.2.2 i (by omega), List.nil_append]

theorem appendStr_eq (t : Text σ) (s : List Char) (st : Option σ) :
    t.appendStr s st =
      if (s.length != 0) = true then
        { t with
          plain := t.plain ++ stripControl s
          spans := t.spans ++ (match st with
            | some x => [⟨t.length, t.length + ((stripControl s).length : Int), x⟩]
            | none => [])
          length := t.length + ((stripControl s).length : Int) }
      else t := by
  unfold appendStr
  cases st <;> simp

/-- Appending characters as they are, with an optional style of their own: one round of the loop of `append_tokens`,
and what `append(str, style)` does once the control codes are stripped. -/
def appendTok (t : Text σ) (tok : List Char × Option σ) : Text σ :=
  { t with
    plain := t.plain ++ tok.1
    spans := (match tok.2 with | some st => t.spans ++ [⟨t.length, t.length + (tok.1.length : Int), st⟩] | none => t.spans)
    length := t.length + (tok.1.length : Int) }

theorem appendStr_eq_tok (t : Text σ) (s : List Char) (st : Option σ) :
    t.appendStr s st = if (s.length != 0) = true then appendTok t (stripControl s, st) else t := rfl

theorem appendTok_eq_extend (t : Text σ) (tok : List Char × Option σ) :
    appendTok t tok =
      extend t tok.1 (tok.2.toList.map fun st => ⟨t.length, t.length + (tok.1.length : Int), st⟩) := by
  obtain ⟨s, st⟩ := tok
  cases st <;> simp [appendTok, extend]

theorem inv_appendTok (t : Text σ) (tok : List Char × Option σ) (h : Inv t) (hc : NoCtl tok.1) : Inv (appendTok t tok) := by
  rw [appendTok_eq_extend]
  refine inv_extend h hc fun sp hsp => ?_
  obtain ⟨st, _, rfl⟩ := List.mem_map.1 hsp
  have := h.1
  exact ⟨by simp only []; omega, by simp only []; omega, Int.le_refl _⟩

theorem view_appendTok (t : Text σ) (tok : List Char × Option σ) (h : Inv t) :
    (appendTok t tok).view = t.view ++ tok.1.map (fun c => (c, t.style :: tok.2.toList)) := by
  rw [appendTok_eq_extend, view_extend h fun sp hsp => by obtain ⟨st, _, rfl⟩ := List.mem_map.1 hsp; exact Int.le_refl _]
  refine congrArg _ (annot_const _ _ _ _ fun i h1 h2 => ?_)
  have := h.1
  cases tok.2 with
  | none => rfl
  | some st =>
    simp only [Option.toList, List.map_cons, List.map_nil, spanIds_single]
    rw [if_pos (by omega)]

theorem appendStr_style (t : Text σ) (s : List Char) (st : Option σ) : (t.appendStr s st).style = t.style := by
  rw [appendStr_eq]; split <;> rfl

theorem inv_appendStr (t : Text σ) (s : List Char) (st : Option σ) (h : Inv t) : Inv (t.appendStr s st) := by
  rw [appendStr_eq_tok]
  split
  · exact inv_appendTok t _ h (stripControl_noCtl s)
  · exact h

/-- `append(str, style)`: the old characters keep their styles; the (control-stripped) new ones
carry the base style and the given style -/
theorem view_appendStr (t : Text σ) (s : List Char) (st : Option σ) (h : Inv t) :
    (t.appendStr s st).view = t.view ++ (stripControl s).map (fun c => (c, t.style :: st.toList)) := by
  rw [appendStr_eq_tok]
  split
  · exact view_appendTok t _ h
  · next hz =>
    have hs : s = [] := List.length_eq_zero_iff.1 (by simpa using hz)
    subst hs
    exact (List.append_nil _).symm

theorem appendText_eq_extend (t u : Text σ) (hu : Inv u) :
    t.appendText u =
      extend t u.plain (⟨t.length, t.length + u.length, u.style⟩ :: u.spans.map (fun sp => sp.move t.length)) := by
  simp only [appendText, extend, hu.1, List.append_assoc, List.singleton_append]

theorem inv_appendText (t u : Text σ) (h : Inv t) (hu : Inv u) : Inv (t.appendText u) := by
  have hl := h.1
  have hlu := hu.1
  rw [appendText_eq_extend t u hu]
  refine inv_extend h hu.2.1 (SpansIn.append (a := [_]) (SpansIn.single u.style (by omega) (by omega) (by omega)) ?_)
  rw [← hlu, Int.add_comm]
  exact SpansIn.move t.length (by omega) hu.2.2

theorem appendT_style (t u : Text σ) : (t.appendT u).style = t.style := by
  unfold appendT; split <;> rfl

theorem inv_appendT (t u : Text σ) (h : Inv t) (hu : Inv u) : Inv (t.appendT u) := by
  unfold appendT; split
  · exact inv_appendText t u h hu
  · exact h

/-- `append_text(u)`: old characters keep their styles; `u`'s characters arrive with `u`'s effective
styles placed under this text's base style -/
theorem view_appendText (t u : Text σ) (h : Inv t) (hu : Inv u) :
    (t.appendText u).view = t.view ++ u.view.map (fun p => (p.1, t.style :: p.2)) := by
  have hl := h.1
  have hlu := hu.1
  rw [appendText_eq_extend t u hu, view_eq_annot u, annot_map,
    view_extend h fun sp hsp => by
      rcases List.mem_cons.1 hsp with rfl | hsp
      · exact Int.le_refl _
      · obtain ⟨s0, h0, rfl⟩ := List.mem_map.1 hsp
        have := (hu.2.2 s0 h0).1
        simp only [Span.move]; omega]
  refine congrArg _ ?_
  rw [← Nat.zero_add t.plain.length, annot_shift]
  refine annot_congr _ _ _ _ fun i _ hi => ?_
  rw [spanIds_cons, if_pos ((covers_iff _ _).2 (by simp only []; omega)), hl, spanIds_move]
  rfl

theorem view_appendT (t u : Text σ) (h : Inv t) (hu : Inv u) :
    (t.appendT u).view = t.view ++ u.view.map (fun p => (p.1, t.style :: p.2)) := by
  unfold appendT; split
  · exact view_appendText t u h hu
  · rename_i hz
    simp only [bne_iff_ne, ne_eq, Decidable.not_not] at hz
    have : u.plain = [] := by
      have := hu.1; rw [hz] at this
      exact List.length_eq_zero_iff.1 (by omega)
    simp [view_eq_annot u, this, annot]

/-- `sep.join(lines)` is `blank_copy()` followed by `append_text` of every element of the
interleaved sequence: the accumulator step of `join` is `append_text` on the three fields it threads -/
theorem join_eq_fold (v : Variant) (sep : Text σ) (lines : List (Text σ)) :
    sep.join v lines = (joinSeq sep lines).foldl appendText (sep.blankCopy v) := by
  have h0 : (([] : List Char), ([] : List (Span σ)), (0 : Int)) =
      ((sep.blankCopy v).plain, (sep.blankCopy v).spans, (sep.blankCopy v).length) := by
    unfold blankCopy new
    cases v.ctorLen <;> rfl
  unfold join
  rw [h0]
  generalize sep.blankCopy v = a
  generalize joinSeq sep lines = seq
  induction seq generalizing a with
  | nil => rfl
  | cons x rest ih => exact ih (a.appendText x)

theorem foldl_appendText_plain (seq : List (Text σ)) (a : Text σ) :
    (seq.foldl appendText a).plain = a.plain ++ (seq.map (·.plain)).flatten := by
  induction seq generalizing a with
  | nil => simp
  | cons x rest ih => simp [List.foldl_cons, ih, appendText]

theorem join_plain (v : Variant) (sep : Text σ) (lines : List (Text σ)) :
    (sep.join v lines).plain = ((joinSeq sep lines).map (·.plain)).flatten := by
  rw [join_eq_fold, foldl_appendText_plain]
  simp [blankCopy, new, stripControl]

theorem join_style (v : Variant) (sep : Text σ) (lines : List (Text σ)) : (sep.join v lines).style = sep.style := rfl

theorem mem_joinSeq (sep : Text σ) (lines : List (Text σ)) (x : Text σ) (hx : x ∈ joinSeq sep lines) :
    x = sep ∨ x ∈ lines := by
  fun_induction joinSeq sep lines with
  | case1 => cases hx
  | case2 => exact Or.inr hx
  | case3 a b rest _ ih =>
    rcases List.mem_cons.1 hx with h | h
    · exact Or.inr (h ▸ List.mem_cons_self)
    · exact (ih h).imp_right (List.mem_cons_of_mem _)
  | case4 a b rest _ ih =>
    rcases List.mem_cons.1 hx with h | h
    · exact Or.inr (h ▸ List.mem_cons_self)
    · rcases List.mem_cons.1 h with h | h
      · exact Or.inl h
      · exact (ih h).imp_right (List.mem_cons_of_mem _)

/-- what one positional argument of `Text.assemble` contributes under base style `b` -/
def partView (b : σ) : Part σ → List (Char × List σ)
  | .str s => (stripControl s).map (fun c => (c, [b]))
  | .pair s st => (stripControl s).map (fun c => (c, b :: st.toList))
  | .txt u => u.view.map (fun p => (p.1, b :: p.2))

def Part.Ok : Part σ → Prop
  | .txt u => Inv u
  | _ => True

/-- `append_tokens` threads (text, spans, offset) through its loop; that is `appendTok` folded over the tokens -/
theorem appendTokens_fold (tokens : List (List Char × Option σ)) (t : Text σ) :
    t.appendTokens tokens = tokens.foldl appendTok t := by
  induction tokens generalizing t with
  | nil => rfl
  | cons tok rest ih => exact ih (appendTok t tok)

namespace Shows

theorem appendStr (h : Shows t b v) (s : List Char) (st : Option σ) :
    Shows (t.appendStr s st) b (v ++ (stripControl s).map (fun c => (c, b :: st.toList))) :=
  ⟨inv_appendStr t s st h.inv, (appendStr_style t s st).trans h.style, by rw [view_appendStr t s st h.inv, h.view, h.style]⟩

theorem appendTok (h : Shows t b v) (tok : List Char × Option σ) (hc : NoCtl tok.1) :
    Shows (Text.appendTok t tok) b (v ++ tok.1.map (fun c => (c, b :: tok.2.toList))) :=
  ⟨inv_appendTok t tok h.inv hc, h.style, by rw [view_appendTok t tok h.inv, h.view, h.style]⟩

theorem appendText (h : Shows t b v) (hu : Shows u bu w) :
    Shows (t.appendText u) b (v ++ w.map (fun p => (p.1, b :: p.2))) :=
  ⟨inv_appendText t u h.inv hu.inv, h.style, by rw [view_appendText t u h.inv hu.inv, h.view, hu.view, h.style]⟩

theorem appendT (h : Shows t b v) (hu : Shows u bu w) :
    Shows (t.appendT u) b (v ++ w.map (fun p => (p.1, b :: p.2))) :=
  ⟨inv_appendT t u h.inv hu.inv, (appendT_style t u).trans h.style,
    by rw [view_appendT t u h.inv hu.inv, h.view, hu.view, h.style]⟩

/-- a loop that appends: every round adds its own contribution `g x` to the styled string -/
theorem foldl {α : Type} {f : Text σ → α → Text σ} {g : α → List (Char × List σ)} {P : α → Prop}
    (hstep : ∀ t v x, P x → Shows t b v → Shows (f t x) b (v ++ g x)) (xs : List α) (hP : ∀ x ∈ xs, P x)
    (h : Shows t b v) : Shows (xs.foldl f t) b (v ++ xs.flatMap g) := by
  induction xs generalizing t v with
  | nil => rwa [List.flatMap_nil, List.append_nil]
  | cons x xs ih =>
    rw [List.flatMap_cons, ← List.append_assoc]
    exact ih (fun y hy => hP y (List.mem_cons_of_mem _ hy)) (hstep _ _ x (hP x List.mem_cons_self) h)

/-- `sep.join(lines)`: the elements (with `sep` between them when it is non-empty), every character
keeping its effective style, placed under `sep`'s base style -/
theorem join {sep : Text σ} (hsep : Shows sep b v) (lines : List (Text σ))
    (hl : ∀ x ∈ lines, Inv x) :
    Shows (sep.join Variant.repaired lines) b
      ((joinSeq sep lines).flatMap (fun x => x.view.map (fun p => (p.1, b :: p.2)))) := by
  rw [join_eq_fold]
  have h0 : Shows (sep.blankCopy Variant.repaired) b [] := ⟨inv_blankCopy sep, hsep.style, rfl⟩
  simpa using Shows.foldl (P := Inv) (fun _ _ _ hx h => h.appendText hx.shows) _
    (fun x hx => (mem_joinSeq sep lines x hx).elim (fun e => e ▸ hsep.inv) (hl x)) h0

theorem appendPart {a : Text σ} (h : Shows a b v) (p : Part σ) (hp : p.Ok) :
    Shows (a.appendPart p) b (v ++ partView b p) := by
  cases p with
  | str s => exact h.appendStr s none
  | pair s st => exact h.appendStr s st
  | txt u => exact h.appendT (Inv.shows hp)

/-- `Text.assemble(*parts, style=b)`: the parts in order under the base style -/
theorem assemble (parts : List (Part σ)) (style : σ) (j : Option Justify) (o : Option Overflow)
    (nw : Option Bool) (e : List Char) (ts : Option Nat) (hp : ∀ p ∈ parts, p.Ok) :
    Shows (Text.assemble Variant.repaired parts style j o nw e ts) style (parts.flatMap (partView style)) := by
  have h0 : Shows (new Variant.repaired [] style [] j o nw e ts) style [] :=
    ⟨inv_new _ _ _ _ _ _ _ _ (SpansIn.nil _), rfl, rfl⟩
  simpa [Text.assemble] using Shows.foldl (fun _ _ p hp h => h.appendPart p hp) parts hp h0

/-- `text + str` and `text + Text`: as `append` on a copy -/
theorem addStr (h : Shows t b v) (s : List Char) :
    Shows (t.addStr Variant.repaired s) b (v ++ (stripControl s).map (fun c => (c, [b]))) := by
  unfold Text.addStr
  rw [copy_eq_self t h.inv]
  exact h.appendStr s none

theorem addText (h : Shows t b v) (hu : Shows u bu w) :
    Shows (t.addText Variant.repaired u) b (v ++ w.map (fun p => (p.1, b :: p.2))) := by
  unfold Text.addText
  rw [copy_eq_self t h.inv]
  exact h.appendT hu

/-- `append_tokens(tokens)` (no token carries a strip-control character: rich does not strip there): the old
characters keep their styles, then every token's characters in order under the base style and the token's own style -/
theorem appendTokens (h : Shows t b v)
    (tokens : List (List Char × Option σ)) (hc : ∀ tok ∈ tokens, NoCtl tok.1) :
    Shows (t.appendTokens tokens) b (v ++ tokens.flatMap (fun tok => tok.1.map (fun c => (c, b :: tok.2.toList)))) := by
  rw [appendTokens_fold]
  exact Shows.foldl (fun _ _ tok htok h => h.appendTok tok htok) tokens hc h

end Shows

theorem inv_join (sep : Text σ) (lines : List (Text σ)) (hsep : Inv sep) (hl : ∀ x ∈ lines, Inv x) :
    Inv (sep.join Variant.repaired lines) :=
  (hsep.shows.join lines hl).inv

theorem view_join (sep : Text σ) (lines : List (Text σ)) (hsep : Inv sep) (hl : ∀ x ∈ lines, Inv x) :
    (sep.join Variant.repaired lines).view =
      (joinSeq sep lines).flatMap (fun x => x.view.map (fun p => (p.1, sep.style :: p.2))) :=
  (hsep.shows.join lines hl).view

theorem inv_assemble (parts : List (Part σ)) (style : σ) (j : Option Justify) (o : Option Overflow)
    (nw : Option Bool) (e : List Char) (ts : Option Nat)
    (hp : ∀ p ∈ parts, match p with | .txt u => Inv u | _ => True) :
    Inv (assemble Variant.repaired parts style j o nw e ts) :=
  (Shows.assemble parts style j o nw e ts (fun p hm => by cases p <;> exact hp _ hm)).inv

end Text
end RichModel
