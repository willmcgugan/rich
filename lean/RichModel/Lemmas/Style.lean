import RichModel.Model.Style
/-!
Lemmas about the `Style` model: bit masks, `__init__`, what every constructor keeps, the `+` algebra up to `==`.
-/
namespace RichModel
open AsciiStr

theorem testBit_andNot (a b i : Nat) : (andNot a b).testBit i = (a.testBit i && !b.testBit i) := by
  simp only [andNot, Nat.testBit_xor, Nat.testBit_and]
  cases a.testBit i <;> cases b.testBit i <;> rfl

/-- The bit identity behind associativity of `__add__`. -/
theorem attrs_assoc (a sb vb sc vc : Nat) :
    andNot (andNot a sb ||| (vb &&& sb)) sc ||| (vc &&& sc) =
      andNot a (sb ||| sc) ||| ((andNot vb sc ||| (vc &&& sc)) &&& (sb ||| sc)) := by
  apply Nat.eq_of_testBit_eq
  intro i
  simp only [Nat.testBit_or, Nat.testBit_and, testBit_andNot]
  cases a.testBit i <;> cases sb.testBit i <;> cases vb.testBit i <;> cases sc.testBit i <;>
    cases vc.testBit i <;> rfl

theorem linkOr_assoc (a b c : Option (List Char)) : linkOr c (linkOr b a) = linkOr (linkOr c b) a := by
  unfold linkOr
  by_cases hc : strTruthy c = true
  · simp [hc]
  · by_cases hb : strTruthy b = true <;> simp [hc, hb]

theorem linkOr_self (l : Option (List Char)) : linkOr l l = l := by
  unfold linkOr; split <;> rfl

theorem testBit_of_and_eq {a b : Nat} (h : a &&& b = a) (i : Nat) : a.testBit i = (a.testBit i && b.testBit i) := by
  rw [← Nat.testBit_and, h]

theorem andNot_self_sub {a s : Nat} (h : a &&& s = a) : andNot a s = 0 := by
  apply Nat.eq_of_testBit_eq
  intro i
  rw [testBit_andNot, Nat.zero_testBit]
  have := congrArg (fun n => n.testBit i) h
  simp only [Nat.testBit_and] at this
  cases ha : a.testBit i <;> cases hs : s.testBit i <;> simp_all

theorem testBit_false_of_lt_8192 {n : Nat} (h : n < 8192) {j : Nat} (hj : 13 ≤ j) : n.testBit j = false := by
  apply Nat.testBit_lt_two_pow
  calc n < 2 ^ 13 := h
    _ ≤ 2 ^ j := Nat.pow_le_pow_right (by omega) hj

/-- A group guard `if bits & mask: …` changes nothing when what it guards comes to the same as skipping it wherever no
bit of the mask is on (the groups of `Style._make_ansi_codes`, in both its models, and of `Style.__str__`). -/
theorem mask_guard {α : Type _} {a m : Nat} {w e : α} (h : (∀ i, m.testBit i = true → a.testBit i = false) → w = e) :
    (if a &&& m ≠ 0 then w else e) = w := by
  by_cases hg : a &&& m = 0
  · rw [if_neg (not_not_intro hg)]
    refine (h fun i hm => ?_).symm
    simpa [Nat.testBit_and, hm] using congrArg (·.testBit i) hg
  · rw [if_pos hg]

namespace Style

theorem bitsToNat_testBit (l : List Bool) (i : Nat) : (bitsToNat l).testBit i = l.getD i false := by
  induction l generalizing i with
  | nil => simp [bitsToNat]
  | cons b r ih =>
    cases i with
    | zero =>
      simp only [bitsToNat, Nat.testBit_zero, List.getD_cons_zero]
      cases b <;> simp <;> omega
    | succ j =>
      rw [Nat.testBit_succ, List.getD_cons_succ, ← ih]
      congr 1
      cases b <;> simp only [bitsToNat] <;> (try simp) <;> omega

theorem bitsToNat_lt (l : List Bool) : bitsToNat l < 2 ^ l.length := by
  induction l with
  | nil => simp [bitsToNat]
  | cons b r ih =>
    simp only [bitsToNat, List.length_cons, Nat.pow_succ]
    cases b <;> (try simp) <;> omega

theorem bitsToNat_range_testBit (f : Nat → Bool) (n j : Nat) :
    (bitsToNat ((List.range n).map f)).testBit j = (decide (j < n) && f j) := by
  rw [bitsToNat_testBit]
  by_cases h : j < n <;> simp [List.getD_eq_getElem?_getD, h]

theorem kwSet_testBit (kw : Kwargs) (j : Nat) :
    (kwSet kw).testBit j = (decide (j < 13) && (kw.getD j none).isSome) :=
  bitsToNat_range_testBit _ 13 j

theorem kwVal_testBit (kw : Kwargs) (j : Nat) :
    (kwVal kw).testBit j = (decide (j < 13) && (kw.getD j none == some true)) :=
  bitsToNat_range_testBit _ 13 j

theorem kwSet_lt (kw : Kwargs) : kwSet kw < 8192 := by
  have := bitsToNat_lt ((List.range 13).map fun i => (kw.getD i none).isSome)
  simpa [kwSet] using this

theorem kwVal_sub (kw : Kwargs) : kwVal kw &&& kwSet kw = kwVal kw := by
  apply Nat.eq_of_testBit_eq
  intro i
  rw [Nat.testBit_and, kwSet_testBit, kwVal_testBit]
  cases h : kw.getD i none with
  | none => simp
  | some b => cases b <;> simp

attribute [local irreducible] kwSet kwVal

/-- Fields that no constructor can break: attribute values only where specified, 13 bits, and a
style flagged `_null` has nothing set (its link may be the empty string, which is falsy). -/
structure Inv (s : Style) : Prop where
  attrs_sub : s.attributes &&& s.setAttributes = s.attributes
  set_lt : s.setAttributes < 8192
  null_empty : s.isNull = true →
    s.color = none ∧ s.bgcolor = none ∧ s.setAttributes = 0 ∧ s.attributes = 0 ∧ strTruthy s.link = false

theorem inv_null : Inv Style.null := by
  refine ⟨by decide, by decide, ?_⟩
  intro _; decide

/-- A `color=` / `bgcolor=` argument of `__init__` as evaluated: `None` stays `None`, anything else
goes through `_make_color`. -/
def argColorT (T : StrTables) (v : StyleVariant) : Option ColorArg → Except StyleErr (Option Color)
  | none => .ok none
  | some x => (makeColorT T v x).map some

theorem argColor_some {T : StrTables} {v x r} :
    argColorT T v (some x) = .ok r ↔ ∃ y, makeColorT T v x = .ok y ∧ r = some y := by
  cases h : makeColorT T v x <;> simp [argColorT, h, Except.map, eq_comm]

theorem init_ok_iff {T : StrTables} {v c b kw l s} : initT T v c b kw l = .ok s ↔
    ∃ c' b', argColorT T v c = .ok c' ∧ argColorT T v b = .ok b' ∧
      s = { color := c', bgcolor := b',
            attributes := if kwSet kw ≠ 0 then kwVal kw else 0, setAttributes := kwSet kw,
            link := storedLink v l,
            hash := ⟨c', b', some (if kwSet kw ≠ 0 then kwVal kw else 0), some (kwSet kw), storedLink v l⟩,
            isNull := !(kwSet kw ≠ 0 || c.isSome || b.isSome || strTruthy (storedLink v l)),
            styleDef := none } := by
  unfold initT
  -- the two inner matches of `initT` are `argColorT` of the two arguments
  show (match argColorT T v c with
    | .error e => .error e
    | .ok c' => match argColorT T v b with
      | .error e => .error e
      | .ok b' => .ok _ : Except StyleErr Style) = _ ↔ _
  cases argColorT T v c with
  | error e => simp
  | ok c' =>
    cases argColorT T v b with
    | error e => simp
    | ok b' => simp [eq_comm]

theorem inv_init {T : StrTables} {v c b kw l s} (h : initT T v c b kw l = .ok s) : Inv s := by
  obtain ⟨c', b', hc, hb, rfl⟩ := init_ok_iff.mp h
  refine ⟨?_, kwSet_lt kw, ?_⟩
  · show (if kwSet kw ≠ 0 then kwVal kw else 0) &&& kwSet kw = (if kwSet kw ≠ 0 then kwVal kw else 0)
    split
    · exact kwVal_sub kw
    · simp
  · intro hn
    simp only [Bool.not_eq_true', Bool.or_eq_false_iff, decide_eq_false_iff_not, ne_eq, Decidable.not_not,
      Option.isSome_eq_false_iff, Option.isNone_iff_eq_none] at hn
    obtain ⟨⟨⟨h0, rfl⟩, rfl⟩, hl⟩ := hn
    cases hc
    cases hb
    exact ⟨rfl, rfl, h0, by simp [h0], hl⟩

theorem inv_fromColor (v c b) : Inv (fromColor v c b) := by
  refine ⟨by simp [fromColor], by simp [fromColor], ?_⟩
  intro hn
  cases c <;> cases b <;> simp_all [fromColor, strTruthy]

theorem merge_attrs_sub {a sa vb sb : Nat} (ha : a &&& sa = a) :
    (andNot a sb ||| (vb &&& sb)) &&& (sa ||| sb) = andNot a sb ||| (vb &&& sb) := by
  apply Nat.eq_of_testBit_eq
  intro i
  have := testBit_of_and_eq ha i
  simp only [Nat.testBit_or, Nat.testBit_and, testBit_andNot]
  cases h1 : a.testBit i <;> cases h2 : sa.testBit i <;> cases sb.testBit i <;> cases vb.testBit i <;>
    simp_all

theorem add_cases (v : StyleVariant) (a b : Style) {P : Style → Prop} (hr : b.isNull = true → P a)
    (hl : b.isNull = false → a.isNull = true → P b)
    (hm : b.isNull = false → a.isNull = false → P
      { color := b.color.or a.color, bgcolor := b.bgcolor.or a.bgcolor,
        attributes := andNot a.attributes b.setAttributes ||| (b.attributes &&& b.setAttributes),
        setAttributes := a.setAttributes ||| b.setAttributes, link := linkOr b.link a.link,
        hash := if v.addHash then b.hash else
          ⟨b.color.or a.color, b.bgcolor.or a.bgcolor,
           some (andNot a.attributes b.setAttributes ||| (b.attributes &&& b.setAttributes)),
           some (a.setAttributes ||| b.setAttributes), linkOr b.link a.link⟩,
        isNull := false, styleDef := none }) : P (add v a b) := by
  unfold add
  cases h1 : b.isNull with
  | true => simpa using hr h1
  | false =>
    cases h2 : a.isNull with
    | true => simpa using hl h1 h2
    | false => simpa [h1, h2] using hm h1 h2

theorem inv_add (v) {a b : Style} (ha : Inv a) (hb : Inv b) : Inv (add v a b) :=
  add_cases v a b (fun _ => ha) (fun _ _ => hb) fun _ _ =>
    ⟨merge_attrs_sub ha.attrs_sub, Nat.or_lt_two_pow (n := 13) ha.set_lt hb.set_lt, fun hn => by cases hn⟩

theorem render_congr {s t : Style} (h1 : s.color = t.color) (h2 : s.bgcolor = t.bgcolor)
    (h3 : s.attributes = t.attributes) (h4 : s.setAttributes = t.setAttributes) (h5 : s.link = t.link) :
    render s = render t := by
  cases s; cases t
  simp only at h1 h2 h3 h4 h5
  subst h1 h2 h3 h4 h5
  rfl

theorem inv_updateLink (v) {s : Style} (h : Inv s) (l) : Inv (updateLink v s l) :=
  ⟨h.attrs_sub, h.set_lt, by intro hn; simp [updateLink] at hn⟩

theorem inv_copy {s : Style} (h : Inv s) : Inv s.copy := by
  unfold copy
  split
  · exact inv_null
  · exact ⟨h.attrs_sub, h.set_lt, nofun⟩

theorem inv_withoutColor (v) {s : Style} (h : Inv s) : Inv (withoutColor v s) := by
  unfold withoutColor
  split
  · exact inv_null
  · exact ⟨h.attrs_sub, h.set_lt, nofun⟩

theorem withoutColor_of_not_null (v : StyleVariant) {s : Style} (h : s.isNull = false) :
    withoutColor v s =
      { color := none, bgcolor := none, attributes := s.attributes, setAttributes := s.setAttributes, link := s.link,
        hash := if v.withoutColorHash then s.hash
                else ⟨none, none, some s.attributes, some s.setAttributes, s.link⟩,
        isNull := false, styleDef := none } := by
  simp [withoutColor, h]

theorem withoutColor_null (v : StyleVariant) {s : Style} (h : s.isNull = true) : withoutColor v s = Style.null := by
  simp [withoutColor, h]

theorem inv_strTouch {s : Style} (h : Inv s) : Inv s.strTouch := ⟨h.attrs_sub, h.set_lt, h.null_empty⟩

theorem parse_ok {T : StrTables} {v d s} (h : parseT T v d = .ok s) :
    s = Style.null ∨ ∃ st, parseLoopT T v (T.split d) {} = .ok st ∧
      initT T v (st.color.map .str) (st.bgcolor.map .str) st.attributes st.link = .ok s := by
  unfold parseT at h
  split at h
  · left; cases h; rfl
  · right
    split at h
    · cases h
    · rename_i st hst; exact ⟨st, hst, h⟩

def LinkOk (s : Style) : Prop := s.link ≠ some []

theorem linkOk_cases {l : Option (List Char)} (h : l ≠ some []) : l = none ∨ strTruthy l = true := by
  cases l with
  | none => exact Or.inl rfl
  | some w =>
    cases w with
    | nil => exact absurd rfl h
    | cons a r => exact Or.inr rfl

theorem linkVal_of_ok {l : Option (List Char)} (h : l ≠ some []) : linkVal l = l := by
  rcases linkOk_cases h with rfl | h
  · rfl
  · rw [linkVal, if_pos h]

theorem storedLink_ok {v : StyleVariant} (hv : v.emptyLink = false) (l : Option (List Char)) :
    storedLink v l ≠ some [] := by
  simp only [storedLink, hv, Bool.false_eq_true, if_false, linkVal]
  cases l with
  | none => simp [strTruthy]
  | some w => cases w <;> simp [strTruthy]

theorem storedLink_of_ne {l : Option (List Char)} (h : l ≠ some []) (v : StyleVariant) : storedLink v l = l := by
  rw [storedLink, linkVal_of_ok h, ite_self]

@[simp] theorem storedLink_none (v : StyleVariant) : storedLink v none = none :=
  storedLink_of_ne (l := none) nofun v

theorem linkOr_eq_or {x : Option (List Char)} (hx : x ≠ some []) (y : Option (List Char)) : linkOr x y = x.or y := by
  rcases linkOk_cases hx with rfl | h
  · rfl
  · rw [linkOr, if_pos h]
    cases x with
    | none => cases h
    | some w => rfl

theorem linkOr_ok {x y : Option (List Char)} (hx : x ≠ some []) (hy : y ≠ some []) : linkOr x y ≠ some [] := by
  unfold linkOr; split <;> assumption

/-- Every `Style` that the public constructors can produce (for the code variant `v`, whatever the
interpreter's character tables). -/
inductive Reachable (v : StyleVariant) : Style → Prop
  | null : Reachable v Style.null
  | init {T : StrTables} {c b kw l s} : initT T v c b kw l = .ok s → Reachable v s
  | fromColor (c b) : Reachable v (fromColor v c b)
  | parse {T : StrTables} {d s} : parseT T v d = .ok s → Reachable v s
  | add {a b} : Reachable v a → Reachable v b → Reachable v (add v a b)
  | copy {a} : Reachable v a → Reachable v a.copy
  | updateLink {a} (l) : Reachable v a → Reachable v (updateLink v a l)
  | withoutColor {a} : Reachable v a → Reachable v (withoutColor v a)
  | strTouch {a} : Reachable v a → Reachable v a.strTouch

theorem Reachable.addOpt {v a} (b : Option Style) (ha : Reachable v a) (hb : ∀ x, b = some x → Reachable v x) :
    Reachable v (Style.addOpt v a b) := by
  cases b with
  | none => exact ha
  | some x => exact Reachable.add ha (hb x rfl)

theorem Reachable.foldl {v} (rest : List Style) {first : Style} (hf : Reachable v first)
    (hr : ∀ s ∈ rest, Reachable v s) : Reachable v (rest.foldl (Style.add v) first) := by
  induction rest generalizing first with
  | nil => exact hf
  | cons x xs ih =>
    exact ih (Reachable.add hf (hr x (by simp))) (fun s hs => hr s (by simp [hs]))

theorem Reachable.inv {v s} (h : Reachable v s) : Inv s := by
  induction h with
  | null => exact inv_null
  | init h => exact inv_init h
  | fromColor c b => exact inv_fromColor v c b
  | parse h =>
    rcases parse_ok h with rfl | ⟨st, _, hi⟩
    · exact inv_null
    · exact inv_init hi
  | add _ _ iha ihb => exact inv_add v iha ihb
  | copy _ ih => exact inv_copy ih
  | updateLink l _ ih => exact inv_updateLink v ih l
  | withoutColor _ ih => exact inv_withoutColor v ih
  | strTouch _ ih => exact inv_strTouch ih

/-- What every public constructor keeps true of the objects it makes as far as the code variant has the repair:
the stored hash is the hash of the fields, a cached definition is not stale, the link is not the empty string. -/
structure Sound (v : StyleVariant) (s : Style) : Prop where
  hash : v.addHash = false → v.fromColorHash = false → v.withoutColorHash = false → v.updateLinkHash = false →
    s.hash = s.fieldsKey
  cache : v.updateLinkDef = false → str s = render s
  link : v.emptyLink = false → LinkOk s

theorem sound_null (v : StyleVariant) : Sound v Style.null :=
  ⟨fun _ _ _ _ => rfl, fun _ => by decide, fun _ => nofun⟩

theorem sound_init {T : StrTables} {v c b kw l s} (h : initT T v c b kw l = .ok s) : Sound v s := by
  obtain ⟨c', b', _, _, rfl⟩ := init_ok_iff.mp h
  exact ⟨fun _ _ _ _ => rfl, fun _ => rfl, fun hv => storedLink_ok hv _⟩

theorem Reachable.sound {v s} (h : Reachable v s) : Sound v s := by
  induction h with
  | null => exact sound_null v
  | init h => exact sound_init h
  | fromColor c b => exact ⟨fun _ h2 _ _ => by simp [Style.fromColor, h2, fieldsKey], fun _ => rfl, fun _ => nofun⟩
  | parse h =>
    rcases parse_ok h with rfl | ⟨st, _, hi⟩
    · exact sound_null v
    · exact sound_init hi
  | @add a b _ _ iha ihb =>
    exact add_cases v a b (fun _ => iha) (fun _ _ => ihb) fun _ _ =>
      ⟨fun h1 _ _ _ => by simp [h1, fieldsKey], fun _ => rfl, fun hv => linkOr_ok (ihb.link hv) (iha.link hv)⟩
  | @copy a _ ih =>
    unfold Style.copy
    split
    · exact sound_null v
    · exact ⟨ih.hash, fun hv => (ih.cache hv).trans (render_congr rfl rfl rfl rfl rfl), ih.link⟩
  | @updateLink a l _ ih =>
    exact ⟨fun _ _ _ h4 => by simp [Style.updateLink, h4, fieldsKey],
      fun h5 => by simp [Style.updateLink, h5, str], fun hv => storedLink_ok hv _⟩
  | @withoutColor a _ ih =>
    unfold Style.withoutColor
    split
    · exact sound_null v
    · exact ⟨fun _ _ h3 _ => by simp [h3, fieldsKey], fun _ => rfl, ih.link⟩
  | strTouch _ ih =>
    exact ⟨ih.hash, fun hv => (ih.cache hv).trans (render_congr rfl rfl rfl rfl rfl), ih.link⟩

theorem Reachable.hashOk {v : StyleVariant} (h1 : v.addHash = false) (h2 : v.fromColorHash = false)
    (h3 : v.withoutColorHash = false) (h4 : v.updateLinkHash = false) {s} (h : Reachable v s) :
    s.hash = s.fieldsKey := h.sound.hash h1 h2 h3 h4

theorem Reachable.cacheOk {v : StyleVariant} (h5 : v.updateLinkDef = false) {s} (h : Reachable v s) :
    str s = render s := h.sound.cache h5

theorem Reachable.linkOk {v : StyleVariant} (hv : v.emptyLink = false) {s} (h : Reachable v s) : LinkOk s :=
  h.sound.link hv

theorem eq_iff {a b : Style} : eq a b = true ↔
    a.color = b.color ∧ a.bgcolor = b.bgcolor ∧ a.setAttributes = b.setAttributes ∧
      a.attributes = b.attributes ∧ a.link = b.link := by
  simp [eq]

theorem eq_iff_fieldsKey {a b : Style} : eq a b = true ↔ a.fieldsKey = b.fieldsKey := by
  rw [eq_iff, fieldsKey, fieldsKey, HashKey.mk.injEq, Option.some.injEq, Option.some.injEq]
  exact ⟨fun ⟨h1, h2, h3, h4, h5⟩ => ⟨h1, h2, h4, h3, h5⟩, fun ⟨h1, h2, h4, h3, h5⟩ => ⟨h1, h2, h3, h4, h5⟩⟩

theorem eq_refl (a : Style) : Style.eq a a = true := eq_iff_fieldsKey.mpr rfl

theorem eq_symm {a b : Style} (h : Style.eq a b = true) : Style.eq b a = true :=
  eq_iff_fieldsKey.mpr (eq_iff_fieldsKey.mp h).symm

theorem eq_trans {a b c : Style} (h : Style.eq a b = true) (h' : Style.eq b c = true) : Style.eq a c = true :=
  eq_iff_fieldsKey.mpr ((eq_iff_fieldsKey.mp h).trans (eq_iff_fieldsKey.mp h'))

theorem fieldsKey_eq_of_eq {a b : Style} (h : eq a b = true) : a.fieldsKey = b.fieldsKey := eq_iff_fieldsKey.mp h

theorem add_assoc (v : StyleVariant) (a b c : Style) : add v (add v a b) c = add v a (add v b c) := by
  -- eight combinations of the `_null` flags; the one without a short cut is `attrs_assoc` with `linkOr_assoc`
  by_cases ha : a.isNull = true <;> by_cases hb : b.isNull = true <;> by_cases hc : c.isNull = true <;>
    simp [add, ha, hb, hc, Option.or_assoc, attrs_assoc, linkOr_assoc, Nat.or_assoc] <;>
    cases v.addHash <;> simp

theorem add_null_right (v : StyleVariant) (a : Style) : add v a Style.null = a := by
  simp [add, Style.null]

theorem add_null_left (v : StyleVariant) (a : Style) (h : a.isNull = false) : add v Style.null a = a := by
  simp [add, Style.null, h]

theorem add_isNull_false (v : StyleVariant) (a b : Style) (hb : b.isNull = false) : (add v a b).isNull = false := by
  cases ha : a.isNull <;> simp [add, hb, ha]

theorem add_attrs (v : StyleVariant) {a b : Style} (ha : Inv a) (hb : Inv b) :
    (add v a b).color = b.color.or a.color ∧ (add v a b).bgcolor = b.bgcolor.or a.bgcolor ∧
    (add v a b).setAttributes = a.setAttributes ||| b.setAttributes ∧
    (add v a b).attributes = andNot a.attributes b.setAttributes ||| (b.attributes &&& b.setAttributes) ∧
    linkVal (add v a b).link = linkVal (linkOr b.link a.link) := by
  unfold add
  by_cases h1 : b.isNull = true
  · obtain ⟨hc, hg, hs, hat, hl⟩ := hb.null_empty h1
    simp [h1, hc, hg, hs, hat, andNot, linkOr, hl]
  · by_cases h2 : a.isNull = true
    · obtain ⟨hc, hg, hs, hat, hl⟩ := ha.null_empty h2
      by_cases hbl : strTruthy b.link = true <;>
        simp [h1, h2, hc, hg, hs, hat, andNot, hb.attrs_sub, linkOr, linkVal, hl, hbl]
    · simp [h1, h2]

theorem attr_of_set_zero {s : Style} (h : s.setAttributes = 0) (i : Nat) : s.attr i = none := by
  simp [attr, h]

theorem attr_on_eq (s : Style) (i : Nat) :
    (s.attr i == some true) = (s.attributes &&& s.setAttributes).testBit i := by
  simp only [Style.attr, Nat.testBit_and]
  cases s.setAttributes.testBit i <;> cases s.attributes.testBit i <;> rfl

theorem attr_add (v : StyleVariant) {a b : Style} (ha : Inv a) (hb : Inv b) (i : Nat) :
    (add v a b).attr i = (b.attr i).or (a.attr i) := by
  obtain ⟨_, _, hs, hat, _⟩ := add_attrs v ha hb
  simp only [attr, hs, hat, Nat.testBit_or, Nat.testBit_and, testBit_andNot]
  cases a.setAttributes.testBit i <;> cases b.setAttributes.testBit i <;> cases a.attributes.testBit i <;>
    cases b.attributes.testBit i <;> rfl

theorem color_add (v : StyleVariant) {a b : Style} (ha : Inv a) (hb : Inv b) :
    (add v a b).color = b.color.or a.color ∧ (add v a b).bgcolor = b.bgcolor.or a.bgcolor :=
  ⟨(add_attrs v ha hb).1, (add_attrs v ha hb).2.1⟩

theorem link_add (v : StyleVariant) {a b : Style} (ha : Inv a) (hb : Inv b) :
    linkVal (add v a b).link = if strTruthy b.link then b.link else linkVal a.link := by
  rw [(add_attrs v ha hb).2.2.2.2, linkOr, linkVal]
  by_cases hl : strTruthy b.link = true <;> simp [hl, linkVal]

theorem linkVal_of_falsy {l : Option (List Char)} (h : strTruthy l = false) : linkVal l = none := by
  simp [linkVal, h]

theorem strTruthy_of_linkVal_none {l : Option (List Char)} (h : linkVal l = none) : strTruthy l = false := by
  cases ht : strTruthy l with
  | false => rfl
  | true => rw [linkVal, if_pos ht] at h; rw [h] at ht; cases ht

theorem Inv.link_none {s : Style} (h : Inv s) (l : s.link ≠ some []) (hn : s.isNull = true) : s.link = none :=
  (linkOk_cases l).resolve_right (by rw [(h.null_empty hn).2.2.2.2]; exact Bool.false_ne_true)

/-- The short cuts `if style._null: return self` / `if self._null: return style` give what the general merge would
give: the stored `_null` flag (which `without_color`, `update_link` and `copy` set to `False` even when nothing is
left) is unobservable through `+` and `==`. -/
theorem add_fields (v : StyleVariant) {a b : Style} (ha : Inv a) (hb : Inv b) (la : LinkOk a) (lb : LinkOk b) :
    (add v a b).color = b.color.or a.color ∧ (add v a b).bgcolor = b.bgcolor.or a.bgcolor ∧
    (add v a b).setAttributes = a.setAttributes ||| b.setAttributes ∧
    (add v a b).attributes = andNot a.attributes b.setAttributes ||| (b.attributes &&& b.setAttributes) ∧
    (add v a b).link = linkOr b.link a.link := by
  obtain ⟨hc, hg, hs, hat, hl⟩ := add_attrs v ha hb
  have lab : LinkOk (add v a b) := add_cases v a b (fun _ => la) (fun _ _ => lb) fun _ _ => linkOr_ok lb la
  rw [linkVal_of_ok lab, linkVal_of_ok (linkOr_ok lb la)] at hl
  exact ⟨hc, hg, hs, hat, hl⟩

theorem add_congr (v : StyleVariant) {a a' b b' : Style} (ha : Inv a) (ha' : Inv a') (hb : Inv b) (hb' : Inv b')
    (la : LinkOk a) (la' : LinkOk a') (lb : LinkOk b) (lb' : LinkOk b')
    (e1 : eq a a' = true) (e2 : eq b b' = true) : eq (add v a b) (add v a' b') = true := by
  obtain ⟨c1, g1, s1, t1, l1⟩ := add_fields v ha hb la lb
  obtain ⟨c2, g2, s2, t2, l2⟩ := add_fields v ha' hb' la' lb'
  rw [eq_iff] at e1 e2 ⊢
  simp only [c1, c2, g1, g2, s1, s2, t1, t2, l1, l2, e1, e2, and_self]

theorem add_self_eq (v : StyleVariant) (hv : v.emptyLink = false) {a : Style} (ha : Reachable v a) :
    eq (add v a a) a = true := by
  obtain ⟨c, g, s, t, l⟩ := add_fields v ha.inv ha.inv (ha.linkOk hv) (ha.linkOk hv)
  rw [eq_iff, c, g, s, t, l]
  refine ⟨by cases a.color <;> rfl, by cases a.bgcolor <;> rfl, Nat.or_self _, ?_, linkOr_self _⟩
  rw [andNot_self_sub ha.inv.attrs_sub, ha.inv.attrs_sub, Nat.zero_or]

theorem null_add_eq (v : StyleVariant) {a : Style} (ha : Inv a) (hl : a.link ≠ some []) :
    eq (add v Style.null a) a = true := by
  cases hn : a.isNull with
  | false => rw [add_null_left v a hn]; exact eq_refl a
  | true =>
    obtain ⟨h1, h2, h3, h4, _⟩ := ha.null_empty hn
    simp [add, hn, eq, Style.null, h1, h2, h3, h4, ha.link_none hl hn]

/-- Any object that compares equal to `NULL_STYLE` (flagged `_null` or not, constructible or not) is a two-sided
identity up to `==`: its compared fields are those of `NULL_STYLE`, and `+` respects `==`. -/
theorem add_eq_of_eq_null (v : StyleVariant) {a e : Style} (ha : Inv a) (la : LinkOk a) (h : eq e Style.null = true) :
    eq (add v a e) a = true ∧ eq (add v e a) a = true := by
  obtain ⟨hc, hb, hs, hat, hl⟩ := eq_iff.mp h
  have he : Inv e := ⟨by rw [hat, hs]; rfl, by rw [hs]; decide, fun _ => ⟨hc, hb, hs, hat, by rw [hl]; rfl⟩⟩
  have le : LinkOk e := by rw [LinkOk, hl]; nofun
  have l0 : LinkOk Style.null := nofun
  constructor
  · have := add_congr v ha ha he inv_null la la le l0 (eq_refl a) h
    rwa [add_null_right] at this
  · exact eq_trans (add_congr v he inv_null ha ha le l0 la la h (eq_refl a)) (null_add_eq v ha la)

end Style
end RichModel
