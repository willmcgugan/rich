import RichModel.Model.Ratio
/-! Sums of integer lists; `roundHalfEven`, `ceilDiv`; the loops of `ratio_reduce` and `ratio_distribute`; `listMax`; an iteration of
`_collapse_widths` (`collapseStep_eq_some`, `CollapseIter`) and the induction over its loop (`collapseWidths_induct`); `Measurement`. -/
namespace RichModel

theorem sum_nonneg_of_all : ∀ (l : List Int), (∀ x ∈ l, 0 ≤ x) → 0 ≤ l.sum
  | [], _ => by simp
  | a :: r, h => by
      have := h a (by simp)
      have := sum_nonneg_of_all r (fun x hx => h x (List.mem_cons_of_mem _ hx))
      rw [List.sum_cons]; omega

theorem le_sum_of_mem : ∀ (l : List Int), (∀ x ∈ l, 0 ≤ x) → ∀ x ∈ l, x ≤ l.sum
  | a :: r, h, x, hx => by
      have hr := List.forall_mem_cons.mp h
      have := sum_nonneg_of_all r hr.2
      rw [List.sum_cons]
      rcases List.mem_cons.mp hx with rfl | hx
      · omega
      · have := le_sum_of_mem r hr.2 x hx; omega

theorem sum_toNat : ∀ (ws : List Int), (∀ w ∈ ws, 0 ≤ w) → ((ws.map Int.toNat).sum : Int) = ws.sum
  | [], _ => rfl
  | x :: xs, h => by
    have := h x (by simp)
    simp only [List.map_cons, List.sum_cons, Int.natCast_add, sum_toNat xs (fun w hw => h w (List.mem_cons_of_mem _ hw))]
    omega

theorem all_zero_of_sum_zero : ∀ (l : List Int), (∀ x ∈ l, 0 ≤ x) → l.sum = 0 → ∀ x ∈ l, x = 0 := by
  intro l h hs x hx
  have := le_sum_of_mem l h x hx
  have := h x hx
  omega

theorem sum_const : ∀ (l : List Int) (M : Int), (∀ x ∈ l, x = M) → l.sum = (l.length : Int) * M
  | [], _, _ => by simp
  | a :: r, M, h => by
    have := h a (by simp)
    have ih := sum_const r M (fun x hx => h x (List.mem_cons_of_mem _ hx))
    simp only [List.sum_cons, List.length_cons, ih, Int.natCast_add, Int.add_mul]
    omega

theorem sum_zero_of_all_zero (l : List Int) (h : ∀ x ∈ l, x = 0) : l.sum = 0 := by
  rw [sum_const l 0 h, Int.mul_zero]

theorem sum_map_one {α : Type} (l : List α) : (l.map (fun _ => (1 : Int))).sum = (l.length : Int) := by
  rw [sum_const _ 1 (fun x hx => by obtain ⟨_, _, rfl⟩ := List.mem_map.mp hx; rfl), List.length_map, Int.mul_one]

theorem sum_ge_length : ∀ (l : List Int), (∀ x ∈ l, 1 ≤ x) → (l.length : Int) ≤ l.sum
  | [], _ => by simp
  | a :: r, h => by
    have := h a (by simp)
    have := sum_ge_length r (fun x hx => h x (List.mem_cons_of_mem _ hx))
    simp only [List.sum_cons, List.length_cons, Int.natCast_add]
    omega

theorem sum_pos_of_all_pos (l : List Int) (hne : l ≠ []) (h : ∀ w ∈ l, 1 ≤ w) : 0 < l.sum := by
  have := sum_ge_length l h
  have := List.length_pos_iff.mpr hne
  omega

theorem sum_pos_of_nonneg_any (l : List Int) (hnn : ∀ r ∈ l, 0 ≤ r) (hany : l.any (· != 0) = true) : 0 < l.sum := by
  have h0 := sum_nonneg_of_all _ hnn
  rcases Int.lt_or_eq_of_le h0 with hlt | heq
  · exact hlt
  · exfalso
    have hz0 := all_zero_of_sum_zero _ hnn heq.symm
    simp only [List.any_eq_true] at hany
    obtain ⟨x, hx, hxne⟩ := hany
    have := hz0 x hx
    simp [this] at hxne

theorem mem_zipIdx_fst {α : Type} (l : List α) (x : α × Nat) (h : x ∈ l.zipIdx) : x.1 ∈ l := by
  obtain ⟨a, i⟩ := x
  exact (List.mem_zipIdx h).2.2 ▸ List.getElem_mem _

theorem sum_fst_nonneg (items : List (Int × Int)) (h : ∀ it ∈ items, 0 ≤ it.1) : 0 ≤ (items.map (·.1)).sum :=
  sum_nonneg_of_all _ (by simpa using h)

theorem rhe_ge_div (a b : Int) : a / b ≤ roundHalfEven a b := by
  unfold roundHalfEven
  simp only
  split
  · omega
  · split
    · omega
    · split <;> omega

theorem rhe_nonneg (a b : Int) (hb : 0 < b) (ha : 0 ≤ a) : 0 ≤ roundHalfEven a b :=
  Int.le_trans (Int.ediv_nonneg ha (by omega)) (rhe_ge_div a b)

theorem rhe_le (a b k : Int) (hb : 0 < b) (h : a ≤ k * b) : roundHalfEven a b ≤ k := by
  have hq := Int.ediv_le_of_le_mul hb h
  have hdecomp := Int.mul_ediv_add_emod a b
  unfold roundHalfEven
  simp only
  split
  · exact hq
  · -- the remainder is positive, so `a` is not the multiple `k * b` and the quotient is below `k`
    have : a / b < k := by
      rcases Int.lt_or_eq_of_le hq with h1 | h1
      · exact h1
      · rw [h1, Int.mul_comm] at hdecomp; omega
    split
    · omega
    · split <;> omega

theorem rhe_mul (x b : Int) (hb : 0 < b) : roundHalfEven (b * x) b = x := by
  unfold roundHalfEven
  simp only [Int.mul_ediv_cancel_left x (by omega : b ≠ 0), Int.mul_emod_right b x]
  rw [if_pos (by omega)]

theorem ceil_mul (x b : Int) (hb : 0 < b) : ceilDiv (b * x) b = x := by
  unfold ceilDiv
  rw [← Int.mul_neg, Int.mul_ediv_cancel_left _ (by omega : b ≠ 0)]; omega

theorem ceil_nonneg (a b : Int) (hb : 0 < b) (ha : 0 ≤ a) : 0 ≤ ceilDiv a b := by
  unfold ceilDiv
  have : (-a) / b ≤ 0 := Int.ediv_le_of_le_mul hb (by omega)
  omega

theorem ceil_le (a b k : Int) (hb : 0 < b) (h : a ≤ k * b) : ceilDiv a b ≤ k := by
  unfold ceilDiv
  have : -k ≤ (-a) / b := Int.le_ediv_of_mul_le hb (by rw [Int.neg_mul]; omega)
  omega

theorem le_ceil_mul (a b : Int) (hb : 0 < b) : a ≤ ceilDiv a b * b := by
  unfold ceilDiv
  have h := Int.mul_ediv_add_emod (-a) b
  have hr := Int.emod_nonneg (-a) (b := b) (by omega)
  have : -(-a / b) * b = -(b * (-a / b)) := by rw [Int.neg_mul, Int.mul_comm]
  omega

theorem share_le (ratio rem tr : Int) (h1 : ratio ≤ tr) (hr : 0 ≤ rem) : ratio * rem ≤ rem * tr := by
  rw [Int.mul_comm rem tr]
  exact Int.mul_le_mul_of_nonneg_right h1 hr

/-- The ratios of the slots `(ratio, maximum, value)` a `ratio_reduce` loop runs over. -/
def rrRatios (items : List (Int × Int × Int)) : List Int := items.map (·.1)
/-- …and their values. -/
def rrValues (items : List (Int × Int × Int)) : List Int := items.map (·.2.2)

theorem rrRatios_map {α : Type} (zs : List α) (f : α → Int × Int × Int) : rrRatios (zs.map f) = zs.map (fun z => (f z).1) := by
  rw [rrRatios, List.map_map]; rfl
theorem rrValues_map {α : Type} (zs : List α) (f : α → Int × Int × Int) : rrValues (zs.map f) = zs.map (fun z => (f z).2.2) := by
  rw [rrValues, List.map_map]; rfl
theorem rrRatios_cons (r m v : Int) (rest) : rrRatios ((r, m, v) :: rest) = r :: rrRatios rest := rfl
theorem rrValues_cons (r m v : Int) (rest) : rrValues ((r, m, v) :: rest) = v :: rrValues rest := rfl

theorem ratioReduceLoop_cons_pos (ratio maximum value : Int) (rest : List (Int × Int × Int)) (rem tr : Int)
    (h : ratio ≠ 0) (htr : 0 < tr) :
    ratioReduceLoop ((ratio, maximum, value) :: rest) rem tr =
      (value - min maximum (roundHalfEven (ratio * rem) tr)) ::
        ratioReduceLoop rest (rem - min maximum (roundHalfEven (ratio * rem) tr)) (tr - ratio) := by
  rw [ratioReduceLoop, if_pos (by simp [h, htr])]

theorem ratioReduceLoop_cons_zero (maximum value : Int) (rest : List (Int × Int × Int)) (rem tr : Int) :
    ratioReduceLoop ((0, maximum, value) :: rest) rem tr = value :: ratioReduceLoop rest rem tr := by
  rw [ratioReduceLoop, if_neg (by simp)]

theorem ratioReduceLoop_length : ∀ (items : List (Int × Int × Int)) (rem tr : Int), (ratioReduceLoop items rem tr).length = items.length
  | [], _, _ => rfl
  | (ratio, maximum, value) :: rest, rem, tr => by
    unfold ratioReduceLoop
    split <;> simp [ratioReduceLoop_length rest]

theorem sum_ratios_nonneg (items : List (Int × Int × Int)) (h : ∀ it ∈ items, 0 ≤ it.1) : 0 ≤ (rrRatios items).sum :=
  sum_nonneg_of_all _ (by simpa [rrRatios] using fun a b c hm => h _ hm)

/-- One turn of the loop, for non-negative ratios that add up to `tr`: the slot gives `d` with `0 ≤ d ≤ rem` and `d ≤ maximum`;
nothing when its ratio is 0, otherwise its capped share `s`, where the slot that holds all the ratio left takes all that is left. -/
theorem ratioReduceLoop_step (ratio maximum value : Int) (rest : List (Int × Int × Int)) (rem tr : Int)
    (hpos : ∀ it ∈ (ratio, maximum, value) :: rest, 0 ≤ it.1 ∧ 0 ≤ it.2.1)
    (htr : tr = (rrRatios ((ratio, maximum, value) :: rest)).sum) (hr : 0 ≤ rem) :
    ∃ d s, ratioReduceLoop ((ratio, maximum, value) :: rest) rem tr =
        (value - d) :: ratioReduceLoop rest (rem - d) (tr - ratio) ∧
      0 ≤ d ∧ d ≤ rem ∧ d ≤ maximum ∧ (∀ it ∈ rest, 0 ≤ it.1 ∧ 0 ≤ it.2.1) ∧ tr - ratio = (rrRatios rest).sum ∧
      0 ≤ ratio ∧ ratio ≤ tr ∧ (ratio = 0 → d = 0) ∧
      (ratio ≠ 0 → d = min maximum s ∧ 0 ≤ s ∧ s ≤ rem ∧ (tr = ratio → s = rem)) := by
  obtain ⟨⟨h0, hm⟩, hrest⟩ := List.forall_mem_cons.mp hpos
  have hsn := sum_ratios_nonneg rest (fun it hit => (hrest it hit).1)
  rw [rrRatios_cons, List.sum_cons] at htr
  simp only at h0 hm htr
  have htr' : tr - ratio = (rrRatios rest).sum := by omega
  have hle : ratio ≤ tr := by omega
  by_cases hz : ratio = 0
  · subst hz
    refine ⟨0, 0, ?_, Int.le_refl 0, hr, hm, hrest, htr', h0, hle, fun _ => rfl, fun h => absurd rfl h⟩
    rw [ratioReduceLoop_cons_zero, Int.sub_zero, Int.sub_zero, Int.sub_zero]
  · have htr0 : 0 < tr := by omega
    have hs0 := rhe_nonneg _ _ htr0 (Int.mul_nonneg h0 hr)
    have hs1 := rhe_le _ _ _ htr0 (share_le ratio rem tr hle hr)
    refine ⟨_, roundHalfEven (ratio * rem) tr, ratioReduceLoop_cons_pos _ _ _ _ _ _ hz htr0, Int.le_min.mpr ⟨hm, hs0⟩,
      Int.le_trans (Int.min_le_right _ _) hs1, Int.min_le_left _ _, hrest, htr', h0, hle, fun h => absurd h hz,
      fun _ => ⟨rfl, hs0, hs1, fun h => ?_⟩⟩
    rw [h]; exact rhe_mul rem ratio (by omega)

theorem ratioReduceLoop_bounds (items : List (Int × Int × Int)) : ∀ (rem tr : Int),
    (∀ it ∈ items, 0 ≤ it.1 ∧ 0 ≤ it.2.1) → tr = (rrRatios items).sum → 0 ≤ rem →
    (ratioReduceLoop items rem tr).length = items.length ∧
    (rrValues items).sum - rem ≤ (ratioReduceLoop items rem tr).sum ∧
    (ratioReduceLoop items rem tr).sum ≤ (rrValues items).sum ∧
    (∀ p ∈ items.zip (ratioReduceLoop items rem tr), p.1.2.2 - p.1.2.1 ≤ p.2 ∧ p.2 ≤ p.1.2.2) := by
  induction items with
  | nil => intro rem tr _ _ hr; simp [ratioReduceLoop, rrValues]; omega
  | cons it rest ih =>
      obtain ⟨ratio, maximum, value⟩ := it
      intro rem tr hpos htr hr
      obtain ⟨d, _, heq, hd0, hd1, hd2, hrest, htr', _⟩ := ratioReduceLoop_step ratio maximum value rest rem tr hpos htr hr
      obtain ⟨l, lo, hi, pt⟩ := ih (rem - d) (tr - ratio) hrest htr' (by omega)
      rw [heq, rrValues_cons]
      simp only [List.length_cons, List.sum_cons, List.zip_cons_cons, List.forall_mem_cons, ← and_assoc]
      exact ⟨by omega, pt⟩

theorem ratioReduceLoop_zero_ratio : ∀ (items : List (Int × Int × Int)) (rem tr : Int),
    ∀ p ∈ items.zip (ratioReduceLoop items rem tr), p.1.1 = 0 → p.2 = p.1.2.2
  | [], _, _ => by simp [ratioReduceLoop]
  | (ratio, maximum, value) :: rest, rem, tr => by
      unfold ratioReduceLoop
      split
      · rename_i hc
        rw [List.zip_cons_cons, List.forall_mem_cons]
        refine ⟨fun hz => ?_, ratioReduceLoop_zero_ratio rest _ _⟩
        simp only [Bool.and_eq_true, bne_iff_ne, ne_eq] at hc
        exact absurd hz hc.1
      · rw [List.zip_cons_cons, List.forall_mem_cons]
        exact ⟨fun _ => rfl, ratioReduceLoop_zero_ratio rest _ _⟩

/-- The loop takes at least `k` in all when at least `k` is asked for, some slot has a positive ratio and every such slot may give
`k`: a slot that gives less than `k` gives its whole share, and the last slot with a ratio is asked for all that is left.  (`k = 1`:
progress; `k = rem`: when no maximum binds, exactly `rem` is taken.) -/
theorem ratioReduceLoop_takes (items : List (Int × Int × Int)) : ∀ (rem tr k : Int),
    (∀ it ∈ items, 0 ≤ it.1 ∧ 0 ≤ it.2.1) → (∀ it ∈ items, 0 < it.1 → k ≤ it.2.1) →
    tr = (rrRatios items).sum → 0 < tr → 0 ≤ k → k ≤ rem →
    (ratioReduceLoop items rem tr).sum ≤ (rrValues items).sum - k := by
  induction items with
  | nil => intro _ _ _ _ _ htr _ _ _; simp [rrRatios] at htr; omega
  | cons it rest ih =>
      obtain ⟨ratio, maximum, value⟩ := it
      intro rem tr k hpos hmax htr htr0 hk0 hk
      obtain ⟨d, s, heq, hd0, hd1, hd2, hrest, htr', h0, hle, hz, hnz⟩ :=
        ratioReduceLoop_step ratio maximum value rest rem tr hpos htr (by omega)
      obtain ⟨hm1, hmaxrest⟩ := List.forall_mem_cons.mp hmax
      simp only at hm1
      rw [heq, rrValues_cons, List.sum_cons, List.sum_cons]
      by_cases hd : k ≤ d
      · have := (ratioReduceLoop_bounds rest (rem - d) (tr - ratio) hrest htr' (by omega)).2.2.1
        omega
      · -- less than `k` taken here: slots with a ratio follow, for the last one would have given `min maximum rem ≥ k`
        have : 0 < tr - ratio := by
          by_cases hr0 : ratio = 0
          · omega
          · obtain ⟨hds, _, _, hlast⟩ := hnz hr0
            have := hm1 (by omega)
            exact Decidable.byContradiction fun hn => by have := hlast (by omega); omega
        have := ih (rem - d) (tr - ratio) (k - d) hrest
          (fun it hit hp => by have := hmaxrest it hit hp; omega) htr' this (by omega) (by omega)
        omega

theorem ratioDistributeLoop_length : ∀ (items : List (Int × Int)) (rem tr : Int),
    (ratioDistributeLoop items rem tr).length = items.length
  | [], _, _ => rfl
  | _ :: rest, _, _ => by simp [ratioDistributeLoop, ratioDistributeLoop_length rest]

theorem ratioDistributeLoop_cons (ratio minimum : Int) (rest : List (Int × Int)) (rem tr d : Int)
    (hd : d = if tr > 0 then max minimum (ceilDiv (ratio * rem) tr) else rem) :
    ratioDistributeLoop ((ratio, minimum) :: rest) rem tr = d :: ratioDistributeLoop rest (rem - d) (tr - ratio) := by
  rw [hd, ratioDistributeLoop]

/-- One turn of the `ratio_distribute` loop, for non-negative ratios that add up to `tr`: the slot is handed `d`.  While ratio is left
(`0 < tr`) that is its share `s = ⌈ratio * rem / tr⌉` raised to its minimum, and the slot that holds all the ratio left is asked for
all that is left; once the ratios are used up it is all that is left. -/
theorem ratioDistributeLoop_step (ratio minimum : Int) (rest : List (Int × Int)) (rem tr : Int)
    (hpos : ∀ it ∈ (ratio, minimum) :: rest, 0 ≤ it.1) (htr : tr = (((ratio, minimum) :: rest).map (·.1)).sum) :
    ∃ d s, ratioDistributeLoop ((ratio, minimum) :: rest) rem tr = d :: ratioDistributeLoop rest (rem - d) (tr - ratio) ∧
      (∀ it ∈ rest, 0 ≤ it.1) ∧ tr - ratio = (rest.map (·.1)).sum ∧ ratio ≤ tr ∧ (tr ≤ 0 → d = rem) ∧
      (0 < tr → d = max minimum s ∧ (0 ≤ rem → 0 ≤ s ∧ s ≤ rem) ∧ (rem ≤ 0 → s ≤ 0) ∧ (tr = ratio → s = rem)) := by
  obtain ⟨h0, hrest⟩ := List.forall_mem_cons.mp hpos
  have hsn := sum_fst_nonneg rest hrest
  rw [List.map_cons, List.sum_cons] at htr
  simp only at h0 htr
  refine ⟨_, ceilDiv (ratio * rem) tr, ratioDistributeLoop_cons ratio minimum rest rem tr _ rfl, hrest, by omega, by omega,
    fun h => if_neg (by omega), fun htr0 => ⟨if_pos htr0, fun hrem => ?_, fun hrem => ?_, fun h => ?_⟩⟩
  · exact ⟨ceil_nonneg _ tr htr0 (Int.mul_nonneg h0 hrem), ceil_le _ tr rem htr0 (share_le ratio rem tr (by omega) hrem)⟩
  · exact ceil_le _ tr 0 htr0 (by have := Int.mul_nonpos_of_nonneg_of_nonpos h0 hrem; omega)
  · rw [h]; exact ceil_mul rem ratio (by omega)

/-- `ratio_distribute` hands out at least `total` (exactly `total` unless a minimum binds at the end): the last slot with a
ratio takes what is left, and once the ratios are used up the next slot does. -/
theorem ratioDistributeLoop_sum_ge (items : List (Int × Int)) : ∀ (rem tr : Int),
    (∀ it ∈ items, 0 ≤ it.1) → tr = (items.map (·.1)).sum → items ≠ [] →
    rem ≤ (ratioDistributeLoop items rem tr).sum := by
  induction items with
  | nil => intro _ _ _ _ h; exact absurd rfl h
  | cons it rest ih =>
      obtain ⟨ratio, minimum⟩ := it
      intro rem tr hpos htr _
      obtain ⟨d, s, heq, hrest, htr', _, hlast, hshare⟩ := ratioDistributeLoop_step ratio minimum rest rem tr hpos htr
      rw [heq, List.sum_cons]
      cases rest with
      | nil =>
        -- the last slot holds all the ratio left, so it is handed all that is left, or its minimum if that is more
        simp only [List.map_nil, List.sum_nil, ratioDistributeLoop] at htr' ⊢
        omega
      | cons it' rest' =>
        have := ih (rem - d) (tr - ratio) hrest htr' (List.cons_ne_nil _ _)
        omega

/-- With positive ratios every share is at least its minimum: the total ratio left stays positive until the list is used up. -/
theorem ratioDistributeLoop_ge_min (items : List (Int × Int)) : ∀ (rem tr : Int), (∀ it ∈ items, 1 ≤ it.1) → tr = (items.map (·.1)).sum →
    ∀ p ∈ (items.map (·.2)).zip (ratioDistributeLoop items rem tr), p.1 ≤ p.2 := by
  induction items with
  | nil => intro _ _ _ _; simp [ratioDistributeLoop]
  | cons it rest ih =>
    obtain ⟨ratio, minimum⟩ := it
    intro rem tr hpos htr
    obtain ⟨h1, hrest1⟩ := List.forall_mem_cons.mp hpos
    obtain ⟨d, s, heq, _, htr', hle, _, hshare⟩ := ratioDistributeLoop_step ratio minimum rest rem tr
      (fun it hit => by have := hpos it hit; omega) htr
    rw [heq, List.map_cons, List.zip_cons_cons, List.forall_mem_cons]
    exact ⟨by simp only at h1 ⊢; omega, ih _ (tr - ratio) hrest1 htr'⟩

theorem ratioDistributeLoop_exact (items : List (Int × Int)) : ∀ (rem tr : Int),
    (∀ it ∈ items, 0 ≤ it.1 ∧ it.2 = 0) → tr = (items.map (·.1)).sum → 0 ≤ rem →
    (items ≠ [] → (ratioDistributeLoop items rem tr).sum = rem) ∧ ∀ d ∈ ratioDistributeLoop items rem tr, 0 ≤ d := by
  induction items with
  | nil => intro _ _ _ _ _; simp [ratioDistributeLoop]
  | cons it rest ih =>
      obtain ⟨ratio, minimum⟩ := it
      intro rem tr hpos htr hrem
      obtain ⟨⟨_, hmin⟩, hrest0⟩ := List.forall_mem_cons.mp hpos
      simp only at hmin
      subst hmin
      obtain ⟨d, s, heq, _, htr', _, hlast, hshare⟩ := ratioDistributeLoop_step ratio 0 rest rem tr (fun it hit => (hpos it hit).1) htr
      -- the share lies between 0 and what is left
      obtain ⟨ihs, ihn⟩ := ih (rem - d) (tr - ratio) hrest0 htr' (by omega)
      rw [heq, List.sum_cons, List.forall_mem_cons]
      refine ⟨fun _ => ?_, by omega, ihn⟩
      cases rest with
      | nil =>
        -- the last slot holds all the ratio left and takes all that is left
        simp only [List.map_nil, List.sum_nil, ratioDistributeLoop] at htr' ⊢
        omega
      | cons it' rest' => have := ihs (List.cons_ne_nil _ _); omega

theorem ratioDistributeLoop_nonpos (items : List (Int × Int)) : ∀ (rem tr : Int),
    (∀ it ∈ items, 1 ≤ it.1 ∧ it.2 = 0) → tr = (items.map (·.1)).sum → rem ≤ 0 →
    ∀ d ∈ ratioDistributeLoop items rem tr, d = 0 := by
  induction items with
  | nil => intro _ _ _ _ _; simp [ratioDistributeLoop]
  | cons it rest ih =>
    obtain ⟨ratio, minimum⟩ := it
    intro rem tr hpos htr hrem
    obtain ⟨⟨h1, hmin⟩, hrest⟩ := List.forall_mem_cons.mp hpos
    simp only at h1 hmin
    subst hmin
    obtain ⟨d, s, heq, _, htr', hle, _, hshare⟩ := ratioDistributeLoop_step ratio 0 rest rem tr
      (fun it hit => by have := (hpos it hit).1; omega) htr
    -- nothing is left to hand out, so this slot's share `max 0 ⌈ratio * rem / tr⌉` is 0
    have hd0 : d = 0 := by omega
    rw [heq, List.forall_mem_cons]
    exact ⟨hd0, ih (rem - d) (tr - ratio) hrest htr' (by omega)⟩

theorem zip_replicate_fst (l : List Int) : ((l.zip (List.replicate l.length (0:Int))).map (·.1)) = l :=
  List.map_fst_zip (by rw [List.length_replicate]; exact Nat.le_refl _)

theorem ratioDistribute_none_eq (total : Int) (ratios : List Int) (hsum : 0 < ratios.sum) :
    ratioDistribute total ratios none =
      some (ratioDistributeLoop (ratios.zip (List.replicate ratios.length 0)) total ratios.sum) := by
  unfold ratioDistribute
  simp only [hsum, if_true]

theorem ratioDistribute_none (total : Int) (ratios : List Int) (hpos : ∀ r ∈ ratios, 0 ≤ r)
    (hsum : 0 < ratios.sum) (ht : 0 ≤ total) :
    ∃ l, ratioDistribute total ratios none = some l ∧ l.sum = total ∧ l.length = ratios.length ∧ ∀ d ∈ l, 0 ≤ d := by
  obtain ⟨hs, hn⟩ := ratioDistributeLoop_exact (ratios.zip (List.replicate ratios.length 0)) total ratios.sum
    (fun it hit => ⟨hpos _ (List.of_mem_zip hit).1, (List.mem_replicate.mp (List.of_mem_zip hit).2).2⟩)
    (by rw [zip_replicate_fst]) ht
  refine ⟨_, ratioDistribute_none_eq total ratios hsum, hs ?_, by rw [ratioDistributeLoop_length]; simp, hn⟩
  rintro h
  rw [← zip_replicate_fst ratios, h] at hsum
  exact absurd hsum (by decide)

theorem foldl_max_ge (xs : List Int) : ∀ (a : Int), a ≤ xs.foldl max a ∧ ∀ x ∈ xs, x ≤ xs.foldl max a := by
  induction xs with
  | nil => intro a; simp
  | cons y ys ih =>
    intro a
    rw [List.foldl_cons, List.forall_mem_cons]
    have := ih (max a y)
    exact ⟨by omega, by omega, this.2⟩

theorem foldl_max_mem (xs : List Int) : ∀ (a : Int), xs.foldl max a = a ∨ xs.foldl max a ∈ xs := by
  induction xs with
  | nil => intro a; simp
  | cons y ys ih =>
    intro a
    rw [List.foldl_cons, List.mem_cons]
    rcases ih (max a y) with h | h
    · rw [h]; omega
    · exact Or.inr (Or.inr h)

theorem listMax_ge (l : List Int) : ∀ x ∈ l, x ≤ listMax l := by
  cases l with
  | nil => simp
  | cons a r => exact List.forall_mem_cons.mpr (foldl_max_ge r a)

theorem listMax_mem (l : List Int) (h : l ≠ []) : listMax l ∈ l := by
  cases l with
  | nil => exact absurd rfl h
  | cons a r => exact List.mem_cons.mpr (foldl_max_mem r a)

/-- The maximum of an empty list counts as 0, so a bound that holds of every element and of 0 holds of `listMax`. -/
theorem listMax_cases (l : List Int) : (l = [] ∧ listMax l = 0) ∨ listMax l ∈ l := by
  cases l with
  | nil => exact Or.inl ⟨rfl, rfl⟩
  | cons a r => exact Or.inr (listMax_mem _ (List.cons_ne_nil _ _))

theorem listMax_nonneg (l : List Int) (h : ∀ x ∈ l, 0 ≤ x) : 0 ≤ listMax l := by
  rcases listMax_cases l with ⟨_, h0⟩ | hm
  · omega
  · exact h _ hm

theorem listMax_le (l : List Int) (k : Int) (hk : 0 ≤ k) (h : ∀ x ∈ l, x ≤ k) : listMax l ≤ k := by
  rcases listMax_cases l with ⟨_, h0⟩ | hm
  · omega
  · exact h _ hm

theorem listMax_map_min (l : List Int) (hne : l ≠ []) (w : Int) : listMax (l.map (fun n => min n w)) = min (listMax l) w := by
  have hm := listMax_mem l hne
  have hne' : l.map (fun n => min n w) ≠ [] := by simpa using hne
  apply Int.le_antisymm
  · have hmem := listMax_mem _ hne'
    simp only [List.mem_map] at hmem
    obtain ⟨n, hn, hnw⟩ := hmem
    rw [← hnw]
    have := listMax_ge l n hn
    omega
  · exact listMax_ge _ _ (List.mem_map.2 ⟨listMax l, hm, rfl⟩)

theorem exists_zip_of_mem {α β : Type} (l1 : List α) (l2 : List β) (h : l1.length = l2.length) :
    ∀ r ∈ l2, ∃ a, (a, r) ∈ l1.zip l2 := by
  intro r hr
  obtain ⟨i, hi, rfl⟩ := List.getElem_of_mem hr
  exact ⟨l1[i], List.mem_iff_getElem.mpr ⟨i, by simp; omega, by simp⟩⟩

theorem exists_zip_of_mem_left {α β : Type} (l1 : List α) (l2 : List β) (h : l1.length = l2.length) :
    ∀ x ∈ l1, ∃ b, (x, b) ∈ l1.zip l2 := by
  intro x hx
  obtain ⟨i, hi, rfl⟩ := List.getElem_of_mem hx
  exact ⟨l2[i], List.mem_iff_getElem.mpr ⟨i, by simp; omega, by simp⟩⟩

theorem map_fst_zip {α β : Type} (l1 : List α) (l2 : List β) (h : l1.length = l2.length) : (l1.zip l2).map (·.1) = l1 :=
  List.map_fst_zip (by omega)

theorem mask_nonzero (l m : List Int) (h : l.length = m.length) (hm : ∀ x ∈ m, x ≠ 0) :
    ((l.zip m).map (fun p => if p.2 != 0 then p.1 else 0)) = l := by
  have : ∀ p ∈ l.zip m, (if p.2 != 0 then p.1 else 0) = p.1 := fun p hp => if_pos (by simpa using hm p.2 (List.of_mem_zip hp).2)
  rw [List.map_congr_left this, map_fst_zip l m h]

theorem mask_zero_sum (ratios maxs : List Int) (h : ∀ x ∈ maxs, x = 0) :
    ((ratios.zip maxs).map (fun p => if p.2 != 0 then p.1 else 0)).sum = 0 :=
  sum_zero_of_all_zero _ (fun x hx => by
    obtain ⟨p, hp, rfl⟩ := List.mem_map.mp hx
    exact if_neg (by simp [h p.2 (List.of_mem_zip hp).2]))

theorem ratioReduce_zero_max (total : Int) (ratios maxs values : List Int) (h : ∀ x ∈ maxs, x = 0) :
    ratioReduce total ratios maxs values = values := by
  unfold ratioReduce
  simp only [mask_zero_sum ratios maxs h]
  simp

/-- `ratio_reduce` with one and the same non-zero maximum for every slot is the loop over the slots as they stand. -/
theorem ratioReduce_uniform {α : Type} (zs : List α) (f g : α → Int) (total m : Int) (values : List Int) (n : Nat)
    (hv : values = zs.map g) (hn : n = zs.length) (hm : m ≠ 0) (hs : (zs.map f).sum ≠ 0) :
    ratioReduce total (zs.map f) (List.replicate n m) values =
      ratioReduceLoop (zs.map (fun z => (f z, m, g z))) total (zs.map f).sum := by
  subst hv hn
  have hmask := mask_nonzero (zs.map f) (List.replicate zs.length m) (by simp) (fun x hx => (List.mem_replicate.mp hx).2 ▸ hm)
  have hzip : (zs.map f).zip ((List.replicate zs.length m).zip (zs.map g)) = zs.map (fun z => (f z, m, g z)) := by
    clear hs hmask
    induction zs with
    | nil => rfl
    | cons a r ih => simp [List.replicate_succ, ih]
  unfold ratioReduce
  simp only [hmask, hzip]
  rw [if_neg (by simpa using hs)]

/-- `max_column` of an iteration of the collapse loop: the widest of the columns that may shrink. -/
def collapseMax (zs : List (Int × Bool)) : Int := listMax ((zs.filter (·.2)).map (·.1))

/-- `second_max_column`: the widest of the columns that may shrink and are not at `max_column`; 0 if there is none. -/
def collapseSecond (zs : List (Int × Bool)) : Int :=
  listMax (zs.map (fun p => if p.2 && p.1 != collapseMax zs then p.1 else 0))

/-- What no column gives up in one iteration: the excess, or the distance to `second_max_column` if that is less. -/
def collapseCap (widths : List Int) (wrapable : List Bool) (maxWidth : Int) : Int :=
  min (widths.sum - maxWidth) (collapseMax (widths.zip wrapable) - collapseSecond (widths.zip wrapable))

/-- The ratios the iteration hands to `ratio_reduce`: 1 for the columns at `max_column` that may shrink, 0 for the others. -/
def collapseMarks (zs : List (Int × Bool)) : List Int := zs.map (fun z => if z.1 == collapseMax zs && z.2 then (1 : Int) else 0)

/-- The slots the iteration hands to `ratio_reduce`: ratio 1 for the columns at `max_column` that may shrink, 0 for the others;
the same maximum for all; the widths as values. -/
def collapseItems (zs : List (Int × Bool)) (cap : Int) : List (Int × Int × Int) :=
  zs.map (fun z => ((if z.1 == collapseMax zs && z.2 then (1 : Int) else 0), cap, z.1))

theorem collapseCap_le (widths : List Int) (wrapable : List Bool) (maxWidth : Int) :
    collapseCap widths wrapable maxWidth ≤ collapseMax (widths.zip wrapable) - collapseSecond (widths.zip wrapable) :=
  Int.min_le_right _ _

theorem collapseCap_of_second_zero (widths : List Int) (wrapable : List Bool) (maxWidth : Int)
    (h : collapseSecond (widths.zip wrapable) = 0) :
    collapseCap widths wrapable maxWidth = min (widths.sum - maxWidth) (collapseMax (widths.zip wrapable)) := by
  rw [collapseCap, h, Int.sub_zero]

theorem collapseMax_ge (zs : List (Int × Bool)) (z : Int × Bool) (hz : z ∈ zs) (hb : z.2 = true) : z.1 ≤ collapseMax zs :=
  listMax_ge _ _ (List.mem_map.mpr ⟨z, List.mem_filter.mpr ⟨hz, hb⟩, rfl⟩)

theorem collapseMax_mem (zs : List (Int × Bool)) (h : ∃ z ∈ zs, z.2 = true) : ∃ z ∈ zs, z.2 = true ∧ z.1 = collapseMax zs := by
  obtain ⟨z, hz, hb⟩ := h
  have := listMax_mem ((zs.filter (·.2)).map (·.1)) (List.ne_nil_of_mem (List.mem_map.mpr ⟨z, List.mem_filter.mpr ⟨hz, hb⟩, rfl⟩))
  obtain ⟨q, hq, hqe⟩ := List.mem_map.mp this
  exact ⟨q, (List.mem_filter.mp hq).1, (List.mem_filter.mp hq).2, hqe⟩

theorem collapseSecond_ge (zs : List (Int × Bool)) (z : Int × Bool) (hz : z ∈ zs) (hb : z.2 = true) (hne : z.1 ≠ collapseMax zs) :
    z.1 ≤ collapseSecond zs :=
  listMax_ge _ _ (List.mem_map.mpr ⟨z, hz, by simp [hb, hne]⟩)

theorem collapseSecond_cases (zs : List (Int × Bool)) :
    collapseSecond zs = 0 ∨ ∃ z ∈ zs, z.2 = true ∧ z.1 ≠ collapseMax zs ∧ z.1 = collapseSecond zs := by
  rcases listMax_cases (zs.map (fun p => if p.2 && p.1 != collapseMax zs then p.1 else 0)) with ⟨_, h0⟩ | hm
  · exact Or.inl h0
  · obtain ⟨p, hp, hpe⟩ := List.mem_map.mp hm
    by_cases hc : (p.2 && p.1 != collapseMax zs) = true
    · rw [if_pos hc] at hpe
      simp only [Bool.and_eq_true, bne_iff_ne, ne_eq] at hc
      exact Or.inr ⟨p, hp, hc.1, hc.2, hpe⟩
    · rw [if_neg hc] at hpe
      exact Or.inl hpe.symm

theorem collapseMarks_any (zs : List (Int × Bool)) :
    (collapseMarks zs).any (· != 0) = true ↔ ∃ z ∈ zs, z.1 = collapseMax zs ∧ z.2 = true := by
  simp only [collapseMarks, List.any_eq_true, List.mem_map]
  constructor
  · rintro ⟨x, ⟨z, hz, rfl⟩, hx⟩
    by_cases hc : (z.1 == collapseMax zs && z.2) = true
    · exact ⟨z, hz, by simpa using hc⟩
    · rw [if_neg hc] at hx; exact absurd hx (by decide)
  · rintro ⟨z, hz, h1, h2⟩
    exact ⟨1, ⟨z, hz, by simp [h1, h2]⟩, by decide⟩

theorem collapseMarks_sum_pos (zs : List (Int × Bool)) (h : ∃ z ∈ zs, z.1 = collapseMax zs ∧ z.2 = true) : 0 < (collapseMarks zs).sum := by
  obtain ⟨z, hz, h1, h2⟩ := h
  exact le_sum_of_mem _ (by intro x hx; obtain ⟨q, _, rfl⟩ := List.mem_map.mp hx; split <;> omega) 1
    (List.mem_map.mpr ⟨z, hz, by simp [h1, h2]⟩)

theorem rrRatios_collapseItems (zs : List (Int × Bool)) (cap : Int) : rrRatios (collapseItems zs cap) = collapseMarks zs := by
  rw [collapseItems, rrRatios_map]; rfl

theorem rrValues_collapseItems (widths : List Int) (wrapable : List Bool) (hlen : widths.length = wrapable.length) (cap : Int) :
    rrValues (collapseItems (widths.zip wrapable) cap) = widths := by
  rw [collapseItems, rrValues_map]; exact map_fst_zip widths wrapable hlen

theorem collapseItems_length (widths : List Int) (wrapable : List Bool) (hlen : widths.length = wrapable.length) (cap : Int) :
    (collapseItems (widths.zip wrapable) cap).length = widths.length := by
  rw [collapseItems, List.length_map, List.length_zip, ← hlen, Nat.min_self]

theorem collapseItems_of_all_max (zs : List (Int × Bool)) (h : ∀ z ∈ zs, z.2 = true → z.1 = collapseMax zs) (cap : Int) :
    collapseItems zs cap = zs.map (fun z => ((if z.2 then (1 : Int) else 0), cap, z.1)) := by
  refine List.map_congr_left (fun z hz => ?_)
  by_cases hb : z.2 = true
  · simp [h z hz hb, hb]
  · simp [hb]

/-- Every column that may shrink is at 0: the collapse has nothing left to take. -/
def wrapZero (widths : List Int) (wrapable : List Bool) : Prop :=
  ∀ p ∈ widths.zip wrapable, p.2 = true → p.1 = 0

/-- **When an iteration of the collapse loop goes ahead, and what it returns**: there is an excess over a total that is not 0, some
column that may shrink is at `max_column`, and `max_column` is not `second_max_column`; the new widths are a `ratio_reduce` of the excess
over the columns at `max_column`, each giving at most `collapseCap`. -/
theorem collapseStep_eq_some (widths : List Int) (wrapable : List Bool) (maxWidth : Int) (w' : List Int) :
    collapseStep widths wrapable maxWidth = some w' ↔
      widths.sum ≠ 0 ∧ 0 < widths.sum - maxWidth ∧
      (∃ z ∈ widths.zip wrapable, z.1 = collapseMax (widths.zip wrapable) ∧ z.2 = true) ∧
      collapseMax (widths.zip wrapable) ≠ collapseSecond (widths.zip wrapable) ∧
      ratioReduce (widths.sum - maxWidth) (collapseMarks (widths.zip wrapable))
        (List.replicate widths.length (collapseCap widths wrapable maxWidth)) widths = w' := by
  show (if (widths.sum != 0 && decide (widths.sum - maxWidth > 0)) = true then
      (if (!(collapseMarks (widths.zip wrapable)).any (· != 0) ||
          collapseMax (widths.zip wrapable) - collapseSecond (widths.zip wrapable) == 0) = true then none else some _) else none) = _ ↔ _
  by_cases hcond : (widths.sum != 0 && decide (widths.sum - maxWidth > 0)) = true
  · rw [if_pos hcond]
    simp only [Bool.and_eq_true, bne_iff_ne, ne_eq, decide_eq_true_eq] at hcond
    by_cases hbrk : (!(collapseMarks (widths.zip wrapable)).any (· != 0) ||
        collapseMax (widths.zip wrapable) - collapseSecond (widths.zip wrapable) == 0) = true
    · rw [if_pos hbrk]
      simp only [Bool.or_eq_true, Bool.not_eq_true', beq_iff_eq] at hbrk
      refine ⟨nofun, fun ⟨_, _, hz, hne, _⟩ => ?_⟩
      rcases hbrk with hb | hb
      · rw [(collapseMarks_any _).2 hz] at hb; cases hb
      · exact absurd (by omega) hne
    · rw [if_neg hbrk, Option.some.injEq]
      simp only [Bool.or_eq_true, Bool.not_eq_true', beq_iff_eq, not_or, Bool.not_eq_false] at hbrk
      exact ⟨fun h => ⟨hcond.1, hcond.2, (collapseMarks_any _).1 hbrk.1, by omega, h⟩, fun h => h.2.2.2.2⟩
  · rw [if_neg hcond]
    simp only [Bool.and_eq_true, bne_iff_ne, ne_eq, decide_eq_true_eq] at hcond
    exact ⟨nofun, fun ⟨h1, h2, _⟩ => absurd ⟨h1, h2⟩ hcond⟩

/-- **What an iteration of the collapse loop that goes ahead does** (widths not negative): there is an excess; some column that may
shrink is at `max_column`, strictly above `second_max_column ≥ 0`; and the new widths are a `ratio_reduce` of the excess over the
columns at `max_column`, none of which gives more than `collapseCap`. -/
structure CollapseIter (widths : List Int) (wrapable : List Bool) (maxWidth : Int) (w' : List Int) : Prop where
  excess_pos : 0 < widths.sum - maxWidth
  second_nonneg : 0 ≤ collapseSecond (widths.zip wrapable)
  second_lt : collapseSecond (widths.zip wrapable) < collapseMax (widths.zip wrapable)
  at_max : ∃ z ∈ widths.zip wrapable, z.1 = collapseMax (widths.zip wrapable) ∧ z.2 = true
  eq : w' = ratioReduceLoop (collapseItems (widths.zip wrapable) (collapseCap widths wrapable maxWidth)) (widths.sum - maxWidth)
    (rrRatios (collapseItems (widths.zip wrapable) (collapseCap widths wrapable maxWidth))).sum

theorem collapseStep_iter (widths : List Int) (wrapable : List Bool) (maxWidth : Int)
    (hlen : widths.length = wrapable.length) (hnn : ∀ w ∈ widths, 0 ≤ w) (w' : List Int)
    (h : collapseStep widths wrapable maxWidth = some w') : CollapseIter widths wrapable maxWidth w' := by
  obtain ⟨_, hex, ⟨z, hz, hzM, hzt⟩, hne, rfl⟩ := (collapseStep_eq_some widths wrapable maxWidth w').1 h
  have hznn : ∀ z ∈ widths.zip wrapable, 0 ≤ z.1 := fun z hz => hnn _ (List.of_mem_zip hz).1
  have hM0 : 0 ≤ collapseMax (widths.zip wrapable) := hzM ▸ hznn z hz
  -- `second_max_column` is 0 or a width, and no column that may shrink is wider than `max_column`
  have hS : 0 ≤ collapseSecond (widths.zip wrapable) ∧ collapseSecond (widths.zip wrapable) ≤ collapseMax (widths.zip wrapable) := by
    rcases collapseSecond_cases (widths.zip wrapable) with h0 | ⟨q, hq, hqt, _, hqe⟩
    · omega
    · rw [← hqe]; exact ⟨hznn q hq, collapseMax_ge _ q hq hqt⟩
  refine ⟨hex, hS.1, by omega, ⟨z, hz, hzM, hzt⟩, ?_⟩
  rw [rrRatios_collapseItems]
  exact ratioReduce_uniform (widths.zip wrapable) _ (·.1) _ _ widths _ (map_fst_zip widths wrapable hlen).symm (by simp [hlen])
    (Int.ne_of_gt (show 0 < collapseCap widths wrapable maxWidth by unfold collapseCap; omega))
    (Int.ne_of_gt (collapseMarks_sum_pos _ ⟨z, hz, hzM, hzt⟩))

namespace CollapseIter
variable {widths : List Int} {wrapable : List Bool} {maxWidth : Int} {w' : List Int}

theorem cap_pos (it : CollapseIter widths wrapable maxWidth w') : 1 ≤ collapseCap widths wrapable maxWidth := by
  have := it.excess_pos; have := it.second_lt; unfold collapseCap; omega

theorem items_ok (it : CollapseIter widths wrapable maxWidth w') :
    ∀ s ∈ collapseItems (widths.zip wrapable) (collapseCap widths wrapable maxWidth), 0 ≤ s.1 ∧ 0 ≤ s.2.1 := by
  intro s hs
  obtain ⟨q, _, rfl⟩ := List.mem_map.mp hs
  exact ⟨by simp only; split <;> decide, Int.le_trans (Int.zero_le_ofNat 1) it.cap_pos⟩

theorem ratios_pos (it : CollapseIter widths wrapable maxWidth w') :
    0 < (rrRatios (collapseItems (widths.zip wrapable) (collapseCap widths wrapable maxWidth))).sum := by
  rw [rrRatios_collapseItems]; exact collapseMarks_sum_pos _ it.at_max

theorem length_eq (it : CollapseIter widths wrapable maxWidth w') (hlen : widths.length = wrapable.length) :
    w'.length = widths.length := by
  have := (ratioReduceLoop_bounds _ _ _ it.items_ok rfl (Int.le_of_lt it.excess_pos)).1
  rw [← it.eq] at this
  exact this.trans (collapseItems_length widths wrapable hlen _)

/-- What an iteration does to column `i`: it does not come out wider, and it stays as it is or ends at or above
`second_max_column` — only the columns at `max_column` give, and none of them more than the distance between the two. -/
theorem getElem (it : CollapseIter widths wrapable maxWidth w') (hlen : widths.length = wrapable.length) (i : Nat)
    (hi : i < w'.length) :
    w'[i] ≤ widths[i]'(it.length_eq hlen ▸ hi) ∧
      (w'[i] = widths[i]'(it.length_eq hlen ▸ hi) ∨ collapseSecond (widths.zip wrapable) ≤ w'[i]) := by
  have hiw : i < widths.length := it.length_eq hlen ▸ hi
  obtain ⟨blen, _, _, bpt⟩ := ratioReduceLoop_bounds _ _ _ it.items_ok rfl (Int.le_of_lt it.excess_pos)
  have bz := ratioReduceLoop_zero_ratio (collapseItems (widths.zip wrapable) (collapseCap widths wrapable maxWidth))
    (widths.sum - maxWidth) (rrRatios (collapseItems (widths.zip wrapable) (collapseCap widths wrapable maxWidth))).sum
  rw [← it.eq] at blen bpt bz
  -- the `i`-th slot holds the `i`-th old width as its value
  have hp : (_, w'[i]) ∈ (collapseItems (widths.zip wrapable) (collapseCap widths wrapable maxWidth)).zip w' :=
    List.mem_iff_getElem.mpr ⟨i, by rw [List.length_zip]; omega, List.getElem_zip⟩
  have hb := bpt _ hp
  have hz := bz _ hp
  simp only [collapseItems, List.getElem_map, List.getElem_zip] at hb hz
  refine ⟨hb.2, ?_⟩
  by_cases hc : (widths[i] == collapseMax (widths.zip wrapable) && wrapable[i]'(hlen ▸ hiw)) = true
  · -- a column at `max_column` that gives up at most the distance stays at or above `second_max_column`
    have : widths[i] = collapseMax (widths.zip wrapable) := by simp only [Bool.and_eq_true, beq_iff_eq] at hc; exact hc.1
    have := collapseCap_le widths wrapable maxWidth
    exact Or.inr (by omega)
  · exact Or.inl (hz (if_neg hc))

end CollapseIter

theorem collapseStep_mem (widths : List Int) (wrapable : List Bool) (maxWidth : Int) (hlen : widths.length = wrapable.length)
    (w' : List Int) (it : CollapseIter widths wrapable maxWidth w') :
    ∀ r ∈ w', r ∈ widths ∨ collapseSecond (widths.zip wrapable) ≤ r := by
  intro r hr
  obtain ⟨i, hi, rfl⟩ := List.getElem_of_mem hr
  exact (it.getElem hlen i hi).2.imp_left (fun h => by rw [h]; exact List.getElem_mem _)

/-- An iteration that goes ahead keeps one width per column, none negative, does not go below `max_width`, and takes at least
one cell: what the induction over the loop (`collapseWidths_induct`) rests on. -/
theorem collapseStep_some (widths : List Int) (wrapable : List Bool) (maxWidth : Int)
    (hlen : widths.length = wrapable.length) (hnn : ∀ w ∈ widths, 0 ≤ w) (w' : List Int)
    (h : collapseStep widths wrapable maxWidth = some w') :
    w'.length = widths.length ∧ (∀ w ∈ w', 0 ≤ w) ∧ maxWidth ≤ w'.sum ∧ w'.sum ≤ widths.sum - 1 := by
  have it := collapseStep_iter widths wrapable maxWidth hlen hnn w' h
  have hv := rrValues_collapseItems widths wrapable hlen (collapseCap widths wrapable maxWidth)
  obtain ⟨_, blo, _, _⟩ := ratioReduceLoop_bounds _ _ _ it.items_ok rfl (Int.le_of_lt it.excess_pos)
  have bprog := ratioReduceLoop_takes _ _ _ 1 it.items_ok
    (fun s hs _ => by obtain ⟨q, _, rfl⟩ := List.mem_map.mp hs; exact it.cap_pos) rfl it.ratios_pos (by decide) it.excess_pos
  rw [← it.eq] at blo bprog
  rw [hv] at blo bprog
  refine ⟨it.length_eq hlen, fun r hr => ?_, by omega, bprog⟩
  rcases collapseStep_mem widths wrapable maxWidth hlen w' it r hr with hold | hge
  · exact hnn r hold
  · exact Int.le_trans it.second_nonneg hge

theorem collapseStep_none (widths : List Int) (wrapable : List Bool) (maxWidth : Int) (hnn : ∀ w ∈ widths, 0 ≤ w)
    (h : collapseStep widths wrapable maxWidth = none) :
    widths.sum ≤ maxWidth ∨ wrapZero widths wrapable := by
  by_cases hfit : widths.sum ≤ maxWidth
  · exact Or.inl hfit
  · -- a column that may shrink and is not at 0 would make the iteration go ahead
    refine Or.inr (fun p hp hpt => Decidable.byContradiction fun hp0 => ?_)
    have hznn : ∀ z ∈ widths.zip wrapable, 0 ≤ z.1 := fun z hz => hnn _ (List.of_mem_zip hz).1
    have hpM := collapseMax_ge _ p hp hpt
    have hpS := le_sum_of_mem widths hnn p.1 (List.of_mem_zip hp).1
    have := hznn p hp
    obtain ⟨q, hq, hqt, hqM⟩ := collapseMax_mem (widths.zip wrapable) ⟨p, hp, hpt⟩
    have hne : collapseMax (widths.zip wrapable) ≠ collapseSecond (widths.zip wrapable) := by
      rcases collapseSecond_cases (widths.zip wrapable) with h0 | ⟨r, _, _, hrne, hre⟩
      · omega
      · exact fun heq => hrne (hre.trans heq.symm)
    have := (collapseStep_eq_some widths wrapable maxWidth _).2 ⟨by omega, by omega, ⟨q, hq, hqM, hqt⟩, hne, rfl⟩
    rw [h] at this
    cases this

/-- Induction over the collapse loop: what holds of the widths it starts from and survives every iteration that goes ahead holds
of the result; and the loop has stopped there of itself (the fuel `Σ widths + 1` is enough, since every iteration takes at least
one cell; when no column may wrap the loop is not entered, and would not go ahead). -/
theorem collapseWidths_induct (wrapable : List Bool) (maxWidth : Int) (P : List Int → Prop)
    (hstep : ∀ ws w', ws.length = wrapable.length → (∀ w ∈ ws, 0 ≤ w) → P ws →
      collapseStep ws wrapable maxWidth = some w' → P w')
    (widths : List Int) (hlen : widths.length = wrapable.length) (hnn : ∀ w ∈ widths, 0 ≤ w) (h0 : P widths) :
    P (collapseWidths widths wrapable maxWidth) ∧
      collapseStep (collapseWidths widths wrapable maxWidth) wrapable maxWidth = none := by
  unfold collapseWidths
  by_cases hany : wrapable.any id = true
  · rw [if_pos hany]
    refine (?_ : ∀ (fuel : Nat) (ws : List Int), ws.length = wrapable.length → (∀ w ∈ ws, 0 ≤ w) → P ws → ws.sum.toNat < fuel →
      P (collapseLoop fuel ws wrapable maxWidth) ∧ collapseStep (collapseLoop fuel ws wrapable maxWidth) wrapable maxWidth = none)
      _ widths hlen hnn h0 (by omega)
    intro fuel
    induction fuel with
    | zero => intro ws _ _ _ h; omega
    | succ fuel ih =>
      intro ws hl hn hP hfuel
      unfold collapseLoop
      cases hs : collapseStep ws wrapable maxWidth with
      | none => exact ⟨hP, hs⟩
      | some w' =>
        obtain ⟨l1, l2, _, l4⟩ := collapseStep_some ws wrapable maxWidth hl hn w' hs
        have := sum_nonneg_of_all w' l2
        exact ih w' (l1.trans hl) l2 (hstep ws w' hl hn hP hs) (by omega)
  · rw [if_neg hany]
    refine ⟨h0, Option.eq_none_iff_forall_ne_some.mpr (fun w' hs => ?_)⟩
    obtain ⟨_, _, ⟨z, hz, _, hzt⟩, _⟩ := (collapseStep_eq_some widths wrapable maxWidth w').1 hs
    exact hany (List.any_eq_true.mpr ⟨z.2, (List.of_mem_zip hz).2, hzt⟩)

theorem collapseWidths_post (widths : List Int) (wrapable : List Bool) (maxWidth : Int)
    (hlen : widths.length = wrapable.length) (hnn : ∀ w ∈ widths, 0 ≤ w) :
    let r := collapseWidths widths wrapable maxWidth
    r.length = widths.length ∧ (∀ w ∈ r, 0 ≤ w) ∧ r.sum ≤ widths.sum ∧
    (r.sum ≤ maxWidth ∨ wrapZero r wrapable) ∧
    (maxWidth ≤ widths.sum → maxWidth ≤ r.sum) := by
  obtain ⟨⟨a, b, c, e⟩, hstop⟩ := collapseWidths_induct wrapable maxWidth
    (fun r => r.length = widths.length ∧ (∀ w ∈ r, 0 ≤ w) ∧ r.sum ≤ widths.sum ∧ (maxWidth ≤ widths.sum → maxWidth ≤ r.sum))
    (fun ws w' hl hn ⟨i1, _, i3, _⟩ hs => by
      obtain ⟨l1, l2, l3, l4⟩ := collapseStep_some ws wrapable maxWidth hl hn w' hs
      exact ⟨l1.trans i1, l2, by omega, fun _ => l3⟩)
    widths hlen hnn ⟨rfl, hnn, Int.le_refl _, id⟩
  exact ⟨a, b, c, collapseStep_none _ wrapable maxWidth b hstop, e⟩

theorem collapseWidths_fits_or_zero (widths : List Int) (wrapable : List Bool) (maxWidth : Int)
    (hlen : widths.length = wrapable.length) (hall : ∀ b ∈ wrapable, b = true) (hnn : ∀ w ∈ widths, 0 ≤ w) :
    (collapseWidths widths wrapable maxWidth).sum ≤ maxWidth ∨ ∀ x ∈ collapseWidths widths wrapable maxWidth, x = 0 := by
  obtain ⟨pl, _, _, ppost, _⟩ := collapseWidths_post widths wrapable maxWidth hlen hnn
  have hmem : ∀ x ∈ collapseWidths widths wrapable maxWidth,
      (x, true) ∈ (collapseWidths widths wrapable maxWidth).zip wrapable := by
    intro x hx
    obtain ⟨b, hb⟩ := exists_zip_of_mem_left _ wrapable (pl.trans hlen) x hx
    rwa [hall b (List.of_mem_zip hb).2] at hb
  exact ppost.imp_right (fun hz x hx => hz (x, true) (hmem x hx) rfl)

theorem collapseWidths_all_wrappable (widths : List Int) (wrapable : List Bool) (maxWidth : Int)
    (hlen : widths.length = wrapable.length) (hnn : ∀ w ∈ widths, 0 ≤ w) (hall : ∀ b ∈ wrapable, b = true)
    (hmw : 0 ≤ maxWidth) : (collapseWidths widths wrapable maxWidth).sum ≤ maxWidth := by
  rcases collapseWidths_fits_or_zero widths wrapable maxWidth hlen hall hnn with h | hz
  · exact h
  · rw [sum_zero_of_all_zero _ hz]; exact hmw

theorem Measurement.normalize_maximum (m : Measurement) : m.normalize.maximum = max 0 m.maximum := by
  show max 0 (max (min (max 0 m.minimum) m.maximum) m.maximum) = max 0 m.maximum
  rw [Int.max_eq_right (Int.min_le_right _ _)]

theorem Measurement.normalize_ok (m : Measurement) :
    0 ≤ m.normalize.minimum ∧ m.normalize.minimum ≤ m.normalize.maximum := by
  rw [normalize_maximum]
  show 0 ≤ max 0 (min (max 0 m.minimum) m.maximum) ∧ max 0 (min (max 0 m.minimum) m.maximum) ≤ _
  omega

theorem Measurement.normalize_of_ok (m : Measurement) (h0 : 0 ≤ m.minimum) (h1 : m.minimum ≤ m.maximum) :
    m.normalize = m := by
  cases m with | mk a b =>
  show Measurement.mk (max 0 (min (max 0 a) b)) (max 0 (max (min (max 0 a) b) b)) = ⟨a, b⟩
  simp only at h0 h1
  rw [Int.max_eq_right h0, Int.min_eq_left h1, Int.max_eq_right h0, Int.max_eq_right h1,
    Int.max_eq_right (Int.le_trans h0 h1)]

theorem Measurement.normalize_idem (m : Measurement) : m.normalize.normalize = m.normalize :=
  normalize_of_ok _ m.normalize_ok.1 m.normalize_ok.2

/-- Whatever `__rich_measure__` returns (or if it is missing), `Measurement.get` answers
`0 ≤ minimum ≤ maximum ≤ max(max_width, 0)`. -/
theorem Measurement.getPost_ok (maxWidth : Int) (measured : Option Measurement) :
    0 ≤ (Measurement.getPost maxWidth measured).minimum ∧
    (Measurement.getPost maxWidth measured).minimum ≤ (Measurement.getPost maxWidth measured).maximum ∧
    (Measurement.getPost maxWidth measured).maximum ≤ max maxWidth 0 := by
  unfold Measurement.getPost
  split
  · simp only; omega
  · cases measured with
    | none => simp only; omega
    | some m =>
      simp only
      split
      · simp only; omega
      · refine ⟨(normalize_ok _).1, (normalize_ok _).2, ?_⟩
        rw [normalize_maximum]
        show max 0 (min _ maxWidth) ≤ _
        omega

end RichModel
