import RichModel.Lemmas.TextSort
import RichModel.Lemmas.TextShows
/-!
The event loop of `Text.render`, abstractly: a set of *items* `(id, lo, hi)` — one per style id —
enter at `lo` and leave at `hi`; for **any** sorted arrangement of their events the loop succeeds
and emits, for every position `i`, the ids of the items covering `i`, in increasing order.
-/
namespace RichModel
namespace Text

structure Item where
  id : Nat
  lo : Int
  hi : Int

def Item.enter (it : Item) : Ev := ⟨it.lo, false, it.id⟩
def Item.leave (it : Item) : Ev := ⟨it.hi, true, it.id⟩

def evsOf (items : List Item) : List Ev := items.map Item.enter ++ items.map Item.leave

def Item.covers (it : Item) (i : Nat) : Bool := decide (it.lo ≤ (i : Int)) && decide ((i : Int) < it.hi)

/-- ids of the items covering position `i`, in item order -/
def activeIds (items : List Item) (i : Nat) : List Nat := (items.filter (fun it => it.covers i)).map (·.id)

structure ItemsOk (items : List Item) (n : Nat) : Prop where
  inj : ∀ a ∈ items, ∀ b ∈ items, a.id = b.id → a = b
  nodup : (items.map (·.id)).Nodup
  range : ∀ it ∈ items, 0 ≤ it.lo ∧ it.lo ≤ it.hi ∧ it.hi ≤ (n : Int)
  base : ∃ it ∈ items, it.lo = 0 ∧ it.hi = (n : Int)

/-- the item has entered and not left within the processed events `P` -/
def IsOpen (P : List Ev) (it : Item) : Prop := it.enter ∈ P ∧ it.leave ∉ P

/-- the stack holds, each once, the ids of the open items -/
structure StackOk (items : List Item) (P : List Ev) (st : List Nat) : Prop where
  nodup : st.Nodup
  mem : ∀ id, id ∈ st ↔ ∃ it ∈ items, it.id = id ∧ IsOpen P it

theorem enter_ne_leave (a b : Item) : a.enter ≠ b.leave := fun h => Bool.noConfusion (congrArg Ev.leaving h)

theorem removeFirst_of_mem (x : Nat) (l : List Nat) (h : x ∈ l) : removeFirst x l = .ok (l.erase x) := by
  induction l with
  | nil => simp at h
  | cons y ys ih =>
    simp only [removeFirst]
    by_cases hy : y = x
    · subst hy; simp
    · have hx : x ∈ ys := by
        rcases List.mem_cons.1 h with h' | h'
        · exact absurd h'.symm hy
        · exact h'
      have hne : (y == x) = false := by simpa using hy
      rw [hne, ih hx]
      simp only [Bool.false_eq_true, if_false, Except.map]
      rw [List.erase_cons_tail (by simpa using hy)]

theorem mem_evsOf (items : List Item) (e : Ev) :
    e ∈ evsOf items ↔ ∃ it ∈ items, e = it.enter ∨ e = it.leave := by
  simp only [evsOf, List.mem_append, List.mem_map]
  constructor
  · rintro (⟨it, h, rfl⟩ | ⟨it, h, rfl⟩)
    · exact ⟨it, h, Or.inl rfl⟩
    · exact ⟨it, h, Or.inr rfl⟩
  · rintro ⟨it, h, rfl | rfl⟩
    · exact Or.inl ⟨it, h, rfl⟩
    · exact Or.inr ⟨it, h, rfl⟩

theorem evsOf_nodup (items : List Item) (h : (items.map (·.id)).Nodup) : (evsOf items).Nodup := by
  unfold evsOf
  have h' : items.Pairwise (fun a b => a.id ≠ b.id) := by
    simpa [List.Nodup, List.pairwise_map] using h
  rw [List.nodup_append]
  refine ⟨?_, ?_, ?_⟩
  · show (items.map Item.enter).Pairwise (· ≠ ·)
    rw [List.pairwise_map]
    exact h'.imp (fun hab he => hab (congrArg Ev.id he))
  · show (items.map Item.leave).Pairwise (· ≠ ·)
    rw [List.pairwise_map]
    exact h'.imp (fun hab he => hab (congrArg Ev.id he))
  · intro a ha b hb hab
    simp only [List.mem_map] at ha hb
    obtain ⟨x, _, rfl⟩ := ha
    obtain ⟨y, _, rfl⟩ := hb
    simp [Item.enter, Item.leave] at hab

theorem le_leave_enter (it : Item) (h : it.lo ≤ it.hi) : it.leave.le it.enter = false := by
  have : ¬ (it.leave.le it.enter = true) := by
    rw [Ev.le_iff]; simp [Item.leave, Item.enter]; omega
  simpa using this

theorem activeIds_nodup (items : List Item) (h : (items.map (·.id)).Nodup) (i : Nat) : (activeIds items i).Nodup := by
  unfold activeIds
  exact List.Nodup.sublist (List.Sublist.map _ List.filter_sublist) h

theorem mem_activeIds (items : List Item) (i id : Nat) :
    id ∈ activeIds items i ↔ ∃ it ∈ items, it.id = id ∧ it.lo ≤ (i : Int) ∧ (i : Int) < it.hi := by
  simp only [activeIds, List.mem_map, List.mem_filter, Item.covers, Bool.and_eq_true, decide_eq_true_eq]
  constructor
  · rintro ⟨it, ⟨h, hc⟩, rfl⟩; exact ⟨it, h, rfl, hc⟩
  · rintro ⟨it, h, rfl, hc⟩; exact ⟨it, ⟨h, hc⟩, rfl⟩

variable {σ : Type}

theorem renderLoop_cons (text : List Char) (styleOf : Nat → σ) (e e' : Ev) (rest : List Ev) (st st' : List Nat)
    (tail : List (RSeg σ))
    (h1 : (if e.leaving then removeFirst e.id st else pure (st ++ [e.id])) = Except.ok st')
    (h2 : e'.off > e.off → st'.isEmpty = false)
    (h3 : renderLoop text styleOf (e' :: rest) st' = .ok tail) :
    renderLoop text styleOf (e :: e' :: rest) st =
      .ok ((if e'.off > e.off then [RSeg.mk (Py.slice text e.off e'.off) (some ((sortNat st').map styleOf))] else []) ++ tail) := by
  rw [renderLoop]
  cases hl : e.leaving
  · simp only [hl, Bool.false_eq_true, if_false, pure, Except.pure] at h1
    cases h1
    by_cases hgt : e'.off > e.off
    · simp [hgt, h2 hgt, h3, bind, Except.bind, pure, Except.pure]
    · simp [hgt, h3, bind, Except.bind, pure, Except.pure]
  · simp only [hl, if_true] at h1
    by_cases hgt : e'.off > e.off
    · simp [hgt, h1, h2 hgt, h3, bind, Except.bind, pure, Except.pure]
    · simp [hgt, h1, h3, bind, Except.bind, pure, Except.pure]

/-- a sorted arrangement `P ++ L` of the events of `items`, `P` processed, `L` still to come -/
structure Ctx (items : List Item) (n : Nat) (P L : List Ev) : Prop where
  ok : ItemsOk items n
  perm : (P ++ L).Perm (evsOf items)
  sorted : (P ++ L).Pairwise (fun a b => a.le b = true)

namespace Ctx
variable {items : List Item} {n : Nat} {P L : List Ev}

theorem nodup (c : Ctx items n P L) : (P ++ L).Nodup :=
  (c.perm.nodup_iff).2 (evsOf_nodup items c.ok.nodup)

theorem mem (c : Ctx items n P L) (e : Ev) : e ∈ P ++ L ↔ ∃ it ∈ items, e = it.enter ∨ e = it.leave := by
  rw [c.perm.mem_iff, mem_evsOf]

theorem shift {e : Ev} {L' : List Ev} (c : Ctx items n P (e :: L')) : Ctx items n (P ++ [e]) L' :=
  ⟨c.ok, by simpa using c.perm, by simpa using c.sorted⟩

theorem le_of (c : Ctx items n P L) {a b : Ev} (ha : a ∈ P) (hb : b ∈ L) : a.le b = true :=
  (List.pairwise_append.1 c.sorted).2.2 a ha b hb

theorem offs (c : Ctx items n P L) : (P ++ L).Pairwise (fun a b => a.off ≤ b.off) :=
  c.sorted.imp Ev.off_le_of_le

theorem enter_before (c : Ctx items n P L) {it : Item} (hit : it ∈ items) (h : it.leave ∈ P) : it.enter ∈ P := by
  have hm : it.enter ∈ P ++ L := (c.mem _).2 ⟨it, hit, Or.inl rfl⟩
  rcases List.mem_append.1 hm with h' | h'
  · exact h'
  · have := c.le_of h h'
    rw [le_leave_enter it ((c.ok.range it hit).2.1)] at this
    cases this

theorem off_range (c : Ctx items n P L) {e : Ev} (he : e ∈ P ++ L) : 0 ≤ e.off ∧ e.off ≤ (n : Int) := by
  obtain ⟨it, hit, h | h⟩ := (c.mem e).1 he <;> subst h <;> have := c.ok.range it hit <;>
    simp only [Item.enter, Item.leave] <;> omega

theorem head_not_mem {e : Ev} {L' : List Ev} (c : Ctx items n P (e :: L')) : e ∉ P :=
  fun h => (List.nodup_append.1 c.nodup).2.2 _ h _ List.mem_cons_self rfl

theorem isOpen_enter {it : Item} {L' : List Ev} (c : Ctx items n P (it.enter :: L')) (hit : it ∈ items) {it' : Item} (hit' : it' ∈ items) :
    IsOpen (P ++ [it.enter]) it' ↔ IsOpen P it' ∨ it' = it := by
  have hleave : it.leave ∉ P := fun h => c.head_not_mem (c.enter_before hit h)
  simp only [IsOpen, List.mem_append, List.mem_singleton, (enter_ne_leave it it').symm, or_false]
  constructor
  · rintro ⟨h | h, hl⟩
    · exact Or.inl ⟨h, hl⟩
    · exact Or.inr (c.ok.inj it' hit' it hit (congrArg Ev.id h))
  · rintro (⟨h, hl⟩ | rfl)
    · exact ⟨Or.inl h, hl⟩
    · exact ⟨Or.inr rfl, hleave⟩

theorem isOpen_leave {it : Item} {L' : List Ev} (c : Ctx items n P (it.leave :: L')) (hit : it ∈ items) {it' : Item} (hit' : it' ∈ items) :
    IsOpen (P ++ [it.leave]) it' ↔ IsOpen P it' ∧ it' ≠ it := by
  simp only [IsOpen, List.mem_append, List.mem_singleton, enter_ne_leave it' it, or_false, not_or]
  constructor
  · rintro ⟨h, hl, hne⟩
    exact ⟨⟨h, hl⟩, fun e => hne (e ▸ rfl)⟩
  · rintro ⟨⟨h, hl⟩, hne⟩
    exact ⟨h, hl, fun e => hne (c.ok.inj it' hit' it hit (congrArg Ev.id e))⟩

end Ctx

/-- processing the next event keeps the stack equal to "entered and not yet left" -/
theorem stack_step {items : List Item} {n : Nat} {P L' : List Ev} {e : Ev} {st : List Nat}
    (c : Ctx items n P (e :: L')) (hst : StackOk items P st) :
    ∃ st', (if e.leaving then removeFirst e.id st else pure (st ++ [e.id])) = Except.ok st' ∧
      StackOk items (P ++ [e]) st' := by
  have heP := c.head_not_mem
  obtain ⟨it, hit, rfl | rfl⟩ := (c.mem e).1 (by simp)
  · have hnot : it.id ∉ st := fun h => by
      obtain ⟨it', hit', hid, hen, _⟩ := (hst.mem it.id).1 h
      obtain rfl := c.ok.inj it' hit' it hit hid
      exact heP hen
    refine ⟨st ++ [it.id], rfl, ?_, fun id => ?_⟩
    · exact List.nodup_append.2 ⟨hst.nodup, by simp, fun a ha b hb => by
        rw [List.mem_singleton.1 hb]; exact fun e => hnot (e ▸ ha)⟩
    · rw [List.mem_append, List.mem_singleton, hst.mem id]
      constructor
      · rintro (⟨it', hit', hid, ho⟩ | rfl)
        · exact ⟨it', hit', hid, (c.isOpen_enter hit hit').2 (Or.inl ho)⟩
        · exact ⟨it, hit, rfl, (c.isOpen_enter hit hit).2 (Or.inr rfl)⟩
      · rintro ⟨it', hit', hid, ho⟩
        rcases (c.isOpen_enter hit hit').1 ho with ho | rfl
        · exact Or.inl ⟨it', hit', hid, ho⟩
        · exact Or.inr hid.symm
  · have hen : it.enter ∈ P := by
      rcases List.mem_append.1 (c.shift.enter_before hit (by simp)) with h | h
      · exact h
      · exact absurd (List.mem_singleton.1 h) (enter_ne_leave it it)
    have hmem : it.id ∈ st := (hst.mem it.id).2 ⟨it, hit, rfl, hen, heP⟩
    refine ⟨st.erase it.id, by simp [Item.leave, removeFirst_of_mem _ _ hmem], hst.nodup.erase _, fun id => ?_⟩
    rw [hst.nodup.mem_erase_iff, hst.mem id]
    constructor
    · rintro ⟨hne, it', hit', hid, ho⟩
      exact ⟨it', hit', hid, (c.isOpen_leave hit hit').2 ⟨ho, fun e => hne (e ▸ hid.symm)⟩⟩
    · rintro ⟨it', hit', hid, ho⟩
      obtain ⟨ho', hne⟩ := (c.isOpen_leave hit hit').1 ho
      exact ⟨fun e => hne (c.ok.inj it' hit' it hit (hid.trans e)), it', hit', hid, ho'⟩

/-- between two consecutive event offsets `a < b` the processed events are those at or before the position, so the open
items are the covering ones and the stack holds exactly their ids -/
theorem stack_covers {items : List Item} {n : Nat} {P' L'' : List Ev} {st' : List Nat}
    (c : Ctx items n P' L'') (hst : StackOk items P' st') (a b : Int) (i : Nat)
    (hP : ∀ x ∈ P', x.off ≤ a) (hL : ∀ y ∈ L'', b ≤ y.off) (hai : a ≤ (i : Int)) (hib : (i : Int) < b) :
    st'.Perm (activeIds items i) := by
  have key : ∀ x ∈ P' ++ L'', (x ∈ P' ↔ x.off ≤ (i : Int)) := fun x hx =>
    ⟨fun h => Int.le_trans (hP x h) hai,
     fun h => (List.mem_append.1 hx).resolve_right fun hl => Int.not_le.2 (Int.lt_of_lt_of_le hib (hL x hl)) h⟩
  rw [List.perm_ext_iff_of_nodup hst.nodup (activeIds_nodup items c.ok.nodup i)]
  intro id
  rw [hst.mem id, mem_activeIds]
  refine exists_congr fun it => and_congr_right fun hit => and_congr_right fun _ => ?_
  rw [IsOpen, key _ ((c.mem _).2 ⟨it, hit, Or.inl rfl⟩), key _ ((c.mem _).2 ⟨it, hit, Or.inr rfl⟩)]
  exact and_congr_right fun _ => Int.not_le

theorem segStream_append (a b : List (RSeg σ)) : segStream (a ++ b) = segStream a ++ segStream b := by
  simp [segStream]

/-- **The loop of `render`**: for any sorted arrangement of the events, started with the stack that
matches the processed prefix, the loop succeeds and the emitted stream is the rest of the text, every
position carrying the (sorted) ids of the items that cover it. -/
theorem renderLoop_spec (text : List Char) (styleOf : Nat → σ) (items : List Item) :
    ∀ (L' : List Ev) (e : Ev) (P : List Ev) (st : List Nat),
      Ctx items text.length P (e :: L') → StackOk items P st →
      ∃ segs, renderLoop text styleOf (e :: L') st = .ok segs ∧
        segStream segs =
          annot (text.drop e.off.toNat) (fun i => (sortNat (activeIds items i)).map styleOf) e.off.toNat := by
  intro L'
  induction L' with
  | nil =>
    intro e P st c _
    refine ⟨[], by simp [renderLoop, pure, Except.pure], ?_⟩
    obtain ⟨b, hb, _, hhi⟩ := c.ok.base
    have hm : b.leave ∈ P ++ [e] := (c.mem _).2 ⟨b, hb, Or.inr rfl⟩
    have hge : (text.length : Int) ≤ e.off := hhi ▸
      (List.mem_append.1 hm).elim (fun h => (List.pairwise_append.1 c.offs).2.2 _ h e (List.mem_singleton.2 rfl))
        fun h => List.mem_singleton.1 h ▸ Int.le_refl _
    have : text.drop e.off.toNat = [] := List.drop_eq_nil_of_le (by omega)
    rw [this]; rfl
  | cons e' rest ih =>
    intro e P st c hst
    obtain ⟨st', hstep, hst'⟩ := stack_step c hst
    have c' := c.shift
    obtain ⟨tail, htail, hstream⟩ := ih e' (P ++ [e]) st' c' hst'
    -- the two offsets are naturals `a ≤ b ≤ |text|`
    obtain ⟨a, ha⟩ := Int.eq_ofNat_of_zero_le (c.off_range (e := e) (by simp)).1
    obtain ⟨b, hb⟩ := Int.eq_ofNat_of_zero_le (c.off_range (e := e') (by simp)).1
    have hbn : b ≤ text.length := by
      have := (c.off_range (e := e') (by simp)).2
      omega
    -- the processed events lie at or before `a`, those to come at or after `b`
    obtain ⟨_, hoL, hoPL⟩ := List.pairwise_append.1 c.offs
    rw [List.pairwise_cons] at hoL
    have hab : a ≤ b := by have := hoL.1 e' List.mem_cons_self; omega
    have hP : ∀ x ∈ P ++ [e], x.off ≤ e.off := fun x hx =>
      (List.mem_append.1 hx).elim (fun h => hoPL x h e List.mem_cons_self) fun h => List.mem_singleton.1 h ▸ Int.le_refl _
    have hL : ∀ y ∈ e' :: rest, e'.off ≤ y.off := fun y hy =>
      (List.mem_cons.1 hy).elim (fun h => h ▸ Int.le_refl _) ((List.pairwise_cons.1 hoL.2).1 y)
    have hcov : ∀ i : Nat, a ≤ i → i < b → st'.Perm (activeIds items i) :=
      fun i h1 h2 => stack_covers c' hst' e.off e'.off i hP hL (by omega) (by omega)
    have hne : e'.off > e.off → st'.isEmpty = false := by
      intro hgt
      obtain ⟨base, hbase, hlo, hhi⟩ := c.ok.base
      have hb' : base.id ∈ activeIds items a :=
        (mem_activeIds _ _ _).2 ⟨base, hbase, rfl, by omega, by omega⟩
      have := (hcov a (Nat.le_refl _) (by omega)).mem_iff.2 hb'
      cases st' with
      | nil => simp at this
      | cons _ _ => rfl
    refine ⟨_, renderLoop_cons text styleOf e e' rest st st' tail hstep hne htail, ?_⟩
    rw [segStream_append, hstream, ha, hb]
    simp only [Int.toNat_natCast]
    have hsplit : text.drop a = (text.drop a).take (b - a) ++ text.drop b := by
      rw [show text.drop b = (text.drop a).drop (b - a) by rw [List.drop_drop, Nat.add_sub_cancel' hab],
        List.take_append_drop]
    have hlen : ((text.drop a).take (b - a)).length = b - a := by
      rw [List.length_take, List.length_drop, Nat.min_eq_left (Nat.sub_le_sub_right hbn a)]
    conv => rhs; rw [hsplit, annot_append, hlen, Nat.add_sub_cancel' hab]
    congr 1
    by_cases hgt : (b : Int) > (a : Int)
    · simp only [hgt, if_true, segStream, List.flatMap_cons, List.flatMap_nil, List.append_nil, Option.getD_some]
      rw [slice_nat]
      symm
      apply annot_const
      intro i h1 h2
      rw [hlen] at h2
      rw [sortNat_congr _ _ (hcov i h1 (by omega))]
    · obtain rfl : b = a := by omega
      simp [segStream, annot]

end Text
end RichModel
