import RichModel.Model.Layout
import RichModel.Lemmas.FramesRect
import RichModel.Lemmas.Collapse
import RichModel.Lemmas.TableWidths
/-!
Definitions shared by the proofs of the composition layer (C01 / C09): the visible text of a segment stream, its
lines, "every line fits", "the last line is ended", and the *domain* of C01 as a predicate on renderable trees.
-/
namespace RichModel.Layout
open RichModel RichModel.Frames

/-- the visible characters of a segment stream (control segments occupy no cell and never break a line) -/
def flat (segs : List Seg) : List Char := segs.flatMap (fun s => if s.control then [] else s.text)

/-- the lines of a string: the pieces between line feeds (a string ending in a line feed has a last, empty piece) -/
def pieces (s : List Char) : List (List Char) := splitOnP (fun c => c == '\n') s []

/-- **every line of the stream occupies at most `w` cells** -/
def Fits (cw : Char → Nat) (w : Nat) (segs : List Seg) : Prop := ∀ p ∈ pieces (flat segs), cellLen cw p ≤ w

/-- the stream is a (possibly empty) sequence of complete lines: whatever follows starts on a fresh line -/
def Closed (segs : List Seg) : Prop := flat segs = [] ∨ (flat segs).getLast? = some '\n'

def textClosed (t : T) : Bool := t.endStr == ['\n']

def optTextClosed (t : Option T) : Bool := match t with | none => true | some t => textClosed t

mutual
/-- static sufficient condition for "this renderable always ends its last line" (`ProgressBar` never does: F23) -/
def closedR : R → Bool
  | .text t => textClosed t
  | .str t => textClosed t
  | .padding _ _ _ => true
  | .panel _ _ => true
  | .align _ _ => true
  | .constrain _ c => closedR c
  | .styled c => closedR c
  | .cast c => closedR c
  | .opaque c => closedR c
  | .group _ items => closedL items
  | .rule o => o.endS == ['\n']
  | .bar _ => true
  | .progressBar _ => false
  | .table o _ => optTextClosed o.title && optTextClosed o.caption
  | .columns o _ => optTextClosed o.title
  | .tree _ => true
def closedL : List R → Bool
  | [] => true
  | r :: rs => closedR r && closedL rs
end

/-- an exposed text is in C01's domain unless it opts out of fitting (`overflow="ignore"`) or of ending its line -/
def textDom (t : T) (o : Opts) : Prop :=
  effOverflow t o ≠ RichModel.Overflow.ignore ∧ (t.endStr = ['\n'] ∨ t.endStr = [])

/-- a table title / caption: as a text, and it must end its line (the body starts right after it) -/
def annDom (t : Option T) (o : Opts) : Prop :=
  match t with
  | none => True
  | some t => effOverflow t o ≠ RichModel.Overflow.ignore ∧ t.endStr = ['\n']

/-- free to wrap and without an active ratio (the domain of `Dep.width_fits`; kept for `tb_toTable_noRatio`) -/
def ColOpts.free (expands : Bool) (c : ColOpts) : Prop :=
  c.width = none ∧ c.minWidth = none ∧ c.noWrap = false ∧ (expands = false ∨ c.ratio.getD 0 = 0)

/-- "columns free to wrap": no fixed width, no minimum width, wrapping allowed -/
def ColOpts.wrappable (c : ColOpts) : Prop := c.width = none ∧ c.minWidth = none ∧ c.noWrap = false

def colOptsOf : Col → ColOpts | .mk o _ _ _ => o

/-- the child oracle of a subtree (what the frames are instantiated with) -/
def chOf (cfg : Cfg) (r : R) (o : Opts) : Ch := ⟨fun x => measure cfg r x, fun x => render cfg r o x⟩

/-- the column-width budget of a table whose columns are NOT all free to wrap (C07 `width_bound_general`): with `ws0` the first-pass
widths of `_calculate_column_widths` at the width on offer, the columns that may not shrink (fixed `width`, `no_wrap`) at their
first-pass width plus ONE cell for every column that may, fit that width -/
def tableBudget (cfg : Cfg) (to : TableOpts) (cs : List ColS) (w : Nat) : Prop :=
  ∃ ws0, (toTable cfg to cs).firstWidths cfg.fl ((toTable cfg to cs).width.getD (w : Int) - (toTable cfg to cs).extraWidth) = some ws0 ∧
    nonWrapSum (ws0.zip (toTable cfg to cs).wrapable) + wrapCount (ws0.zip (toTable cfg to cs).wrapable)
      ≤ (toTable cfg to cs).width.getD (w : Int) - (toTable cfg to cs).extraWidth

mutual
/-- **The domain of C01** for a renderable in *exposed* position (its lines reach the output without being cropped
by a container), rendered under options `o` with `w` cells available.  Containers that crop what they are given
(padding, panel, table, columns, tree) put NO condition on their children.
* text: not `overflow="ignore"` (the documented opt-out), `end` is the line feed (or nothing);
* `Constrain` / `Align` hand their child a narrower width: NO condition on that width (the theorems bound every line by
  `max w (smin r)`: below its structural minimum a renderable is never wider than that minimum; for a table with free columns and
  for `Columns` offered LESS than one cell per column that is `calcWidths_free_low`, `Lemmas/TableGeneral.lean`: every column ends at exactly one cell);
* group: every member in the domain, and every member but the last ends its line (a `ProgressBar` does not: F23);
* table (any number of columns, also none): EITHER columns free to wrap (no `width`, `min_width`, `no_wrap`; every ratio is fine on the
  code with the repaired flexible-width clamp; on the code before fix 75c2776 a `ratio=0` column in an expanding table is excluded:
  finding `table-ratio-zero-column`), title / caption in the text domain and ending
  their line — at EVERY width, an explicit `Table(width=…)` below the borders plus one cell per column included;
  OR arbitrary columns (fixed `width`,
  `max_width`, `no_wrap`) that meet the budget `tableBudget` (a binding `min_width` makes the table up to `floorSum` cells wider than
  the offer: `table_general_bound`);
* rule: not `overflow="ignore"` or no tab in the rule's text, `end` is the line feed (or nothing);
* columns: the title in the text domain and ending its line, no explicit `width`;
* bar / progress bar: proper fractions (`den > 0`), no negative `width`. -/
def Dom (cfg : Cfg) : R → Opts → Nat → Prop
  | .text t, o, _ => textDom t o
  | .str t, o, _ => textDom t o
  | .padding _ _ _, _, _ => True
  | .panel _ _, _, _ => True
  | .align ao c, o, w => Dom cfg c o (alignInnerWidth cfg.env cfg.v ao (chOf cfg c o) (w : Int)).toNat
  | .constrain k c, o, w => Dom cfg c o (match k with | none => w | some k => min k w)
  | .styled c, o, w => Dom cfg c o w
  | .cast c, o, w => Dom cfg c o w
  | .opaque c, o, w => Dom cfg c o w
  | .group _ items, o, w => DomL cfg items o w
  | .rule ro, o, w =>
    (o.overflow ≠ some RichModel.Overflow.ignore ∨ ∀ c ∈ (ruleText cfg.cw cfg.env cfg.v ro (w : Int)).1, c ≠ '\t') ∧
      (ro.endS = ['\n'] ∨ ro.endS = [])
  | .bar bo, _, _ => 0 < bo.size.den ∧ 0 < bo.beginV.den ∧ 0 < bo.endV.den ∧ 0 ≤ bo.width.getD 0
  | .progressBar po, _, _ => 0 < po.total.den ∧ 0 < po.completed.den ∧ 0 ≤ po.width.getD 0
  | .table to cols, o, w =>
    annDom to.title o ∧ annDom to.caption o ∧
      ((∀ c ∈ cols, (colOptsOf c).wrappable ∧ ((cfg.fl.flexNegative = false ∧ cfg.fl.flexClampZero = false) ∨
          (to.expand || to.width.isSome) = false ∨ (colOptsOf c).ratio ≠ some 0))
       ∨
       (cols ≠ [] ∧ (∀ c ∈ cols, (colOptsOf c).minWidth = none ∨ (colOptsOf c).width.isSome = true) ∧
        ((cfg.fl.flexNegative = false ∧ cfg.fl.flexClampZero = false) ∨ (toTable cfg (to.subst cfg.env) (colsR cfg cols)).NoRatio) ∧
        tableBudget cfg (to.subst cfg.env) (colsR cfg cols) w))
  | .columns co _, o, _ => annDom co.title o ∧ co.lay.width = none
  | .tree _, _, _ => True
def DomL (cfg : Cfg) : List R → Opts → Nat → Prop
  | [], _, _ => True
  | r :: rs, o, w => Dom cfg r o w ∧ (rs = [] ∨ closedR r = true) ∧ DomL cfg rs o w
end

end RichModel.Layout
