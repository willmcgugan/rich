import RichModel.Lemmas.LayoutTableBody
import RichModel.Lemmas.TableGeneral
/-!
The C07 `Table` behind `tableConsole` (`toTable`): it satisfies the hypotheses of `Dep.width_fits` (and of `width_fits_ratio`,
its extension to ratio columns) when the columns are free to wrap and the cells measure `0 ≤ maximum`; the table with the stored lines (`storedTable`) has
the same shape, and the shaped rows are what `tb_bodyLine_ok` asks for.
-/
namespace RichModel.Layout
open RichModel RichModel.Frames

theorem tb_asChild_ok (console : Int → List Seg) (rm : Int → Measurement) : MeasNonneg (asChild console rm).measure := by
  intro k
  exact (normal_getPost k _).max_nonneg

theorem tb_padCell_ok (cfg : Cfg) (tb : Table) (a b c d : Bool) (ch : Ch) (h : MeasNonneg ch.measure) :
    MeasNonneg (padCell cfg tb a b c d ch).measure := by
  unfold padCell
  split
  · exact h
  · exact tb_asChild_ok _ _

/-- `raw_cells` / `Table._get_cells`: an optional header, the cells, an optional footer -/
theorem tb_mem_headCellsFoot {α : Type} {a b : Bool} {x y e : α} {m : List α}
    (h : e ∈ (if a then [x] else []) ++ m ++ (if b then [y] else [])) : e = x ∨ e ∈ m ∨ e = y := by
  rcases List.mem_append.mp h with h | h
  · rcases List.mem_append.mp h with h | h
    · cases a
      · cases h
      · exact .inl (List.mem_singleton.mp h)
    · exact .inr (.inl h)
  · cases b
    · cases h
    · exact .inr (.inr (List.mem_singleton.mp h))

theorem tb_paddedCol_ok (cfg : Cfg) (tb : Table) (n j : Nat) (c : ColS)
    (h : ColMeasNonneg c) : ∀ ch ∈ paddedCol cfg tb n j c, MeasNonneg ch.measure := by
  intro ch hch
  simp only [paddedCol, List.mem_map] at hch
  obtain ⟨ci, hci, rfl⟩ := hch
  apply tb_padCell_ok
  apply h
  rcases tb_mem_headCellsFoot (mem_zipIdx_fst _ ci hci) with e | e | e
  · rw [e]; simp
  · simp [e]
  · rw [e]; simp

theorem tb_paddedCols_ok (cfg : Cfg) (tb : Table) (cols : List ColS)
    (h : ∀ c ∈ cols, ColMeasNonneg c) :
    ∀ pc ∈ paddedCols cfg tb cols, ∀ ch ∈ pc, MeasNonneg ch.measure := by
  intro pc hpc
  simp only [paddedCols, List.mem_map] at hpc
  obtain ⟨cj, hcj, rfl⟩ := hpc
  exact tb_paddedCol_ok cfg tb _ _ _ (h cj.1 (mem_zipIdx_fst _ cj hcj))

theorem tb_paddedCols_length (cfg : Cfg) (tb : Table) (cols : List ColS) : (paddedCols cfg tb cols).length = cols.length := by
  simp [paddedCols]

theorem tb_default_cellOk : MeasNonneg (default : Cell).measure := by
  intro k; exact Int.le_refl 0

/-- the cells `_get_cells` finds in a column built by `toColumnC` are the given cells (or the empty default) -/
theorem tb_getCells_toColumnC (t tb : Table) (c : ColS) (pc : List Cell) (h : ∀ x ∈ pc, MeasNonneg x.measure) :
    ∀ cell ∈ t.getCells (toColumnC tb c pc), MeasNonneg cell.measure := by
  intro cell hcell
  rcases tb_mem_headCellsFoot hcell with e | e | e
  · rw [e, toColumnC]
    dsimp only
    split
    · rcases tb_getD_mem_or pc 0 default with h0 | h0
      · rw [h0]; exact tb_default_cellOk
      · exact h _ h0
    · exact tb_default_cellOk
  · exact h _ (List.mem_of_mem_drop (List.mem_of_mem_take e))
  · rw [e, toColumnC]
    dsimp only
    split
    · cases hl : pc.getLast? with
      | none => exact tb_default_cellOk
      | some x => exact h x (List.mem_of_getLast? hl)
    · exact tb_default_cellOk

theorem tb_toTable_columns_length (cfg : Cfg) (o : TableOpts) (cols : List ColS) :
    (toTable cfg o cols).columns.length = cols.length := by
  simp [toTable, tb_paddedCols_length]

theorem tb_mem_toTable_columns (cfg : Cfg) (o : TableOpts) (cols : List ColS) (c : Column)
    (hc : c ∈ (toTable cfg o cols).columns) :
    ∃ cs ∈ cols, ∃ pc ∈ paddedCols cfg o.skel cols, c = toColumn cfg o.skel cs pc := by
  simp only [toTable, List.mem_map] at hc
  obtain ⟨cp, hcp, rfl⟩ := hc
  have := List.of_mem_zip hcp
  exact ⟨cp.1, this.1, cp.2, this.2, rfl⟩

/-- every cell `_get_cells` finds in a column of `toTable` measures `0 ≤ maximum` when the children do -/
theorem tb_toColumn_cells_ok (cfg : Cfg) (o : TableOpts) (cols : List ColS)
    (hmeas : ∀ c ∈ cols, ColMeasNonneg c) (t : Table) (cs : ColS) (pc : List Ch)
    (hpc : pc ∈ paddedCols cfg o.skel cols) : ∀ cell ∈ t.getCells (toColumn cfg o.skel cs pc), MeasNonneg cell.measure := by
  unfold toColumn
  apply tb_getCells_toColumnC
  intro x hx
  obtain ⟨ch, hch, rfl⟩ := List.mem_map.mp hx
  exact tb_paddedCols_ok cfg o.skel cols hmeas pc hpc ch hch

theorem tb_paddingWidth_nonneg (cfg : Cfg) (o : TableOpts) (cols : List ColS) (idx : Nat) :
    0 ≤ (toTable cfg o cols).paddingWidth idx :=
  paddingWidth_nonneg_of _ idx (Int.natCast_nonneg o.padding.right) (Int.natCast_nonneg o.padding.left)

theorem tb_toTable_allFree (cfg : Cfg) (o : TableOpts) (cols : List ColS)
    (hfree : ∀ c ∈ cols, c.o.width = none ∧ c.o.minWidth = none)
    (hmeas : ∀ c ∈ cols, ColMeasNonneg c) : (toTable cfg o cols).AllFree := by
  intro ci hci
  obtain ⟨cs, hcs, pc, hpc, heq⟩ := tb_mem_toTable_columns cfg o cols ci.1 (mem_indexed _ ci hci)
  refine ⟨?_, ?_, ?_, ?_⟩
  · rw [heq]; simp [toColumn, toColumnC, (hfree cs hcs).1]
  · rw [heq]; simp [toColumn, toColumnC, (hfree cs hcs).2]
  · rw [heq]
    exact tb_toColumn_cells_ok cfg o cols hmeas _ cs pc hpc
  · intro m hm
    rw [heq] at hm
    have hpw := tb_paddingWidth_nonneg cfg o cols ci.2
    simp only [toColumn, toColumnC] at hm
    cases hmw : cs.o.maxWidth with
    | none => rw [hmw] at hm; simp at hm
    | some n =>
      rw [hmw] at hm
      simp only [Option.map_some, Option.some.injEq] at hm
      subst hm
      have : (0 : Int) ≤ Int.ofNat n := Int.natCast_nonneg n
      omega

theorem tb_toTable_expand (cfg : Cfg) (o : TableOpts) (cols : List ColS) :
    (toTable cfg o cols).expand = (o.expand || o.width.isSome) := by
  unfold Table.expand
  simp only [toTable, TableOpts.skel]
  cases o.width <;> rfl

theorem tb_toTable_noRatio (cfg : Cfg) (o : TableOpts) (cols : List ColS)
    (hfree : ∀ c ∈ cols, c.o.free (o.expand || o.width.isSome)) : (toTable cfg o cols).NoRatio := by
  cases he : (o.expand || o.width.isSome) with
  | false => left; rw [tb_toTable_expand, he]
  | true =>
    right
    intro c hc
    obtain ⟨cs, hcs, pc, _, rfl⟩ := tb_mem_toTable_columns cfg o cols c hc
    have := (hfree cs hcs).2.2.2
    rw [he] at this
    rcases this with h | h
    · cases h
    · simp only [toColumn, toColumnC]
      cases hr : cs.o.ratio with
      | none => rfl
      | some r =>
        rw [hr] at h
        simp only [Option.getD_some] at h
        subst h
        rfl

/-- Ratio columns are allowed: when the table expands no column has `ratio=0` (a `Column.ratio` is a `Nat` here, so every
ratio that is set is then at least 1); when it does not expand the ratios are ignored by `_calculate_column_widths`. -/
theorem tb_toTable_ratiosPos (cfg : Cfg) (o : TableOpts) (cols : List ColS)
    (hfree : ∀ c ∈ cols, (o.expand || o.width.isSome) = false ∨ c.o.ratio ≠ some 0) :
    (toTable cfg o cols).expand = false ∨ (toTable cfg o cols).RatiosPos := by
  cases he : (o.expand || o.width.isSome) with
  | false => left; rw [tb_toTable_expand, he]
  | true =>
    right
    intro c hc r hr
    obtain ⟨cs, hcs, pc, _, rfl⟩ := tb_mem_toTable_columns cfg o cols c hc
    have h := hfree cs hcs
    rw [he] at h
    rcases h with h | h
    · cases h
    · simp only [toColumn, toColumnC] at hr
      cases hrr : cs.o.ratio with
      | none => rw [hrr] at hr; simp at hr
      | some n =>
        rw [hrr] at hr h
        simp only [Option.map_some, Option.some.injEq] at hr
        subst hr
        have hn : n ≠ 0 := fun h0 => h (by rw [h0])
        show (1 : Int) ≤ Int.ofNat n
        have : (Int.ofNat n) = (n : Int) := rfl
        omega

theorem tb_toTable_noWrap (cfg : Cfg) (o : TableOpts) (cols : List ColS)
    (hfree : ∀ c ∈ cols, c.o.noWrap = false) : ∀ c ∈ (toTable cfg o cols).columns, c.noWrap = false := by
  intro c hc
  obtain ⟨cs, hcs, pc, _, rfl⟩ := tb_mem_toTable_columns cfg o cols c hc
  exact hfree cs hcs

/-- `_extra_width` of a table with the box and the edge setting of these options and `n` columns: at most the edges and dividers, and
not negative when there is a column -/
theorem tb_extraWidth_skel (o : TableOpts) (t : Table) (hb : t.box = o.box.bind boxOf) (he : t.showEdge = o.showEdge) (n : Nat)
    (hn : t.columns.length = n) : (1 ≤ n → 0 ≤ t.extraWidth) ∧ t.extraWidth ≤ (tableExtra o n : Int) := by
  have hq : t.box.isSome = true → o.box.isSome = true := by
    rw [hb]; cases o.box <;> simp
  have h := extraWidth_le t n hn o.box.isSome hq
  rwa [he] at h

theorem tb_width_skel (o : TableOpts) (columns : List Column) :
    ({ o.skel with columns := columns } : Table).width = o.width.map Int.ofNat := rfl

theorem tb_boxOf_wf (cw : Char → Nat) (hcw : cw = cwD) (o : TableOpts) (b : RichModel.Box)
    (h : o.box.bind boxOf = some b) : b.wf cw := by
  subst hcw
  cases hb : o.box with
  | none => rw [hb] at h; cases h
  | some i =>
    rw [hb] at h
    simp only [Option.bind_some, boxOf] at h
    cases he : Gen.tableBoxes[i]? with
    | none => rw [he] at h; cases h
    | some e =>
      rw [he] at h
      simp only [Option.bind_some] at h
      obtain ⟨b', hb', hwf⟩ := Dep.boxes_all_wf e (List.mem_of_getElem? he)
      rw [hb'] at h
      cases h
      exact hwf

/-- the first of the three `let`s of `tableConsole` after the widths: every padded cell rendered once, at its column's width -/
def renderedCells (cfg : Cfg) (o : TableOpts) (cols : List ColS) (widths : List Nat) : List (List (List Ln)) :=
  (widths.zip (paddedCols cfg o.skel cols)).map (fun wp => wp.2.map (fun ch => ch.linesAt cfg.cw (wp.1 : Int) true))

/-- the second: the table whose cell oracles answer with those stored lines -/
def storedTable (o : TableOpts) (cols : List ColS) (rendered : List (List (List Ln))) : Table :=
  { o.skel with columns := (cols.zip rendered).map (fun cr => toColumnC o.skel cr.1 (cr.2.map renderedCell)) }

/-- the third: the stored lines of every row `set_shape`d to the column widths and the row's height -/
def shapedRows (cw : Char → Nat) (widths : List Nat) (rendered : List (List (List Ln))) : List (List (List Ln)) :=
  (List.range (rowCount rendered)).map (fun i => shapeRowS cw widths (rendered.map (fun c => c.getD i [])))

theorem tb_renderedCells_length (cfg : Cfg) (o : TableOpts) (cols : List ColS) (widths : List Nat)
    (h : widths.length = cols.length) : (renderedCells cfg o cols widths).length = cols.length := by
  simp [renderedCells, tb_paddedCols_length, h]

theorem tb_storedTable_columns_length (o : TableOpts) (cols : List ColS) (rendered : List (List (List Ln)))
    (h : rendered.length = cols.length) : (storedTable o cols rendered).columns.length = cols.length := by
  simp [storedTable, h]

theorem tb_renderedCells_nlFree (cfg : Cfg) (o : TableOpts) (cols : List ColS)
    (widths : List Nat) : ∀ c ∈ renderedCells cfg o cols widths, ∀ cell ∈ c, ∀ l ∈ cell, NlFree l := by
  intro c hc cell hcell l hl
  simp only [renderedCells, List.mem_map] at hc
  obtain ⟨wp, _, rfl⟩ := hc
  obtain ⟨ch, _, rfl⟩ := List.mem_map.mp hcell
  exact renderLines_nlFree cfg.cw _ _ true l hl

theorem tb_shapedRows_ok (cw : Char → Nat) (widths : List Nat) (rendered : List (List (List Ln)))
    (h : ∀ c ∈ rendered, ∀ cell ∈ c, ∀ l ∈ cell, NlFree l) : RowsShaped cw widths (shapedRows cw widths rendered) := by
  intro i
  unfold shapedRows
  rw [List.getD_eq_getElem?_getD, List.getElem?_map]
  by_cases hi : i < rowCount rendered
  · right
    refine ⟨rendered.map (fun c => c.getD i []), ?_, ?_⟩
    · intro cell hcell l hl
      obtain ⟨c, hc, rfl⟩ := List.mem_map.mp hcell
      rcases tb_getD_mem_or c i [] with h0 | h0
      · rw [h0] at hl; simp at hl
      · exact h c hc _ h0 l hl
    · rw [List.getElem?_range hi]; rfl
  · left
    rw [List.getElem?_eq_none (by simp; omega)]; rfl

end RichModel.Layout
