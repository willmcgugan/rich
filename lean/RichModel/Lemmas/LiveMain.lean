import RichModel.Lemmas.LiveStep
import RichModel.Lemmas.LiveStop
/-!
Induction over a whole well-formed history: the invariant carried operation by operation, the final
screen, and the cursor bound for every operation.
-/
namespace RichModel.Live
open RichModel RichModel.Screen

/-- While the output of every operation is replayed, the cursor stays at or below the first row under
the lines printed *before* that operation (so no printed line can be touched). -/
def AboveRegion (cfg : Cfg) : St → View → Screen → List Op → Prop
  | _, _, _, [] => True
  | st, v, s, op :: rest =>
    (∀ r ∈ rowTrace cfg.height s (step cfg noFault st op).out, v.printed.length ≤ r) ∧
    (op ≠ .stop → AboveRegion cfg (step cfg noFault st op).st (viewStep cfg st v op)
      (replay cfg.height s (step cfg noFault st op).out) rest)

variable {cfg : Cfg} {st : St} {op : Op} {rest : List Op}

theorem opOk_of_bool
    (h : (op.applies cfg.kind && (step cfg noFault st op).err.isNone
      && (!redraws cfg st op || decide ((shown cfg (step cfg noFault st op).st).length ≤ cfg.height))) = true) :
    op.applies cfg.kind = true ∧ (step cfg noFault st op).err = none ∧
      (redraws cfg st op = true → (shown cfg (step cfg noFault st op).st).length ≤ cfg.height) := by
  simp only [Bool.and_eq_true, Bool.or_eq_true, Bool.not_eq_true', decide_eq_true_eq, Option.isNone_iff_eq_none] at h
  exact ⟨h.1.1, h.1.2, fun hr => h.2.resolve_left (by rw [hr]; nofun)⟩

theorem stopOk_of_bool
    (h1 : (!st.started || flushFits cfg st) = true)
    (h2 : (!st.started || !cfg.transient ||
      decide (restoreCount cfg.blankFix (stopFrame cfg st).length + 1 ≤ cfg.height)) = true) :
    (st.started = true → flushFits cfg st = true) ∧
      (st.started = true → cfg.transient = true →
        restoreCount cfg.blankFix (stopFrame cfg st).length + 1 ≤ cfg.height) := by
  simp only [Bool.or_eq_true, Bool.not_eq_true', decide_eq_true_eq] at h1 h2
  exact ⟨fun hs => h1.resolve_left (by rw [hs]; nofun),
    fun hs ht => (h2.resolve_left (by rw [hs, ht]; nofun))⟩

theorem history_main {cfg : Cfg} (hc : cfg.plain = true) (hb : cfg.bareBypass = false) (hflush : cfg.flushFix = true) (hH : 1 ≤ cfg.height) (ops : List Op) :
    ∀ (st : St) (v : View) (s : Screen), Good cfg st v s → BufOk st → wfOps cfg st ops = true →
      (∃ k, (replay cfg.height s (run cfg noFault st ops).2.1).rows =
        ((specRun cfg st v ops).2.printed ++ (specRun cfg st v ops).2.frame).map (cells cfg.cw) ++ List.replicate k []) ∧
      AboveRegion cfg st v s ops ∧
      (∀ pre, ops = pre ++ [.stop] → ((run cfg noFault st pre).1.started = true) →
        (replay cfg.height s (run cfg noFault st ops).2.1).visible = true) := by
  -- the cursor is a matter of the control state alone
  have hvis (ops : List Op) (st : St) (s : Screen) : ∀ pre, ops = pre ++ [.stop] → (run cfg noFault st pre).1.started = true →
      (replay cfg.height s (run cfg noFault st ops).2.1).visible = true :=
    fun pre hpre hst => hpre ▸ stop_visible cfg noFault _ (plain_ansi hc) pre st s hst
  induction ops with
  | nil =>
    intro st v s g _ _
    exact ⟨g.rows, trivial, hvis _ st s⟩
  | cons op rest ih =>
    intro st v s g hbuf hwf
    by_cases hop : op = .stop
    · subst hop
      simp only [wfOps, if_true, Bool.and_eq_true, List.isEmpty_iff] at hwf
      obtain ⟨⟨⟨hrest, _⟩, hff⟩, hfit⟩ := hwf
      subst hrest
      obtain ⟨s', hrun, hrows⟩ := stop_rows hc hH hflush g hbuf (stopOk_of_bool hff hfit).1 (stopOk_of_bool hff hfit).2
      have eout : (run cfg noFault st [Op.stop]).2.1 = (doStop cfg noFault st).out := List.append_nil _
      refine ⟨?_, ?_, hvis _ st s⟩
      · rw [eout, hrun.1]; exact hrows
      · exact ⟨hrun.2, fun h => absurd rfl h⟩
    · simp only [wfOps, hop, if_false] at hwf
      have hwf := Bool.and_eq_true_iff.1 hwf
      obtain ⟨happ, herr, hfit⟩ := opOk_of_bool hwf.1
      obtain ⟨s', hrun, hg⟩ := good_step hc hb hH g op hop happ herr hfit
      obtain ⟨hrows, habove, _⟩ := ih _ _ _ hg (bufOk_step cfg noFault st op hop herr hbuf) hwf.2
      refine ⟨?_, ⟨hrun.2, fun _ => by rw [hrun.1]; exact habove⟩, hvis _ st s⟩
      rw [run_cons_out, replay_append, hrun.1, specRun, if_neg hop]; exact hrows

/-- As `AboveRegion`, for histories in which `stop` may occur anywhere: while the output of every
operation is replayed, the cursor stays at or below the first row under the finished output so far. -/
def AboveRegionM (cfg : Cfg) : St → View → Screen → List Op → Prop
  | _, _, _, [] => True
  | st, v, s, op :: rest =>
    (∀ r ∈ rowTrace cfg.height s (step cfg noFault st op).out, v.printed.length ≤ r) ∧
    AboveRegionM cfg (step cfg noFault st op).st (viewStepM cfg st v op)
      (replay cfg.height s (step cfg noFault st op).out) rest

/-- Invariant carried through a history with any number of sessions (repaired `stop`). -/
theorem history_multi {cfg : Cfg} (hc : cfg.plain = true) (hb : cfg.bareBypass = false) (hflush : cfg.flushFix = true) (hreset : cfg.resetShape = true)
    (hH : 1 ≤ cfg.height) (ops : List Op) :
    ∀ (st : St) (v : View) (s : Screen), Good cfg st v s → BufOk st → wfOpsM cfg st ops = true →
      Good cfg (specRunM cfg st v ops).1 (specRunM cfg st v ops).2
        (replay cfg.height s (run cfg noFault st ops).2.1) ∧
      (specRunM cfg st v ops).1 = (run cfg noFault st ops).1 ∧
      AboveRegionM cfg st v s ops := by
  induction ops with
  | nil => intro st v s g _ _; exact ⟨by simpa [run, specRunM, replay_nil] using g, rfl, trivial⟩
  | cons op rest ih =>
    intro st v s g hbuf hwf
    simp only [wfOpsM] at hwf
    obtain ⟨hop, hwfr⟩ := Bool.and_eq_true_iff.1 hwf
    have hstep : ∃ s', Run cfg.height v.printed.length s (step cfg noFault st op).out s' ∧
        Good cfg (step cfg noFault st op).st (viewStepM cfg st v op) s' ∧ BufOk (step cfg noFault st op).st := by
      by_cases hstop : op = .stop
      · subst hstop
        simp only [if_true, Bool.and_eq_true] at hop
        obtain ⟨s', hrun, hg, hbuf'⟩ := good_stop hc hH hflush hreset g hbuf
          (stopOk_of_bool hop.1.2 hop.2).1 (stopOk_of_bool hop.1.2 hop.2).2
        exact ⟨s', hrun, by rwa [viewStepM, if_pos rfl], hbuf'⟩
      · rw [if_neg hstop] at hop
        obtain ⟨happ, herr, hfit⟩ := opOk_of_bool hop
        obtain ⟨s', hrun, hg⟩ := good_step hc hb hH g op hstop happ herr hfit
        exact ⟨s', hrun, by rwa [viewStepM, if_neg hstop], bufOk_step cfg noFault st op hstop herr hbuf⟩
    obtain ⟨s', hrun, hg, hbuf'⟩ := hstep
    obtain ⟨hgood, hstate, habove⟩ := ih _ _ _ hg hbuf' hwfr
    rw [run_cons_out, replay_append, hrun.1]
    exact ⟨hgood, hstate, hrun.2, by rw [hrun.1]; exact habove⟩

theorem good_init (cfg : Cfg) (ov : Overflow) (r0 : Frame) (hH : 1 ≤ cfg.height) :
    Good cfg (initSt ov r0) {} Screen.init :=
  ⟨⟨0, ⟨rfl, rfl, rfl⟩, hH⟩, rfl, rfl, fun _ => ⟨rfl, rfl⟩⟩

theorem bufOk_init (ov : Overflow) (r0 : Frame) : BufOk (initSt ov r0) := by
  intro e _; cases e <;> rfl

end RichModel.Live
