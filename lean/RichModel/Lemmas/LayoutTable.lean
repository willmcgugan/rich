import RichModel.Lemmas.LayoutTableWidths
import RichModel.Lemmas.TableGeneral
/-!
**The table never overflows** (segment level): `tableConsole` is title ++ body ++ caption where the body is a sequence of complete
lines, each as wide as the column widths plus the borders (`tableConsole_of_widths`: `renderBody_onceWide` for the rectangle,
`setShape_rect` for the shaped cells).  What the widths `_calculate_column_widths` returns add up to is table arithmetic:
* columns free to wrap, at ANY width (`tableConsole_decomp_any`): at most the width on offer (`calcWidths_free_fits`), or, offered less
  than one cell per column, exactly one cell per column (`calcWidths_free_low`) — what discharges "Constrain / Align hand the child less
  than its structural minimum" and "`Table(width=tw)` below borders plus one cell per column" of C01's domain;
* ARBITRARY columns (fixed `width`, `min_width`, `max_width`, `no_wrap`) within the budget `nonWrapSum + wrapCount` of the first-pass
  widths (`tableConsole_decomp_general`): at most the width on offer plus `Table.floorSum` (`Dep.width_bound_general`).
-/
namespace RichModel.Layout
open RichModel RichModel.Frames

theorem tb_tableConsole_eq (cfg : Cfg) (o : TableOpts) (opts : Opts) (cols : List ColS) (w : Nat) (ws : List Int)
    (h : (toTable cfg o cols).calcWidths cfg.fl
      ((toTable cfg o cols).width.getD (w : Int) - (toTable cfg o cols).extraWidth) = some ws) :
    tableConsole cfg o opts cols w =
      annotation cfg o.title o.titleJustify opts (ws.sum + (toTable cfg o cols).extraWidth)
        ++ ((storedTable o cols (renderedCells cfg o cols (ws.map Int.toNat))).renderBody cfg.fl cfg.cw (ws.map Int.toNat)).flatMap
            (bodyLineSegs (shapedRows cfg.cw (ws.map Int.toNat) (renderedCells cfg o cols (ws.map Int.toNat))))
        ++ annotation cfg o.caption o.captionJustify opts (ws.sum + (toTable cfg o cols).extraWidth) := by
  unfold tableConsole
  simp only [h]
  rfl

/-- The body of a table whose widths are known: complete lines, none wider than the rectangle. -/
theorem tb_body_ok (cfg : Cfg) (hcw : cfg.cw = cwD) (hfl : cfg.fl.leadingRepeat = false)
    (o : TableOpts) (cols : List ColS) (widths : List Nat) (hwl : widths.length = cols.length) :
    let rendered := renderedCells cfg o cols widths
    let tbR := storedTable o cols rendered
    let body := (tbR.renderBody cfg.fl cfg.cw widths).flatMap (bodyLineSegs (shapedRows cfg.cw widths rendered))
    (∀ l ∈ splitLines body, lineLength cfg.cw l ≤ tbR.bodyWidth widths) ∧ Closed body := by
  intro rendered tbR body
  have hsp : cfg.cw ' ' = 1 := by rw [hcw]; exact cwD_space
  have h2 : ∀ c, cfg.cw c ≤ 2 := by rw [hcw]; exact cwD_le_two
  have hnl : cfg.cw '\n' = 0 := by rw [hcw]; exact cwD_nl
  have hrl : rendered.length = cols.length := tb_renderedCells_length cfg o cols widths hwl
  have hRl : tbR.columns.length = cols.length := tb_storedTable_columns_length o cols rendered hrl
  have hwfR : ∀ b, tbR.box = some b → b.wf cfg.cw := fun b hb => tb_boxOf_wf cfg.cw hcw o b hb
  have hs : RowsShaped cfg.cw widths (shapedRows cfg.cw widths rendered) :=
    tb_shapedRows_ok _ _ _ (tb_renderedCells_nlFree cfg o cols widths)
  exact tb_lines_flatMap cfg.cw _ _ _ (fun l hl =>
    tb_bodyLine_ok cfg.cw hsp h2 hnl cfg.fl hfl tbR hwfR widths (hwl.trans hRl.symm) _ hs l hl)

/-- the ratios of the table's columns come from natural numbers -/
theorem tb_toTable_ratio_nonneg (cfg : Cfg) (o : TableOpts) (cols : List ColS) :
    ∀ c ∈ (toTable cfg o cols).columns, 0 ≤ c.ratio.getD 0 := by
  intro c hc
  obtain ⟨cs, _, pc, _, rfl⟩ := tb_mem_toTable_columns cfg o cols c hc
  simp only [toColumn, toColumnC]
  cases cs.o.ratio with
  | none => simp
  | some n => simp only [Option.map_some, Option.getD_some]; exact Int.natCast_nonneg n

theorem tb_toTable_columns_ne (cfg : Cfg) (o : TableOpts) (cols : List ColS) (hne : cols ≠ []) :
    (toTable cfg o cols).columns ≠ [] := by
  intro h
  have := tb_toTable_columns_length cfg o cols
  rw [h] at this
  exact hne (List.eq_nil_of_length_eq_zero this.symm)

/-- an explicit `Table(width=tw)` within the available width: the table is laid out for at most the available width -/
theorem tb_width_getD_le (cfg : Cfg) (o : TableOpts) (cols : List ColS) (w : Nat) (hwidth : ∀ tw, o.width = some tw → tw ≤ w) :
    (toTable cfg o cols).width.getD (w : Int) ≤ (w : Int) := by
  rw [show (toTable cfg o cols).width = o.width.map Int.ofNat from rfl]
  cases hw' : o.width with
  | none => exact Int.le_refl _
  | some tw =>
    have := hwidth tw hw'
    simp only [Option.map_some, Option.getD_some, Int.ofNat_eq_natCast]
    omega

/-- **The table whose column widths are known**: title ++ body ++ caption, title and caption rendered at the sum of the widths plus
the borders, the body a sequence of complete lines none wider than that. -/
theorem tableConsole_of_widths (cfg : Cfg) (hcw : cfg.cw = cwD) (hfl : cfg.fl.leadingRepeat = false)
    (o : TableOpts) (opts : Opts) (cols : List ColS) (w : Nat) (hne : cols ≠ []) (ws : List Int)
    (hws : (toTable cfg o cols).calcWidths cfg.fl
      ((toTable cfg o cols).width.getD (w : Int) - (toTable cfg o cols).extraWidth) = some ws)
    (hlen : ws.length = (toTable cfg o cols).columns.length) (hpos : ∀ x ∈ ws, 1 ≤ x) :
    ∃ body : List Seg,
      tableConsole cfg o opts cols w =
        annotation cfg o.title o.titleJustify opts (ws.sum + (toTable cfg o cols).extraWidth) ++ body
          ++ annotation cfg o.caption o.captionJustify opts (ws.sum + (toTable cfg o cols).extraWidth) ∧
      (∀ l ∈ splitLines body, (lineLength cfg.cw l : Int) ≤ ws.sum + (toTable cfg o cols).extraWidth) ∧ Closed body := by
  have hlenT := tb_toTable_columns_length cfg o cols
  have hwl : (ws.map Int.toNat).length = cols.length := by rw [List.length_map, hlen, hlenT]
  obtain ⟨hfit, hclosed⟩ := tb_body_ok cfg hcw hfl o cols (ws.map Int.toNat) hwl
  refine ⟨_, tb_tableConsole_eq cfg o opts cols w ws hws, ?_, hclosed⟩
  intro l hl
  have hle := hfit l hl
  have hRl := tb_storedTable_columns_length o cols _ (tb_renderedCells_length cfg o cols (ws.map Int.toNat) hwl)
  have hneR : (storedTable o cols (renderedCells cfg o cols (ws.map Int.toNat))).columns ≠ [] := by
    intro h; rw [h] at hRl; exact hne (List.eq_nil_of_length_eq_zero hRl.symm)
  have hbw := Dep.bodyWidth_eq (storedTable o cols (renderedCells cfg o cols (ws.map Int.toNat))) (ws.map Int.toNat)
    (hwl.trans hRl.symm) hneR
  have hexR : (storedTable o cols (renderedCells cfg o cols (ws.map Int.toNat))).extraWidth = (toTable cfg o cols).extraWidth := by
    unfold Table.extraWidth
    rw [hRl, hlenT]
    rfl
  rw [hexR, sum_toNat ws (fun x hx => by have := hpos x hx; omega)] at hbw
  omega

/-- the table `Model/Table.lean` sees is sane: every option comes from a natural number and every cell measures
`0 ≤ maximum` -/
theorem tb_toTable_sane (cfg : Cfg) (o : TableOpts) (cols : List ColS)
    (hmeas : ∀ c ∈ cols, ColMeasNonneg c) :
    (toTable cfg o cols).Sane := by
  have hnat : ∀ (x : Option Nat) (w : Int), x.map Int.ofNat = some w → 0 ≤ w := by
    rintro (_ | n) w h <;> cases h
    exact Int.natCast_nonneg n
  refine ⟨Int.natCast_nonneg o.padding.right, Int.natCast_nonneg o.padding.left, ?_, ?_, ?_, ?_⟩
  · intro c hc w hw
    obtain ⟨cs, _, pc, _, rfl⟩ := tb_mem_toTable_columns cfg o cols c hc
    exact hnat cs.o.width w hw
  · intro c hc w hw
    obtain ⟨cs, _, pc, _, rfl⟩ := tb_mem_toTable_columns cfg o cols c hc
    exact hnat cs.o.maxWidth w hw
  · intro c hc w hw
    obtain ⟨cs, _, pc, _, rfl⟩ := tb_mem_toTable_columns cfg o cols c hc
    exact hnat cs.o.ratio w hw
  · intro c hc
    obtain ⟨cs, _, pc, hpc, rfl⟩ := tb_mem_toTable_columns cfg o cols c hc
    exact tb_toColumn_cells_ok cfg o cols hmeas _ cs pc hpc

theorem tb_floorSum_zero (cfg : Cfg) (o : TableOpts) (cols : List ColS)
    (h : ∀ c ∈ cols, c.o.minWidth = none ∨ c.o.width.isSome = true) : (toTable cfg o cols).floorSum = 0 := by
  refine sum_zero_of_all_zero _ (floors_zero _ fun c hc => ?_)
  obtain ⟨cs, hcs, pc, _, rfl⟩ := tb_mem_toTable_columns cfg o cols c hc
  simp only [toColumn, toColumnC]
  rcases h cs hcs with h | h
  · simp [h]
  · simp [Option.isSome_map, h]

/-- the first pass exists and gives every column a cell when the code has the repaired flexible-width clamp, or the
table has no active ratio -/
theorem tb_firstWidths_exists (cfg : Cfg) (o : TableOpts) (cols : List ColS) (maxWidth : Int)
    (hmeas : ∀ c ∈ cols, ColMeasNonneg c)
    (hr : (cfg.fl.flexNegative = false ∧ cfg.fl.flexClampZero = false) ∨ (toTable cfg o cols).NoRatio) :
    (toTable cfg o cols).FirstPass cfg.fl maxWidth := by
  have hsane := tb_toTable_sane cfg o cols hmeas
  rcases hr with hr | hr
  · exact firstWidths_ge_one cfg.fl hr.1 hr.2 (toTable cfg o cols) maxWidth
      (fun ci hci => measureColumn_nonneg _ hsane ci.2 ci.1 (mem_indexed _ ci hci) maxWidth)
      (tb_paddingWidth_nonneg cfg o cols)
      (fun c hc => by
        cases hw : c.width with
        | none => simp
        | some n => simpa using hsane.width c hc n hw)
      (tb_toTable_ratio_nonneg cfg o cols)
  · refine ⟨_, firstWidths_noRatio cfg.fl _ hr maxWidth, by simp [indexed_length], ?_⟩
    intro w hw
    simp only [List.mem_map] at hw
    obtain ⟨ci, hci, rfl⟩ := hw
    exact orOne_pos _ (measureColumn_nonneg _ hsane ci.2 ci.1 (mem_indexed _ ci hci) maxWidth)

/-- **Table with arbitrary columns.**  `ws0` = the first-pass widths of `_calculate_column_widths` at the width on offer
(`maxWidth := o.width.getD w - extra`); if the columns that may not shrink (fixed `width`, `no_wrap`) plus one cell for every
column that may fit that width (`nonWrapSum + wrapCount ≤ maxWidth`), the table is title ++ body ++ caption, the body a
sequence of complete lines, and no body line is wider than the available width PLUS `floorSum` (the `min_width + padding`
floors of the columns that have a `min_width` and no fixed `width`) — exactly the available width when no column has a
binding `min_width` (`tb_floorSum_zero`).  `tb_firstWidths_exists` supplies `ws0`, `h0`, `hp` and, with `tb_toTable_columns_length`, `hl`. -/
theorem tableConsole_decomp_general (cfg : Cfg) (hcw : cfg.cw = cwD) (hfl : cfg.fl.leadingRepeat = false)
    (o : TableOpts) (opts : Opts) (cols : List ColS) (w : Nat)
    (hne : cols ≠ [])
    (hmeas : ∀ c ∈ cols, ∀ ch ∈ c.header :: c.footer :: c.cells, ∀ k : Nat, 0 ≤ (ch.measure k).maximum)
    (hwidth : ∀ tw, o.width = some tw → tw ≤ w)
    (ws0 : List Int)
    (h0 : (toTable cfg o cols).firstWidths cfg.fl (((toTable cfg o cols).width.getD (w : Int)) - (toTable cfg o cols).extraWidth) = some ws0)
    (hl : ws0.length = cols.length) (hp : ∀ x ∈ ws0, 1 ≤ x)
    (hbudget : nonWrapSum (ws0.zip (toTable cfg o cols).wrapable) + wrapCount (ws0.zip (toTable cfg o cols).wrapable)
        ≤ ((toTable cfg o cols).width.getD (w : Int)) - (toTable cfg o cols).extraWidth) :
    ∃ (tw : Int) (body : List Seg), tw ≤ (w : Int) + (toTable cfg o cols).floorSum ∧
      tableConsole cfg o opts cols w =
        annotation cfg o.title o.titleJustify opts tw ++ body ++ annotation cfg o.caption o.captionJustify opts tw ∧
      (∀ l ∈ splitLines body, (lineLength cfg.cw l : Int) ≤ (w : Int) + (toTable cfg o cols).floorSum) ∧ Closed body := by
  have hmax := tb_width_getD_le cfg o cols w hwidth
  obtain ⟨ws, hws, hsum, hlen, hpos⟩ := Dep.width_bound_general cfg.fl (toTable cfg o cols) _
    (tb_toTable_sane cfg o cols hmeas) (tb_toTable_columns_ne cfg o cols hne) ws0 h0
    (hl.trans (tb_toTable_columns_length cfg o cols).symm) hp hbudget
  obtain ⟨body, heq, hlines, hclosed⟩ := tableConsole_of_widths cfg hcw hfl o opts cols w hne ws hws hlen hpos
  exact ⟨_, body, by omega, heq, fun l hl => by have := hlines l hl; omega, hclosed⟩

/-- Columns free to wrap, at ANY budget (zero and negative included): `_calculate_column_widths` succeeds, every column gets at least
one cell, and together they take no more than the budget (`calcWidths_free_fits`) — or, offered less than one cell per column, exactly
one cell each (`calcWidths_free_low`). -/
theorem calcWidths_free_any (fl : Flags) (t : Table) (maxWidth : Int) (hfirst : t.FirstPass fl maxWidth) (hfree : t.AllFree)
    (hne : t.columns ≠ []) (hnw : ∀ c ∈ t.columns, c.noWrap = false) :
    ∃ ws, t.calcWidths fl maxWidth = some ws ∧ ws.sum ≤ max maxWidth (t.columns.length : Int) ∧ ws.length = t.columns.length ∧
      ∀ w ∈ ws, 1 ≤ w := by
  by_cases hroom : (t.columns.length : Int) ≤ maxWidth
  · obtain ⟨ws, a, b, c, d⟩ := calcWidths_free_fits fl t maxWidth hfirst hfree hne hnw hroom
    exact ⟨ws, a, by omega, c, d⟩
  · obtain ⟨ws, a, b, c, d⟩ := calcWidths_free_low fl t maxWidth hfirst hfree hne hnw (by omega)
    exact ⟨ws, a, by omega, c, d⟩

/-- **Table, at ANY width.**  Columns free to wrap (no `width`, `min_width`, `no_wrap`; ratio columns allowed, but no `ratio=0` column
in a table that expands on the code before fix 75c2776), cells whose measured maximum is never negative, an explicit `Table(width=…)`
within `w` (`table_laidOut` brings every table there) and NO condition on the room: the table is the title, a body and the caption, and no body line is wider than the available width — or, when that leaves
less than one cell per column, than the borders plus one cell per column. -/
theorem tableConsole_decomp_any (cfg : Cfg) (hcw : cfg.cw = cwD) (hfl : cfg.fl.leadingRepeat = false)
    (o : TableOpts) (opts : Opts) (cols : List ColS) (w : Nat)
    (hne : cols ≠ [])
    (hfree : ∀ c ∈ cols, c.o.wrappable ∧ ((cfg.fl.flexNegative = false ∧ cfg.fl.flexClampZero = false) ∨
      (o.expand || o.width.isSome) = false ∨ c.o.ratio ≠ some 0))
    (hmeas : ∀ c ∈ cols, ColMeasNonneg c)
    (hwidth : ∀ tw, o.width = some tw → tw ≤ w) :
    ∃ (tw : Int) (body : List Seg), tw ≤ ((max w (tableExtra o cols.length + cols.length) : Nat) : Int) ∧
      tableConsole cfg o opts cols w =
        annotation cfg o.title o.titleJustify opts tw ++ body ++ annotation cfg o.caption o.captionJustify opts tw ∧
      (∀ l ∈ splitLines body, lineLength cfg.cw l ≤ max w (tableExtra o cols.length + cols.length)) ∧ Closed body := by
  have hn1 : 1 ≤ cols.length := by
    cases cols with
    | nil => exact absurd rfl hne
    | cons _ _ => simp
  have hlenT := tb_toTable_columns_length cfg o cols
  have hneT := tb_toTable_columns_ne cfg o cols hne
  have hfreeT := tb_toTable_allFree cfg o cols (fun c hc => ⟨(hfree c hc).1.1, (hfree c hc).1.2.1⟩) hmeas
  have hnwT := tb_toTable_noWrap cfg o cols (fun c hc => (hfree c hc).1.2.2)
  obtain ⟨hex0, hexle⟩ := tb_extraWidth_skel o (toTable cfg o cols) rfl rfl cols.length hlenT
  have hex0 := hex0 hn1
  have hmax := tb_width_getD_le cfg o cols w hwidth
  have hfirst : (toTable cfg o cols).FirstPass cfg.fl
      ((toTable cfg o cols).width.getD (w : Int) - (toTable cfg o cols).extraWidth) := by
    by_cases hflags : cfg.fl.flexNegative = false ∧ cfg.fl.flexClampZero = false
    · exact tb_firstWidths_exists cfg o cols _ hmeas (Or.inl hflags)
    · exact firstWidths_pos cfg.fl (toTable cfg o cols)
        (tb_toTable_ratiosPos cfg o cols (fun c hc => (hfree c hc).2.resolve_left hflags)) hfreeT
        (tb_paddingWidth_nonneg cfg o cols) _
  obtain ⟨ws, hws, hsum, hlen, hpos⟩ := calcWidths_free_any cfg.fl (toTable cfg o cols) _ hfirst hfreeT hneT hnwT
  rw [hlenT] at hsum
  obtain ⟨body, heq, hlines, hclosed⟩ := tableConsole_of_widths cfg hcw hfl o opts cols w hne ws hws hlen hpos
  have hB : ws.sum + (toTable cfg o cols).extraWidth ≤ ((max w (tableExtra o cols.length + cols.length) : Nat) : Int) := by
    clear hlines heq hws hfirst hfreeT hnwT hneT hmeas hfree hwidth hpos hlen
    omega
  exact ⟨_, body, hB, heq, fun l hl => Int.ofNat_le.mp (Int.le_trans (hlines l hl) hB), hclosed⟩

end RichModel.Layout
