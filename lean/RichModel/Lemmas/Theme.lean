import RichModel.Model.Theme
/-!
Dicts, the invariant of `ThemeStack` and the frame specification of the theme stack (property C20); what
`Console.get_style` raises.
-/
namespace RichModel.Theme

variable {σ : Type}

@[simp] theorem dget_nil (n : Name) : dget ([] : Dict σ) n = none := rfl

theorem dget_cons (k : Name) (v : σ) (r : Dict σ) (n : Name) :
    dget ((k, v) :: r) n = if k = n then some v else dget r n := rfl

theorem dset_cons (k' : Name) (v' : σ) (r : Dict σ) (k : Name) (v : σ) :
    dset ((k', v') :: r) k v = if k' = k then (k', v) :: r else (k', v') :: dset r k v := rfl

theorem dget_dset (d : Dict σ) (k : Name) (v : σ) (n : Name) :
    dget (dset d k v) n = if k = n then some v else dget d n := by
  induction d with
  | nil => rfl
  | cons p r ih =>
    obtain ⟨k', v'⟩ := p
    rw [dset_cons]
    by_cases h : k' = k
    · subst h
      rw [if_pos rfl, dget_cons, dget_cons]
      by_cases h2 : k' = n
      · rw [if_pos h2, if_pos h2]
      · rw [if_neg h2, if_neg h2, if_neg h2]
    · rw [if_neg h, dget_cons, dget_cons, ih]
      by_cases h2 : k' = n
      · rw [if_pos h2, if_pos h2, if_neg (h2 ▸ Ne.symm h)]
      · rw [if_neg h2, if_neg h2]

theorem dget_append (a b : Dict σ) (n : Name) :
    dget (a ++ b) n = (dget a n).or (dget b n) := by
  fun_induction dget a n <;> simp_all [dget_cons]

theorem dget_eq_none_iff (d : Dict σ) (n : Name) : dget d n = none ↔ n ∉ keys d := by
  induction d with
  | nil => exact iff_of_true rfl List.not_mem_nil
  | cons p r ih =>
    obtain ⟨k, v⟩ := p
    rw [dget_cons, show keys ((k, v) :: r) = k :: keys r from rfl, List.mem_cons, not_or]
    by_cases h : k = n
    · simp [h]
    · simp [h, Ne.symm h, ih]

theorem dget_dupdate (d e : Dict σ) (h : WFD e) (n : Name) :
    dget (dupdate d e) n = (dget e n).or (dget d n) := by
  induction e generalizing d with
  | nil => rfl
  | cons p r ih =>
    obtain ⟨k, v⟩ := p
    obtain ⟨hk, hr⟩ : k ∉ keys r ∧ WFD r := List.nodup_cons.1 h
    rw [show dupdate d ((k, v) :: r) = dupdate (dset d k v) r from rfl, ih _ hr, dget_dset, dget_cons]
    by_cases hn : k = n
    · rw [if_pos hn, if_pos hn, (dget_eq_none_iff r n).2 (hn ▸ hk)]; rfl
    · rw [if_neg hn, if_neg hn]

theorem dset_of_not_mem (d : Dict σ) (k : Name) (v : σ) (h : k ∉ keys d) :
    dset d k v = d ++ [(k, v)] := by
  induction d with
  | nil => rfl
  | cons p r ih =>
    obtain ⟨k', v'⟩ := p
    obtain ⟨h1, h2⟩ : ¬ k = k' ∧ k ∉ keys r := not_or.1 fun e => h (List.mem_cons.2 e)
    rw [dset_cons, if_neg (Ne.symm h1), ih h2]
    rfl

theorem keys_dset_of_mem (d : Dict σ) (k : Name) (v : σ) (h : k ∈ keys d) : keys (dset d k v) = keys d := by
  induction d with
  | nil => cases h
  | cons p r ih =>
    obtain ⟨k', v'⟩ := p
    rw [dset_cons]
    by_cases hk : k' = k
    · rw [if_pos hk]; rfl
    · rw [if_neg hk]
      exact congrArg (k' :: ·) (ih ((List.mem_cons.1 h).resolve_left (Ne.symm hk)))

theorem wfd_dset (d : Dict σ) (h : WFD d) (k : Name) (v : σ) : WFD (dset d k v) := by
  by_cases hm : k ∈ keys d
  · rw [WFD, keys_dset_of_mem d k v hm]; exact h
  · rw [dset_of_not_mem d k v hm, WFD, keys, List.map_append]
    exact List.nodup_append.2 ⟨h, List.nodup_cons.2 ⟨List.not_mem_nil, List.nodup_nil⟩,
      fun a ha b hb => by rw [List.mem_singleton.1 hb]; exact fun e => hm ((show a = k from e) ▸ ha)⟩

theorem wfd_dupdate (d e : Dict σ) (h : WFD d) : WFD (dupdate d e) := by
  induction e generalizing d with
  | nil => exact h
  | cons p r ih => exact ih _ (wfd_dset d h p.1 p.2)

theorem wfd_nil : WFD ([] : Dict σ) := List.nodup_nil

/-- `self.get` is `self._entries[-1].get` (hence `_entries` is non-empty). -/
def Stack.WF (st : Stack σ) : Prop := st.entries.getLast? = some st.bound

/-- `_entries.append(d); self.get = d.get`: what a push does, whichever dict it builds. -/
def Stack.pushed (st : Stack σ) (d : Dict σ) : Stack σ := ⟨st.entries ++ [d], d⟩

theorem Stack.WF.ne_nil {st : Stack σ} (h : st.WF) : st.entries ≠ [] := by
  intro e; simp [Stack.WF, e] at h

theorem init_wf (t : Theme σ) : (Stack.init t).WF := rfl

theorem pushed_wf (st : Stack σ) (d : Dict σ) : (st.pushed d).WF :=
  List.getLast?_concat ..

theorem pushed_head {st : Stack σ} (h : st.WF) (d : Dict σ) :
    (st.pushed d).entries.head? = st.entries.head? := by
  cases hs : st.entries with
  | nil => exact absurd hs h.ne_nil
  | cons a r => simp only [Stack.pushed, hs]; rfl

theorem pushTheme_eq {st : Stack σ} (h : st.WF) (t : Theme σ) (i : Bool) :
    pushTheme st t i = .ok (st.pushed (if i then dupdate st.bound t.styles else t.styles)) := by
  cases i with
  | true => simp only [pushTheme, if_true, show st.entries.getLast? = some st.bound from h]; rfl
  | false => rfl

theorem popTheme_pushed {st : Stack σ} (h : st.WF) (d : Dict σ) : popTheme (st.pushed d) = .ok st := by
  have hg : st.entries.getLast? = some st.bound := h
  simp [popTheme, Stack.pushed, hg, h.ne_nil]

theorem popTheme_error_state (st : Stack σ) (e : Err) (_ : popTheme st = .error e) : True := trivial

/-! ## the specification: a list of frames (newest first) over a base dict -/

/-- One pushed theme together with the `inherit` flag of the push. -/
structure Frame (σ : Type) where
  styles : Dict σ
  inherit : Bool

/-- The statement of the property: the newest frame defining the name wins; an inheriting frame
that does not define it defers to the older ones; a non-inheriting frame hides them; below all
frames is the base theme. -/
def specLookup (base : Dict σ) : List (Frame σ) → Name → Option σ
  | [], n => dget base n
  | f :: older, n =>
    match dget f.styles n with
    | some s => some s
    | none => if f.inherit then specLookup base older n else none

/-- The dict on top of the concrete stack for a list of frames. -/
def topOf (base : Dict σ) : List (Frame σ) → Dict σ
  | [] => base
  | f :: older => if f.inherit then dupdate (topOf base older) f.styles else f.styles

/-- `_entries` for a list of frames: the base, then the top dict after each push, oldest first. -/
def entriesOf (base : Dict σ) : List (Frame σ) → List (Dict σ)
  | [] => [base]
  | f :: older => entriesOf base older ++ [topOf base (f :: older)]

/-- The concrete `ThemeStack` that represents a list of frames over `base`. -/
def stackOf (base : Dict σ) (fs : List (Frame σ)) : Stack σ := ⟨entriesOf base fs, topOf base fs⟩

theorem stackOf_wf (base : Dict σ) (fs : List (Frame σ)) : (stackOf base fs).WF := by
  cases fs with
  | nil => rfl
  | cons f r => exact pushed_wf (stackOf base r) _

theorem entriesOf_length (base : Dict σ) (fs : List (Frame σ)) :
    (entriesOf base fs).length = fs.length + 1 := by
  induction fs with
  | nil => rfl
  | cons f r ih => simp [entriesOf, ih]

theorem entriesOf_head (base : Dict σ) (fs : List (Frame σ)) :
    (entriesOf base fs).head? = some base := by
  induction fs with
  | nil => rfl
  | cons f r ih => exact (pushed_head (stackOf_wf base r) _).trans ih

theorem init_eq_stackOf (t : Theme σ) : Stack.init t = stackOf t.styles [] := rfl

/-- the frames: the entries above the first, each read as a non-inheriting push -/
theorem exists_stackOf {st : Stack σ} (h : st.WF) : ∃ b fs, st = stackOf b fs := by
  obtain ⟨es, bd⟩ := st
  have hl : es.getLast? = some bd := h
  clear h
  rw [← es.reverse_reverse] at hl ⊢
  generalize es.reverse = r at hl ⊢
  induction r generalizing bd with
  | nil => cases hl
  | cons x r ih =>
    rw [List.reverse_cons, List.getLast?_concat] at hl
    cases hl
    cases r with
    | nil => exact ⟨x, [], rfl⟩
    | cons y r =>
      obtain ⟨b, fs, e⟩ := ih y (by rw [List.reverse_cons, List.getLast?_concat])
      exact ⟨b, ⟨x, false⟩ :: fs, by
        rw [List.reverse_cons, show (⟨_ ++ [x], x⟩ : Stack σ) = Stack.pushed ⟨_, y⟩ x from rfl, e]; rfl⟩

theorem pushTheme_stackOf (base : Dict σ) (fs : List (Frame σ)) (t : Theme σ) (i : Bool) :
    pushTheme (stackOf base fs) t i = .ok (stackOf base (⟨t.styles, i⟩ :: fs)) :=
  pushTheme_eq (stackOf_wf base fs) t i

theorem popTheme_stackOf_cons (base : Dict σ) (f : Frame σ) (fs : List (Frame σ)) :
    popTheme (stackOf base (f :: fs)) = .ok (stackOf base fs) :=
  popTheme_pushed (stackOf_wf base fs) _

theorem popTheme_stackOf_nil (base : Dict σ) :
    popTheme (stackOf base []) = .error .themeStackError := rfl

theorem dget_topOf (base : Dict σ) (fs : List (Frame σ)) (hwf : ∀ f ∈ fs, WFD f.styles) (n : Name) :
    dget (topOf base fs) n = specLookup base fs n := by
  induction fs with
  | nil => rfl
  | cons f r ih =>
    have ih := ih fun g hg => hwf g (List.mem_cons_of_mem _ hg)
    simp only [topOf, specLookup]
    cases f.inherit with
    | true =>
      rw [if_pos rfl, if_pos rfl, dget_dupdate _ _ (hwf f List.mem_cons_self), ih]
      cases dget f.styles n <;> rfl
    | false => rw [if_neg Bool.false_ne_true, if_neg Bool.false_ne_true]; cases dget f.styles n <;> rfl

mutual
/-- The history semantics the property describes: push adds a frame, pop removes the newest one
(never the base), a `use_theme` block is a push, its body and a pop that always happens. -/
def specOp : Op σ → List (Frame σ) → List (Frame σ) × Outcome
  | .push t i, fs => (⟨t.styles, i⟩ :: fs, .normal)
  | .pop, fs =>
    match fs with
    | [] => ([], .raised .themeStackError)
    | _ :: older => (older, .normal)
  | .raise, fs => (fs, .raised .userError)
  | .use t i body, fs =>
    match specOps body (⟨t.styles, i⟩ :: fs) with
    | (fs2, out) =>
      match fs2 with
      | [] => ([], .raised .themeStackError)
      | _ :: older => (older, out)
/-- a statement list: it stops at the first statement that raises -/
def specOps : List (Op σ) → List (Frame σ) → List (Frame σ) × Outcome
  | [], fs => (fs, .normal)
  | op :: rest, fs =>
    match specOp op fs with
    | (fs', .normal) => specOps rest fs'
    | r => r
end

theorem Op.induct {P : Op σ → Prop} {Q : List (Op σ) → Prop}
    (push : ∀ t i, P (.push t i)) (pop : P .pop) (raise : P .raise)
    (use : ∀ t i body, Q body → P (.use t i body))
    (nil : Q []) (cons : ∀ op rest, P op → Q rest → Q (op :: rest)) :
    (∀ op, P op) ∧ (∀ ops, Q ops) :=
  ⟨fun op => Op.rec (motive_1 := P) (motive_2 := Q) push pop raise use nil cons op,
   fun ops => Op.rec_1 (motive_1 := P) (motive_2 := Q) push pop raise use nil cons ops⟩

theorem runOps_cons (f : Bool) (op : Op σ) (rest : List (Op σ)) (st : Stack σ) :
    runOps f (op :: rest) st =
      match runOp f op st with
      | (st', .normal) => runOps f rest st'
      | r => r :=
  rfl

theorem run_refines (base : Dict σ) :
    (∀ (op : Op σ) (fs : List (Frame σ)),
      runOp false op (stackOf base fs) = (stackOf base (specOp op fs).1, (specOp op fs).2)) ∧
    (∀ (ops : List (Op σ)) (fs : List (Frame σ)),
      runOps false ops (stackOf base fs) = (stackOf base (specOps ops fs).1, (specOps ops fs).2)) := by
  apply Op.induct
  · intro t i fs
    simp only [runOp, specOp, pushTheme_stackOf]
  · intro fs
    cases fs <;> simp only [runOp, specOp, popTheme_stackOf_nil, popTheme_stackOf_cons]
  · exact fun fs => rfl
  · intro t i body ih fs
    simp only [runOp, ctxEnter, Bool.false_eq_true, if_false, pushTheme_stackOf, ih, specOp, ctxExit]
    cases (specOps body (⟨t.styles, i⟩ :: fs)).1 <;>
      simp only [popTheme_stackOf_nil, popTheme_stackOf_cons]
  · exact fun fs => rfl
  · intro op rest ih1 ih2 fs
    rw [runOps_cons, specOps, ih1]
    cases specOp op fs with
    | mk fs' out => cases out <;> simp only [ih2]

theorem runOp_refines (base : Dict σ) : ∀ (op : Op σ) (fs : List (Frame σ)),
    runOp false op (stackOf base fs) = (stackOf base (specOp op fs).1, (specOp op fs).2) :=
  (run_refines base).1

theorem resolve_no_other (parse : Parse σ) (hp : ∀ n, parse n ≠ .error .other) (st : Stack σ) (n : Name) :
    resolve parse st n ≠ .error .other := by
  unfold resolve
  split
  · exact nofun
  · exact hp n

theorem getStyle1_err (parse : Parse σ) (hp : ∀ n, parse n ≠ .error .other) (st : Stack σ)
    (name : NS σ) (e : GErr) : getStyle1 parse st name = .error e → e = .missingStyle := by
  fun_cases getStyle1 parse st name
  · exact nofun
  · exact nofun
  · exact fun h => by cases h; rfl
  · rename_i hx; exact absurd hx (resolve_no_other parse hp st _)

theorem getStyle_err (parse : Parse σ) (hp : ∀ n, parse n ≠ .error .other) (st : Stack σ)
    (name : NS σ) (default : Option (NS σ)) (e : GErr) :
    getStyle parse st name default = .error e → e = .missingStyle := by
  fun_cases getStyle parse st name default
  · exact nofun
  · exact nofun
  · rename_i hx; exact absurd hx (resolve_no_other parse hp st _)
  · exact fun h => by cases h; rfl
  · exact getStyle1_err parse hp st _ e

end RichModel.Theme
