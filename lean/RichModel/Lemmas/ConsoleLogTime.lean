import RichModel.Model.ConsoleLogTime
/-! The time column of `log` (`Model/ConsoleLogTime.lean`): the omit-repeated-times rule (`logTimeCells_spec`). -/
namespace RichModel.ConsoleLogTime

/-- **The omit-repeated-times rule.**  On a console with the time column, `_last_time` is, after any call, the display
of that call; so the time cell of a call is blank (as many spaces as the display is long) exactly when the display
equals the display of the call before, and is the display itself otherwise. -/
theorem logTimeCells_spec : ∀ (prev : Option (List Char)) (ds : List (List Char)),
    logTimeCells true { lastTime := prev } ds =
      (List.zip (prev :: ds.map some) ds).map (fun p =>
        if p.1 = some p.2 then some (List.replicate p.2.length ' ') else some p.2)
  | _, [] => rfl
  | prev, d :: r => by
    simp only [logTimeCells, logTimeCell, Bool.not_true, Bool.false_eq_true, if_false, List.map_cons, List.zip_cons_cons]
    by_cases h : prev = some d
    · subst h
      simp only [if_true]
      rw [logTimeCells_spec (some d) r]
    · simp only [h, if_false]
      rw [logTimeCells_spec (some d) r]

theorem logTimeCells_off (st : LogState) (ds : List (List Char)) :
    logTimeCells false st ds = ds.map (fun _ => none) := by
  induction ds generalizing st with
  | nil => rfl
  | cons d r ih => simp [logTimeCells, logTimeCell, ih]

end RichModel.ConsoleLogTime
