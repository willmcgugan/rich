import RichModel.Lemmas.MarkupEscape
/-! Documents from the tag grammar (`Piece`: escaped text, opening and closing tags): the tokenizer
reads such a document piece by piece, and every piece means what it says. -/
namespace RichModel.Markup

/-- one piece of a document: escaped text, an opening tag, a closing tag, `[/]` -/
inductive Piece where
  | text (s : List Char)
  | opening (name : List Char) (params : Option (List Char))
  | closing (name : List Char)
  | closeTop
deriving Repr, DecidableEq

/-- the tag text between the brackets -/
def Piece.body : Piece → List Char
  | .text _ => []
  | .opening n none => n
  | .opening n (some p) => n ++ '=' :: p
  | .closing n => '/' :: n
  | .closeTop => ['/']

/-- how the piece is written: text escaped, a tag between brackets -/
def Piece.markup : Piece → List Char
  | .text s => escape s
  | p => '[' :: p.body ++ [']']

/-- what the piece is to mean: the characters of the text, or the one tag -/
def Piece.evs : Piece → List Ev
  | .text s => s.map Ev.chr
  | .opening n p => [Ev.tag { name := n, params := p }]
  | .closing n => [Ev.tag { name := '/' :: n, params := none }]
  | .closeTop => [Ev.tag { name := ['/'], params := none }]

/-- the tokenizer items of one piece -/
def Piece.lx : Piece → List Lx
  | .text s => (lex s).map Lx.bump
  | p => [Lx.tag 0 p.body]

/-- what a tag name in a document may not contain: `]`, a line feed, `=` -/
def cleanName (n : List Char) : Prop := ']' ∉ n ∧ '\n' ∉ n ∧ '=' ∉ n

/-- side conditions: text leaves are self-contained; a tag name starts with a letter or `#`, and
neither it nor the parameters contain `]` or a line feed (nor the name a `=`) -/
def Piece.ok : Piece → Prop
  | .text s => SelfContained s
  | .opening n p => (∃ c r, n = c :: r ∧ isTagStart c = true ∧ c ≠ '/') ∧ cleanName n ∧
      (∀ q, p = some q → ']' ∉ q ∧ '\n' ∉ q)
  | .closing n => cleanName n
  | .closeTop => True

instance (n : List Char) : Decidable (cleanName n) := by unfold cleanName; infer_instance

theorem splitEq_append (n r : List Char) (h : '=' ∉ n) : splitEq (n ++ r) = (n ++ (splitEq r).1, (splitEq r).2) := by
  induction n with
  | nil => rfl
  | cons c cs ih =>
    simp at h
    simp [splitEq, Ne.symm h.1, ih h.2]

theorem mkTag_plain (n : List Char) (h : '=' ∉ n) : mkTag n = { name := n, params := none } := by
  have := splitEq_append n [] h
  rw [List.append_nil] at this
  rw [mkTag, this]
  simp [splitEq]

theorem mkTag_params (n p : List Char) (h : '=' ∉ n) : mkTag (n ++ '=' :: p) = { name := n, params := some p } := by
  rw [mkTag, splitEq_append n _ h]
  simp [splitEq]

theorem selfContained_tag (body : List Char) : SelfContained ('[' :: body ++ [']']) := by
  refine ⟨?_, ?_⟩
  · rw [show '[' :: body ++ [']'] = ('[' :: body) ++ [']'] by simp, List.getLast?_concat]
    simp
  · have := okTail_body body []
    simp [okTail] at this ⊢
    exact this

theorem lex_tag (c : Char) (b : List Char) (hc : isTagStart c = true) (n1 : ']' ∉ b) (n2 : '\n' ∉ b) :
    lex ('[' :: (c :: b) ++ [']']) = [Lx.tag 0 (c :: b)] := by
  have := lexK_tag 0 (tagBody_of c b [] hc n1 n2)
  rwa [lexK_nil] at this

theorem Piece.lex_markup (p : Piece) (h : p.ok) : lex p.markup = p.lx := by
  cases p with
  | text s => exact lex_escape s
  | opening n q =>
    obtain ⟨⟨c, r, rfl, hc, _⟩, ⟨c1, c2, _⟩, hq⟩ := h
    simp at c1 c2
    cases q with
    | none => exact lex_tag c r hc c1.2 c2.2
    | some q =>
      obtain ⟨q1, q2⟩ := hq q rfl
      have := lex_tag c (r ++ '=' :: q) hc (by simp; exact ⟨c1.2, q1⟩) (by simp; exact ⟨c2.2, q2⟩)
      simpa [Piece.markup, Piece.body, Piece.lx] using this
  | closing n => exact lex_tag '/' n (by decide) h.1 h.2.1
  | closeTop => exact lex_tag '/' [] (by decide) (by simp) (by simp)

theorem Piece.selfContained (p : Piece) (h : p.ok) : SelfContained p.markup := by
  cases p with
  | text s => exact selfContained_escape h
  | opening n q => exact selfContained_tag _
  | closing n => exact selfContained_tag _
  | closeTop => exact selfContained_tag _

theorem lex_doc (d : List Piece) (h : ∀ p ∈ d, p.ok) : lex (d.flatMap Piece.markup) = d.flatMap Piece.lx := by
  induction d with
  | nil => rfl
  | cons p ps ih =>
    simp only [List.flatMap_cons]
    rw [lex_append _ (p.selfContained (h p (by simp))), p.lex_markup (h p (by simp)),
      ih (fun q hq => h q (by simp [hq]))]

theorem Piece.evs_lx (p : Piece) (h : p.ok) : p.lx.flatMap Lx.evs = p.evs := by
  have tag : ∀ body, [Lx.tag 0 body].flatMap Lx.evs = [Ev.tag (mkTag body)] := by simp [Lx.evs, bsl]
  cases p with
  | text s => rw [Piece.lx, evs_bump, flatten_lex]; rfl
  | opening n q =>
    have hn : '=' ∉ n := h.2.1.2.2
    cases q with
    | none => exact (tag n).trans (by rw [mkTag_plain n hn]; rfl)
    | some q => exact (tag (n ++ '=' :: q)).trans (by rw [mkTag_params n q hn]; rfl)
  | closing n =>
    exact (tag ('/' :: n)).trans (by rw [mkTag_plain _ (by simpa using h.2.2)]; rfl)
  | closeTop => rfl

end RichModel.Markup
