import RichModel.Lemmas.LayoutText
import RichModel.Lemmas.LayoutSplit
import RichModel.Lemmas.WrapSplit
import RichModel.Lemmas.WrapStages
/-!
The sibling of `text_fits` (Lemmas/LayoutText.lean) for a text that is NOT wrapped (`no_wrap`, or overflow "ignore" — the
overflow ARGUMENT `Text.__rich_console__` hands to `Text.wrap` is the effective one, and `Text.wrap` treats the argument
"ignore" as `no_wrap`): when every paragraph of the text fits the width, so does every emitted line, whatever the justify
mode and the overflow mode ("ignore" included: nothing is cut there, nothing needs to be).

Nothing is assumed about the code variants (`cfg.wv`) nor about the consistency of the text (`Text.Inv`): what
`Text.split("\n", allow_blank=True)` does to the CHARACTERS for every variant of `divide` (the variants differ in
the spans only) is `Text.split_newline_plain` (Lemmas/TextSplit.lean).  Auxiliary facts are prefixed `nw_`.
-/
namespace RichModel.Layout
open RichModel RichModel.Frames RichModel.Text RichModel.Wrap

theorem nw_cellLen_strip (cw : Char → Nat) (s : List Char) : cellLen cw (stripControl s) ≤ cellLen cw s :=
  cellLen_filter_le cw _ s

section
variable {σ : Type}

/-- the body of the paragraph loop of `Text.wrap` with `no_wrap`, overflow "ignore" -/
theorem nw_wrapLine_fit [BEq σ] (wv : WVariant) (cw : Char → Nat) (hsp : cw ' ' = 1) (A : StyleAlg σ) (line : Text σ) (w : Nat)
    (j : Justify) (hl : cellLen cw line.plain ≤ w) (ls : List (Text σ))
    (h : wrapLine wv cw A line w j Overflow.ignore true = .ok ls) : ∀ x ∈ ls, cellLen cw x.plain ≤ w := by
  rw [wrapLine_one wv cw A line w j Overflow.ignore true rfl] at h
  cases h
  intro x hx
  rw [List.mem_singleton.mp hx]
  exact (finishLine_fits wv cw hsp w j Overflow.ignore line hl).1

theorem nw_wrapParagraphs_fit [BEq σ] (wv : WVariant) (cw : Char → Nat) (hsp : cw ' ' = 1) (A : StyleAlg σ) (w : Nat)
    (j : Justify) (ts : Option Nat) : ∀ (ps ls : List (Text σ)),
    (∀ p ∈ ps, cellLen cw p.plain ≤ w ∧ p.plain.contains '\t' = false) →
    wrapParagraphs wv cw A w j Overflow.ignore true ts ps = .ok ls → ∀ x ∈ ls, cellLen cw x.plain ≤ w :=
  fun ps _ hps h => (wrapParagraphs_post wv cw A w j Overflow.ignore true ts _ _ ps fun P hP => .of_forall fun ls hls => by
    rw [(hps P hP).2] at hls
    exact nw_wrapLine_fit wv cw hsp A P w j (hps P hP).1 ls hls).of_ok h

end

theorem nw_lines_fit (cfg : Cfg) (hsp : cfg.cw ' ' = 1) (t : T) (o : Opts) (w : Nat)
    (hov : effOverflow t o = RichModel.Overflow.ignore)
    (htab : ∀ c ∈ t.plain, c ≠ '\t')
    (hpar : FitsStr cfg.cw w t.plain)
    (lines : List T) (h : textLines cfg t o w = .ok lines) : ∀ l ∈ lines, cellLen cfg.cw l.plain ≤ w := by
  unfold textLines at h
  obtain ⟨ps, hps, h⟩ := Wrap.wrap_ok_iff.mp h
  have hnw : noWrapOf t (some (effOverflow t o)) (some (effNoWrap t o)) = true := by
    rw [hov]; unfold noWrapOf
    rw [show (some Overflow.ignore == some Overflow.ignore) = true from by decide, Bool.or_true]
  have hwo : wrapOverflowOf t (some (effOverflow t o)) = Overflow.ignore := by
    rw [hov]; rfl
  rw [hnw, hwo] at h
  refine nw_wrapParagraphs_fit cfg.wv cfg.cw hsp alg w _ _ ps lines ?_ h
  intro p hp
  obtain ⟨a, q, b, hab, hq, hpl⟩ := split_newline_plain cfg.wv.text t ps hps p hp
  constructor
  · rw [hpl]
    exact Nat.le_trans (nw_cellLen_strip cfg.cw q) ((hab ▸ hpar).of_infix hq)
  · rw [hpl]
    cases hc : (stripControl q).contains '\t' with
    | false => rfl
    | true =>
      exfalso
      have hm : '\t' ∈ stripControl q := by simpa using hc
      have hm' : '\t' ∈ q := (List.mem_filter.mp hm).1
      exact htab '\t' (by rw [hab]; simp [hm']) rfl

/-- **every line of a rendered text fits** — because it is cut to the width (effective overflow other than "ignore": `text_fits`), or,
with overflow "ignore", where `Text.wrap` neither wraps nor cuts, because it has no tab and every paragraph (piece between line
feeds) of its plain text fits; whatever the justify mode. -/
theorem text_fits_unless_ignore (cfg : Cfg) (hsp : cfg.cw ' ' = 1) (h2 : ∀ c, cfg.cw c ≤ 2) (hel : cfg.cw '…' = 1)
    (hp : cfg.poison = []) (t : T) (o : Opts) (w : Nat) (hw : 1 ≤ w)
    (hig : effOverflow t o = RichModel.Overflow.ignore →
      (∀ c ∈ t.plain, c ≠ '\t') ∧ FitsStr cfg.cw w t.plain)
    (hend : t.endStr = ['\n'] ∨ t.endStr = []) : Fits cfg.cw w (textConsole cfg t o w) := by
  by_cases hov : effOverflow t o = RichModel.Overflow.ignore
  · exact txt_console_fits cfg hp t o w hend (nw_lines_fit cfg hsp t o w hov (hig hov).1 (hig hov).2)
  · exact text_fits cfg hsp h2 hel hp t o w hw hov hend

set_option linter.unusedVariables false in
/-- the sibling of `text_fits` for a text that is not wrapped (`no_wrap`, or overflow "ignore") and has no tab: if every paragraph of
its plain text fits `w`, every line `Text.__rich_console__` emits fits `w`.  (`hnw` records where the statement is needed; the proof
does not use it.) -/
theorem text_fits_nowrap (cfg : Cfg) (hsp : cfg.cw ' ' = 1) (h2 : ∀ c, cfg.cw c ≤ 2) (hel : cfg.cw '…' = 1) (hp : cfg.poison = [])
    (t : T) (o : Opts) (w : Nat) (hw : 1 ≤ w)
    (hnw : effNoWrap t o = true ∨ effOverflow t o = RichModel.Overflow.ignore)
    (htab : ∀ c ∈ t.plain, c ≠ '\t')
    (hpar : ∀ p ∈ pieces t.plain, cellLen cfg.cw p ≤ w)
    (hend : t.endStr = ['\n'] ∨ t.endStr = []) : Fits cfg.cw w (textConsole cfg t o w) :=
  text_fits_unless_ignore cfg hsp h2 hel hp t o w hw (fun _ => ⟨htab, hpar⟩) hend

end RichModel.Layout
