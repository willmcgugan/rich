import RichModel.Lemmas.StyleParse
/-!
The documented one- and two-word definitions: the name of a well-formed colour alone and after `on`
(in particular every name of `ANSI_COLOR_NAMES`, and `default`), an attribute word alone and after
`not`.  Each parses to exactly the style `__init__` builds for it.
-/
namespace RichModel
open AsciiStr
namespace Style
variable {T : StrTables} [hT : T.Lawful]

/-- The `Color` a table row `(name, number)` stands for. -/
def namedColor (p : List Char × Nat) : Color :=
  { name := p.1, type := numberType p.2, number := some p.2 }

/-- The colour `default` names: the value of `Color.default()` (`Color.mkDefault` of Model/StyleCtor.lean). -/
def defaultColor : Color := { name := cl! "default", type := .default }

omit hT in
theorem wfColor_indep {v v' : StyleVariant} {c : Color} (h : wfColorT T v c = true) : wfColorT T v' c = true := by
  rw [wfColor_iff] at h ⊢
  exact ⟨h.1, Color.parseT_ok_indep T h.2⟩

theorem wfColor_of_plain {v : StyleVariant} {c : Color} (hpl : ∀ ch ∈ c.name, plainChar ch = true)
    (hp : Color.Parsed T c.name c) : wfColorT T v c = true :=
  wfColor_iff.mpr ⟨(T.plain_word hpl).1, by rw [Color.parseT_plain v hpl]; exact (Color.parseNormT_ok_iff T).mpr hp⟩

theorem named_color_wf (v : StyleVariant) {p : List Char × Nat} (hp : p ∈ Gen.ansiColorNames) :
    wfColorT T v (namedColor p) = true := by
  have := List.all_eq_true.mp color_names_tbl p hp
  simp only [Bool.and_eq_true, bne_iff_ne, ne_eq, List.all_eq_true] at this
  exact wfColor_of_plain (fun c hc => (this.2 c hc).1.1) (.named this.1.2 (ansiColorNumber_mem hp))

theorem default_color_wf (v : StyleVariant) : wfColorT T v defaultColor = true :=
  wfColor_of_plain (by decide) (.default rfl)

/-- The style with only a foreground (`fg = true`) or only a background colour, as `__init__` builds it. -/
def onlyColor (c : Color) (fg : Bool) : Style :=
  let f := if fg then some c else none
  let b := if fg then none else some c
  { color := f, bgcolor := b, attributes := 0, setAttributes := 0, link := none,
    hash := ⟨f, b, some 0, some 0, none⟩, isNull := false, styleDef := none }

omit hT in
theorem init_only {v : StyleVariant} {x : ColorArg} {c : Color} (hx : makeColorT T v x = .ok c) {kw : Kwargs}
    (hk : kwSet kw = 0) :
    initT T v (some x) none kw none = .ok (onlyColor c true) ∧
    initT T v none (some x) kw none = .ok (onlyColor c false) := by
  have hc : argColorT T v (some x) = .ok (some c) := argColor_some.mpr ⟨c, hx, rfl⟩
  exact ⟨init_ok_iff.mpr ⟨_, _, hc, rfl, by simp [hk, onlyColor, strTruthy]⟩,
    init_ok_iff.mpr ⟨_, _, rfl, hc, by simp [hk, onlyColor, strTruthy]⟩⟩

/-- `Style.parse` lower-cases the word; after `on` `Color.parse` does. -/
theorem parse_color_word_lower {v : StyleVariant} {c : Color} {w : List Char} (h : wfColorT T v c = true)
    (hns : ∀ ch ∈ w, T.isSpace ch = false) (hl : T.lower w = c.name) :
    parseT T v w = .ok (onlyColor c true) ∧ parseT T v (cl! "on " ++ w) = .ok (onlyColor c false) := by
  have hne : w ≠ [] := fun e => (wfColor_word h).ne (by rw [← hl, e]; rfl)
  have cp := (wfColor_iff.mp h).2
  have hpw : Color.parseT T v w = .ok c := by
    rw [← Color.parseT_lower T v w, hl]; exact cp
  constructor
  · rw [parseT_of_reads v (T.split_word hne hns) hne (.one (.fg (hl.symm ▸ cp)) _), hl]
    exact (init_only (x := .str c.name) cp (kw := List.replicate 13 none) (by decide)).1
  · exact (parseT_of_reads v (T.split_two (k := cl! "on") (by decide) hne hns) (by simp)
      (.one (.bg (T.word_of_lit (by decide)).low hpw) _)).trans
        (init_only (x := .str w) hpw (kw := List.replicate 13 none) (by decide)).2

theorem parse_color_word {v : StyleVariant} {c : Color} (h : wfColorT T v c = true) :
    parseT T v c.name = .ok (onlyColor c true) ∧ parseT T v (cl! "on " ++ c.name) = .ok (onlyColor c false) :=
  have hw := wfColor_word h
  parse_color_word_lower h hw.nospace hw.low

/-- The style with exactly attribute `i` specified, with value `on`, as `__init__` builds it. -/
def single (i : Nat) (on : Bool) : Style :=
  let a := if on then 1 <<< i else 0
  { color := none, bgcolor := none, attributes := a, setAttributes := 1 <<< i, link := none,
    hash := ⟨none, none, some a, some (1 <<< i), none⟩, isNull := false, styleDef := none }

omit hT in
theorem getD_single {n i : Nat} (hi : i < n) (b : Bool) (j : Nat) :
    ((List.replicate n none).set i (some b)).getD j none = if j = i then some b else none := by
  by_cases h : i = j
  · subst h; simp [List.getD_eq_getElem?_getD, hi]
  · by_cases hj : j < n <;> simp [List.getD_eq_getElem?_getD, h, Ne.symm h, hj]

omit hT in
theorem kw_single {i : Nat} (hi : i < 13) (b : Bool) :
    kwSet ((List.replicate 13 none).set i (some b)) = 1 <<< i ∧
    kwVal ((List.replicate 13 none).set i (some b)) = (if b then 1 <<< i else 0) := by
  constructor <;> apply Nat.eq_of_testBit_eq <;> intro j
  · rw [kwSet_testBit, getD_single hi, Nat.one_shiftLeft, Nat.testBit_two_pow]
    by_cases h : i = j
    · subst h; simp [hi]
    · simp [h, Ne.symm h]
  · rw [kwVal_testBit, getD_single hi]
    by_cases h : i = j
    · subst h; cases b <;> simp [hi, Nat.one_shiftLeft]
    · cases b <;> simp [h, Ne.symm h, Nat.one_shiftLeft]

omit hT in
theorem initT_single (v : StyleVariant) {i : Nat} (hi : i < 13) (b : Bool) :
    initT T v none none ((List.replicate 13 none).set i (some b)) none = .ok (single i b) := by
  obtain ⟨h1, h2⟩ := kw_single hi b
  have h3 : 1 <<< i ≠ 0 := by
    rw [Nat.one_shiftLeft]; exact Nat.pos_iff_ne_zero.mp (Nat.two_pow_pos i)
  exact init_ok_iff.mpr ⟨none, none, rfl, rfl, by simp [h1, h2, h3, single, strTruthy, -List.reduceReplicate]⟩

theorem parse_attr_word {v : StyleVariant} {i : Nat} {n : List Char} (h : attrIndex n = some i) :
    parseT T v n = .ok (single i true) ∧ parseT T v (cl! "not " ++ n) = .ok (single i false) := by
  obtain ⟨hw, hlt⟩ := attr_word (T := T) h
  constructor
  · rw [parseT_of_reads v hw.split hw.ne (.one (.attr (hw.low.symm ▸ h)) _)]
    exact initT_single v hlt true
  · exact (parseT_of_reads v (T.split_two (k := cl! "not") (by decide) hw.ne hw.nospace) (by simp)
      (.one (.notAttr (T.word_of_lit (by decide)).low h) _)).trans (initT_single v hlt false)

/-- `r` is the successful result `s` (exactly: fields, `_null`, stored hash, empty cache). -/
def isOk (r : Except StyleErr Style) (s : Style) : Bool :=
  match r with
  | .ok t => decide (t = s)
  | .error _ => false

theorem isOk_iff {r : Except StyleErr Style} {s : Style} : isOk r s = true ↔ r = .ok s := by
  cases r <;> simp [isOk]

end Style
end RichModel
