import RichModel.Lemmas.MarkupRefine
/-! When the reference semantics fails: exactly when some closing tag has nothing to close at the
moment it is reached (`NothingToClose`), and `render` raises in exactly those cases. -/
namespace RichModel.Markup

/-- the tags open after `evs`, a closing tag with nothing to close being skipped (total) -/
def openAfter (cfg : Cfg) : List OTag → List Ev → List OTag
  | op, [] => op
  | op, .chr _ :: r => openAfter cfg op r
  | op, .tag t :: r =>
    match classify cfg t with
    | .opening o => openAfter cfg (o :: op) r
    | .closeName n => openAfter cfg ((closeRecent n op).getD op) r
    | .closeTop => openAfter cfg op.tail r

/-- closing tag `t` has nothing to close when the open tags are `op` -/
def cannotClose (cfg : Cfg) (op : List OTag) (t : Tag) : Prop :=
  match classify cfg t with
  | .opening _ => False
  | .closeName n => closeRecent n op = none
  | .closeTop => op = []

/-- some closing tag of the text has nothing to close when it is reached -/
def NothingToClose (cfg : Cfg) (op : List OTag) (evs : List Ev) : Prop :=
  ∃ pre t post, evs = pre ++ Ev.tag t :: post ∧ cannotClose cfg (openAfter cfg op pre) t

instance (cfg : Cfg) (op : List OTag) (t : Tag) : Decidable (cannotClose cfg op t) := by
  unfold cannotClose; split <;> infer_instance

theorem cannotClose_iff (cfg : Cfg) (op : List OTag) (t : Tag) : cannotClose cfg op t ↔ stepO cfg op t = none := by
  unfold cannotClose stepO
  cases classify cfg t with
  | opening o => simp
  | closeName n => exact Iff.rfl
  | closeTop => cases op <;> simp

theorem openAfter_tag (cfg : Cfg) (op : List OTag) (t : Tag) (r : List Ev) :
    openAfter cfg op (.tag t :: r) = openAfter cfg ((stepO cfg op t).getD op) r := by
  rw [openAfter, stepO]
  cases classify cfg t with
  | opening o => rfl
  | closeName n => rfl
  | closeTop => cases op <;> rfl

theorem openAfter_cons (cfg : Cfg) (op : List OTag) (ev : Ev) (r : List Ev) :
    openAfter cfg op (ev :: r) = openAfter cfg (openAfter cfg op [ev]) r := by
  cases ev with
  | chr c => rfl
  | tag t => rw [openAfter_tag, openAfter_tag]; rfl

theorem nothingToClose_cons (cfg : Cfg) (op : List OTag) (ev : Ev) (evs : List Ev) :
    NothingToClose cfg op (ev :: evs) ↔
      (∃ t, ev = .tag t ∧ cannotClose cfg op t) ∨ NothingToClose cfg (openAfter cfg op [ev]) evs := by
  constructor
  · rintro ⟨pre, t, post, h, hc⟩
    cases pre with
    | nil => exact .inl ⟨t, (List.cons.inj h).1, hc⟩
    | cons x pre' =>
      obtain ⟨rfl, h2⟩ := List.cons.inj h
      exact .inr ⟨pre', t, post, h2, by rw [← openAfter_cons]; exact hc⟩
  · rintro (⟨t, rfl, hc⟩ | ⟨pre, t, post, rfl, hc⟩)
    · exact ⟨[], t, evs, rfl, hc⟩
    · exact ⟨ev :: pre, t, post, rfl, by rw [openAfter_cons]; exact hc⟩

theorem sem_none_iff (cfg : Cfg) (evs : List Ev) (op : List OTag) :
    sem cfg op evs = none ↔ NothingToClose cfg op evs := by
  induction evs generalizing op with
  | nil =>
    refine iff_of_false (by simp [sem]) ?_
    rintro ⟨pre, t, post, h, _⟩
    cases pre <;> cases h
  | cons ev evs ih =>
    rw [nothingToClose_cons]
    cases ev with
    | chr c =>
      have := sem_chars cfg op [c] evs
      rw [show [c].map Ev.chr ++ evs = .chr c :: evs from rfl] at this
      rw [this, Option.map_eq_none_iff, ih]
      exact ⟨.inr, fun h => h.resolve_left (fun ⟨t, h, _⟩ => by cases h)⟩
    | tag t =>
      rw [sem_tag, show openAfter cfg op [.tag t] = (stepO cfg op t).getD op from openAfter_tag cfg op t []]
      cases ho : stepO cfg op t with
      | none => exact iff_of_true rfl (.inl ⟨t, rfl, (cannotClose_iff cfg op t).mpr ho⟩)
      | some op' =>
        rw [Option.bind_some, ih]
        refine ⟨.inr, fun h => h.resolve_left ?_⟩
        rintro ⟨t', h, hc⟩
        cases h
        rw [cannotClose_iff, ho] at hc
        cases hc

/-- `render` fails exactly when the reference semantics does — for both span orders -/
theorem render_error_iff_sem (cfg : Cfg) (hE : cfg.emoji = none) (m : List Char) :
    (∃ e, render cfg m = .error e) ↔ sem cfg [] (events m) = none := by
  rw [render_error_iff_semC, semC_eq_sem cfg hE, chunks_evs]

end RichModel.Markup
