import RichModel.Lemmas.LayoutFrames
import RichModel.Lemmas.LayoutText
import RichModel.Lemmas.LayoutSplit
/-!
The panel of the composition layer (`panelConsoleL`: C08's panel with the title as a real `Text` rendered by
`textConsole`) at any available width: no line is wider than `max w 3` (`max w 4` with a title) — below three (four) cells
only the two borders (and the four fixed border characters of a titled top row) can stick out — and the panel ends its last line.
Stated on the flat text (`Fits`), because the rendering of the title is only known through `text_fits`.  Helpers are prefixed `pn_`.
-/
namespace RichModel.Layout
open RichModel RichModel.Frames

theorem pn_fits_boxRow (cw : Char → Nat) (a b z : Char) (ha : cw a = 1) (hb : cw b = 1) (hz : cw z = 1)
    (n : Int) (N : Nat) (h2 : 2 ≤ N) (h : n + 2 ≤ (N : Int)) :
    Fits cw N ([seg ([a] ++ rep n b ++ [z])] : List Seg) := by
  apply fits_line
  rw [lineLength_boxRow cw _ _ _ ha hb hz]
  omega

/-- `child_width` of `Panel.__rich_console__`, as `panelConsoleL` computes it -/
def panelChildWL (cfg : Cfg) (o : PanelOpts) (inner : Ch) (title : Option T) (w : Int) : Int :=
  let width0 : Int := match o.width with | none => w | some pw => min w pw
  let childW0 : Int := if o.expand then width0 - 2 else fitWidth cfg.v (inner.measureAt (width0 - 2)).maximum
  match title with
  | none => childW0
  | some t => min (w - 2) (max childW0 ((cellLen cfg.cw t.plain : Int) + 2))

/-- the top border of `panelConsoleL` -/
def panelTopL (cfg : Cfg) (o : PanelOpts) (box : Frames.Box) (title : Option T) (childW : Int) : List Seg :=
  match title with
  | none => [seg (boxTop box (childW + 2 - 2))]
  | some t =>
    let aligned := t.align cfg.wv.text cfg.cw (toAlignMethod o.titleAlign) (childW + 2 - 4) box.top
    let aligned : T := { aligned with endStr := [], noWrap := some true, overflow := none }
    let rw : Int := if cfg.titleAtConsoleWidth then (cfg.env.consoleWidth : Int) else childW + 2 - 4
    [seg [box.topLeft, box.top]] ++ (if rw < 1 then [] else textConsole cfg aligned {} rw.toNat)
      ++ [seg [box.top, box.topRight]]

theorem pn_unfold (cfg : Cfg) (o : PanelOpts) (c : Ch) (w : Int) (out : List Seg)
    (h : panelConsoleL cfg o c w = some out) :
    ∃ p box title, unpackPad o.padding = .ok p ∧
      boxAt (substituteBox cfg.env (o.safeBox.getD cfg.env.safeBox) o.box) = some box ∧
      panelTitleL cfg o.title = .ok title ∧
      out = panelTopL cfg o box title (panelChildWL cfg o (panelInner cfg.cw cfg.v p c) title w) ++ [nl]
        ++ ((panelInner cfg.cw cfg.v p c).linesAt cfg.cw (panelChildWL cfg o (panelInner cfg.cw cfg.v p c) title w) true).flatMap
            (fun l => [seg [box.midLeft]] ++ l ++ [seg [box.midRight]] ++ [nl])
        ++ [seg (boxBottom box (panelChildWL cfg o (panelInner cfg.cw cfg.v p c) title w + 2 - 2)), nl] := by
  unfold panelConsoleL at h
  cases hpad : unpackPad o.padding with
  | error e => simp [hpad] at h
  | ok p =>
    cases hb : boxAt (substituteBox cfg.env (o.safeBox.getD cfg.env.safeBox) o.box) with
    | none => simp [hpad, hb] at h
    | some box =>
      cases ht : panelTitleL cfg o.title with
      | error e => simp [hpad, hb, ht] at h
      | ok title =>
        simp only [hpad, hb, ht] at h
        refine ⟨p, box, title, rfl, rfl, rfl, ?_⟩
        cases title <;> exact (Option.some.inj h).symm

/-- `child_width + 2` never exceeds `max w 3`: `fitWidth` gives at least one cell to a non-expanding panel; with a title the `min`
with `w - 2` caps it at `w` -/
theorem pn_childW_le (cfg : Cfg) (o : PanelOpts) (inner : Ch) (title : Option T) (w : Int)
    (hm : ∀ k : Int, (inner.measureAt k).maximum ≤ max k 0) :
    panelChildWL cfg o inner title w + 2 ≤ max w 3 := by
  unfold panelChildWL
  have h0 : (match o.width with | none => w | some pw => min w pw) ≤ w := by cases o.width <;> simp only <;> omega
  have := panelChildW0_le cfg.v o.expand inner w _ h0 hm
  cases title <;> simp only <;> omega

/-- any bound `N` with room for the two borders, the child and (titled) the four fixed characters of the
top row -/
theorem pn_fits_bound (cfg : Cfg) (hcw : cfg.cw = cwR) (hp : cfg.poison = []) (htc : cfg.titleAtConsoleWidth = false)
    (box : Frames.Box) (hnn : box.NoNl) (hnar : box.Narrow cfg.cw) (title : Option T) (inner : Ch) (cwid : Int) (N : Nat)
    (h2N : 2 ≤ N) (hle : cwid + 2 ≤ (N : Int)) (h4 : title.isSome → 4 ≤ N) (o : PanelOpts) :
    Fits cfg.cw N (panelTopL cfg o box title cwid ++ [nl]
        ++ (inner.linesAt cfg.cw cwid true).flatMap (fun l => [seg [box.midLeft]] ++ l ++ [seg [box.midRight]] ++ [nl])
        ++ [seg (boxBottom box (cwid + 2 - 2)), nl]) := by
  have hsp : cfg.cw ' ' = 1 := by rw [hcw]; exact cwD_space
  have h2 : ∀ ch, cfg.cw ch ≤ 2 := by rw [hcw]; exact cwD_le_two
  have hel : cfg.cw '…' = 1 := by rw [hcw]; exact cwD_ellipsis
  have hbody := panelBody_width cfg.cw hnar none (cwid + 2 - 2) (inner.linesAt cfg.cw cwid true) fun l hl => by
    rw [renderLines_exact cfg.cw hsp h2 _ _ l hl, show cwid + 2 - 2 = cwid by omega]
  obtain ⟨n1, n2, n3, _⟩ := id hnar
  rw [List.append_assoc]
  refine fits_append _ _ _ _ (closed_snoc_nl _) (fits_snoc_nl _ _ _ ?_) ?_
  · -- the top border
    cases title with
    | none =>
      exact pn_fits_boxRow cfg.cw _ _ _ n1 n2 n3 (cwid + 2 - 2) N h2N (by omega)
    | some t =>
      have h4 := h4 rfl
      simp only [panelTopL, htc, Bool.false_eq_true, if_false]
      refine fits_mono _ (cellLen cfg.cw [box.topLeft, box.top] + (cwid + 2 - 4).toNat
        + cellLen cfg.cw [box.top, box.topRight]) _ _ (fits_sandwich _ _ _ _ _ ?_) ?_
      · split
        · exact fits_nil _ _
        · exact text_fits cfg hsp h2 hel hp _ _ _ (by omega) (fun h => nomatch effOverflow_ignore rfl h) (Or.inr rfl)
      · simp only [cellLen_cons, cellLen_nil, n1, n2, n3]; omega
  · -- the rows and the bottom border: whole lines of `cwid + 2` cells (`emits_panelBody`, `panelBody_width`)
    refine fits_of_lines_le _ _ _ fun l hl => ?_
    have he := (emits_panelBody none hnn (cwid + 2 - 2) _ (linesAt_nlFree cfg.cw inner cwid true)).splitLines
    rw [hbody l (he ▸ hl)]
    omega

theorem pn_title_ne (cfg : Cfg) (title : List Char) (t : T) (h : panelTitleL cfg title = .ok (some t)) : title ≠ [] := by
  intro he
  simp [panelTitleL, he] at h

/-- A panel at ANY width (any Python int): no line is wider than `max w 3` (`max w 4` with a title) — below three (four) cells the borders
(and the four fixed border characters of a titled top row) are all that can stick out. -/
theorem panelL_fits_any (cfg : Cfg) (hcw : cfg.cw = cwR) (hp : cfg.poison = []) (htc : cfg.titleAtConsoleWidth = false)
    (o : PanelOpts) (c : Ch) (w : Int) (out : List Seg) (h : panelConsoleL cfg o c w = some out)
    (hm : ∀ k : Int, (c.measureAt k).maximum ≤ max k 0) :
    Fits cfg.cw (max w.toNat (if o.title = [] then 3 else 4)) out ∧ Closed out := by
  obtain ⟨p, box, title, hpad, hb, ht, hout⟩ := pn_unfold cfg o c w out h
  obtain ⟨hnn, hnar⟩ := Dep.boxAt_ok _ box hb
  have hnar' : box.Narrow cfg.cw := by rw [hcw]; exact hnar
  have hin : ∀ k : Int, ((panelInner cfg.cw cfg.v p c).measureAt k).maximum ≤ max k 0 := by
    rw [hcw]; exact fr_panelInner_sound cfg.v p c hm
  have hle := pn_childW_le cfg o (panelInner cfg.cw cfg.v p c) title w hin
  generalize panelChildWL cfg o (panelInner cfg.cw cfg.v p c) title w = cwid at hout hle
  subst hout
  constructor
  · apply pn_fits_bound cfg hcw hp htc box hnn hnar' title _ cwid _ _ _ _ o
    · split <;> omega
    · split <;> omega
    · intro hs
      obtain ⟨t, rfl⟩ := Option.isSome_iff_exists.mp hs
      simp only [pn_title_ne cfg o.title t ht, if_false]
      omega
  · rw [show ∀ (X : List Seg) (s : Seg), X ++ [s, nl] = (X ++ [s]) ++ [nl] by intro X s; simp]
    exact closed_snoc_nl _

/-- **Panel with a `Text` title** (the code since fix 0e1edf7: the title is rendered at the width it was aligned to): at least 3 cells
(4 with a title) available and a child whose measurement is sound ⇒ no line of the panel is wider than the available width, and the
panel ends its last line. -/
theorem panelL_fits (cfg : Cfg) (hcw : cfg.cw = cwR) (hp : cfg.poison = []) (htc : cfg.titleAtConsoleWidth = false)
    (o : PanelOpts) (c : Ch) (w : Int) (out : List Seg) (h : panelConsoleL cfg o c w = some out)
    (hw : 3 ≤ w) (hwt : o.title ≠ [] → 4 ≤ w) (hm : ∀ k : Int, (c.measureAt k).maximum ≤ max k 0) :
    Fits cfg.cw w.toNat out ∧ Closed out := by
  obtain ⟨hf, hc⟩ := panelL_fits_any cfg hcw hp htc o c w out h hm
  refine ⟨fits_mono _ _ _ _ hf ?_, hc⟩
  split
  · omega
  · rename_i hne
    have := hwt hne
    omega

end RichModel.Layout
