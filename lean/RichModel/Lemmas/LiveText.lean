import RichModel.Model.Live
import RichModel.Lemmas.TextShows
/-!
The truncation of an over-wide Progress row in `Model/Live.lean` (`truncRow`, stated with `Model/Cells`
only) *is* `Text.truncate(width, overflow="ellipsis")` of the Text model of C05 (`Model/Text.lean`).
-/
namespace RichModel.Live
open RichModel

/-- A Text with the plain `row` and nothing else. -/
def rowText (row : Line) : Text Unit := { plain := row, length := row.length, spans := [], style := () }

theorem truncRow_eq_truncate (cw : Char → Nat) (w : Nat) (hw : 1 ≤ w) (row : Line) :
    truncRow cw w row = ((rowText row).truncate cw (w : Int) (some .ellipsis)).plain := by
  unfold truncRow Text.truncate rowText
  have e : ((w : Int) - 1) = ((w - 1 : Nat) : Int) := by omega
  have hne : (RichModel.Overflow.ellipsis != RichModel.Overflow.ignore) = true := rfl
  have heq : (RichModel.Overflow.ellipsis == RichModel.Overflow.ellipsis) = true := rfl
  simp only [Option.orElse, Option.getD, hne, heq, if_true, gt_iff_lt, Int.ofNat_lt, e, Text.setCellSizeI_nat,
    Bool.false_and, Bool.false_eq_true, if_false]
  split
  · rw [Text.setPlain_plain]
  · rfl

end RichModel.Live
