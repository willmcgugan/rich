import RichModel.Model.Table
import RichModel.Lemmas.Cells
/-!
The pieces of the table renderer (`Model/Table.lean`): cell widths of joined parts, of rule lines and of shaped cells; boxes
whose characters are one cell wide.
-/
namespace RichModel

theorem cellLen_joinSep (cw : Char → Nat) (sep : List Char) : ∀ (parts : List (List Char)),
    cellLen cw (joinSep sep parts) = (parts.map (cellLen cw)).sum + (parts.length - 1) * cellLen cw sep
  | [] => by simp [joinSep, cellLen]
  | [x] => by simp [joinSep]
  | x :: y :: rest => by
    have ih := cellLen_joinSep cw sep (y :: rest)
    simp only [joinSep, cellLen_append, ih, List.map_cons, List.sum_cons, List.length_cons]
    have : (rest.length + 1 + 1 - 1) * cellLen cw sep = cellLen cw sep + (rest.length + 1 - 1) * cellLen cw sep := by
      simp only [Nat.add_sub_cancel]; rw [Nat.add_mul]; omega
    omega

theorem joinSep_split (cw : Char → Nat) (sep : List Char) : ∀ (parts : List (List Char)) (j : Nat) (hj : j < parts.length),
    ∃ pre post, joinSep sep parts = pre ++ parts[j] ++ post ∧
      cellLen cw pre = ((parts.take j).map (cellLen cw)).sum + j * cellLen cw sep
  | [], j, hj => by simp at hj
  | [x], j, hj => by
    have : j = 0 := by simp at hj; omega
    subst this
    exact ⟨[], [], by simp [joinSep], by simp [cellLen]⟩
  | x :: y :: rest, 0, _ => ⟨[], sep ++ joinSep sep (y :: rest), by simp [joinSep], by simp [cellLen]⟩
  | x :: y :: rest, j + 1, hj => by
    have hj' : j < (y :: rest).length := by simp at hj ⊢; omega
    obtain ⟨pre, post, h1, h2⟩ := joinSep_split cw sep (y :: rest) j hj'
    refine ⟨x ++ sep ++ pre, post, ?_, ?_⟩
    · simp only [joinSep, h1, List.getElem_cons_succ, List.append_assoc]
    · simp only [cellLen_append, h2, List.take_succ_cons, List.map_cons, List.sum_cons]
      rw [Nat.add_mul]; omega

theorem mem_joinSep (sep : List Char) : ∀ (parts : List (List Char)) (c : Char), c ∈ joinSep sep parts →
    c ∈ sep ∨ ∃ p ∈ parts, c ∈ p
  | [], c, h => by simp [joinSep] at h
  | [x], c, h => by
    simp only [joinSep] at h
    exact Or.inr ⟨x, by simp, h⟩
  | x :: y :: rest, c, h => by
    simp only [joinSep, List.mem_append] at h
    rcases h with (h | h) | h
    · exact Or.inr ⟨x, by simp, h⟩
    · exact Or.inl h
    · rcases mem_joinSep sep (y :: rest) c h with h | ⟨p, hp, hc⟩
      · exact Or.inl h
      · exact Or.inr ⟨p, List.mem_cons_of_mem _ hp, hc⟩

/-- The characters of a box row all occupy one cell. -/
def BoxRow.wf (cw : Char → Nat) (r : BoxRow) : Prop := cw r.l = 1 ∧ cw r.h = 1 ∧ cw r.d = 1 ∧ cw r.r = 1

instance (cw : Char → Nat) (r : BoxRow) : Decidable (r.wf cw) := by unfold BoxRow.wf; exact inferInstance

/-- Every character of the box occupies one cell (the side condition proved for the generated boxes). -/
def Box.wf (cw : Char → Nat) (b : Box) : Prop :=
  b.top.wf cw ∧ b.head.wf cw ∧ b.headRow.wf cw ∧ b.mid.wf cw ∧ b.row.wf cw ∧ b.footRow.wf cw ∧ b.foot.wf cw ∧ b.bottom.wf cw

instance (cw : Char → Nat) (b : Box) : Decidable (b.wf cw) := by unfold Box.wf; exact inferInstance

theorem Box.levelChars_wf (cw : Char → Nat) (hsp : cw ' ' = 1) (b : Box) (h : b.wf cw) (lv : RowLevel) : (b.levelChars lv).wf cw := by
  obtain ⟨_, _, h3, h4, h5, h6, _, _⟩ := h
  cases lv
  · exact h3
  · exact h5
  · exact ⟨h4.1, hsp, h4.2.2.1, h4.2.2.2⟩
  · exact h6

theorem Box.rowChars_wf (cw : Char → Nat) (b : Box) (h : b.wf cw) (first last : Bool) : (b.rowChars first last).wf cw := by
  obtain ⟨_, h2, _, h4, _, _, h7, _⟩ := h
  unfold Box.rowChars
  split
  · exact h2
  · split
    · exact h4
    · exact h7

theorem sum_map_replicate (cw : Char → Nat) (c : Char) (hc : cw c = 1) : ∀ (widths : List Nat),
    ((widths.map (fun w => List.replicate w c)).map (cellLen cw)).sum = widths.sum
  | [] => rfl
  | w :: ws => by
    simp only [List.map_cons, List.sum_cons, cellLen_replicate, hc, Nat.mul_one, sum_map_replicate cw c hc ws]

/-- The cell width every body line of a table with `n ≥ 1` columns has: the edge characters, the
column widths and one divider between neighbours. -/
def lineWidth (edge : Bool) (sepLen : Nat) (widths : List Nat) : Nat :=
  (if edge then 2 else 0) + widths.sum + (widths.length - 1) * sepLen

theorem ruleLine_width (cw : Char → Nat) (tag : LineTag) (chars : BoxRow) (h : chars.wf cw) (edge : Bool) (widths : List Nat) :
    cellLen cw (ruleLine tag chars edge widths).once = lineWidth edge 1 widths := by
  obtain ⟨hl, hh, hd, hr⟩ := h
  unfold ruleLine BodyLine.once lineWidth
  simp only [cellLen_append, cellLen_joinSep, sum_map_replicate cw _ hh, List.length_map]
  cases edge <;> simp [cellLen, hl, hd, hr] <;> omega

theorem text_of_rep_one (l : BodyLine) (h : l.rep = 1) : l.text = l.once := by
  unfold BodyLine.text; rw [h]; simp

theorem ruleLine_rep (tag : LineTag) (chars : BoxRow) (edge : Bool) (widths : List Nat) : (ruleLine tag chars edge widths).rep = 1 := rfl

theorem shapeCell_length (cw : Char → Nat) (w h : Nat) (lines : List (List Char)) :
    (shapeCell cw w h lines).length = max h lines.length := by
  unfold shapeCell; simp; omega

theorem shapeCell_width (cw : Char → Nat) (hsp : cw ' ' = 1) (h2 : ∀ c, cw c ≤ 2) (w h : Nat) (lines : List (List Char)) :
    ∀ l ∈ shapeCell cw w h lines, cellLen cw l = w := by
  intro l hl
  unfold shapeCell at hl
  rcases List.mem_append.1 hl with hl | hl
  · obtain ⟨x, _, rfl⟩ := List.mem_map.1 hl
    exact (setCellSize_exact cw hsp h2 x w).1
  · have := List.eq_of_mem_replicate hl
    rw [this, cellLen_replicate, hsp, Nat.mul_one]

theorem shapeCell_exact (cw : Char → Nat) (w h : Nat) (lines : List (List Char)) (hw : ∀ l ∈ lines, cellLen cw l = w) :
    shapeCell cw w h lines = lines ++ List.replicate (h - lines.length) (List.replicate w ' ') := by
  unfold shapeCell
  have : lines.map (fun l => setCellSize cw l w) = lines.map id :=
    List.map_congr_left (fun l hl => setCellSize_id cw l w (hw l hl))
  rw [this, List.map_id]

theorem shapeCell_getD (cw : Char → Nat) (w h : Nat) (lines : List (List Char)) (hw : ∀ l ∈ lines, cellLen cw l = w) (k : Nat) (hk : k < h) :
    (shapeCell cw w h lines).getD k [] = if hl : k < lines.length then lines[k] else List.replicate w ' ' := by
  rw [shapeCell_exact cw w h lines hw, List.getD_eq_getElem?_getD]
  split
  · rename_i hl
    simp [List.getElem?_append_left hl, hl]
  · rename_i hl
    rw [List.getElem?_append_right (by omega)]
    have : k - lines.length < h - lines.length := by omega
    simp [this]

theorem rowHeight_ge (rendered : List (List (List Char))) : 1 ≤ rowHeight rendered ∧ ∀ l ∈ rendered, l.length ≤ rowHeight rendered := by
  unfold rowHeight
  suffices h : ∀ (xs : List (List (List Char))) (a : Nat), a ≤ xs.foldl (fun m l => max m l.length) a ∧
      ∀ l ∈ xs, l.length ≤ xs.foldl (fun m l => max m l.length) a from h rendered 1
  intro xs
  induction xs with
  | nil => intro a; simp
  | cons x xs ih =>
    intro a
    simp only [List.foldl_cons]
    obtain ⟨h1, h2⟩ := ih (max a x.length)
    refine ⟨by omega, ?_⟩
    intro l hl
    rcases List.mem_cons.1 hl with rfl | hl
    · omega
    · exact h2 l hl

theorem shapeRow_getElem (cw : Char → Nat) (widths : List Nat) (row : List Cell) (hlen : row.length = widths.length)
    (j : Nat) (hj : j < widths.length) :
    (shapeRow cw widths row).2[j]? =
      some (shapeCell cw widths[j] (shapeRow cw widths row).1 ((row[j]'(by omega)).renderLines widths[j])) := by
  unfold shapeRow
  simp only
  have hr : ((widths.zip row).map (fun wc => wc.2.renderLines wc.1))[j]? = some ((row[j]'(by omega)).renderLines widths[j]) := by
    rw [List.getElem?_map]
    have : (widths.zip row)[j]? = some (widths[j], row[j]'(by omega)) :=
      List.getElem?_zip_eq_some.2 ⟨List.getElem?_eq_getElem hj, List.getElem?_eq_getElem (by omega)⟩
    rw [this]; rfl
  rw [List.getElem?_map]
  have : (widths.zip ((widths.zip row).map (fun wc => wc.2.renderLines wc.1)))[j]?
      = some (widths[j], (row[j]'(by omega)).renderLines widths[j]) :=
    List.getElem?_zip_eq_some.2 ⟨List.getElem?_eq_getElem hj, hr⟩
  rw [this]; rfl

theorem shapeRow_parts (cw : Char → Nat) (hsp : cw ' ' = 1) (h2 : ∀ c, cw c ≤ 2) (widths : List Nat) (row : List Cell)
    (hlen : row.length = widths.length) (k : Nat) (hk : k < (shapeRow cw widths row).1) :
    (((shapeRow cw widths row).2.map (fun c => c.getD k [])).map (cellLen cw)) = widths := by
  apply List.ext_getElem?
  intro j
  by_cases hj : j < widths.length
  · -- column `j` is a shaped cell of the column's width, `h` lines high
    rw [List.getElem?_map, List.getElem?_map, shapeRow_getElem cw widths row hlen j hj, List.getElem?_eq_getElem hj]
    simp only [Option.map_some, Option.some.injEq]
    apply shapeCell_width cw hsp h2
    rw [List.getD_eq_getElem?_getD, List.getElem?_eq_getElem (by rw [shapeCell_length]; omega)]
    exact List.getElem_mem _
  · have hl2 : (shapeRow cw widths row).2.length = widths.length := by simp [shapeRow, hlen]
    rw [List.getElem?_eq_none (l := widths) (by omega), List.getElem?_eq_none (by simp only [List.length_map]; omega)]

end RichModel
