import RichModel.Lemmas.LayoutSplit
import RichModel.Lemmas.LayoutDepsFrames
/-!
The framing renderables (Padding, Panel, Align, Bar, ProgressBar, Tree) in the vocabulary of C01: no line of their
output is wider than the available width, and the output ends its last line.  Corollaries of the C08 library.
-/
namespace RichModel.Layout
open RichModel RichModel.Frames
/-- rich's cell-width function (table generated from rich/_cell_widths.py): another name of `cwD` (Lemmas/LayoutDeps.lean), which
is also `C07.cw` / `C08.cw`; `CfgOk` and the frame lemmas say `cwR`, the table lemmas `cwD` -/
abbrev cwR : Char → Nat := cwD

theorem fr_flat_nil : flat ([] : List Seg) = [] := flat_nil

/-- Padding fits WHATEVER the width: every line is `width ≤ w` cells wide (when the padding leaves the child less than one cell the
child renders nothing and only the blank top / bottom lines remain). -/
theorem padding_lines_le_any (v : Frames.Variant) (p : PadDims) (expand : Bool) (c : Ch) (w : Int) (hw : 0 ≤ w) :
    ∀ l ∈ splitLines (paddingConsole cwR v p expand c w), lineLength cwR l ≤ w.toNat := by
  intro l hl
  rw [paddingConsole_lines cwR cwD_space cwD_le_two] at hl
  have hle : paddingWidth v p expand c w ≤ w := by unfold paddingWidth; split <;> omega
  rw [paddingLines_width_any cwR cwD_space cwD_le_two v p expand c w l hl]
  omega

theorem padding_lines_le (v : Frames.Variant) (p : PadDims) (expand : Bool) (c : Ch) (w : Int)
    (hw : (p.left : Int) + p.right + 1 ≤ w) :
    ∀ l ∈ splitLines (paddingConsole cwR v p expand c w), lineLength cwR l ≤ w.toNat :=
  padding_lines_le_any v p expand c w (by omega)

theorem padding_closed (v : Frames.Variant) (p : PadDims) (expand : Bool) (c : Ch) (w : Int) :
    Closed (paddingConsole cwR v p expand c w) :=
  closed_of_emits (paddingConsole_emits cwR v p expand c w)

/-! `panelConsole` is C08's panel, whose title is a one-line simple text; `render` calls `panelConsoleL` (the title a real `Text`), and
the induction behind C01 uses `panelL_fits_any` of Lemmas/LayoutPanel.lean, not `panel_closed` / `panel_lines_le` below. -/

theorem fr_panel_unfold (env : Env) (v : Frames.Variant) (o : PanelOpts) (c : Ch) (w : Int) (out : List Seg)
    (h : panelConsole cwR env v o c w = .ok (some out)) :
    ∃ p box, unpackPad o.padding = .ok p ∧ boxAt (substituteBox env (o.safeBox.getD env.safeBox) o.box) = some box := by
  unfold panelConsole at h
  cases hp : unpackPad o.padding with
  | error e => simp [hp] at h
  | ok p =>
    cases hb : boxAt (substituteBox env (o.safeBox.getD env.safeBox) o.box) with
    | none => simp [hp, hb] at h
    | some box => exact ⟨p, box, rfl, rfl⟩

theorem panel_closed (env : Env) (v : Frames.Variant) (o : PanelOpts) (c : Ch) (w : Int) (out : List Seg)
    (h : panelConsole cwR env v o c w = .ok (some out)) : Closed out := by
  obtain ⟨p, box, hp, hb⟩ := fr_panel_unfold env v o c w out h
  obtain ⟨top, _, he⟩ := panelConsole_emits cwR env v o c w p box out hp hb (Dep.boxAt_ok _ box hb).1 h
  exact closed_of_emits he

theorem fr_panelInner_sound (v : Frames.Variant) (p : PadDims) (c : Ch)
    (hm : ∀ k : Int, (c.measureAt k).maximum ≤ max k 0) :
    ∀ k : Int, ((panelInner cwR v p c).measureAt k).maximum ≤ max k 0 := by
  intro k
  unfold panelInner
  split
  · unfold Child.measureAt
    split
    · simp only; omega
    · simp only [paddingChild, asChild]
      have := (Measurement.getPost_ok ((k.toNat : Nat) : Int) (some (paddingRichMeasure p c ((k.toNat : Nat) : Int)))).2.2
      omega
  · exact hm k

theorem panel_lines_le (env : Env) (v : Frames.Variant) (o : PanelOpts) (c : Ch) (w : Int) (out : List Seg)
    (h : panelConsole cwR env v o c w = .ok (some out)) (hw : 3 ≤ w) (hwt : o.title ≠ [] → 4 ≤ w)
    (hm : ∀ k : Int, (c.measureAt k).maximum ≤ max k 0) :
    ∀ l ∈ splitLines out, lineLength cwR l ≤ w.toNat := by
  obtain ⟨p, box, hp, hb⟩ := fr_panel_unfold env v o c w out h
  obtain ⟨hnn, hnar⟩ := Dep.boxAt_ok _ box hb
  obtain ⟨top, htop, hlines⟩ := panelConsole_lines cwR env v o c w p box out hp hb hnn h
  have hcw : panelChildWidth cwR v o (panelInner cwR v p c) w + 2 ≤ w :=
    Dep.panel_width_le v o (panelInner cwR v p c) w hw (fr_panelInner_sound v p c hm)
  obtain ⟨hbody, htopw, _⟩ := panelLines_width cwR cwD_space cwD_le_two env v o hnar _ top _ htop
    (renderLines_exact cwR cwD_space cwD_le_two _ _)
  intro l hl
  rw [hlines, List.append_assoc] at hl
  rcases List.mem_append.mp hl with hl | hl
  · rw [List.mem_singleton.mp hl]
    refine Nat.le_trans htopw ?_
    unfold panelTopCells
    split
    · omega
    · rename_i hne
      have := hwt hne
      omega
  · rw [hbody l hl]
    omega

/-- Align passes the child's lines through: if they are at most `B ≥ w` cells wide, so are Align's. -/
theorem align_lines_le_bound (env : Env) (v : Frames.Variant) (o : AlignOpts) (c : Ch) (w : Int) (B : Nat)
    (hB : w.toNat ≤ B)
    (hchild : ∀ l ∈ splitLines (c.renderAt (alignInnerWidth env v o c w)), lineLength cwR l ≤ B) :
    ∀ l ∈ splitLines (alignConsole cwR env v o c w), lineLength cwR l ≤ B := by
  obtain ⟨h1, _, h3, _, _⟩ := Dep.align_rect env v o c w
  intro l hl
  rw [h1] at hl
  have hlen : (lineLength cwR l : Int) = shapeWidth cwR (alignChildLines env v o c w)
      + alignPadCells o (w - shapeWidth cwR (alignChildLines env v o c w)) := h3 l hl
  have hsw : shapeWidth cwR (alignChildLines env v o c w) ≤ B := shapeWidth_le cwR _ _ hchild
  have hpc := alignPadCells_le o (w - (shapeWidth cwR (alignChildLines env v o c w) : Int))
  omega

theorem align_lines_le (env : Env) (v : Frames.Variant) (o : AlignOpts) (c : Ch) (w : Int) (hw : 0 ≤ w)
    (hchild : ∀ l ∈ splitLines (c.renderAt (alignInnerWidth env v o c w)), lineLength cwR l ≤ w.toNat) :
    ∀ l ∈ splitLines (alignConsole cwR env v o c w), lineLength cwR l ≤ w.toNat :=
  have _ := hw
  align_lines_le_bound env v o c w w.toNat (Nat.le_refl _) hchild

theorem align_closed (env : Env) (v : Frames.Variant) (o : AlignOpts) (c : Ch) (w : Int) : Closed (alignConsole cwR env v o c w) :=
  closed_of_emits (alignConsole_emits cwR env v o c w)

/-- `Bar` (as `__init__` leaves it) draws one whole line of `width ≤ w` cells -/
theorem bar_fits (o : BarOpts) (w : Nat) (hw : 1 ≤ w) (hsd : 0 < o.size.den) (hbd : 0 < o.beginV.den) (hed : 0 < o.endV.den)
    (hwd : 0 ≤ o.width.getD 0) :
    Fits cwR w (barConsole (barInit o) (w : Int) : List Seg) ∧ Closed (barConsole (barInit o) (w : Int) : List Seg) := by
  obtain ⟨hb0, hes, hbd'⟩ := Dep.bar_init_ok o hbd
  have hed' : 0 < (barInit o).endV.den := by
    unfold barInit; simp only; split <;> assumption
  obtain ⟨hw0, hwle⟩ := barWidth_bounds o.width (w : Int) (by omega) hwd
  obtain ⟨text, h1, h2⟩ := Dep.bar_exact (σ := Nat) (barInit o) (w : Int) hsd hbd' hed' hb0 hes hw0
  rw [h1]
  refine ⟨fits_snoc_nl _ _ [seg text] (fits_line _ _ _ ?_), closed_snoc_nl [seg text]⟩
  rw [lineLength_seg, h2]
  show (barWidth o.width (w : Int)).toNat ≤ w
  omega

/-- a progress bar is ONE line — it emits no line end (F23) — of at most `width ≤ w` cells -/
theorem progress_fits (env : Env) (o : ProgressOpts) (w : Nat) (hw : 1 ≤ w) (htd : 0 < o.total.den) (hcd : 0 < o.completed.den)
    (hwd : 0 ≤ o.width.getD 0) : Fits cwR w (progressConsole env o (w : Int) : List Seg) := by
  obtain ⟨hw0, hwle⟩ := barWidth_bounds o.width (w : Int) (by omega) hwd
  apply fits_line
  cases hp : o.pulse with
  | false =>
    have : lineLength cwR (progressConsole env o (w : Int) : List Seg) ≤ (barWidth o.width (w : Int)).toNat :=
      (Dep.progress_bar_le_and_exact (σ := Nat) env o (w : Int) hp hw0 htd hcd).1
    omega
  | true =>
    have : lineLength cwR (progressConsole env o (w : Int) : List Seg) = (barWidth o.width (w : Int)).toNat :=
      Dep.progress_pulse_exact_width (σ := Nat) env o (w : Int) hp hw0
    omega

theorem tree_lines_le (env : Env) (root : TreeN Nat) (w : Int) :
    ∀ l ∈ splitLines (treeConsole cwR env root w), lineLength cwR l ≤ w.toNat := by
  intro l hl
  exact Nat.le_of_eq (Dep.tree_rect env root w l hl)

theorem tree_fits (env : Env) (root : TreeN Nat) (w : Nat) : Fits cwR w (treeConsole cwR env root (w : Int)) :=
  fits_of_lines_le _ _ _ (by simpa using tree_lines_le env root (w : Int))

theorem tree_closed (env : Env) (root : TreeN Nat) (w : Int) : Closed (treeConsole cwR env root w) := by
  rw [treeConsole_eq_spec]
  obtain ⟨ls, hls, hout⟩ := specNode_linesOut cwR cwD_space cwD_le_two Dep.guides_ok env w root [] none true root.gs (by simp)
  unfold specTree
  rw [hout]
  exact closed_of_emits (Emits.lines_id fun l hl => (hls l hl).1)

end RichModel.Layout
