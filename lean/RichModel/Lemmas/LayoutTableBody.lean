import RichModel.Lemmas.LayoutSplit
import RichModel.Lemmas.LayoutDeps
import RichModel.Lemmas.LayoutMeasure
/-!
The body lines of a table at the level of segments (`bodyLineSegs` of `Model/Layout.lean`): every line of
`Table.renderBody` becomes a newline-free line followed by `Segment.line()`, never wider than the table's
rectangle (`Table.bodyWidth`).  Helpers are prefixed `tb_`.
-/
namespace RichModel.Layout
open RichModel RichModel.Frames

/-- chunks that are each a newline-free line of at most `B` cells followed by `Segment.line()`: `split_lines` of their concatenation
gives lines of at most `B` cells, and the concatenation ends its last line -/
theorem tb_lines_flatMap {α : Type} (cw : Char → Nat) (B : Nat) (f : α → List Seg) (ls : List α)
    (h : ∀ a ∈ ls, ∃ line : Ln, f a = line ++ [nl] ∧ NlFree line ∧ lineLength cw line ≤ B) :
    (∀ l ∈ splitLines (ls.flatMap f), lineLength cw l ≤ B) ∧ Closed (ls.flatMap f) := by
  have he : Emits (ls.flatMap f) (ls.flatMap fun a => [(f a).dropLast]) := Emits.flatMap fun a ha => by
    obtain ⟨line, heq, hnf, _⟩ := h a ha
    rw [heq]
    simpa using Emits.line hnf
  refine ⟨?_, closed_of_emits he⟩
  rw [he.splitLines]
  intro l hl
  obtain ⟨a, ha, hl⟩ := List.mem_flatMap.mp hl
  obtain ⟨line, heq, _, hle⟩ := h a ha
  rw [List.mem_singleton.mp hl, heq]
  simpa using hle

theorem tb_getD_mem_or {α : Type} (l : List α) (k : Nat) (d : α) : l.getD k d = d ∨ l.getD k d ∈ l := by
  rw [List.getD_eq_getElem?_getD]
  cases h : l[k]? with
  | none => left; rfl
  | some x => right; exact List.mem_of_getElem? h

/-- one part per column at most, every part newline-free and no wider than its column -/
def PartsFit (cw : Char → Nat) : List Nat → List Ln → Prop
  | _, [] => True
  | [], _ :: _ => False
  | w :: ws, p :: ps => NlFree p ∧ lineLength cw p ≤ w ∧ PartsFit cw ws ps

theorem tb_joinSegs_ok (cw : Char → Nat) (sep : List Seg) (hsep : NlFree sep) :
    ∀ (widths : List Nat) (parts : List Ln), PartsFit cw widths parts →
      NlFree (joinSegs sep parts) ∧
      lineLength cw (joinSegs sep parts) ≤ widths.sum + (widths.length - 1) * lineLength cw sep
  | _, [], _ => ⟨by simp only [joinSegs]; exact NlFree.nil, by simp [joinSegs]⟩
  | [], _ :: _, h => by simp [PartsFit] at h
  | w :: ws, [p], h => by
    obtain ⟨h1, h2, _⟩ := h
    refine ⟨by simpa only [joinSegs] using h1, ?_⟩
    simp only [joinSegs, List.sum_cons]
    omega
  | w :: ws, p :: q :: ps, h => by
    obtain ⟨h1, h2, h3⟩ := h
    have ih := tb_joinSegs_ok cw sep hsep ws (q :: ps) h3
    have hws : 1 ≤ ws.length := by
      cases ws with
      | nil => simp [PartsFit] at h3
      | cons _ _ => simp
    refine ⟨?_, ?_⟩
    · simp only [joinSegs]
      exact NlFree.append (NlFree.append h1 hsep) ih.1
    · simp only [joinSegs, lineLength_append, List.sum_cons, List.length_cons]
      have : (ws.length + 1 - 1) * lineLength cw sep = lineLength cw sep + (ws.length - 1) * lineLength cw sep := by
        obtain ⟨m, hm⟩ : ∃ m, ws.length = m + 1 := ⟨ws.length - 1, by omega⟩
        rw [hm]; simp only [Nat.add_sub_cancel]; rw [Nat.add_mul]; omega
      omega

theorem tb_setShape_nlFree (cw : Char → Nat) (lines : List Ln) (w : Nat)
    (h : Option Nat) (hl : ∀ l ∈ lines, NlFree l) : ∀ l ∈ setShape cw lines w h none, NlFree l := by
  intro l hmem
  simp only [setShape, List.mem_append, List.mem_map, List.mem_replicate] at hmem
  rcases hmem with ⟨l0, hl0, rfl⟩ | ⟨_, rfl⟩
  · exact adjust_nlFree cw l0 w none true (hl l0 hl0)
  · intro s hs
    simp only [List.mem_singleton] at hs
    subst hs
    simp only [Bool.not_false, Bool.and_true]
    rw [contains_nl_false_iff]
    intro c hc
    simp only [List.mem_replicate] at hc
    rw [hc.2]; decide

theorem tb_shapeRowS_parts (cw : Char → Nat) (hsp : cw ' ' = 1) (h2 : ∀ c, cw c ≤ 2) (h : Nat) (k : Nat) :
    ∀ (widths : List Nat) (row : List (List Ln)), (∀ cell ∈ row, ∀ l ∈ cell, NlFree l) →
      PartsFit cw widths (((widths.zip row).map (fun wl => setShape cw wl.2 wl.1 (some h) none)).map (fun c => c.getD k []))
  | [], _, _ => by simp [PartsFit]
  | _ :: _, [], _ => by simp [PartsFit]
  | w :: ws, cell :: row, hrow => by
    simp only [List.zip_cons_cons, List.map_cons, PartsFit]
    have ih := tb_shapeRowS_parts cw hsp h2 h k ws row (fun c hc => hrow c (List.mem_cons_of_mem _ hc))
    -- line `k` of the shaped cell: missing (then empty), or one of its lines, each exactly `w` cells
    rcases tb_getD_mem_or (setShape cw cell w (some h) none) k [] with h0 | h0
    · rw [h0]; exact ⟨NlFree.nil, Nat.zero_le _, ih⟩
    · exact ⟨tb_setShape_nlFree cw cell w (some h) (hrow cell (by simp)) _ h0,
        Nat.le_of_eq (setShape_rect cw hsp h2 cell w (some h) none _ h0), ih⟩

/-- what the table renderer knows about the shaped rows: row `i` is missing or the `set_shape`d stored lines -/
def RowsShaped (cw : Char → Nat) (widths : List Nat) (shaped : List (List (List Ln))) : Prop :=
  ∀ i, shaped.getD i [] = [] ∨
    ∃ row : List (List Ln), (∀ cell ∈ row, ∀ l ∈ cell, NlFree l) ∧ shaped.getD i [] = shapeRowS cw widths row

theorem tb_shapedRows_parts (cw : Char → Nat) (hsp : cw ' ' = 1) (h2 : ∀ c, cw c ≤ 2) (widths : List Nat)
    (shaped : List (List (List Ln))) (hs : RowsShaped cw widths shaped) (i k : Nat) :
    PartsFit cw widths ((shaped.getD i []).map (fun c => c.getD k [])) := by
  rcases hs i with h | ⟨row, hrow, h⟩
  · rw [h]; cases widths <;> simp [PartsFit]
  · rw [h]
    exact tb_shapeRowS_parts cw hsp h2 _ k widths row hrow

theorem tb_edgeSeg_ok (cw : Char → Nat) (hnl : cw '\n' = 0) (e : List Char) (h : e = [] ∨ ∃ c, e = [c] ∧ cw c = 1) :
    NlFree (edgeSeg e) ∧ lineLength cw (edgeSeg e) = e.length := by
  rcases h with rfl | ⟨c, rfl, hc⟩
  · exact ⟨NlFree.nil, by simp [edgeSeg]⟩
  · have hne : c ≠ '\n' := by rintro rfl; omega
    simp only [edgeSeg, List.isEmpty_cons, Bool.false_eq_true, if_false]
    exact ⟨nlFree_seg [c] (by intro d hd; rw [List.mem_singleton.mp hd]; exact hne), by rw [lineLength_seg]; simp [cellLen, hc]⟩

/-- **Every body line** of the table is, at the level of segments, a newline-free line followed by
`Segment.line()`, and that line is never wider than the table's rectangle. -/
theorem tb_bodyLine_ok (cw : Char → Nat) (hsp : cw ' ' = 1) (h2 : ∀ c, cw c ≤ 2) (hnl : cw '\n' = 0)
    (fl : Flags) (hfl : fl.leadingRepeat = false) (t : Table) (hwf : ∀ b, t.box = some b → b.wf cw)
    (widths : List Nat) (hlen : widths.length = t.columns.length)
    (shaped : List (List (List Ln))) (hs : RowsShaped cw widths shaped)
    (l : BodyLine) (hl : l ∈ t.renderBody fl cw widths) :
    ∃ line : Ln, bodyLineSegs shaped l = line ++ [nl] ∧ NlFree line ∧ lineLength cw line ≤ t.bodyWidth widths := by
  have hgood := renderBody_onceWide cw hsp h2 fl hfl t hwf widths hlen l hl
  have hrule : l.cellTag = none → ∃ line : Ln, [seg l.text, nl] = line ++ [nl] ∧ NlFree line ∧
      lineLength cw line ≤ t.bodyWidth widths := by
    intro htag
    refine ⟨[seg l.text], rfl, ?_, ?_⟩
    · apply nlFree_seg
      rw [text_of_rep_one l hgood.once]
      rcases renderBody_mem fl cw t widths l hl with ⟨ri, _, k, _, rfl⟩ | hsep
      · rw [cellLine_tag] at htag; cases htag
      · exact hsep.no_nl hsp hnl hwf
    · rw [lineLength_seg, hgood.text_width]; exact Nat.le_refl _
  cases htag : l.tag with
  | cell i k =>
    have hct : l.cellTag = some (i, k) := by simp [BodyLine.cellTag, htag]
    obtain ⟨row, _, _, hcl⟩ := renderBody_cell_line fl cw t widths l i k hl hct
    obtain ⟨el, es, er, hlr, hsl⟩ := cellLine_edges cw t hwf widths (i == 0) (i + 1 == t.rows.length) i row k
    rw [← hcl] at el es er hlr hsl
    obtain ⟨l1, l2⟩ := tb_edgeSeg_ok cw hnl _ el
    obtain ⟨s1, s2⟩ := tb_edgeSeg_ok cw hnl _ es
    obtain ⟨r1, r2⟩ := tb_edgeSeg_ok cw hnl _ er
    obtain ⟨j1, j2⟩ := tb_joinSegs_ok cw _ s1 widths _ (tb_shapedRows_parts cw hsp h2 widths shaped hs i k)
    simp only [bodyLineSegs, htag]
    refine ⟨_, rfl, NlFree.append (NlFree.append l1 j1) r1, ?_⟩
    simp only [lineLength_append, l2, r2, Table.bodyWidth, lineWidth]
    rw [s2, hsl] at j2
    omega
  | _ => simp only [bodyLineSegs, htag]; exact hrule (by simp [BodyLine.cellTag, htag])

end RichModel.Layout
