import RichModel.Model.StyleCtor
import RichModel.Lemmas.StyleSpellNum
import RichModel.Lemmas.StyleSpellRgb
/-!
The public colour constructors (`Color.from_ansi`, `from_triplet`, `from_rgb`, `default`) build
well-formed colours: the name each stores is a definition of that very colour — same name, same
`ColorType`, same number, same triplet as what `Color.parse` makes of the name.  Hence every
construction route through them agrees with the text routes on `==` and on the stored hash key.
Then the remaining public constructors of `Style`: `from_color`, `background_style`, `pick_first`.
-/
namespace RichModel
open AsciiStr
namespace Style
variable {T : StrTables} [hT : T.Lawful]

theorem digitChar_tbl : ∀ d, d < 16 → isHexLower (Nat.digitChar d) = true ∧ hexVal (Nat.digitChar d) = d := by
  decide

omit hT in
theorem fromTriplet_eq_hex {r g b : Nat} (hr : r < 256) (hg : g < 256) (hb : b < 256) :
    Color.fromTriplet ⟨r, g, b⟩ =
      hexColor (Nat.digitChar (r / 16)) (Nat.digitChar (r % 16)) (Nat.digitChar (g / 16)) (Nat.digitChar (g % 16))
        (Nat.digitChar (b / 16)) (Nat.digitChar (b % 16)) := by
  have e : ∀ c, c < 256 → 16 * hexVal (Nat.digitChar (c / 16)) + hexVal (Nat.digitChar (c % 16)) = c := by
    intro c hc
    rw [(digitChar_tbl (c / 16) (by omega)).2, (digitChar_tbl (c % 16) (by omega)).2]
    omega
  simp only [Color.fromTriplet, Color.tripletHex, Color.hexByte, hr, hg, hb, if_true, hexColor,
    e r hr, e g hg, e b hb]
  rfl

theorem fromTriplet_wf (v : StyleVariant) {r g b : Nat} (hr : r < 256) (hg : g < 256) (hb : b < 256) :
    wfColorT T v (Color.fromTriplet ⟨r, g, b⟩) = true := by
  rw [fromTriplet_eq_hex hr hg hb]
  apply hex_color_wf
  simp only [List.all_cons, List.all_nil, Bool.and_true, Bool.and_eq_true]
  refine ⟨?_, ?_, ?_, ?_, ?_, ?_⟩ <;> exact (digitChar_tbl _ (by omega)).1

/-- The colours the public constructors make from in-range arguments. -/
inductive MadeColor : Color → Prop
  | ansi {n : Nat} : n < 256 → MadeColor (Color.fromAnsi n)
  | triplet {r g b : Nat} : r < 256 → g < 256 → b < 256 → MadeColor (Color.fromTriplet ⟨r, g, b⟩)
  | rgb {r4 g4 b4 : Nat} : r4 < 1024 → g4 < 1024 → b4 < 1024 → MadeColor (Color.fromRgbQuarters r4 g4 b4)
  | default : MadeColor Color.mkDefault
  | named {p : List Char × Nat} : p ∈ Gen.ansiColorNames → MadeColor (namedColor p)

theorem MadeColor.wf (v : StyleVariant) {c : Color} (h : MadeColor c) : wfColorT T v c = true := by
  cases h with
  | ansi hn => exact numbered_color_wf v hn
  | triplet hr hg hb => exact fromTriplet_wf v hr hg hb
  | rgb hr hg hb => exact fromTriplet_wf v (by omega) (by omega) (by omega)
  | default => exact default_color_wf v
  | named hp => exact named_color_wf v hp

omit hT in
theorem kwSet_nil : kwSet [] = 0 := by decide

omit hT in
theorem fromColor_only (v : StyleVariant) (hv : v.fromColorHash = false) (c : Color) :
    fromColor v (some c) none = onlyColor c true ∧ fromColor v none (some c) = onlyColor c false := by
  constructor <;> simp [fromColor, hv, onlyColor]

omit hT in
theorem backgroundStyle_eq (T : StrTables) (v : StyleVariant) (s : Style) :
    backgroundStyleT T v s =
      .ok { color := none, bgcolor := s.bgcolor, attributes := 0, setAttributes := 0, link := none,
            hash := ⟨none, s.bgcolor, some 0, some 0, none⟩, isNull := s.bgcolor.isNone, styleDef := none } := by
  unfold backgroundStyleT
  cases s.bgcolor <;> exact init_ok_iff.mpr ⟨_, _, rfl, rfl, by simp [kwSet_nil, strTruthy]⟩

omit hT in
theorem backgroundStyle_some (T : StrTables) (v : StyleVariant) {s : Style} {c : Color} (h : s.bgcolor = some c) :
    backgroundStyleT T v s = .ok (onlyColor c false) := by
  rw [backgroundStyle_eq, h]
  rfl

omit hT in
theorem backgroundStyle_none (T : StrTables) (v : StyleVariant) {s : Style} (h : s.bgcolor = none) :
    ∃ t, backgroundStyleT T v s = .ok t ∧ eq t Style.null = true ∧ t.isNull = true ∧ t.hashKey = Style.null.hashKey := by
  rw [backgroundStyle_eq, h]
  exact ⟨_, rfl, rfl, rfl, rfl⟩

omit hT in
theorem backgroundStyle_reachable (T : StrTables) (v : StyleVariant) (s t : Style) (h : backgroundStyleT T v s = .ok t) :
    Reachable v t := Reachable.init h

omit hT in
theorem pickFirst_mem {l : List (Option Style)} {s : Style} (h : pickFirst l = .ok s) : some s ∈ l := by
  induction l with
  | nil => cases h
  | cons x xs ih =>
    cases x with
    | none => exact List.mem_cons_of_mem _ (ih h)
    | some y =>
      simp only [pickFirst, Except.ok.injEq] at h
      subst h
      exact List.mem_cons_self

omit hT in
theorem pickFirst_spec (l : List (Option Style)) :
    pickFirst l = match l.find? Option.isSome with
      | some (some s) => .ok s
      | _ => .error .valueError := by
  induction l with
  | nil => rfl
  | cons x xs ih =>
    cases x with
    | none => simpa [pickFirst] using ih
    | some y => simp [pickFirst]

end Style
end RichModel
