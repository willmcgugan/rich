import RichModel.Lemmas.TextDivide
/-!
`Text.split` at piece level, for every non-empty separator (repaired variant `splitW false`):
the cut points are the leftmost non-overlapping occurrences of the separator, the pieces are the
stretches between them (with or without the separator), each with its styles, and a final blank
piece is dropped unless `allow_blank`.  The released last-line rule (`splitW true`) picks the same lines for every
separator that cannot overlap itself.
-/
namespace RichModel
namespace Text
variable {σ : Type}

/-- the stretches of `l` before, between and after the matches `ms` (what `str.split` returns) -/
def betweenFrom {α : Type} (start : Nat) : List (Nat × Nat) → List α → List (List α)
  | [], l => [l.drop start]
  | m :: rest, l => (l.drop start).take (m.1 - start) :: betweenFrom m.2 rest l

/-- "`ms` are the leftmost non-overlapping occurrences of `sep` in `s` from `start` on": every match is an
occurrence, starts at or after the end of the previous one, and the stretch skipped before it (and the rest
after the last one) is not itself the separator — because the scan would have matched it. -/
def GoodMs (sep s : List Char) : Nat → List (Nat × Nat) → Prop
  | start, [] => s.drop start ≠ sep
  | start, m :: rest =>
    start ≤ m.1 ∧ m.2 = m.1 + sep.length ∧ (s.drop start).take (m.1 - start) ≠ sep ∧
      (s.drop m.1).take (m.2 - m.1) = sep ∧ GoodMs sep s m.2 rest

/-- no occurrence of `sep` starts in `[lo, hi)` -/
def NoOcc (sep s : List Char) (lo hi : Nat) : Prop := ∀ p, lo ≤ p → p < hi → sep.isPrefixOf (s.drop p) = false

/-- leftmost non-overlapping occurrences, with the full "nothing was skipped" clause: no occurrence at all starts
between the end of one match and the start of the next, nor after the last -/
def StrongMs (sep s : List Char) : Nat → List (Nat × Nat) → Prop
  | start, [] => ∀ hi, NoOcc sep s start hi
  | start, m :: rest =>
    start ≤ m.1 ∧ m.2 = m.1 + sep.length ∧ m.2 ≤ s.length ∧ NoOcc sep s start m.1 ∧
      (s.drop m.1).take sep.length = sep ∧ StrongMs sep s m.2 rest

theorem StrongMs.from_le {sep s : List Char} {lo start : Nat} {ms : List (Nat × Nat)} (hle : lo ≤ start)
    (hno : NoOcc sep s lo start) (h : StrongMs sep s start ms) : StrongMs sep s lo ms := by
  have ext : ∀ hi, NoOcc sep s start hi → NoOcc sep s lo hi := fun hi hn q hq1 hq2 =>
    (Nat.lt_or_ge q start).elim (hno q hq1) fun hge => hn q hge hq2
  cases ms with
  | nil => exact fun hi => ext hi (h hi)
  | cons m rest =>
    obtain ⟨h1, h2, h3, h4, h5, h6⟩ := h
    exact ⟨Nat.le_trans hle h1, h2, h3, ext _ h4, h5, h6⟩

/-- the scan, started at `pos` with `skip` characters of a match still to pass, finds exactly the occurrences that
start at or after `pos + skip` and do not overlap -/
theorem findAllAux_strong (sep : List Char) (hsep : 0 < sep.length) (plain : List Char) :
    ∀ (s : List Char) (pos skip : Nat), plain.drop pos = s → skip ≤ s.length → pos + s.length = plain.length →
      StrongMs sep plain (pos + skip) (findAllAux sep s pos skip)
  | [], pos, skip, _, hk, hn => by
    obtain rfl : skip = 0 := Nat.le_zero.1 hk
    intro hi q hq _
    rw [List.drop_eq_nil_of_le (by rw [← hn]; exact hq)]
    cases sep with
    | nil => exact absurd hsep (Nat.lt_irrefl 0)
    | cons _ _ => rfl
  | c :: rest, pos, skip, hs, hk, hn => by
    have hrest : plain.drop (pos + 1) = rest := by rw [← List.drop_drop, hs]; rfl
    have hn' : pos + 1 + rest.length = plain.length := by rw [← hn, List.length_cons]; omega
    have hk' : skip ≤ rest.length + 1 := hk
    unfold findAllAux
    split
    · have ih := findAllAux_strong sep hsep plain rest (pos + 1) (skip - 1) hrest (by omega) hn'
      rwa [show pos + 1 + (skip - 1) = pos + skip by omega] at ih
    · obtain rfl : skip = 0 := by omega
      split
      · next hpre =>
        have hp := List.isPrefixOf_iff_prefix.mp hpre
        have hle : sep.length ≤ rest.length + 1 := hp.length_le
        have ih := findAllAux_strong sep hsep plain rest (pos + 1) (sep.length - 1) hrest (by omega) hn'
        rw [show pos + 1 + (sep.length - 1) = pos + sep.length by omega] at ih
        refine ⟨Nat.le_refl _, rfl, by omega, fun q hq1 hq2 => absurd hq2 (Nat.not_lt.2 hq1), ?_, ih⟩
        rw [hs]
        exact (List.prefix_iff_eq_take.mp hp).symm
      · next hpre =>
        refine StrongMs.from_le (Nat.le_succ pos) (fun q h1 h2 => ?_)
          (findAllAux_strong sep hsep plain rest (pos + 1) 0 hrest (Nat.zero_le _) hn')
        obtain rfl : q = pos := Nat.le_antisymm (Nat.le_of_lt_succ h2) h1
        rw [hs]; exact Bool.eq_false_iff.2 hpre

theorem findAll_strong (sep plain : List Char) (hsep : 0 < sep.length) : StrongMs sep plain 0 (findAll sep plain) :=
  findAllAux_strong sep hsep plain plain 0 0 rfl (Nat.zero_le _) (Nat.zero_add _)

/-- what `GoodMs` asks of the skipped stretches is the special case "no occurrence starts where the stretch starts" -/
theorem StrongMs.good (sep s : List Char) (hsep : 0 < sep.length) :
    ∀ (ms : List (Nat × Nat)) (start : Nat), StrongMs sep s start ms → GoodMs sep s start ms
  | [], start, h => fun heq => by
    have := h (start + 1) start (Nat.le_refl _) (Nat.lt_succ_self _)
    rw [heq, List.isPrefixOf_iff_prefix.2 (List.prefix_refl _)] at this
    cases this
  | m :: rest, start, ⟨h1, h2, _, h4, h5, h6⟩ => by
    refine ⟨h1, h2, fun heq => ?_, by rw [h2, Nat.add_sub_cancel_left]; exact h5, StrongMs.good sep s hsep rest m.2 h6⟩
    rcases Nat.eq_or_lt_of_le h1 with e | hlt
    · rw [e, Nat.sub_self, List.take_zero] at heq
      rw [← heq] at hsep
      exact Nat.lt_irrefl 0 hsep
    · have := h4 start (Nat.le_refl _) hlt
      rw [List.isPrefixOf_iff_prefix.2 (heq ▸ List.take_prefix _ _)] at this
      cases this

/-- the matches `split` cuts at are the leftmost non-overlapping occurrences of the separator -/
theorem findAll_good (sep plain : List Char) (hsep : 0 < sep.length) : GoodMs sep plain 0 (findAll sep plain) :=
  (findAll_strong sep plain hsep).good sep plain hsep _ 0

theorem StrongMs.asc {sep s : List Char} : ∀ {ms : List (Nat × Nat)} {start : Nat}, StrongMs sep s start ms →
    AscFrom start (ms.flatMap (fun m => [m.1, m.2])) ∧ ∀ o ∈ ms.flatMap (fun m => [m.1, m.2]), o ≤ s.length
  | [], _, _ => ⟨trivial, fun _ ho => nomatch ho⟩
  | m :: rest, _, ⟨h1, h2, h3, _, _, h6⟩ => by
    obtain ⟨i1, i2⟩ := StrongMs.asc h6
    refine ⟨⟨h1, by omega, i1⟩, fun o ho => ?_⟩
    simp only [List.flatMap_cons, List.cons_append, List.nil_append, List.mem_cons] at ho
    rcases ho with rfl | rfl | ho
    · omega
    · exact h3
    · exact i2 o ho

/-- `lines.pop()` when the last line is blank and blanks are not wanted -/
def dropBlank {α : Type} (allowBlank : Bool) (ps : List (List α)) : List (List α) :=
  if !allowBlank && (match ps.getLast? with | some p => p.isEmpty | none => false) then ps.dropLast else ps

theorem dropBlank_true {α : Type} (ps : List (List α)) : dropBlank true ps = ps := rfl

theorem dropBlank_concat {α : Type} (b : Bool) (init : List (List α)) (last : List α) :
    dropBlank b (init ++ [last]) = if !b && last.isEmpty then init else init ++ [last] := by
  unfold dropBlank
  rw [List.getLast?_concat, List.dropLast_concat]

theorem dropBlank_flatten {α : Type} (b : Bool) (ps : List (List α)) : (dropBlank b ps).flatten = ps.flatten := by
  rcases List.eq_nil_or_concat ps with rfl | ⟨init, last, rfl⟩
  · simp [dropBlank]
  · rw [List.concat_eq_append, dropBlank_concat]
    split
    · rename_i hc
      simp only [Bool.and_eq_true, List.isEmpty_iff] at hc
      simp [hc.2]
    · rfl

theorem betweenFrom_map {α β : Type} (f : α → β) (l : List α) : ∀ (ms : List (Nat × Nat)) (start : Nat),
    (betweenFrom start ms l).map (List.map f) = betweenFrom start ms (l.map f)
  | [], _ => by simp [betweenFrom]
  | m :: rest, start => by simp [betweenFrom, betweenFrom_map f l rest m.2, List.map_take, List.map_drop]

theorem dropBlank_map {α β : Type} (f : α → β) (b : Bool) (ps : List (List α)) :
    (dropBlank b ps).map (List.map f) = dropBlank b (ps.map (List.map f)) := by
  unfold dropBlank
  rw [List.getLast?_map]
  cases ps.getLast? with
  | none => simp
  | some p => simp only [Option.map_some, List.isEmpty_map]; split <;> simp [List.map_dropLast]

theorem finalize_map (allowBlank : Bool) (L : List (Text σ)) :
    (if !allowBlank && (match L.getLast? with | some l => l.plain.isEmpty | none => false) then L.dropLast else L).map view
      = dropBlank allowBlank (L.map view) := by
  unfold dropBlank
  rw [List.getLast?_map]
  cases hl : L.getLast? with
  | none => simp
  | some l =>
    simp only [Option.map_some, view_isEmpty]
    split <;> simp [List.map_dropLast]

/-- cut at both ends of every match and filter out the pieces that read `sep`: what is left are the stretches between the
matches (a skipped stretch does not read `sep`, a match does) -/
theorem filter_pieces_between {α : Type} (f : α → Char) (sep : List Char) (v : List α) :
    ∀ (ms : List (Nat × Nat)) (start : Nat), GoodMs sep (v.map f) start ms →
      (piecesFrom start (ms.flatMap fun m => [m.1, m.2]) v).filter (fun p => p.map f != sep) = betweenFrom start ms v
  | [], start, hg => by
    have hne : ((v.drop start).map f != sep) = true := by simpa [GoodMs] using hg
    simp only [List.flatMap_nil, piecesFrom, betweenFrom, List.filter_cons, hne, if_true, List.filter_nil]
  | m :: rest, start, ⟨_, _, g3, g4, g5⟩ => by
    have hk0 : (((v.drop start).take (m.1 - start)).map f != sep) = true := by
      simpa [List.map_take, List.map_drop] using g3
    have hk1 : (((v.drop m.1).take (m.2 - m.1)).map f != sep) = false := by
      simpa [List.map_take, List.map_drop] using g4
    simp only [List.flatMap_cons, List.cons_append, List.nil_append, piecesFrom, betweenFrom, List.filter_cons, hk0, hk1,
      if_true, Bool.false_eq_true, if_false, filter_pieces_between f sep v rest m.2 g5]

/-- filtering out the separator lines of `divide(starts and ends)` leaves the stretches between the matches -/
theorem filter_between (sep : List Char) (t : Text σ) (ms : List (Nat × Nat)) (start : Nat) (L : List (Text σ))
    (hg : GoodMs sep t.plain start ms)
    (hv : L.map view = piecesFrom start (ms.flatMap (fun m => [m.1, m.2])) t.view) :
    (L.filter (fun line => line.plain != sep)).map view = betweenFrom start ms t.view := by
  rw [← filter_pieces_between (·.1) sep t.view ms start (by rwa [view_map_fst]), ← hv, List.filter_map]
  exact congrArg _ (List.filter_congr fun l _ => by rw [Function.comp_apply, view_map_fst])

theorem mem_ite_dropLast {α : Type} (c : Prop) [Decidable c] (L : List α) (l : α)
    (h : l ∈ (if c then L.dropLast else L)) : l ∈ L := by
  by_cases hc : c
  · rw [if_pos hc] at h; exact List.dropLast_subset _ h
  · rw [if_neg hc] at h; exact h

/-- the lines of `split` before the last-line rule: `divide` at the ends of the matches, or at their starts and ends with
the separator lines filtered out -/
def splitStage [BEq σ] (v : Variant) (t : Text σ) (sep : List Char) (incl : Bool) : Except PyErr (List (Text σ)) :=
  if incl then t.divide v ((findAll sep t.plain).map (·.2))
  else (t.divide v ((findAll sep t.plain).flatMap fun m => [m.1, m.2])).map fun ls =>
    ls.filter fun line => line.plain != sep

theorem splitW_none [BEq σ] (endsw : Bool) (v : Variant) (t : Text σ) (sep : List Char) (incl blank : Bool)
    (hsep : sep.isEmpty = false) (hms : (findAll sep t.plain).isEmpty = true) :
    splitW endsw v t sep incl blank = .ok [t.copy v] := by
  unfold splitW
  simp only [hsep, hms, Bool.false_eq_true, if_false, if_true]

/-- `split` with a non-empty separator that occurs: the lines, then the last-line rule -/
theorem splitW_eq [BEq σ] (endsw : Bool) (v : Variant) (t : Text σ) (sep : List Char) (incl blank : Bool)
    (hsep : sep.isEmpty = false) (hms : (findAll sep t.plain).isEmpty = false) :
    splitW endsw v t sep incl blank =
      (splitStage v t sep incl).bind fun lines =>
        .ok (if !blank && (if endsw then sep.isSuffixOf t.plain
                           else match lines.getLast? with | some l => l.plain.isEmpty | none => false)
             then lines.dropLast else lines) := by
  unfold splitW splitStage
  simp only [hsep, hms, Bool.false_eq_true, if_false]
  cases incl
  · simp only [Bool.false_eq_true, if_false]
    cases t.divide v ((findAll sep t.plain).flatMap fun m => [m.1, m.2]) with
    | error e => rfl
    | ok ls =>
      simp only [bind, Except.bind, pure, Except.pure, Except.map]
      exact (apply_ite Except.ok _ _ _).symm
  · simp only [if_true]
    cases t.divide v ((findAll sep t.plain).map (·.2)) with
    | error e => rfl
    | ok ls =>
      simp only [bind, Except.bind, pure, Except.pure]
      exact (apply_ite Except.ok _ _ _).symm

/-- The lines of `split` before the last-line rule are the pieces of the styled string: those ending after each match, or
the stretches between the matches. -/
theorem split_lines_spec [BEq σ] (t : Text σ) (sep : List Char) (incl : Bool) (h : Inv t) (hlen : 0 < sep.length) :
    (splitStage Variant.repaired t sep incl).Returns fun lines =>
      lines.map view = (if incl then pieces ((findAll sep t.plain).map (·.2)) t.view
                        else betweenFrom 0 (findAll sep t.plain) t.view) ∧
      lines.map (·.plain) = (if incl then pieces ((findAll sep t.plain).map (·.2)) t.plain
                             else betweenFrom 0 (findAll sep t.plain) t.plain) ∧
      ∀ l ∈ lines, Inv l ∧ l.style = t.style := by
  obtain ⟨hasc, hb⟩ := (findAll_strong sep t.plain hlen).asc
  unfold splitStage
  cases incl with
  | true =>
    obtain ⟨lines, hdiv, hview, hplain, hall⟩ :=
      divide_view t ((findAll sep t.plain).map (·.2)) h (ascFrom_ends _ 0 hasc)
        (fun o ho => by
          obtain ⟨m, hm, rfl⟩ := List.mem_map.1 ho
          exact hb m.2 (List.mem_flatMap.2 ⟨m, hm, List.mem_cons_of_mem _ List.mem_cons_self⟩))
    exact ⟨lines, by rw [if_pos rfl, hdiv], hview, hplain, fun l hl => ⟨(hall l hl).1, (hall l hl).2.1⟩⟩
  | false =>
    obtain ⟨lines, hdiv, hview, hplain, hall⟩ :=
      divide_view t ((findAll sep t.plain).flatMap (fun m => [m.1, m.2])) h hasc hb
    have b1 := filter_between sep t (findAll sep t.plain) 0 lines (findAll_good sep t.plain hlen) hview
    refine ⟨_, by rw [if_neg Bool.false_ne_true, hdiv]; rfl, b1,
      by rw [map_plain, b1, betweenFrom_map, view_map_fst]; rfl, fun l hl => ?_⟩
    have := hall l (List.mem_filter.1 hl).1
    exact ⟨this.1, this.2.1⟩

/-- **`split` at piece level**, repaired code, every non-empty separator, both flags both ways.
With `ms` the leftmost non-overlapping occurrences of the separator (`findAll_good`): no occurrence → the text
itself; otherwise the pieces ending after each occurrence (`include_separator`) or the stretches between the
occurrences; a blank last piece is dropped unless `allow_blank`. -/
theorem split_view_all [BEq σ] (t : Text σ) (sep : List Char) (incl blank : Bool) (h : Inv t) (hsep : sep ≠ []) :
    ∃ parts, Text.splitW false Variant.repaired t sep incl blank = .ok parts ∧
      parts.map view =
        (if (findAll sep t.plain).isEmpty then [t.view]
         else dropBlank blank (if incl then pieces ((findAll sep t.plain).map (·.2)) t.view
                               else betweenFrom 0 (findAll sep t.plain) t.view)) ∧
      parts.map (·.plain) =
        (if (findAll sep t.plain).isEmpty then [t.plain]
         else dropBlank blank (if incl then pieces ((findAll sep t.plain).map (·.2)) t.plain
                               else betweenFrom 0 (findAll sep t.plain) t.plain)) ∧
      ∀ l ∈ parts, Inv l ∧ l.style = t.style := by
  have hne : sep.isEmpty = false := by cases sep <;> simp_all
  cases hms : (findAll sep t.plain).isEmpty with
  | true =>
    refine ⟨[t.copy Variant.repaired], splitW_none _ _ _ _ _ _ hne hms, ?_, ?_, ?_⟩ <;> rw [copy_eq_self t h]
    · simp
    · simp
    · intro l hl; simp only [List.mem_singleton] at hl; subst hl; exact ⟨h, rfl⟩
  | false =>
    obtain ⟨lines, hl, hview, hplain, hall⟩ := split_lines_spec t sep incl h (List.length_pos_iff.2 hsep)
    rw [splitW_eq _ _ _ _ _ _ hne hms, hl]
    simp only [Bool.false_eq_true, if_false]
    have f1 := finalize_map blank lines
    exact ⟨_, rfl, by rw [← hview]; exact f1,
      by rw [map_plain]; exact (congrArg _ f1).trans (by rw [dropBlank_map, ← map_plain, hplain]),
      fun l hm => hall l (mem_ite_dropLast _ _ _ hm)⟩

/-! The released last-line rule of `split` (drop the last line when `text.endswith(separator)`) against the repaired
one (drop it when it is blank). -/

/-- `sep` has no proper border: no proper non-empty suffix of it is also a prefix (it cannot overlap itself) -/
def Unbordered (sep : List Char) : Prop := ∀ k, 0 < k → k < sep.length → sep.drop (sep.length - k) ≠ sep.take k

theorem unbordered_singleton (c : Char) : Unbordered [c] := fun k h0 h1 => by simp at h1; omega

/-- end of the last match (or `start`) -/
def lastEnd (start : Nat) : List (Nat × Nat) → Nat
  | [] => start
  | m :: rest => lastEnd m.2 rest

/-- two occurrences of `sep` at distance `0 < d < |sep|` give `sep` a border -/
theorem overlap_border (sep s : List Char) (a d : Nat) (hd : 0 < d) (hdm : d < sep.length)
    (h1 : (s.drop a).take sep.length = sep) (h2 : (s.drop (a + d)).take sep.length = sep) :
    sep.drop d = sep.take (sep.length - d) := by
  have e1 : sep.drop d = (s.drop (a + d)).take (sep.length - d) := by
    have : sep.drop d = ((s.drop a).take sep.length).drop d := by rw [h1]
    rw [this, List.drop_take, List.drop_drop]
  have e2 : sep.take (sep.length - d) = (s.drop (a + d)).take (sep.length - d) := by
    have : sep.take (sep.length - d) = ((s.drop (a + d)).take sep.length).take (sep.length - d) := by rw [h2]
    rw [this, List.take_take, Nat.min_eq_left (by omega)]
  rw [e1, e2]

theorem Unbordered.no_overlap {sep : List Char} (hub : Unbordered sep) (s : List Char) (a d : Nat) (hd : 0 < d)
    (hdm : d < sep.length) (h1 : (s.drop a).take sep.length = sep) (h2 : (s.drop (a + d)).take sep.length = sep) :
    False := by
  refine hub (sep.length - d) (Nat.sub_pos_of_lt hdm) (Nat.sub_lt (Nat.lt_trans hd hdm) hd) ?_
  rw [Nat.sub_sub_self (Nat.le_of_lt hdm)]
  exact overlap_border sep s a d hd hdm h1 h2

/-- the last of the matches: an occurrence inside the string with no occurrence after it -/
theorem StrongMs.last {sep s : List Char} : ∀ {ms : List (Nat × Nat)} {start : Nat}, StrongMs sep s start ms → ms ≠ [] →
    ∃ a, lastEnd start ms = a + sep.length ∧ a + sep.length ≤ s.length ∧ (s.drop a).take sep.length = sep ∧
      ∀ hi, NoOcc sep s (a + sep.length) hi
  | [m], _, ⟨_, h2, h3, _, h5, h6⟩, _ => ⟨m.1, h2, h2 ▸ h3, h5, h2 ▸ h6⟩
  | _ :: m' :: rest, _, ⟨_, _, _, _, _, h6⟩, _ => StrongMs.last (ms := m' :: rest) h6 (List.cons_ne_nil _ _)

/-- an unbordered separator that occurs at `a` and nowhere after that occurrence ends the string iff the occurrence does -/
theorem suffix_iff_of_last {sep s : List Char} (hub : Unbordered sep) {a : Nat}
    (hocc : (s.drop a).take sep.length = sep) (hle : a + sep.length ≤ s.length)
    (hno : ∀ hi, NoOcc sep s (a + sep.length) hi) :
    sep.isSuffixOf s = true ↔ s.drop (a + sep.length) = [] := by
  rw [List.isSuffixOf_iff_suffix, List.drop_eq_nil_iff]
  constructor
  · rintro ⟨pre, hpre⟩
    have hlen : s.length = pre.length + sep.length := by rw [← hpre, List.length_append]
    have hoccEnd : (s.drop pre.length).take sep.length = sep := by rw [← hpre, List.drop_left, List.take_length]
    rcases Nat.lt_or_ge pre.length (a + sep.length) with hlt | hge
    · -- the final occurrence starts before the end of the last match: it is that match, or overlaps it
      rcases Nat.lt_or_ge a pre.length with hap | hpa
      · exact (hub.no_overlap s a (pre.length - a) (by omega) (by omega) hocc
          (by rw [show a + (pre.length - a) = pre.length by omega]; exact hoccEnd)).elim
      · omega
    · -- it would start in the stretch after the last match, where nothing occurs
      have := hno (pre.length + 1) pre.length hge (Nat.lt_succ_self _)
      rw [List.isPrefixOf_iff_prefix.2 (hoccEnd ▸ List.take_prefix _ _)] at this
      cases this
  · intro hnil
    refine ⟨s.take a, ?_⟩
    have : (s.drop a).take sep.length = s.drop a :=
      List.take_of_length_le (by rw [List.length_drop]; omega)
    rw [← hocc, this, List.take_append_drop]

theorem betweenFrom_getLast {α : Type} (l : List α) : ∀ (ms : List (Nat × Nat)) (start : Nat),
    (betweenFrom start ms l).getLast? = some (l.drop (lastEnd start ms))
  | [], start => by simp [betweenFrom, lastEnd]
  | m :: rest, start => by
    simp only [betweenFrom, lastEnd]
    rw [List.getLast?_cons_of_ne_nil (by cases rest <;> simp [betweenFrom]), betweenFrom_getLast l rest m.2]

/-- cutting after every match is taking what lies between matches that are empty and sit at the ends -/
theorem piecesFrom_ends {α : Type} (l : List α) : ∀ (ms : List (Nat × Nat)) (start : Nat),
    piecesFrom start (ms.map (·.2)) l = betweenFrom start (ms.map fun m => (m.2, m.2)) l ∧
      lastEnd start (ms.map fun m => (m.2, m.2)) = lastEnd start ms
  | [], _ => ⟨rfl, rfl⟩
  | m :: rest, _ => by
    obtain ⟨h1, h2⟩ := piecesFrom_ends l rest m.2
    exact ⟨by simp only [List.map_cons, piecesFrom, betweenFrom, h1], h2⟩

theorem lastBlank_eq (sep plain tail : List Char) (lines : List (Text σ))
    (hkey : sep.isSuffixOf plain = true ↔ tail = [])
    (hpl : (lines.map (·.plain)).getLast? = some tail) :
    (match lines.getLast? with | some l => l.plain.isEmpty | none => false) = sep.isSuffixOf plain := by
  rw [List.getLast?_map] at hpl
  obtain ⟨l, hl, rfl⟩ := Option.map_eq_some_iff.1 hpl
  rw [hl]
  exact Bool.eq_iff_iff.2 (List.isEmpty_iff.trans hkey.symm)

/-- **The `split` of rich 9.10.0 as found = the repaired `split` for every separator that does not overlap itself** (any single
character, `"ab"`, `", "`, …): the two last-line rules pick the same lines. -/
theorem splitW_released_eq [BEq σ] (t : Text σ) (sep : List Char) (incl blank : Bool) (h : Inv t) (hub : Unbordered sep) :
    Text.splitW true Variant.repaired t sep incl blank = Text.splitW false Variant.repaired t sep incl blank := by
  by_cases hsep : sep = []
  · subst hsep; rfl
  have hlen : 0 < sep.length := List.length_pos_iff.2 hsep
  have hne : sep.isEmpty = false := by cases sep <;> simp_all
  cases hms : (findAll sep t.plain).isEmpty with
  | true => rw [splitW_none _ _ _ _ _ _ hne hms, splitW_none _ _ _ _ _ _ hne hms]
  | false =>
    obtain ⟨a, hlast, hle, hocc, hno⟩ := (findAll_strong sep t.plain hlen).last fun e => by rw [e] at hms; cases hms
    have hkey : sep.isSuffixOf t.plain = true ↔ t.plain.drop (lastEnd 0 (findAll sep t.plain)) = [] :=
      hlast ▸ suffix_iff_of_last hub hocc hle hno
    obtain ⟨lines, hl, _, hplain, _⟩ := split_lines_spec t sep incl h hlen
    rw [splitW_eq _ _ _ _ _ _ hne hms, splitW_eq _ _ _ _ _ _ hne hms, hl]
    -- the last line is what follows the last match
    have e := lastBlank_eq sep t.plain _ lines hkey (by
      rw [hplain]
      cases incl
      · exact betweenFrom_getLast _ _ _
      · rw [if_pos rfl, pieces, (piecesFrom_ends _ _ 0).1, betweenFrom_getLast, (piecesFrom_ends t.plain _ 0).2])
    simp only [Except.bind, if_true, Bool.false_eq_true, if_false]
    cases hgl : lines.getLast? <;> simp only [hgl] at e ⊢ <;> rw [← e]

/-! the scan at a one-character separator -/

theorem findAllAux_char_cons (d c : Char) (rest : List Char) (pos : Nat) :
    findAllAux [d] (c :: rest) pos 0 =
      if c = d then (pos, pos + 1) :: findAllAux [d] rest (pos + 1) 0 else findAllAux [d] rest (pos + 1) 0 := by
  rw [findAllAux]
  by_cases hc : c = d
  · subst hc; simp [List.isPrefixOf]
  · have : (d == c) = false := by simpa using fun h => hc h.symm
    simp [List.isPrefixOf, hc, this]

theorem findAllAux_char_nil_iff (d : Char) : ∀ (s : List Char) (pos : Nat), findAllAux [d] s pos 0 = [] ↔ d ∉ s
  | [], _ => ⟨fun _ h => (nomatch h), fun _ => rfl⟩
  | c :: rest, pos => by
    rw [findAllAux_char_cons, List.mem_cons, not_or]
    by_cases hc : c = d
    · rw [if_pos hc]; exact ⟨fun h => (nomatch h), fun h => absurd hc.symm h.1⟩
    · rw [if_neg hc, findAllAux_char_nil_iff d rest (pos + 1)]
      exact ⟨fun h => ⟨fun e => hc e.symm, h⟩, fun h => h.2⟩

theorem noOcc_char (d : Char) (s : List Char) (lo hi : Nat) (h : NoOcc [d] s lo hi) : d ∉ (s.drop lo).take (hi - lo) := by
  intro hm
  obtain ⟨i, hi', he⟩ := List.getElem_of_mem hm
  rw [List.length_take, List.length_drop] at hi'
  rw [List.getElem_take, List.getElem_drop] at he
  have := h (lo + i) (Nat.le_add_right _ _) (by omega)
  rw [List.drop_eq_getElem_cons (by omega), he] at this
  simp at this

/-- cut at both ends of every occurrence of `d`: every piece is `[d]` or free of `d` -/
theorem strongMs_char_between (d : Char) (s : List Char) : ∀ (ms : List (Nat × Nat)) (start : Nat), StrongMs [d] s start ms →
    ∀ p ∈ piecesFrom start (ms.flatMap fun m => [m.1, m.2]) s, p = [d] ∨ d ∉ p
  | [], start, h, p, hp => by
    obtain rfl := List.mem_singleton.1 hp
    have := noOcc_char d s start s.length (h s.length)
    rw [List.take_of_length_le (by simp)] at this
    exact Or.inr this
  | m :: rest, start, ⟨_, h2, _, h4, h5, h6⟩, p, hp => by
    simp only [List.flatMap_cons, List.cons_append, List.nil_append, piecesFrom, List.mem_cons] at hp
    rcases hp with rfl | rfl | hp
    · exact Or.inr (noOcc_char d s start m.1 h4)
    · left; rw [h2, Nat.add_sub_cancel_left]; exact h5
    · exact strongMs_char_between d s rest m.2 h6 p hp

/-- the same for the scan of `s` behind a prefix `pre` that has no `d` from `start` on (its twin for blanks is
`Wrap.pieces_space`, `Lemmas/WrapFull`) -/
theorem pieces_sep (d : Char) (s : List Char) : ∀ (pre : List Char) (start : Nat), start ≤ pre.length →
    (∀ c ∈ pre.drop start, c ≠ d) →
    ∀ p ∈ piecesFrom start ((findAllAux [d] s pre.length 0).flatMap (fun m => [m.1, m.2])) (pre ++ s),
      p = [d] ∨ ∀ c ∈ p, c ≠ d := by
  intro pre start hs hpre p hp
  have hst := findAllAux_strong [d] (Nat.succ_pos 0) (pre ++ s) s pre.length 0 (List.drop_left' rfl) (Nat.zero_le _)
    (List.length_append.symm)
  have hno : NoOcc [d] (pre ++ s) start pre.length := fun q h1 h2 => by
    rw [List.drop_append_of_le_length (Nat.le_of_lt h2), List.drop_eq_getElem_cons h2]
    have := hpre pre[q] (List.mem_drop_iff_getElem.2 ⟨q - start, by omega, by simp [Nat.add_sub_cancel' h1]⟩)
    show (d == pre[q] && _) = false
    rw [beq_eq_false_iff_ne.2 (Ne.symm this), Bool.false_and]
  exact (strongMs_char_between d _ _ _ (hst.from_le hs hno) p hp).imp_right fun hn c hc e => hn (e ▸ hc)

theorem split_none [BEq σ] (t : Text σ) (h : Inv t) (hnl : '\n' ∉ t.plain) :
    t.split Variant.repaired ['\n'] false true = .ok [t] := by
  have hf : findAll ['\n'] t.plain = [] := (findAllAux_char_nil_iff '\n' t.plain 0).2 hnl
  exact (splitW_none true _ t ['\n'] false true rfl (by rw [hf]; rfl)).trans (by rw [copy_eq_self t h])

/-- `self.split(allow_blank=True)` in every variant: the characters of a paragraph are a contiguous part of the text without
line feed, less the control codes `Text.__init__` strips -/
theorem split_newline_plain [BEq σ] (v : Variant) (t : Text σ) (lines : List (Text σ))
    (h : t.split v ['\n'] false true = .ok lines) :
    ∀ l ∈ lines, ∃ a p b, t.plain = a ++ (p ++ b) ∧ (∀ c ∈ p, c ≠ '\n') ∧ l.plain = stripControl p := by
  unfold Text.split at h
  simp only [List.isEmpty_cons, Bool.false_eq_true, if_false, Bool.not_true, Bool.false_and] at h
  split at h
  · rename_i hempty
    cases h
    intro l hl
    obtain rfl := List.mem_singleton.1 hl
    have hnl : '\n' ∉ t.plain := (findAllAux_char_nil_iff '\n' t.plain 0).1 (by simpa [findAll] using hempty)
    exact ⟨[], t.plain, [], by simp, fun c hc e => hnl (e ▸ hc), rfl⟩
  · obtain ⟨ls, hdiv, h⟩ := bind_ok.mp h
    obtain ⟨ls', h', h⟩ := bind_ok.mp h
    cases h
    cases h'
    have hpl := divide_plain v t _ ls hdiv
    intro l hl
    obtain ⟨hl0, hne⟩ := List.mem_filter.mp hl
    have hmem : l.plain ∈ ls.map (·.plain) := List.mem_map_of_mem hl0
    rw [hpl] at hmem
    obtain ⟨p, hp, hlp⟩ := List.mem_map.mp hmem
    obtain ⟨a, b, hab⟩ := mem_piecesFrom_infix _ _ _ _ hp
    refine ⟨a, p, b, hab, ?_, hlp.symm⟩
    rcases pieces_sep '\n' t.plain [] 0 (Nat.le_refl _) (fun _ hc => nomatch hc) p
      (by simpa [findAll, RichModel.pieces] using hp) with h1 | h1
    · exfalso
      rw [← hlp, h1] at hne
      revert hne
      decide
    · exact h1

end Text
end RichModel
