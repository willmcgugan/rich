import RichModel.Lemmas.TextShows
import RichModel.Model.TextStr
/-!
Padding and cropping: `pad_left`, `pad_right`, `pad`, `right_crop`, `set_length`, `remove_suffix`, `rstrip_end` —
invariant and reference semantics (repaired variant); the derived ones as chains of `Shows`.
-/
namespace RichModel
namespace Text
variable {σ : Type} {t u : Text σ} {b bu : σ} {v w : List (Char × List σ)}

theorem setPlain_grow (t : Text σ) (s : List Char) (h : Inv t) (hlen : t.plain.length ≤ s.length) :
    t.setPlain s = { t with plain := s, length := (s.length : Int) } := by
  rw [setPlain_of_inv t s h, if_neg (Nat.not_lt.2 hlen)]

theorem padRight_eq (t : Text σ) (n : Int) (ch : Char) :
    t.padRight n ch = if (n != 0) = true then t.setPlain (t.plain ++ List.replicate n.toNat ch) else t := rfl

theorem padLeft_eq (t : Text σ) (n : Int) (ch : Char) :
    t.padLeft n ch =
      if (n != 0) = true then
        { t.setPlain (List.replicate n.toNat ch ++ t.plain) with
          spans := (t.setPlain (List.replicate n.toNat ch ++ t.plain)).spans.map (fun sp => sp.move n) }
      else t := rfl

/-- `pad_right(n)` of a consistent text, `n ≥ 0`, without the test for 0 and without the setter: the string does not
shrink, so no span is trimmed -/
theorem padRight_nat (t : Text σ) (n : Nat) (ch : Char) (h : Inv t) :
    t.padRight (n : Int) ch =
      { t with plain := t.plain ++ List.replicate n ch, length := ((t.plain ++ List.replicate n ch).length : Int) } := by
  rw [padRight_eq, Int.toNat_natCast]
  split
  · exact setPlain_grow _ _ h (by simp)
  · rename_i hz
    obtain rfl : n = 0 := by simpa using hz
    cases t
    simp [← h.1]

/-- the same for `pad_left(n)`: the spans move right by `n` -/
theorem padLeft_nat (t : Text σ) (n : Nat) (ch : Char) (h : Inv t) :
    t.padLeft (n : Int) ch =
      { t with plain := List.replicate n ch ++ t.plain, length := ((List.replicate n ch ++ t.plain).length : Int),
               spans := t.spans.map (fun sp => sp.move n) } := by
  rw [padLeft_eq, Int.toNat_natCast]
  split
  · rw [setPlain_grow _ _ h (by simp)]
  · rename_i hz
    obtain rfl : n = 0 := by simpa using hz
    cases t
    simp [Span.move, ← h.1]

theorem inv_padRight (t : Text σ) (n : Int) (ch : Char) (h : Inv t) (hch : isStripCode ch = false) :
    Inv (t.padRight n ch) := by
  rw [padRight_eq]; split
  · exact inv_setPlain _ _ h (NoCtl.append h.2.1 (NoCtl.replicate _ _ hch))
  · exact h

theorem padRight_style (t : Text σ) (n : Int) (ch : Char) : (t.padRight n ch).style = t.style := by
  rw [padRight_eq]; split
  · exact setPlain_style _ _
  · rfl

theorem padRight_plain (t : Text σ) (n : Nat) (ch : Char) : (t.padRight (n : Int) ch).plain = t.plain ++ List.replicate n ch := by
  rw [padRight_eq]; split <;> simp_all [setPlain_plain]

/-- `pad_right(n, ch)`: the text, then `n` characters in the bare base style -/
theorem view_padRight (t : Text σ) (n : Nat) (ch : Char) (h : Inv t) :
    (t.padRight (n : Int) ch).view = t.view ++ List.replicate n (ch, [t.style]) := by
  rw [padRight_nat t n ch h, view_eq_annot, view_eq_annot]
  show annot (t.plain ++ List.replicate n ch) t.effStyle 0 = _
  rw [annot_append, Nat.zero_add]
  exact congrArg _ (annot_replicate _ _ _ _ _ fun i h1 _ => effStyle_beyond t h i h1)

theorem padLeft_plain (t : Text σ) (n : Nat) (ch : Char) : (t.padLeft (n : Int) ch).plain = List.replicate n ch ++ t.plain := by
  rw [padLeft_eq]; split <;> simp_all [setPlain_plain]

theorem inv_padLeft (t : Text σ) (n : Nat) (ch : Char) (h : Inv t) (hch : isStripCode ch = false) :
    Inv (t.padLeft (n : Int) ch) := by
  rw [padLeft_nat t n ch h]
  refine ⟨rfl, NoCtl.append (NoCtl.replicate _ _ hch) h.2.1, (SpansIn.move (n : Int) (by omega) h.2.2).mono ?_⟩
  have := h.1
  simp only [List.length_append, List.length_replicate]; omega

theorem padLeft_style (t : Text σ) (n : Int) (ch : Char) : (t.padLeft n ch).style = t.style := by
  rw [padLeft_eq]; split
  · exact setPlain_style _ _
  · rfl

/-- `pad_left(n, ch)`: `n` characters in the bare base style, then the text with every style still on
its character -/
theorem view_padLeft (t : Text σ) (n : Nat) (ch : Char) (h : Inv t) :
    (t.padLeft (n : Int) ch).view = List.replicate n (ch, [t.style]) ++ t.view := by
  rw [padLeft_nat t n ch h, view_eq_annot, view_eq_annot]
  show annot (List.replicate n ch ++ t.plain) (fun i => t.style :: spanIds (t.spans.map (fun sp => sp.move n)) i) 0 = _
  rw [annot_append, List.length_replicate, annot_shift]
  congr 1
  · exact annot_replicate _ _ _ _ _ fun i _ hi => by
      rw [spanIds_move_lt t.spans n i (by omega) (fun sp hs => (h.2.2 sp hs).1)]
  · exact annot_congr _ _ _ _ fun i _ _ => by rw [spanIds_move]; rfl

theorem rightCrop_eq (t : Text σ) (a : Int) :
    t.rightCrop Variant.repaired a =
      { t with
        spans := trimSpansTo t.spans (max 0 ((t.plain.length : Int) - a))
        plain := Py.sliceTo t.plain (max 0 ((t.plain.length : Int) - a))
        length := max 0 ((t.plain.length : Int) - a) } := rfl

theorem rightCrop_nat (t : Text σ) (a : Nat) :
    t.rightCrop Variant.repaired (a : Int) =
      { t with
        spans := trimSpansTo t.spans ((t.plain.length - a : Nat) : Int)
        plain := t.plain.take (t.plain.length - a)
        length := ((t.plain.length - a : Nat) : Int) } := by
  rw [rightCrop_eq]
  have : max 0 ((t.plain.length : Int) - (a : Int)) = ((t.plain.length - a : Nat) : Int) := by omega
  rw [this, sliceTo_nat]

theorem inv_rightCrop (t : Text σ) (a : Nat) (h : Inv t) : Inv (t.rightCrop Variant.repaired (a : Int)) := by
  rw [rightCrop_nat]
  refine ⟨?_, NoCtl.take _ h.2.1, SpansIn.trim _ h.2.2⟩
  simp only [List.length_take]; omega

/-- `right_crop(a)` keeps the first `len - a` characters, each with the style it had (`a = 0` keeps
everything, `a ≥ len` leaves the empty text) -/
theorem view_rightCrop (t : Text σ) (a : Nat) :
    (t.rightCrop Variant.repaired (a : Int)).view = t.view.take (t.plain.length - a) := by
  rw [rightCrop_nat, view_eq_annot, view_eq_annot, ← annot_take]
  apply annot_congr
  intro i _ hi
  simp only [effStyle, spanIds_trim]
  rw [if_pos]
  simp only [List.length_take] at hi; omega

theorem setLength_cases (t : Text σ) (n : Nat) (h : Inv t) :
    (t.plain.length < n ∧ t.setLength Variant.repaired (n : Int) = t.padRight ((n - t.plain.length : Nat) : Int)) ∨
    (n < t.plain.length ∧
      t.setLength Variant.repaired (n : Int) = t.rightCrop Variant.repaired ((t.plain.length - n : Nat) : Int)) ∨
    (t.plain.length = n ∧ t.setLength Variant.repaired (n : Int) = t) := by
  unfold setLength
  simp only [h.1, bne_iff_ne, ne_eq, Int.natCast_inj, Int.ofNat_lt, ite_not]
  rcases Nat.lt_trichotomy t.plain.length n with hlt | heq | hgt
  · exact Or.inl ⟨hlt, by rw [if_neg (Nat.ne_of_lt hlt), if_pos hlt, Int.ofNat_sub (Nat.le_of_lt hlt)]⟩
  · exact Or.inr (Or.inr ⟨heq, if_pos heq⟩)
  · exact Or.inr (Or.inl ⟨hgt, by
      rw [if_neg (Nat.ne_of_gt hgt), if_neg (Nat.lt_asymm hgt), Int.ofNat_sub (Nat.le_of_lt hgt)]⟩)

theorem pad_eq_left_right (t : Text σ) (n : Nat) (ch : Char) (h : Inv t) (hch : isStripCode ch = false) :
    t.pad (n : Int) ch = (t.padLeft (n : Int) ch).padRight (n : Int) ch := by
  by_cases hn : n = 0
  · subst hn; rfl
  · have hX := inv_padLeft t n ch h hch
    have hnz : ((n : Int) != 0) = true := by simp only [bne_iff_ne, ne_eq]; omega
    rw [padRight_eq, if_pos hnz, setPlain_grow _ _ hX (by simp), padLeft_eq, if_pos hnz]
    unfold pad
    rw [if_pos hnz]
    simp only [Int.toNat_natCast]
    rw [setPlain_grow _ _ h (by simp; omega), setPlain_grow _ _ h (by simp)]

theorem space_isSpace : pyIsSpace ' ' = true := by decide

theorem replicate_isSpace (n : Nat) : ∀ c ∈ List.replicate n ' ', pyIsSpace c = true :=
  fun _ hc => List.eq_of_mem_replicate hc ▸ space_isSpace

theorem trailingSpaceCount_le (s : List Char) : trailingSpaceCount s ≤ s.length := by
  unfold trailingSpaceCount
  have := (List.takeWhile_prefix (l := s.reverse) pyIsSpace).length_le
  simpa using this

/-- a string is what `str.rstrip()` leaves of it, then its trailing whitespace (the match of `\s+$`) -/
theorem pyRstrip_append_trailing (s : List Char) : pyRstrip s ++ (s.reverse.takeWhile pyIsSpace).reverse = s := by
  have := congrArg List.reverse (List.takeWhile_append_dropWhile (p := pyIsSpace) (l := s.reverse))
  rwa [List.reverse_append, List.reverse_reverse] at this

theorem drop_trailing_space (s : List Char) : ∀ c ∈ s.drop (s.length - trailingSpaceCount s), pyIsSpace c = true := by
  obtain ⟨a, b, hs, hk, hb⟩ : ∃ a b, s = a ++ b ∧ trailingSpaceCount s = b.length ∧ ∀ c ∈ b, pyIsSpace c = true :=
    ⟨_, _, (pyRstrip_append_trailing s).symm, by simp [trailingSpaceCount],
      fun c hc => mem_takeWhile_true _ _ c (List.mem_reverse.mp hc)⟩
  rw [hk, hs, List.length_append, Nat.add_sub_cancel, List.drop_left]
  exact hb

theorem trailing_are_space (s : List Char) (i : Nat) (h1 : s.length - trailingSpaceCount s ≤ i) (h2 : i < s.length) :
    pyIsSpace (s.getD i ' ') = true := by
  refine drop_trailing_space s _ ?_
  rw [List.getD_eq_getElem?_getD, List.getElem?_eq_getElem h2, Option.getD_some]
  exact List.mem_drop_iff_getElem.2 ⟨i - (s.length - trailingSpaceCount s), by omega, by simp [Nat.add_sub_cancel' h1]⟩

/-- `rstrip_end(size)` in either form (`n` is the length the code measures: characters as found, cells since fix
f5f2be9): a `right_crop` of trailing whitespace, no more than the excess of `n` over `size` — or nothing.  Not one
equation: `right_crop(0)` is not the identity, it drops an empty span that starts at the end of the text. -/
theorem rstripEndW_crop (chars : Bool) (cw : Char → Nat) (t : Text σ) (size : Int) (n : Nat)
    (hn : (if chars then t.length else (cellLen cw t.plain : Int)) = (n : Int)) :
    rstripEndW chars cw Variant.repaired t size =
      t.rightCrop Variant.repaired ((min (trailingSpaceCount t.plain) ((n : Int) - size).toNat : Nat) : Int) ∨
    (min (trailingSpaceCount t.plain) ((n : Int) - size).toNat = 0 ∧ rstripEndW chars cw Variant.repaired t size = t) := by
  unfold rstripEndW
  simp only
  rw [hn]
  by_cases hgt : (n : Int) > size
  · rw [if_pos hgt]
    by_cases hws : trailingSpaceCount t.plain = 0
    · exact Or.inr ⟨by rw [hws]; exact Nat.zero_min _, by rw [if_neg (by simpa using hws)]⟩
    · refine Or.inl ?_
      rw [if_pos (by simpa using hws)]
      congr 1; omega
  · exact Or.inr ⟨by omega, by rw [if_neg hgt]⟩

theorem rstripEndAmount_eq (cw : Char → Nat) (s : List Char) (size : Int) :
    rstripEndAmount cw s size = min (trailingSpaceCount s) ((cellLen cw s : Int) - size).toNat := by
  unfold rstripEndAmount
  split
  · rfl
  · omega

theorem rstripEndW_eq (cw : Char → Nat) (t : Text σ) (size : Int) :
    rstripEndW false cw Variant.repaired t size =
      t.rightCrop Variant.repaired ((rstripEndAmount cw t.plain size : Nat) : Int) ∨
    (rstripEndAmount cw t.plain size = 0 ∧ rstripEndW false cw Variant.repaired t size = t) := by
  rw [rstripEndAmount_eq]
  exact rstripEndW_crop false cw t size _ rfl

theorem rstripEndAmount_le (cw : Char → Nat) (s : List Char) (size : Int) :
    rstripEndAmount cw s size ≤ trailingSpaceCount s := by
  unfold rstripEndAmount
  split
  · exact Nat.min_le_left _ _
  · exact Nat.zero_le _

namespace Shows

theorem padRight (h : Shows t b v) (n : Nat) (ch : Char)
    (hch : isStripCode ch = false) : Shows (t.padRight (n : Int) ch) b (v ++ List.replicate n (ch, [b])) :=
  ⟨inv_padRight t n ch h.inv hch, (padRight_style t n ch).trans h.style, by rw [view_padRight t n ch h.inv, h.view, h.style]⟩

theorem padLeft (h : Shows t b v) (n : Nat) (ch : Char)
    (hch : isStripCode ch = false) : Shows (t.padLeft (n : Int) ch) b (List.replicate n (ch, [b]) ++ v) :=
  ⟨inv_padLeft t n ch h.inv hch, (padLeft_style t n ch).trans h.style, by rw [view_padLeft t n ch h.inv, h.view, h.style]⟩

theorem rightCrop (h : Shows t b v) (a : Nat) :
    Shows (t.rightCrop Variant.repaired (a : Int)) b (v.take (t.plain.length - a)) :=
  ⟨inv_rightCrop t a h.inv, h.style, by rw [view_rightCrop, h.view]⟩

/-- `set_length(n)`: the first `n` characters with their styles, padded with base-styled spaces up to `n` -/
theorem setLength (h : Shows t b v) (n : Nat) :
    Shows (t.setLength Variant.repaired (n : Int)) b (v.take n ++ List.replicate (n - t.plain.length) (' ', [b])) := by
  rcases setLength_cases t n h.inv with ⟨hlt, e⟩ | ⟨hgt, e⟩ | ⟨heq, e⟩ <;> rw [e]
  · rw [List.take_of_length_le (h.length ▸ Nat.le_of_lt hlt)]
    exact h.padRight _ ' ' noCtl_space
  · simpa [Nat.sub_sub_self (Nat.le_of_lt hgt), Nat.sub_eq_zero_of_le (Nat.le_of_lt hgt)] using
      h.rightCrop (t.plain.length - n)
  · simpa [List.take_of_length_le (h.length ▸ Nat.le_of_eq heq), heq] using h

/-- `pad(n, ch)`: `n` base-styled characters on either side, the text in between untouched -/
theorem pad (h : Shows t b v) (n : Nat) (ch : Char)
    (hch : isStripCode ch = false) :
    Shows (t.pad (n : Int) ch) b (List.replicate n (ch, [b]) ++ v ++ List.replicate n (ch, [b])) := by
  rw [pad_eq_left_right t n ch h.inv hch]
  exact (h.padLeft n ch hch).padRight n ch hch

/-- `remove_suffix(s)`: when the string ends with `s`, exactly those characters go; otherwise nothing changes -/
theorem removeSuffix (h : Shows t b v) (suffix : List Char) :
    Shows (t.removeSuffix Variant.repaired suffix) b
      (if suffix.isSuffixOf t.plain then v.take (t.plain.length - suffix.length) else v) := by
  unfold Text.removeSuffix
  split
  · exact h.rightCrop _
  · exact h

/-- `rstrip_end(size)`: the first `len - k` characters, each with the style it had, where `k = rstripEndAmount` -/
theorem rstripEndW (h : Shows t b v) (cw : Char → Nat) (size : Int) :
    Shows (rstripEndW false cw Variant.repaired t size) b (v.take (t.plain.length - rstripEndAmount cw t.plain size)) := by
  rcases rstripEndW_eq cw t size with he | ⟨h0, he⟩ <;> rw [he]
  · exact h.rightCrop _
  · rwa [h0, Nat.sub_zero, List.take_of_length_le (Nat.le_of_eq h.length)]

end Shows

theorem inv_pad (t : Text σ) (n : Nat) (ch : Char) (h : Inv t) (hch : isStripCode ch = false) :
    Inv (t.pad (n : Int) ch) :=
  (h.shows.pad n ch hch).inv

end Text
end RichModel
