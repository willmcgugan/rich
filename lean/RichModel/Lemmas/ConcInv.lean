import RichModel.Lemmas.ConcEff
/-!
The invariant `Inv` of every reachable state of `Model/Conc.lean`.  Every class of `Eff` keeps what `Inv` says of the
stepping thread and of the locks; `step_eff` / `StepEff` is the form in which `OutInv`, `WC` and `RecAll` meet a step: in a
state with `Inv` a thread begins its next operation or has one of the effects of `Eff`.
-/
namespace RichModel.Conc
open RichModel
open RichModel.Live (Line Frame)

/-- The invariant of every reachable state: every thread passes the static check from where it stands, the locks are owned
by those who hold them, no thread has faulted. -/
structure Inv (cfg : Cfg) (s : State) : Prop where
  /-- what every thread may still do passes the static check, from where it actually stands -/
  sim : ∀ t, Sim cfg (s.th t).cont (s.th t).abs = true
  /-- a lock is owned by exactly the thread that has it on its stack -/
  own : ∀ lk t, s.sh.owner lk = some t ↔ lk ∈ (s.th t).held
  nofault : ∀ t, (s.th t).fault = false
  clean : ∀ t, (s.th t).dirty = false → (s.th t).buffer = []
  /-- between its record append and its write a thread holds the console lock -/
  rd : ∀ t, (s.th t).recDone = true → Lock.console ∈ (s.th t).held

theorem Inv.idle {cfg : Cfg} {s : State} (inv : Inv cfg s) {t : Nat} (hc : (s.th t).cont = []) :
    (s.th t).abs =
      { held := [], depth := 0, hooked := (s.th t).hooked, recDone := false, dirty := false, xread := false } :=
  Abs.eq_of_final (by have h := inv.sim t; rwa [hc] at h)

theorem Inv.idle_buffer {cfg : Cfg} {s : State} (inv : Inv cfg s) {t : Nat} (hc : (s.th t).cont = []) :
    (s.th t).buffer = [] :=
  inv.clean t (congrArg Abs.dirty (inv.idle hc))

theorem Inv.mutex {cfg : Cfg} {s : State} (inv : Inv cfg s) {lk : Lock} {t u : Nat} (ht : lk ∈ (s.th t).held)
    (hu : lk ∈ (s.th u).held) : t = u :=
  Option.some.inj (((inv.own lk t).mpr ht).symm.trans ((inv.own lk u).mpr hu))

theorem own_frame {s : State} {t : Nat} {sh' : Shared} {l' : Local} {lk : Lock}
    (own : ∀ u, s.sh.owner lk = some u ↔ lk ∈ (s.th u).held) (ho : sh'.owner lk = s.sh.owner lk)
    (hh : lk ∈ l'.held ↔ lk ∈ (s.th t).held) (u : Nat) : sh'.owner lk = some u ↔ lk ∈ (upd s.th t l' u).held := by
  rw [ho]
  by_cases hu : u = t
  · subst hu; rw [upd_same, hh]; exact own u
  · rw [upd_other _ _ hu]; exact own u

theorem own_sole {th : Nat → Local} {t : Nat} {lk : Lock} {o : Option Nat} (sole : ∀ u, u ≠ t → lk ∉ (th u).held)
    (ho : o = if lk ∈ (th t).held then some t else none) (u : Nat) : o = some u ↔ lk ∈ (th u).held := by
  rw [ho]
  by_cases hu : u = t
  · subst hu; split <;> simp [*]
  · split <;> simp [sole u hu, Ne.symm hu]

section
variable {cfg : Cfg} {t : Nat} {sh sh' : Shared} {l l' : Local} {act : Act}

theorem Eff.fault (h : Eff cfg t sh l act sh' l') : l'.fault = l.fault := by
  cases h <;> rfl

theorem Eff.clean (h : Eff cfg t sh l act sh' l') (hc : l.dirty = false → l.buffer = []) :
    l'.dirty = false → l'.buffer = [] := by
  cases h
  case push => exact fun h => nomatch h
  case write => exact fun _ => rfl
  case capEnd => exact fun h => by simp [hc h]
  all_goals exact hc

theorem Eff.rd (h : Eff cfg t sh l act sh' l') (hr : l.recDone = true → Lock.console ∈ l.held) :
    l'.recDone = true → Lock.console ∈ l'.held := by
  cases h
  case acq => exact fun h => List.mem_cons_of_mem _ (hr h)
  case rel lk _ hc _ =>
    exact fun h => (List.mem_erase_of_ne fun e => Bool.false_ne_true ((hc e.symm).symm.trans h)).mpr (hr h)
  case recAppend hc _ _ _ => exact fun _ => hc
  case write => exact fun h => nomatch h
  all_goals exact hr

theorem Eff.own {s : State} {r : List GAct} (own : ∀ lk u, s.sh.owner lk = some u ↔ lk ∈ (s.th u).held)
    (h : Eff cfg t s.sh { s.th t with cont := r } act sh' l') (lk : Lock) (u : Nat) :
    sh'.owner lk = some u ↔ lk ∈ (upd s.th t l' u).held := by
  -- a lock that is free or `t`'s own is on no other thread's stack, before the step and after
  have sole : ∀ {lk0}, s.sh.owner lk0 = none ∨ s.sh.owner lk0 = some t → ∀ u, u ≠ t → lk0 ∉ (upd s.th t l' u).held := by
    intro lk0 hfree u hu hm
    have := (own lk0 u).mpr (upd_other s.th l' hu ▸ hm)
    rcases hfree with hf | hf <;> rw [hf] at this
    · nomatch this
    · exact hu (Option.some.inj this).symm
  cases h
  case acq lk0 hfree =>
    by_cases hk : lk = lk0
    · subst hk
      exact own_sole (sole hfree) (by simp [updLock, upd_same]) u
    · exact own_frame (own lk) (by simp [updLock, hk]) (by simp [hk]) u
  case rel lk0 hm _ _ =>
    have hown : s.sh.owner lk0 = some t := (own lk0 t).mpr hm
    by_cases hk : lk = lk0
    · subst hk
      refine own_sole (sole (.inr hown)) ?_ u
      simp only [upd_same]
      split <;> simp [hown, updLock]
    · refine own_frame (own lk) ?_ (List.mem_erase_of_ne hk) u
      dsimp only; split <;> simp [updLock, hk]
  all_goals exact own_frame (own lk) (by rfl) (by rfl) u

end

/-- `StepT` with its `skip` and `exec` read through `Eff`, which the invariant allows (`step_eff`): the thread begins its next
operation, or has one of the effects of `Eff` (an action skipped because its guard is off changes the continuation only:
`ctrl`). -/
inductive StepEff (cfg : Cfg) (s : State) (t : Nat) : Shared → Local → Prop
  | load (op : Op) (rest : List Op) (hc : (s.th t).cont = []) (hp : (s.th t).prog = op :: rest) :
      StepEff cfg s t s.sh { s.th t with prog := rest, cont := code cfg op, nops := (s.th t).nops + 1 }
  | act (g : Guard) (act : Act) (r : List GAct) {sh' : Shared} {l' : Local} (hc : (s.th t).cont = ⟨g, act⟩ :: r)
      (eff : Eff cfg t s.sh { s.th t with cont := r } act sh' l') : StepEff cfg s t sh' l'

theorem step_eff {cfg : Cfg} {s s' : State} {t : Nat} (inv : Inv cfg s) (h : stepT cfg s t = some s') :
    ∃ sh' l', s' = ⟨sh', upd s.th t l'⟩ ∧ Sim cfg l'.cont l'.abs = true ∧ StepEff cfg s t sh' l' := by
  obtain ⟨sh', l', rfl, hstep⟩ := stepT_some h
  refine ⟨sh', l', rfl, ?_⟩
  have hsim := inv.sim t
  cases hstep with
  | load op rest hc hp =>
    -- an idle thread is in the state `code_ok` starts from
    exact ⟨inv.idle hc ▸ code_ok cfg op _, .load op rest hc hp⟩
  | skip g act r hc hg =>
    rw [hc, Sim, if_neg (by simpa [Local.abs] using hg)] at hsim
    exact ⟨hsim, .act g act r hc (.ctrl (.inl rfl))⟩
  | exec g act r hc hg he =>
    rcases exec_eff (t := t) (sh := s.sh) (hc ▸ hsim) hg with ⟨_, _, _, _, _, hn⟩ | ⟨_, _, he', k1, eff⟩
    · nomatch hn.symm.trans he
    · cases he.symm.trans he'
      exact ⟨k1, .act g act r hc eff⟩

theorem inv_step {cfg : Cfg} {s s' : State} {t : Nat} (inv : Inv cfg s) (h : stepT cfg s t = some s') : Inv cfg s' := by
  obtain ⟨sh', l', rfl, k1, hstep⟩ := step_eff inv h
  suffices hl : (l'.fault = false ∧ (l'.dirty = false → l'.buffer = []) ∧ (l'.recDone = true → Lock.console ∈ l'.held)) ∧
      ∀ lk u, sh'.owner lk = some u ↔ lk ∈ (upd s.th t l' u).held by
    obtain ⟨⟨k2, k3, k4⟩, hown⟩ := hl
    refine ⟨fun u => ?_, hown, fun u => ?_, fun u => ?_, fun u => ?_⟩ <;> by_cases hu : u = t
    · subst hu; simpa only [upd_same] using k1
    · simp only [upd_other _ _ hu]; exact inv.sim u
    · subst hu; simpa only [upd_same] using k2
    · simp only [upd_other _ _ hu]; exact inv.nofault u
    · subst hu; simpa only [upd_same] using k3
    · simp only [upd_other _ _ hu]; exact inv.clean u
    · subst hu; simpa only [upd_same] using k4
    · simp only [upd_other _ _ hu]; exact inv.rd u
  cases hstep with
  | load => exact ⟨⟨inv.nofault t, inv.clean t, inv.rd t⟩, fun lk => own_frame (inv.own lk) rfl .rfl⟩
  | act _ _ _ _ eff =>
    exact ⟨⟨eff.fault.trans (inv.nofault t), eff.clean (inv.clean t), eff.rd (inv.rd t)⟩, eff.own inv.own⟩

theorem inv_run {cfg : Cfg} (sched : List Nat) : ∀ {s : State}, Inv cfg s → Inv cfg (run cfg s sched) :=
  run_induction inv_step sched

theorem inv_induction {cfg : Cfg} {P : State → Prop}
    (hstep : ∀ {s s' t}, Inv cfg s → P s → stepT cfg s t = some s' → P s') (sched : List Nat) :
    ∀ {s : State}, Inv cfg s → P s → P (run cfg s sched) :=
  fun hi hp => (run_induction (P := fun s => Inv cfg s ∧ P s)
    (fun h hs => ⟨inv_step h.1 hs, hstep h.1 h.2 hs⟩) sched ⟨hi, hp⟩).2

theorem inv_init {cfg : Cfg} (sh : Shared) (progs : List (List Op)) (hfree : ∀ lk, sh.owner lk = none) :
    Inv cfg (initState sh progs) := by
  refine ⟨fun t => ?_, fun lk t => ?_, fun t => rfl, fun t _ => rfl, fun t h => ?_⟩
  · simp [initState, Sim, Local.abs, Abs.final]
  · simp [initState, hfree]
  · simp [initState] at h

end RichModel.Conc
