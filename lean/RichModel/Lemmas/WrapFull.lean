import RichModel.Lemmas.Except
import RichModel.Lemmas.TextAppend
import RichModel.Lemmas.WrapSplit
import RichModel.Lemmas.WrapStages
/-!
`Lines.justify(..., "full")` (containers.py:131-161), repaired variant: every line but the last is rebuilt as
`Text("").join(tokens)`, the tokens being the words of `line.split(" ")` interleaved with fresh blank texts.
-/
namespace RichModel
namespace Wrap
open Text
variable {σ : Type}

/-! ### `str.split(" ")` -/

/-- `(cur + s).split(" ")` where `cur` (the word being read) contains no blank -/
def spSplitA (cur : List Char) : List Char → List (List Char)
  | [] => [cur]
  | c :: rest => if c = ' ' then cur :: spSplitA [] rest else spSplitA (cur ++ [c]) rest

theorem spSplitA_ne_nil (s : List Char) : ∀ cur, spSplitA cur s ≠ [] := by
  induction s with
  | nil => intro cur; simp [spSplitA]
  | cons c rest ih =>
    intro cur
    simp only [spSplitA]
    split
    · simp
    · exact ih _

theorem spSplitA_snoc_space (s : List Char) : ∀ cur, spSplitA cur (s ++ [' ']) = spSplitA cur s ++ [[]] := by
  induction s with
  | nil => intro cur; simp [spSplitA]
  | cons c rest ih =>
    intro cur
    simp only [List.cons_append, spSplitA]
    split
    · simp [ih]
    · exact ih _

theorem spSplitA_noSpace (s : List Char) : ∀ cur, (∀ c ∈ cur, c ≠ ' ') → ∀ p ∈ spSplitA cur s, ∀ c ∈ p, c ≠ ' ' := by
    induction s with
    | nil =>
      intro cur hcur p hp
      simp only [spSplitA, List.mem_singleton] at hp
      subst hp; exact hcur
    | cons c rest ih =>
      intro cur hcur p hp
      simp only [spSplitA] at hp
      split at hp
      · rcases List.mem_cons.mp hp with rfl | hp
        · exact hcur
        · exact ih [] (by simp) p hp
      · rename_i hc
        refine ih (cur ++ [c]) ?_ p hp
        intro d hd
        rcases List.mem_append.mp hd with hd | hd
        · exact hcur d hd
        · simp only [List.mem_singleton] at hd
          subst hd; exact hc

/-- cutting `pre ++ s` at both ends of every blank of `s` and discarding the pieces `" "` is `str.split(" ")` -/
theorem pieces_space (s : List Char) : ∀ (pre : List Char) (start : Nat), start ≤ pre.length →
    (∀ c ∈ pre.drop start, c ≠ ' ') →
    (piecesFrom start ((findAllAux [' '] s pre.length 0).flatMap (fun m => [m.1, m.2])) (pre ++ s)).filter
        (fun p => p != [' ']) = spSplitA (pre.drop start) s := by
  have keep : ∀ l : List Char, (∀ c ∈ l, c ≠ ' ') → (l != [' ']) = true :=
    fun l hl => bne_singleton ' ' l (fun hm => hl ' ' hm rfl)
  induction s with
  | nil =>
    intro pre start hs hpre
    simp [findAllAux, piecesFrom, spSplitA, keep _ hpre]
  | cons c rest ih =>
    intro pre start hs hpre
    rw [findAllAux_char_cons]
    have hcat : pre ++ c :: rest = (pre ++ [c]) ++ rest := by simp
    have hlen : pre.length + 1 = (pre ++ [c]).length := by simp
    by_cases hc : c = ' '
    · subst hc
      simp only [if_true, List.flatMap_cons, List.cons_append, List.nil_append, piecesFrom, spSplitA]
      have h1 := take_drop_prefix pre (' ' :: rest) start hs
      have h2 : ((pre ++ ' ' :: rest).drop pre.length).take (pre.length + 1 - pre.length) = [' '] := by
        rw [List.drop_left, show pre.length + 1 - pre.length = 1 by omega]; rfl
      rw [h1, h2]
      have hd : ([' '] != [' ']) = false := by simp
      rw [List.filter_cons, if_pos (keep _ hpre), List.filter_cons, hd]
      simp only [Bool.false_eq_true, if_false]
      rw [hcat, hlen, ih (pre ++ [' ']) (pre ++ [' ']).length (Nat.le_refl _) (by simp)]
      simp
    · simp only [hc, if_false, spSplitA]
      rw [hcat, hlen, ih (pre ++ [c]) start (by simp; omega)]
      · rw [List.drop_append_of_le_length hs]
      · rw [List.drop_append_of_le_length hs]
        intro d hd
        rcases List.mem_append.mp hd with hd | hd
        · exact hpre d hd
        · simp only [List.mem_singleton] at hd
          subst hd; exact hc

/-- `line.split(" ")` (no separators, no trailing blank word): the words are the pieces of the line between its blanks;
when the line ends with a blank the last, empty, word is dropped -/
theorem split_space_words [BEq σ] (t : Text σ) (h : Inv t) :
    ∃ ws : List (Text σ), t.split Variant.repaired [' '] = .ok ws ∧
      nsv (ws.flatMap Text.view) = nsv t.view ∧ (∀ l ∈ ws, Inv l ∧ l.style = t.style) ∧
      ∃ s', ws.map (·.plain) = spSplitA [] s' ∧ (t.plain = s' ∨ t.plain = s' ++ [' ']) := by
  obtain ⟨ls, hsplit, hplain, hink, hall⟩ := split_excl ' ' space_isSpace t h false
  replace hplain := hplain.trans (pieces_space t.plain [] 0 (Nat.le_refl _) (fun _ hc => nomatch hc))
  cases hs : [' '].isSuffixOf t.plain with
  | false =>
    rw [hs] at hsplit
    exact ⟨ls, hsplit, hink, hall, t.plain, hplain, Or.inl rfl⟩
  | true =>
    rw [hs] at hsplit
    obtain ⟨s', hs'⟩ := List.isSuffixOf_iff_suffix.mp hs
    replace hs' := hs'.symm
    rw [hs', spSplitA_snoc_space] at hplain
    have hne : ls ≠ [] := by
      intro h0; rw [h0] at hplain; simp at hplain
    obtain ⟨ini, lst, rfl⟩ : ∃ ini lst, ls = ini ++ [lst] :=
      ⟨ls.dropLast, ls.getLast hne, (List.dropLast_concat_getLast hne).symm⟩
    simp only [List.map_append, List.map_cons, List.map_nil] at hplain
    obtain ⟨hp1, hp2⟩ := List.append_inj' hplain rfl
    have hlst : lst.plain = [] := by simpa using hp2
    refine ⟨ini, by simpa using hsplit, ?_, fun l hl => hall l (by simp [hl]), s', hp1, Or.inr hs'⟩
    rw [← hink, List.flatMap_append, nsv_append]
    rw [List.flatMap_singleton, view_eq_annot, hlst]; exact (List.append_nil _).symm

/-! ### `Text("").join(tokens)` -/

theorem joinSeq_empty (sep : Text σ) (h : sep.plain = []) : ∀ l : List (Text σ), joinSeq sep l = l
  | [] => rfl
  | [_] => rfl
  | x :: y :: rest => by
    simp only [joinSeq, h, List.isEmpty_nil, if_true]
    rw [joinSeq_empty sep h (y :: rest)]

theorem join_style (v : Variant) (sep : Text σ) (lines : List (Text σ)) : (sep.join v lines).style = sep.style := rfl

theorem nullSep_inv (null : σ) : Inv (Text.new Variant.repaired [] null) :=
  inv_new [] null [] _ _ _ _ _ (by intro sp h; simp at h)

theorem nullSep_plain (v : Variant) (null : σ) : (Text.new v [] null).plain = [] := rfl

/-- `Text("").join(tokens)` on consistent tokens shows the tokens one after the other, the null style in front of every
style list -/
theorem join_null_shows (null : σ) (tokens : List (Text σ)) (ht : AllInv tokens) :
    Shows ((Text.new Variant.repaired [] null).join Variant.repaired tokens) null
      (tokens.flatMap fun x => x.view.map fun p => (p.1, null :: p.2)) :=
  ⟨inv_join _ _ (nullSep_inv null) ht, rfl,
    by rw [view_join _ _ (nullSep_inv null) ht, joinSeq_empty _ (nullSep_plain _ null)]; rfl⟩

/-- the characters of the tokens: the words' characters with `spaces[i]` blanks between them -/
def glue : List (List Char) → List Nat → List Char
  | [], _ => []
  | [w], _ => w
  | w :: next :: rest, [] => w ++ glue (next :: rest) []
  | w :: next :: rest, n :: sp => w ++ (List.replicate n ' ' ++ glue (next :: rest) sp)

theorem stripControl_replicate_space (n : Nat) : stripControl (List.replicate n ' ') = List.replicate n ' ' :=
  stripControl_id _ (NoCtl.replicate n ' ' noCtl_space)

/-- the blank token `Text(" " * n, style=space_style)`: `n` blanks, each with `space_style` and nothing else -/
theorem blank_shows (n : Nat) (st : σ) :
    Shows (Text.new Variant.repaired (List.replicate n ' ') st) st (List.replicate n (' ', [st])) := by
  have h := shows_new _ st (NoCtl.replicate n ' ' noCtl_space)
  rwa [List.map_replicate] at h

theorem blank_plain (v : Variant) (n : Nat) (st : σ) : (Text.new v (List.replicate n ' ') st).plain = List.replicate n ' ' :=
  stripControl_replicate_space n

theorem fullTokens_spec (A : StyleAlg σ) (ls : σ) : ∀ (ws : List (Text σ)) (sp : List Nat), (∀ w ∈ ws, Inv w) →
    (∀ x ∈ fullTokens Variant.repaired A ls ws sp, Inv x) ∧
    nsv ((fullTokens Variant.repaired A ls ws sp).flatMap Text.view) = nsv (ws.flatMap Text.view) ∧
    ((fullTokens Variant.repaired A ls ws sp).map (·.plain)).flatten = glue (ws.map (·.plain)) sp
  | [], _, _ => by simp [fullTokens, glue]
  | [w], _, h => by
    refine ⟨by simpa [fullTokens] using h, by simp [fullTokens], by simp [fullTokens, glue]⟩
  | w :: next :: rest, [], h => by
    obtain ⟨i1, i2, i3⟩ := fullTokens_spec A ls (next :: rest) [] (fun x hx => h x (List.mem_cons_of_mem _ hx))
    simp only [fullTokens]
    refine ⟨?_, ?_, ?_⟩
    · intro x hx
      rcases List.mem_cons.mp hx with rfl | hx
      · exact h _ (by simp)
      · exact i1 x hx
    · rw [List.flatMap_cons, nsv_append, i2, List.flatMap_cons (x := w), nsv_append]
    · rw [List.map_cons, List.flatten_cons, i3]; rfl
  | w :: next :: rest, n :: sp, h => by
    obtain ⟨i1, i2, i3⟩ := fullTokens_spec A ls (next :: rest) sp (fun x hx => h x (List.mem_cons_of_mem _ hx))
    simp only [fullTokens]
    refine ⟨?_, ?_, ?_⟩
    · intro x hx
      rcases List.mem_cons.mp hx with rfl | hx
      · exact h _ (by simp)
      · rcases List.mem_cons.mp hx with rfl | hx
        · exact (blank_shows _ _).inv
        · exact i1 x hx
    · rw [List.flatMap_cons, List.flatMap_cons, nsv_append, nsv_append, (blank_shows n _).view, nsv_replicate_space, i2, List.flatMap_cons (x := w), nsv_append]
      simp
    · rw [List.map_cons, List.map_cons, List.flatten_cons, List.flatten_cons, i3, blank_plain]; rfl

/-- The rebuilt line.  As a text: the tokens — the words `ws` of `split(" ")` with the blank texts of `fullSpaces` between
them — one after the other, the null style in front of every style list; so its ink is the line's with the null style in
front.  As a string: `s'` is the line without the blank `split(" ")` drops at its end, and the result is its words glued
with the blanks of `fullSpaces` (carried along for `glue_fullSpaces_fits`). -/
theorem justifyFullLine_spec [BEq σ] (cw : Char → Nat) (A : StyleAlg σ) (line : Text σ) (h : Inv line) (w : Nat) :
    ∃ (ws : List (Text σ)) (out : Text σ) (s' : List Char), line.split Variant.repaired [' '] = .ok ws ∧
      justifyFullLine Variant.repaired cw A line w = .ok out ∧
      Shows out A.null ((fullTokens Variant.repaired A line.style ws
          (fullSpaces (ws.map (fun x => cellLen cw x.plain)).sum ws.length w)).flatMap
        (fun x => x.view.map (fun p => (p.1, A.null :: p.2)))) ∧
      nsv out.view = (nsv line.view).map (fun p => (p.1, A.null :: p.2)) ∧
      (line.plain = s' ∨ line.plain = s' ++ [' ']) ∧
      out.plain = glue (spSplitA [] s')
        (fullSpaces ((spSplitA [] s').map (cellLen cw)).sum (spSplitA [] s').length w) := by
  obtain ⟨ws, hsplit, hink, hall, s', hplain, hs'⟩ := split_space_words line h
  obtain ⟨t1, t2, t3⟩ := fullTokens_spec A line.style ws
    (fullSpaces (ws.map (fun w => cellLen cw w.plain)).sum ws.length w) (fun x hx => (hall x hx).1)
  have hj := join_null_shows A.null _ t1
  refine ⟨ws, _, s', hsplit, by unfold justifyFullLine; rw [hsplit]; rfl, hj, ?_, hs', ?_⟩
  · rw [hj.view, ← hink, ← t2, ← nsv_map_snd, List.map_flatMap]
  · rw [join_plain, joinSeq_empty _ (nullSep_plain _ A.null), t3, hplain]
    have e1 : (ws.map (fun w => cellLen cw w.plain)) = (spSplitA [] s').map (cellLen cw) := by
      rw [← hplain, List.map_map]; rfl
    have e2 : ws.length = (spSplitA [] s').length := by rw [← hplain, List.length_map]
    rw [e1, e2]

/-- a line rebuilt by full justification shows exactly the non-whitespace characters of the line, in order,
each with its effective style prefixed by the null style of `Text("")` -/
theorem justifyFullLine_ink [BEq σ] (cw : Char → Nat) (A : StyleAlg σ) (line : Text σ) (h : Inv line) (w : Nat) :
    ∃ out, justifyFullLine Variant.repaired cw A line w = .ok out ∧ Inv out ∧ out.style = A.null ∧
      nsv out.view = (nsv line.view).map (fun p => (p.1, A.null :: p.2)) := by
  obtain ⟨_, out, _, _, h1, h2, h3, _⟩ := justifyFullLine_spec cw A line h w
  exact ⟨out, h1, h2.inv, h2.style, h3⟩

/-- `Lines.justify(…, "full")` on consistent lines returns consistent lines, for every width function -/
theorem justifyFull_inv [BEq σ] (cw : Char → Nat) (A : StyleAlg σ) (w : Nat) (lines : List (Text σ)) (h : AllInv lines) :
    (justifyFull Variant.repaired cw A w lines).Returns AllInv := by
  fun_induction justifyFull Variant.repaired cw A w lines with
  | case1 => exact .ok h
  | case2 => exact .ok h
  | case3 line next rest ih =>
    obtain ⟨hl, hr⟩ := List.forall_mem_cons.mp h
    exact .bind (.mono (justifyFullLine_ink cw A line hl w) fun _ ho => ho.1) fun _ ho =>
      .bind (ih hr) fun _ hos => .ok (List.forall_mem_cons.mpr ⟨ho, hos⟩)

/-! ### the blanks handed out by `spreadLoop` -/

theorem bump_length : ∀ (l : List Nat) (i : Nat), (bump l i).length = l.length
  | [], _ => rfl
  | _ :: _, 0 => rfl
  | x :: xs, i + 1 => by simp [bump, bump_length xs i]

theorem bump_sum : ∀ (l : List Nat) (i : Nat), i < l.length → (bump l i).sum = l.sum + 1
  | [], _, h => by simp at h
  | x :: xs, 0, _ => by simp [bump]; omega
  | x :: xs, i + 1, h => by
    simp only [bump, List.sum_cons]
    rw [bump_sum xs i (by simpa using h)]; omega

theorem spreadLoop_spec (n : Nat) (hn : 0 < n) : ∀ (todo index : Nat) (sp : List Nat), index < n → sp.length = n →
    (spreadLoop n todo index sp).length = n ∧ (spreadLoop n todo index sp).sum = sp.sum + todo
  | 0, _, sp, _, hl => by simp [spreadLoop, hl]
  | todo + 1, index, sp, hi, hl => by
    simp only [spreadLoop]
    obtain ⟨h1, h2⟩ := spreadLoop_spec n hn todo ((index + 1) % n) (bump sp (n - index - 1)) (Nat.mod_lt _ hn)
      (by rw [bump_length, hl])
    refine ⟨h1, ?_⟩
    rw [h2, bump_sum _ _ (by omega)]; omega

/-- the `spaces` list: one entry per gap; either every gap is one blank (nothing to hand out) or the blanks fill
the width exactly -/
theorem fullSpaces_spec (wordsSize numWords w : Nat) :
    (fullSpaces wordsSize numWords w).length = numWords - 1 ∧
    (fullSpaces wordsSize numWords w = List.replicate (numWords - 1) 1 ∨
      wordsSize + (fullSpaces wordsSize numWords w).sum = w) := by
  unfold fullSpaces
  simp only
  split
  · rename_i h0
    exact ⟨by simp, Or.inl rfl⟩
  · rename_i h0
    obtain ⟨h1, h2⟩ := spreadLoop_spec (numWords - 1) (by omega) (w - (wordsSize + (numWords - 1))) 0
      (List.replicate (numWords - 1) 1) (by omega) (by simp)
    refine ⟨h1, ?_⟩
    by_cases hlt : wordsSize + (numWords - 1) < w
    · right
      rw [h2]; simp; omega
    · left
      have : w - (wordsSize + (numWords - 1)) = 0 := by omega
      rw [this]; rfl

theorem cellLen_glue (cw : Char → Nat) (hsp : cw ' ' = 1) : ∀ (ps : List (List Char)) (sp : List Nat),
    sp.length = ps.length - 1 → cellLen cw (glue ps sp) = (ps.map (cellLen cw)).sum + sp.sum
  | [], sp, h => by
    have : sp = [] := List.eq_nil_of_length_eq_zero (by simpa using h)
    subst this; simp [glue, cellLen]
  | [p], sp, h => by
    have : sp = [] := List.eq_nil_of_length_eq_zero (by simpa using h)
    subst this; simp [glue]
  | p :: q :: rest, [], h => by simp at h
  | p :: q :: rest, n :: sp, h => by
    simp only [glue, cellLen_append, cellLen_replicate, hsp]
    rw [cellLen_glue cw hsp (q :: rest) sp (by simp at h ⊢; omega)]
    simp only [List.map_cons, List.sum_cons]
    omega

/-- with one blank per gap the rebuilt line is `" ".join(s.split(" "))`, that is `s` -/
theorem glue_ones_spSplitA (s : List Char) : ∀ cur,
    glue (spSplitA cur s) (List.replicate ((spSplitA cur s).length - 1) 1) = cur ++ s := by
  induction s with
  | nil => intro cur; simp [spSplitA, glue]
  | cons c rest ih =>
    intro cur
    simp only [spSplitA]
    split
    · rename_i hc
      obtain ⟨q, qs, hq⟩ := List.exists_cons_of_ne_nil (spSplitA_ne_nil rest [])
      have := ih []
      rw [hq] at this ⊢
      simpa [glue, List.replicate_succ, hc] using this
    · rw [ih]; simp

/-- the blanks handed out either are one per gap (the line is as it was) or fill the width exactly: a line that fitted
once stripped still does -/
theorem glue_fullSpaces_fits (cw : Char → Nat) (hsp : cw ' ' = 1) (s' line : List Char) (w : Nat)
    (hline : line = s' ∨ line = s' ++ [' ']) (hfit : cellLen cw (pyRstrip line) ≤ w) :
    cellLen cw (pyRstrip (glue (spSplitA [] s')
      (fullSpaces ((spSplitA [] s').map (cellLen cw)).sum (spSplitA [] s').length w))) ≤ w := by
  obtain ⟨hlen, hcase⟩ := fullSpaces_spec ((spSplitA [] s').map (cellLen cw)).sum (spSplitA [] s').length w
  rcases hcase with hones | hfull
  · rw [hones, glue_ones_spSplitA, List.nil_append]
    rcases hline with rfl | rfl
    · exact hfit
    · rwa [pyRstrip_append_space s' [' '] (replicate_isSpace 1)] at hfit
  · have := cellLen_glue cw hsp _ _ hlen
    have h2 := cellLen_pyRstrip_le cw (glue (spSplitA [] s')
      (fullSpaces ((spSplitA [] s').map (cellLen cw)).sum (spSplitA [] s').length w))
    omega

/-- what full justification does to a line that is not the last one of its paragraph -/
def Rebuilt (cw : Char → Nat) (A : StyleAlg σ) (w : Nat) (line out : Text σ) : Prop :=
  Inv out ∧ out.style = A.null ∧
  nsv out.view = (nsv line.view).map (fun p => (p.1, A.null :: p.2)) ∧
  (cellLen cw (pyRstrip line.plain) ≤ w → cellLen cw (pyRstrip out.plain) ≤ w)

/-- the lines handed to full justification and the lines it returns: the last line is returned as it is, every
other one is rebuilt -/
def FullRel (cw : Char → Nat) (A : StyleAlg σ) (w : Nat) : List (Text σ) → List (Text σ) → Prop
  | [], outs => outs = []
  | [last], outs => outs = [last]
  | line :: next :: rest, outs =>
    ∃ out outs', outs = out :: outs' ∧ Rebuilt cw A w line out ∧ FullRel cw A w (next :: rest) outs'

theorem Rebuilt.inv {cw : Char → Nat} {A : StyleAlg σ} {w : Nat} {line out : Text σ} (h : Rebuilt cw A w line out) :
    Inv out := h.1

theorem Rebuilt.ink {cw : Char → Nat} {A : StyleAlg σ} {w : Nat} {line out : Text σ} (h : Rebuilt cw A w line out) :
    nsv out.view = (nsv line.view).map (fun p => (p.1, A.null :: p.2)) := h.2.2.1

theorem Rebuilt.fits {cw : Char → Nat} {A : StyleAlg σ} {w : Nat} {line out : Text σ} (h : Rebuilt cw A w line out) :
    FitsStripped cw w line → FitsStripped cw w out := h.2.2.2

theorem justifyFullLine_rebuilt [BEq σ] (cw : Char → Nat) (hsp : cw ' ' = 1) (A : StyleAlg σ) (line : Text σ) (h : Inv line)
    (w : Nat) : ∃ out, justifyFullLine Variant.repaired cw A line w = .ok out ∧ Rebuilt cw A w line out := by
  obtain ⟨_, out, s', _, ho, h1, h3, hs', hp⟩ := justifyFullLine_spec cw A line h w
  exact ⟨out, ho, h1.inv, h1.style, h3, fun hfit => hp ▸ glue_fullSpaces_fits cw hsp s' line.plain w hs' hfit⟩

/-- `Lines.justify(…, "full")` on consistent lines never raises and returns (`FullRel`) the last one
unchanged and every other one rebuilt (`Rebuilt`: consistent, null base style, the same non-whitespace characters
with the null style in front of their styles, still fitting once stripped) -/
theorem justifyFull_spec [BEq σ] (cw : Char → Nat) (hsp : cw ' ' = 1) (A : StyleAlg σ) (w : Nat) :
    ∀ lines : List (Text σ), AllInv lines →
    ∃ outs, justifyFull Variant.repaired cw A w lines = .ok outs ∧ FullRel cw A w lines outs
  | [], _ => ⟨[], rfl, rfl⟩
  | [last], _ => ⟨[last], rfl, rfl⟩
  | line :: next :: rest, h => by
    obtain ⟨out, ho, hr⟩ := justifyFullLine_rebuilt cw hsp A line (h line (by simp)) w
    obtain ⟨outs', ho', hr'⟩ := justifyFull_spec cw hsp A w (next :: rest)
      (fun l hl => h l (List.mem_cons_of_mem _ hl))
    refine ⟨out :: outs', ?_, out, outs', rfl, hr, hr'⟩
    simp only [justifyFull, ho, ho', bind, Except.bind]

theorem FullRel.pointwise (cw : Char → Nat) (A : StyleAlg σ) (w : Nat) : ∀ (lines outs : List (Text σ)),
    FullRel cw A w lines outs → ∀ p ∈ lines.zip outs, p.2 = p.1 ∨ Rebuilt cw A w p.1 p.2
  | [], _, h => by cases h; simp
  | [last], _, h => by
    cases h
    intro p hp
    simp only [List.zip_cons_cons, List.zip_nil_right, List.mem_singleton] at hp
    subst hp; exact Or.inl rfl
  | line :: next :: rest, _, h => by
    obtain ⟨out, outs', rfl, hr, hrest⟩ := h
    intro p hp
    rcases List.mem_cons.mp hp with rfl | hp
    · exact Or.inr hr
    · exact FullRel.pointwise cw A w (next :: rest) outs' hrest p hp

theorem FullRel.length (cw : Char → Nat) (A : StyleAlg σ) (w : Nat) : ∀ (lines outs : List (Text σ)),
    FullRel cw A w lines outs → outs.length = lines.length
  | [], _, h => by cases h; rfl
  | [_], _, h => by cases h; rfl
  | line :: next :: rest, _, h => by
    obtain ⟨out, outs', rfl, _, hrest⟩ := h
    rw [List.length_cons, FullRel.length cw A w (next :: rest) outs' hrest]; rfl

theorem FullRel.mem (cw : Char → Nat) (A : StyleAlg σ) (w : Nat) (lines outs : List (Text σ))
    (h : FullRel cw A w lines outs) (o : Text σ) (ho : o ∈ outs) :
    ∃ l ∈ lines, o = l ∨ Rebuilt cw A w l o := by
  obtain ⟨i, hi, rfl⟩ := List.getElem_of_mem ho
  have hl : i < lines.length := FullRel.length cw A w lines outs h ▸ hi
  exact ⟨lines[i], List.getElem_mem hl, FullRel.pointwise cw A w lines outs h (lines[i], outs[i])
    (List.mem_iff_getElem.mpr ⟨i, by rw [List.length_zip]; exact Nat.lt_min.mpr ⟨hl, hi⟩, List.getElem_zip⟩)⟩

theorem FullRel.inv (cw : Char → Nat) (A : StyleAlg σ) (w : Nat) : ∀ (lines outs : List (Text σ)),
    FullRel cw A w lines outs → (∀ l ∈ lines, Inv l) → ∀ o ∈ outs, Inv o := by
  intro lines outs h hi o ho
  obtain ⟨l, hl, rfl | hr⟩ := FullRel.mem cw A w lines outs h o ho
  · exact hi o hl
  · exact hr.inv

/-- what full justification does to the inks of the lines of a paragraph: null style in front for every line but the
last -/
def fullMark (null : σ) : List (List (Char × List σ)) → List (Char × List σ)
  | [] => []
  | [last] => last
  | l :: next :: rest => l.map (fun p => (p.1, null :: p.2)) ++ fullMark null (next :: rest)

/-- in closed form: the null style in front throughout the lines before the last -/
theorem fullMark_concat (null : σ) (last : List (Char × List σ)) : ∀ init : List (List (Char × List σ)),
    fullMark null (init ++ [last]) = init.flatten.map (fun p => (p.1, null :: p.2)) ++ last
  | [] => rfl
  | [l] => by simp [fullMark]
  | l :: next :: init => by
    rw [List.cons_append, List.cons_append, fullMark, ← List.cons_append, fullMark_concat null last (next :: init),
      List.flatten_cons (l := l), List.map_append, List.append_assoc]

theorem fullMark_map {β : Type} (null : σ) (f : Char × List σ → β) (hf : ∀ p, f (p.1, null :: p.2) = f p)
    (ls : List (List (Char × List σ))) : (fullMark null ls).map f = ls.flatten.map f := by
  rcases List.eq_nil_or_concat ls with rfl | ⟨init, last, rfl⟩
  · rfl
  · rw [List.concat_eq_append, fullMark_concat, List.flatten_append, List.map_append, List.map_append, List.map_map]
    simp [Function.comp_def, hf]

theorem FullRel.mark (cw : Char → Nat) (A : StyleAlg σ) (w : Nat) : ∀ (lines outs : List (Text σ)),
    FullRel cw A w lines outs →
    nsv (outs.flatMap Text.view) = fullMark A.null (lines.map (fun l => nsv l.view))
  | [], _, h => by cases h; rfl
  | [last], _, h => by cases h; simp [fullMark]
  | line :: next :: rest, _, h => by
    obtain ⟨out, outs', rfl, hr, hrest⟩ := h
    rw [List.flatMap_cons, nsv_append, FullRel.mark cw A w (next :: rest) outs' hrest, hr.ink]
    rfl

/-- the returned lines show the non-whitespace characters of the lines handed in (with their styles: `FullRel.mark`) -/
theorem FullRel.ink (cw : Char → Nat) (A : StyleAlg σ) (w : Nat) : ∀ (lines outs : List (Text σ)),
    FullRel cw A w lines outs →
    (nsv (outs.flatMap Text.view)).map (·.1) = (nsv (lines.flatMap Text.view)).map (·.1) := by
  intro lines outs h
  rw [FullRel.mark cw A w lines outs h, fullMark_map A.null (·.1) (fun _ => rfl), nsv_flatMap, List.flatMap_def]

/-- "ab cd " with a span on "b c": justified to width 8 -/
def exLine : Text Nat :=
  { plain := ['a', 'b', ' ', 'c', 'd', ' '], length := 6, style := 0, spans := [⟨1, 4, 7⟩] }

/-- styles are numbers, combined by adding; the null style is 100 -/
def exAlg : StyleAlg Nat := ⟨100, fun l => l.sum, fun a b => a == b⟩

example : Inv exLine := by
  refine ⟨rfl, by decide, ?_⟩
  intro sp hsp
  simp only [exLine, List.mem_singleton] at hsp
  subst hsp; decide

example : (match justifyFullLine Variant.repaired (fun _ => 1) exAlg exLine 8 with
    | .ok t => t.plain == ['a', 'b', ' ', ' ', ' ', ' ', 'c', 'd'] && t.style == 100
    | .error _ => false) = true := by decide +kernel

end Wrap
end RichModel
