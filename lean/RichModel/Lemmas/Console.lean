import RichModel.Model.Console
import RichModel.Lemmas.Segment
/-!
Lemmas about `Model/Console`.  What a rendering shows is read off its pieces (`pieceStream`, `visiblePieces`), and the file is
a function of the flushed buffers (`written`, `reading_written`).  Every operation stages its effect on buffer, depth, marks
and record, then `_check_buffer` runs or not (`staged`, `flushes`, `step_eq`): what is said about `step` comes from that.
Also the definitions for several consoles alive together (`multiStep`, `multiRun`, `projOps` / `projOuts`).
-/
namespace RichModel.Console
open RichModel

variable {σ : Type}

/-! ## what a rendering shows -/

/-- Visible text of a rendering: the text of its non-control pieces (no escape wrappers, no control codes). -/
def visiblePieces (ps : List (Piece σ)) : List Char := (ps.filter (fun p => !p.control)).flatMap (·.text)

/-- Visible text of everything written to the file. -/
def fileVisible (file : List (List (Piece σ))) : List Char := visiblePieces file.flatten

/-- (character, style whose wrapper surrounds it) for the visible characters of a rendering. -/
def pieceStream (ps : List (Piece σ)) : List (Char × Option σ) :=
  (ps.filter (fun p => !p.control)).flatMap (fun p => p.text.map (fun c => (c, p.style)))

/-- The style a segment is shown in: `None` and null styles show as no style. -/
def effStyle (env : StyleEnv σ) : Option σ → Option σ
  | some s => if env.truthy s then some s else none
  | none => none

/-- (character, effective style) for the visible characters of a segment list. -/
def segStream (env : StyleEnv σ) (segs : List (Segment σ)) : List (Char × Option σ) :=
  (segs.filter (fun s => !s.control)).flatMap (fun s => s.text.map (fun c => (c, effStyle env s.style)))

@[simp] theorem visiblePieces_nil : visiblePieces ([] : List (Piece σ)) = [] := rfl
@[simp] theorem visiblePieces_append (a b : List (Piece σ)) :
    visiblePieces (a ++ b) = visiblePieces a ++ visiblePieces b := by simp [visiblePieces]
@[simp] theorem pieceStream_nil : pieceStream ([] : List (Piece σ)) = [] := rfl
@[simp] theorem pieceStream_append (a b : List (Piece σ)) :
    pieceStream (a ++ b) = pieceStream a ++ pieceStream b := by simp [pieceStream]
@[simp] theorem flat_nil : flat ([] : List (Piece σ)) = [] := rfl
@[simp] theorem flat_append (a b : List (Piece σ)) : flat (a ++ b) = flat a ++ flat b := by simp [flat]
@[simp] theorem exportPlain_nil : exportPlain ([] : List (Segment σ)) = [] := rfl
@[simp] theorem exportPlain_append (a b : List (Segment σ)) :
    exportPlain (a ++ b) = exportPlain a ++ exportPlain b := by simp [exportPlain]
@[simp] theorem segStream_nil (env : StyleEnv σ) : segStream env ([] : List (Segment σ)) = [] := rfl
@[simp] theorem segStream_append (env : StyleEnv σ) (a b : List (Segment σ)) :
    segStream env (a ++ b) = segStream env a ++ segStream env b := by simp [segStream]

theorem visiblePieces_cons (p : Piece σ) (ps : List (Piece σ)) :
    visiblePieces (p :: ps) = (if p.control then [] else p.text) ++ visiblePieces ps := by
  unfold visiblePieces
  by_cases h : p.control = true <;> simp [h]

theorem pieceStream_cons (p : Piece σ) (ps : List (Piece σ)) :
    pieceStream (p :: ps) = (if p.control then [] else p.text.map (fun c => (c, p.style))) ++ pieceStream ps := by
  unfold pieceStream
  by_cases h : p.control = true <;> simp [h]

theorem exportPlain_cons (s : Segment σ) (l : List (Segment σ)) :
    exportPlain (s :: l) = (if s.control then [] else s.text) ++ exportPlain l := by
  unfold exportPlain
  by_cases h : s.control = true <;> simp [h]

theorem segStream_cons (env : StyleEnv σ) (s : Segment σ) (l : List (Segment σ)) :
    segStream env (s :: l) =
      (if s.control then [] else s.text.map (fun c => (c, effStyle env s.style))) ++ segStream env l := by
  unfold segStream
  by_cases h : s.control = true <;> simp [h]

theorem text_of_flat_nil (ps : List (Piece σ)) (h : flat ps = []) : ∀ p ∈ ps, p.text = [] := by
  intro p hp
  have := List.flatMap_eq_nil_iff.mp h p hp
  simp only [Piece.chars, List.append_eq_nil_iff] at this
  exact this.1.2

theorem visible_of_flat_nil (ps : List (Piece σ)) (h : flat ps = []) : visiblePieces ps = [] :=
  List.flatMap_eq_nil_iff.mpr fun p hp => text_of_flat_nil ps h p (List.mem_filter.mp hp).1

theorem stream_of_flat_nil (ps : List (Piece σ)) (h : flat ps = []) : pieceStream ps = [] :=
  List.flatMap_eq_nil_iff.mpr fun p hp => by rw [text_of_flat_nil ps h p (List.mem_filter.mp hp).1]; rfl

theorem visiblePieces_eq_stream (ps : List (Piece σ)) : visiblePieces ps = (pieceStream ps).map (·.1) := by
  simp [visiblePieces, pieceStream, List.map_flatMap, Function.comp_def]

theorem exportPlain_eq_segStream (env : StyleEnv σ) (segs : List (Segment σ)) :
    exportPlain segs = (segStream env segs).map (·.1) := by
  simp [exportPlain, segStream, List.map_flatMap, Function.comp_def]

/-! ## `_render_buffer` -/

theorem stylePiece_control (pre post : List Char) (plain : Bool) (s : σ) (t : List Char) (c : Bool) :
    (stylePiece pre post plain s t c).control = c := by
  unfold stylePiece; split <;> rfl

theorem pieceStream_stylePiece (pre post : List Char) (plain : Bool) (s : σ) (t : List Char) (c : Bool)
    (rest : List (Piece σ)) :
    pieceStream (stylePiece pre post plain s t c :: rest) =
      (if c then [] else t.map (fun ch => (ch, if plain then none else some s))) ++ pieceStream rest := by
  rw [pieceStream_cons, stylePiece_control]
  congr 1
  unfold stylePiece
  cases c <;> cases t <;> cases plain <;> rfl

/-- A control segment shows nothing: it is dropped on a non-terminal and not visible on a terminal. -/
theorem renderSeg_stream (cfg : Config) (env : StyleEnv σ) (seg : Segment σ) :
    pieceStream (renderSeg cfg env seg).toList =
      if seg.control then [] else seg.text.map (fun c => (c, if cfg.colorNone then none else effStyle env seg.style)) := by
  have bare : pieceStream [({ text := seg.text, control := seg.control } : Piece σ)] =
      if seg.control then [] else seg.text.map (fun c => (c, none)) := by rw [pieceStream_cons]; simp
  unfold renderSeg
  split
  · rename_i h; simp only [Bool.and_eq_true] at h; simp [h.2]
  · cases seg.style with
    | none => simpa [effStyle] using bare
    | some s =>
      simp only [effStyle]
      cases env.truthy s
      · simpa using bare
      · simp only [if_true, Option.toList_some, pieceStream_stylePiece, pieceStream_nil, List.append_nil]

theorem filterMap_renderSeg_stream (cfg : Config) (env : StyleEnv σ) (buf : List (Segment σ)) :
    pieceStream (buf.filterMap (renderSeg cfg env)) =
      (segStream env buf).map (fun p => (p.1, if cfg.colorNone then none else p.2)) := by
  induction buf with
  | nil => rfl
  | cons seg buf ih =>
    have hcons : pieceStream ((seg :: buf).filterMap (renderSeg cfg env)) =
        pieceStream (renderSeg cfg env seg).toList ++ pieceStream (buf.filterMap (renderSeg cfg env)) := by
      rw [List.filterMap_cons]
      cases renderSeg cfg env seg
      · rfl
      · exact pieceStream_append [_] _
    rw [hcons, renderSeg_stream, ih, segStream_cons, List.map_append]
    cases seg.control <;> simp [Function.comp_def]

/-- The file shows the buffer's visible characters in their effective styles: those of `Segment.remove_color(buffer)`
under NO_COLOR (with a colour system), and no style at all without a colour system (`color_system=None`: `style.render`
returns the bare text). -/
theorem renderPieces_stream (cfg : Config) (env : StyleEnv σ) (buf : List (Segment σ)) :
    pieceStream (renderPieces cfg env buf) =
      (segStream env (if cfg.noColor && !cfg.colorNone then removeColor env buf else buf)).map
        (fun p => (p.1, if cfg.colorNone then none else p.2)) :=
  filterMap_renderSeg_stream cfg env _

theorem exportPlain_removeColor (env : StyleEnv σ) (buf : List (Segment σ)) :
    exportPlain (removeColor env buf) = exportPlain buf := by
  induction buf with
  | nil => rfl
  | cons seg buf ih =>
    simp only [removeColor, List.map_cons] at ih ⊢
    rw [exportPlain_cons, exportPlain_cons, ih]
    congr 1
    cases seg.style with
    | none => rfl
    | some s => simp only; split <;> rfl

/-- **What reaches the file shows exactly the non-control text of the buffer** — for every colour system,
terminal or not, NO_COLOR or not. -/
theorem renderPieces_visible (cfg : Config) (env : StyleEnv σ) (buf : List (Segment σ)) :
    visiblePieces (renderPieces cfg env buf) = exportPlain buf := by
  rw [visiblePieces_eq_stream, renderPieces_stream, List.map_map]
  refine (exportPlain_eq_segStream env _).symm.trans ?_
  split
  · exact exportPlain_removeColor env buf
  · rfl

theorem renderPieces_append (cfg : Config) (env : StyleEnv σ) (a b : List (Segment σ)) :
    renderPieces cfg env (a ++ b) = renderPieces cfg env a ++ renderPieces cfg env b := by
  unfold renderPieces
  simp only
  split <;> simp [removeColor, List.filterMap_append]

@[simp] theorem renderPieces_nil (cfg : Config) (env : StyleEnv σ) : renderPieces cfg env ([] : List (Segment σ)) = [] := by
  unfold renderPieces; simp [removeColor]

theorem removeColor_append (env : StyleEnv σ) (a b : List (Segment σ)) :
    removeColor env (a ++ b) = removeColor env a ++ removeColor env b := by
  simp [removeColor]

/-- The styled export is a rendering: that of a colour-writing terminal whose wrappers are the TRUECOLOR ones. -/
theorem exportStyledPieces_eq_render (env : StyleEnv σ) (rec : List (Segment σ)) (cfg : Config)
    (ht : cfg.isTerminal = true) (hc : cfg.colorNone = false) :
    exportStyledPieces env rec = rec.filterMap (renderSeg cfg { env with pre := env.preT, post := env.postT }) := by
  induction rec with
  | nil => rfl
  | cons seg rec ih =>
    rw [List.filterMap_cons, exportStyledPieces, List.map_cons, ← exportStyledPieces, ih]
    simp only [renderSeg, ht, hc, Bool.not_true, Bool.false_and, Bool.false_eq_true, if_false]
    cases seg.style with
    | none => rfl
    | some s => simp only; split <;> rfl

theorem exportStyledPieces_stream (env : StyleEnv σ) (rec : List (Segment σ)) :
    pieceStream (exportStyledPieces env rec) = segStream env rec := by
  rw [exportStyledPieces_eq_render env rec ⟨false, false, true, false, false, false⟩ rfl rfl, filterMap_renderSeg_stream]
  exact List.map_id' _

theorem exportStyledPieces_visible (env : StyleEnv σ) (rec : List (Segment σ)) :
    visiblePieces (exportStyledPieces env rec) = exportPlain rec := by
  rw [visiblePieces_eq_stream, exportStyledPieces_stream, ← exportPlain_eq_segStream]

/-! ## the file as a function of the flushed buffers -/

/-- What flushing the buffers `bufs` (in order) adds to the file: their renderings, empty strings skipped. -/
def written (cfg : Config) (env : StyleEnv σ) (bufs : List (List (Segment σ))) : List (List (Piece σ)) :=
  (bufs.map (renderPieces cfg env)).filter (fun ps => !(flat ps).isEmpty)

@[simp] theorem written_nil (cfg : Config) (env : StyleEnv σ) : written cfg env ([] : List (List (Segment σ))) = [] := rfl

theorem written_append (cfg : Config) (env : StyleEnv σ) (a b : List (List (Segment σ))) :
    written cfg env (a ++ b) = written cfg env a ++ written cfg env b := by
  simp [written]

theorem written_cons (cfg : Config) (env : StyleEnv σ) (b : List (Segment σ)) (bs : List (List (Segment σ))) :
    written cfg env (b :: bs) =
      (if (flat (renderPieces cfg env b)).isEmpty then [] else [renderPieces cfg env b]) ++ written cfg env bs := by
  unfold written
  by_cases h : (flat (renderPieces cfg env b)).isEmpty = true <;> simp [h]

theorem written_singleton (cfg : Config) (env : StyleEnv σ) (b : List (Segment σ)) :
    written cfg env [b] = if (flat (renderPieces cfg env b)).isEmpty then [] else [renderPieces cfg env b] := by
  rw [written_cons, written_nil, List.append_nil]

/-- Any reading `F` of a rendering that is additive and sees nothing in a rendering that denotes the empty string (the
string itself, the visible text, the (character, style) stream) reads the file as it reads the rendering of all
flushed buffers laid end to end: neither the cuts between writes nor the skipped empty writes show. -/
theorem reading_written {α : Type} (cfg : Config) (env : StyleEnv σ) (F : List (Piece σ) → List α)
    (hFa : ∀ a b, F (a ++ b) = F a ++ F b) (hF0 : ∀ ps, flat ps = [] → F ps = []) (bufs : List (List (Segment σ))) :
    F (written cfg env bufs).flatten = F (renderPieces cfg env bufs.flatten) := by
  induction bufs with
  | nil => rw [written_nil, List.flatten_nil, List.flatten_nil, renderPieces_nil]
  | cons b bs ih =>
    rw [written_cons, List.flatten_append, hFa, ih, List.flatten_cons, renderPieces_append, hFa]
    congr 1
    split
    · rename_i h
      rw [List.flatten_nil, hF0 [] rfl, hF0 _ (List.isEmpty_iff.mp h)]
    · rw [List.flatten_cons, List.flatten_nil, List.append_nil]

theorem flat_written (cfg : Config) (env : StyleEnv σ) (bufs : List (List (Segment σ))) :
    flat (written cfg env bufs).flatten = flat (renderPieces cfg env bufs.flatten) :=
  reading_written cfg env flat flat_append (fun _ h => h) bufs

theorem fileVisible_written (cfg : Config) (env : StyleEnv σ) (bufs : List (List (Segment σ))) :
    fileVisible (written cfg env bufs) = exportPlain bufs.flatten :=
  (reading_written cfg env visiblePieces visiblePieces_append visible_of_flat_nil bufs).trans
    (renderPieces_visible cfg env _)

theorem pieceStream_written (cfg : Config) (env : StyleEnv σ) (bufs : List (List (Segment σ))) :
    pieceStream (written cfg env bufs).flatten = pieceStream (renderPieces cfg env bufs.flatten) :=
  reading_written cfg env pieceStream pieceStream_append stream_of_flat_nil bufs

/-! ## `_check_buffer` -/

theorem checkBuffer_inside (v : Variant) (cfg : Config) (env : StyleEnv σ) (s : State σ) (h : s.index ≠ 0) :
    checkBuffer v cfg env s = s := by
  unfold checkBuffer
  rw [if_neg (by simpa using h)]

/-- The same in both variants: the buffer is recorded next to the write or inside `_render_buffer`. -/
theorem checkBuffer_outside (v : Variant) (cfg : Config) (env : StyleEnv σ) (s : State σ) (h : s.index = 0) :
    checkBuffer v cfg env s =
      { s with buffer := [], record := if cfg.record then s.record ++ s.buffer else s.record,
               file := s.file ++ written cfg env [s.buffer] } := by
  have hf : s.file ++ written cfg env [s.buffer] =
      if (flat (renderPieces cfg env s.buffer)).isEmpty then s.file else s.file ++ [renderPieces cfg env s.buffer] := by
    rw [written_singleton]; split <;> simp
  unfold checkBuffer
  rw [if_pos (by simp [h]), hf]
  simp only [renderBuffer]
  cases v.recordInRender <;> cases cfg.record <;> rfl

theorem checkBuffer_index (v : Variant) (cfg : Config) (env : StyleEnv σ) (s : State σ) :
    (checkBuffer v cfg env s).index = s.index := by
  unfold checkBuffer; split <;> rfl

theorem checkBuffer_marks (v : Variant) (cfg : Config) (env : StyleEnv σ) (s : State σ) :
    (checkBuffer v cfg env s).marks = s.marks := by
  unfold checkBuffer; split <;> rfl

theorem checkBuffer_idle (v : Variant) (cfg : Config) (env : StyleEnv σ) (s : State σ)
    (h : s.index = 0 → s.buffer = []) : checkBuffer v cfg env s = s := by
  by_cases hi : s.index = 0
  · rw [checkBuffer_outside v cfg env s hi]
    cases s
    simp_all [written_singleton]
  · exact checkBuffer_inside v cfg env s hi

/-- The depth is not negative, and at depth zero — outside every block of either kind — the thread's buffer is empty. -/
structure OutsideEmpty (s : State σ) : Prop where
  nonneg : 0 ≤ s.index
  empty : s.index = 0 → s.buffer = []

theorem checkBuffer_outsideEmpty (v : Variant) (cfg : Config) (env : StyleEnv σ) (s : State σ) (hi : 0 ≤ s.index) :
    OutsideEmpty (checkBuffer v cfg env s) := by
  refine ⟨by rw [checkBuffer_index]; exact hi, fun h0 => ?_⟩
  rw [checkBuffer_index] at h0
  rw [checkBuffer_outside v cfg env s h0]

/-- `s'` extends `s` by flushing some buffers: the record grew by exactly those buffers and the file by exactly
their (non-empty) renderings, in the same order. -/
def Tracks (cfg : Config) (env : StyleEnv σ) (s s' : State σ) : Prop :=
  ∃ bufs : List (List (Segment σ)), s'.record = s.record ++ bufs.flatten ∧ s'.file = s.file ++ written cfg env bufs

theorem Tracks.of_eq (cfg : Config) (env : StyleEnv σ) {s s' : State σ} (hr : s'.record = s.record) (hf : s'.file = s.file) :
    Tracks cfg env s s' := ⟨[], by simp [hr], by simp [hf]⟩

theorem Tracks.refl (cfg : Config) (env : StyleEnv σ) (s : State σ) : Tracks cfg env s s := .of_eq cfg env rfl rfl

theorem Tracks.trans {cfg : Config} {env : StyleEnv σ} {a b c : State σ}
    (h1 : Tracks cfg env a b) (h2 : Tracks cfg env b c) : Tracks cfg env a c := by
  obtain ⟨b1, r1, f1⟩ := h1
  obtain ⟨b2, r2, f2⟩ := h2
  exact ⟨b1 ++ b2, by simp [r2, r1], by simp [f2, f1, written_append]⟩

theorem Tracks.export_eq_visible {cfg : Config} {env : StyleEnv σ} {s s' : State σ} (h : Tracks cfg env s s')
    (h0 : s.record = []) : ∃ W, s'.file = s.file ++ W ∧ exportPlain s'.record = fileVisible W := by
  obtain ⟨bufs, h1, h2⟩ := h
  exact ⟨written cfg env bufs, h2, by rw [h1, h0, List.nil_append, fileVisible_written]⟩

theorem checkBuffer_tracks (v : Variant) (cfg : Config) (env : StyleEnv σ) (s : State σ) (hr : cfg.record = true) :
    Tracks cfg env s (checkBuffer v cfg env s) := by
  by_cases h : s.index = 0
  · rw [checkBuffer_outside v cfg env s h]; exact ⟨[s.buffer], by simp [hr], rfl⟩
  · rw [checkBuffer_inside v cfg env s h]; exact .refl cfg env s

/-- Exports that empty the record. -/
def isClearing : Op σ → Bool
  | .exportText clr _ => clr
  | .exportHtml clr _ _ => clr
  | _ => false

/-- The segments an operation appends to the thread's buffer. -/
def appended (cfg : Config) : Op σ → List (Segment σ)
  | .print segs => segs
  | .line count => if count != 0 then [{ text := List.replicate count '\n', style := none, control := false }] else []
  | .control codes => if !cfg.isDumbTerminal then [{ text := codes, style := none, control := true }] else []
  | .bell => if !cfg.isDumbTerminal then [{ text := ['\x07'], style := none, control := true }] else []
  | .clear home =>
    if !cfg.isDumbTerminal then
      [{ text := if home then "\x1b[2J\x1b[H".toList else "\x1b[2J".toList, style := none, control := true }] else []
  | .showCursor sh =>
    if cfg.isTerminal && !cfg.legacyWindows then
      if !cfg.isDumbTerminal then
        [{ text := if sh then "\x1b[?25h".toList else "\x1b[?25l".toList, style := none, control := true }] else []
    else []
  | _ => []

/-- `export_text` / `export_html`. -/
def isExport : Op σ → Bool
  | .exportText _ _ => true
  | .exportHtml _ _ _ => true
  | _ => false

/-- Operations that change the nesting depth: begin_capture / end_capture, and entering / leaving `with console:`. -/
def isCapture : Op σ → Bool
  | .beginCapture => true
  | .endCapture => true
  | .enterBuffer => true
  | .exitBuffer => true
  | _ => false

/-- entering / leaving `with console:` -/
def isBufferCtx : Op σ → Bool
  | .enterBuffer => true
  | .exitBuffer => true
  | _ => false

theorem isExport_of_isClearing {op : Op σ} (h : isClearing op = true) : isExport op = true := by
  cases op <;> first | rfl | cases h

theorem not_isClearing_of_not_isExport {op : Op σ} (h : isExport op = false) : isClearing op = false :=
  Bool.eq_false_iff.mpr fun hc => by rw [isExport_of_isClearing hc] at h; cases h

theorem not_isCapture_of_isExport {op : Op σ} (h : isExport op = true) : isCapture op = false := by
  cases op <;> first | rfl | cases h

/-- The state in which an operation reaches `_check_buffer` — or ends, if it does not call it: the buffer extended by what
the operation appends (cut where the block began, for `end_capture`), the depth moved, the marks pushed or popped, the
record emptied by a clearing export (extended by `_render_buffer` in `end_capture`, in the variant that records there). -/
def staged (v : Variant) (cfg : Config) (env : StyleEnv σ) (s : State σ) : Op σ → State σ
  | .beginCapture =>
    { s with index := s.index + 1, marks := if v.captureMarks then s.buffer.length :: s.marks else s.marks }
  | .endCapture =>
    let k := if v.captureMarks then s.marks.headD 0 else 0
    { s with buffer := s.buffer.take k, index := s.index - 1,
             record := (renderBuffer v cfg env (s.buffer.drop k) s.record).2,
             marks := if v.captureMarks then s.marks.tail else s.marks }
  | .enterBuffer => { s with index := s.index + 1 }
  | .exitBuffer => { s with index := s.index - 1 }
  | op => { s with buffer := s.buffer ++ appended cfg op,
                   record := if isClearing op && cfg.record then [] else s.record }

/-- The net change of depth over *any* sequence: +1 for every `begin_capture` and every entering of `with console:`, −1 for
every `end_capture` and every leaving. -/
def depthDelta : List (Op σ) → Int
  | [] => 0
  | .beginCapture :: rest => 1 + depthDelta rest
  | .endCapture :: rest => -1 + depthDelta rest
  | .enterBuffer :: rest => 1 + depthDelta rest
  | .exitBuffer :: rest => -1 + depthDelta rest
  | _ :: rest => depthDelta rest

theorem depthDelta_cons (op : Op σ) (rest : List (Op σ)) : depthDelta (op :: rest) = depthDelta [op] + depthDelta rest := by
  cases op <;> simp [depthDelta]

theorem staged_index (v : Variant) (cfg : Config) (env : StyleEnv σ) (s : State σ) (op : Op σ) :
    (staged v cfg env s op).index = s.index + depthDelta [op] := by
  cases op <;> simp only [staged, depthDelta] <;> omega

theorem staged_file (v : Variant) (cfg : Config) (env : StyleEnv σ) (s : State σ) (op : Op σ) :
    (staged v cfg env s op).file = s.file := by
  cases op <;> rfl

theorem staged_plain (v : Variant) (cfg : Config) (env : StyleEnv σ) (s : State σ) (op : Op σ)
    (hop : isCapture op = false) :
    staged v cfg env s op =
      { s with buffer := s.buffer ++ appended cfg op, record := if isClearing op && cfg.record then [] else s.record } := by
  cases op <;> first | rfl | cases hop

/-- Whether an operation calls `_check_buffer`: `print`, `end_capture` and leaving `with console:` always, the others
if they appended something. -/
def flushes (cfg : Config) : Op σ → Bool
  | .print _ | .endCapture | .exitBuffer => true
  | op => !(appended cfg op).isEmpty

theorem staged_quiet (v : Variant) (cfg : Config) (env : StyleEnv σ) (s : State σ) (op : Op σ)
    (h : flushes cfg op = false) :
    (staged v cfg env s op).buffer = s.buffer ∧ s.index ≤ (staged v cfg env s op).index := by
  cases op with
  | beginCapture | enterBuffer => exact ⟨rfl, by simp only [staged]; omega⟩
  | print | endCapture | exitBuffer => cases h
  | _ =>
    simp only [flushes, Bool.not_eq_false', List.isEmpty_iff] at h
    exact ⟨by simp only [staged, h, List.append_nil], Int.le_refl _⟩

theorem not_flushes_of_isExport (cfg : Config) {op : Op σ} (h : isExport op = true) : flushes cfg op = false := by
  cases op <;> first | rfl | cases h

variable [BEq σ]

/-- **Every operation stages its effect and then calls `_check_buffer` or not.**  The file is touched by `_check_buffer`
only. -/
theorem step_eq (v : Variant) (cfg : Config) (env : StyleEnv σ) (s : State σ) (op : Op σ) :
    (step v cfg env s op).1 =
      if flushes cfg op then checkBuffer v cfg env (staged v cfg env s op) else staged v cfg env s op := by
  -- the right side for an operation that appended nothing
  have quiet : ∀ r, { s with record := r } = ({ s with buffer := s.buffer ++ [], record := r } : State σ) :=
    fun r => by rw [List.append_nil]
  cases op with
  | print segs =>
    show checkBuffer v cfg env { s with index := s.index + 1 - 1, buffer := s.buffer ++ segs } = _
    rw [Int.add_sub_cancel]; rfl
  | line count => cases count <;> first | rfl | exact quiet _
  | control codes | bell | clear home =>
    show control v cfg env s _ = _
    unfold control flushes staged appended
    cases cfg.isDumbTerminal <;> first | rfl | exact quiet _
  | showCursor sh =>
    unfold step control flushes staged appended
    cases cfg.isTerminal && !cfg.legacyWindows <;> cases cfg.isDumbTerminal <;> first | rfl | exact quiet _
  | exportText clr styles | exportHtml clr inline o =>
    refine Eq.trans ?_ (quiet _)
    simp only [step, isClearing]
    cases cfg.record <;> cases clr <;> rfl
  | _ => rfl

/-- From a state that is `OutsideEmpty` every operation ends as if with `_check_buffer`, called or not. -/
theorem step_settled (v : Variant) (cfg : Config) (env : StyleEnv σ) (s : State σ) (op : Op σ)
    (h : OutsideEmpty s) : (step v cfg env s op).1 = checkBuffer v cfg env (staged v cfg env s op) := by
  rw [step_eq]
  split
  · rfl
  · rename_i hf
    obtain ⟨hb, hi⟩ := staged_quiet v cfg env s op (by simpa using hf)
    rw [checkBuffer_idle]
    intro h0
    rw [hb]
    exact h.empty (by have := h.nonneg; omega)

theorem step_inside (v : Variant) (cfg : Config) (env : StyleEnv σ) (s : State σ) (op : Op σ)
    (hi : s.index ≠ 0) (hop : isCapture op = false) :
    (step v cfg env s op).1 = { s with buffer := s.buffer ++ appended cfg op,
                                        record := if isClearing op && cfg.record then [] else s.record } := by
  rw [step_eq, staged_plain v cfg env s op hop]
  split
  · exact checkBuffer_inside v cfg env _ (by exact hi)
  · rfl

theorem step_outside (v : Variant) (cfg : Config) (env : StyleEnv σ) (s : State σ) (op : Op σ)
    (hi : s.index = 0) (hb : s.buffer = []) (hop : isCapture op = false) :
    (step v cfg env s op).1 =
      { s with record := if isClearing op && cfg.record then [] else
                 if cfg.record then s.record ++ appended cfg op else s.record,
               file := s.file ++ written cfg env [appended cfg op] } := by
  rw [step_settled v cfg env s op ⟨by omega, fun _ => hb⟩, staged_plain v cfg env s op hop,
    checkBuffer_outside v cfg env _ (by exact hi)]
  cases hc : isClearing op
  · simp [hb]
  · -- a clearing export appends nothing
    have ha : appended cfg op = [] := by cases op <;> first | rfl | cases hc
    cases cfg.record <;> simp [hb, ha]

theorem step_clearing_record (v : Variant) (cfg : Config) (env : StyleEnv σ) (s : State σ) (op : Op σ)
    (hr : cfg.record = true) (hop : isClearing op = true) : (step v cfg env s op).1.record = [] := by
  have he := isExport_of_isClearing hop
  rw [step_eq, not_flushes_of_isExport cfg he, staged_plain v cfg env s op (not_isCapture_of_isExport he)]
  simp [hop, hr]

/-! ## the record and the file grow in step -/

theorem step_tracks (v : Variant) (cfg : Config) (env : StyleEnv σ) (s : State σ) (op : Op σ)
    (hv : v.recordInRender = false) (hr : cfg.record = true) (hop : isClearing op = false) :
    Tracks cfg env s (step v cfg env s op).1 := by
  -- staging touches the record only in a clearing export (excluded by `hop`) and, in `end_capture`, only in the variant
  -- that records in `_render_buffer` (excluded by `hv`)
  have h0 : Tracks cfg env s (staged v cfg env s op) :=
    .of_eq cfg env (by cases op <;> simp_all [staged, renderBuffer, isClearing]) (staged_file v cfg env s op)
  rw [step_eq]
  split
  · exact h0.trans (checkBuffer_tracks v cfg env _ hr)
  · exact h0

theorem exec_nil (v : Variant) (cfg : Config) (env : StyleEnv σ) (s : State σ) : exec v cfg env [] s = s := rfl

theorem exec_cons (v : Variant) (cfg : Config) (env : StyleEnv σ) (op : Op σ) (ops : List (Op σ)) (s : State σ) :
    exec v cfg env (op :: ops) s = exec v cfg env ops (step v cfg env s op).1 := rfl

theorem exec_append (v : Variant) (cfg : Config) (env : StyleEnv σ) (a b : List (Op σ)) (s : State σ) :
    exec v cfg env (a ++ b) s = exec v cfg env b (exec v cfg env a s) := by
  induction a generalizing s with
  | nil => rfl
  | cons op a ih => simp only [List.cons_append, exec_cons, ih]

theorem exec_tracks (v : Variant) (cfg : Config) (env : StyleEnv σ) (ops : List (Op σ)) (s : State σ)
    (hv : v.recordInRender = false) (hr : cfg.record = true) (hops : ops.all (fun op => !isClearing op) = true) :
    Tracks cfg env s (exec v cfg env ops s) := by
  induction ops generalizing s with
  | nil => exact Tracks.refl cfg env s
  | cons op ops ih =>
    simp only [List.all_cons, Bool.and_eq_true, Bool.not_eq_true'] at hops
    rw [exec_cons]
    exact (step_tracks v cfg env s op hv hr hops.1).trans (ih _ hops.2)

/-- What the file shows after a clearing-free history from the fresh console, as one equation for every colour
configuration: `renderPieces_stream` of the record. -/
theorem exec_file_stream (v : Variant) (cfg : Config) (env : StyleEnv σ) (ops : List (Op σ))
    (hv : v.recordInRender = false) (hr : cfg.record = true) (hops : ops.all (fun op => !isClearing op) = true) :
    pieceStream (exec v cfg env ops {}).file.flatten =
      (segStream env (if cfg.noColor && !cfg.colorNone then removeColor env (exec v cfg env ops {}).record
        else (exec v cfg env ops {}).record)).map (fun p => (p.1, if cfg.colorNone then none else p.2)) := by
  obtain ⟨bufs, h1, h2⟩ := exec_tracks v cfg env ops {} hv hr hops
  rw [h1, h2, List.nil_append, List.nil_append, pieceStream_written, renderPieces_stream]

/-! ## histories without bracket operations -/

theorem exec_inside (v : Variant) (cfg : Config) (env : StyleEnv σ) (ops : List (Op σ)) (s : State σ)
    (hi : s.index ≠ 0) (hops : ops.all (fun op => !isCapture op) = true) :
    exec v cfg env ops s = { s with buffer := s.buffer ++ ops.flatMap (appended cfg),
                                    record := if ops.any isClearing && cfg.record then [] else s.record } := by
  induction ops generalizing s with
  | nil => simp [exec_nil]
  | cons op ops ih =>
    simp only [List.all_cons, Bool.and_eq_true, Bool.not_eq_true'] at hops
    have h1 := step_inside v cfg env s op hi hops.1
    rw [exec_cons, ih _ (by rw [h1]; exact hi) hops.2, h1]
    cases hc : isClearing op <;> cases cfg.record <;> simp [hc]

theorem exec_outside (v : Variant) (cfg : Config) (env : StyleEnv σ) (ops : List (Op σ)) (s : State σ)
    (hi : s.index = 0) (hb : s.buffer = []) (hops : ops.all (fun op => !isCapture op) = true) :
    ∃ r, exec v cfg env ops s = { s with record := r, file := s.file ++ written cfg env (ops.map (appended cfg)) } ∧
      (ops.all (fun op => !isClearing op) = true →
        r = if cfg.record then s.record ++ ops.flatMap (appended cfg) else s.record) := by
  induction ops generalizing s with
  | nil => exact ⟨s.record, by simp [exec_nil], fun _ => by simp⟩
  | cons op ops ih =>
    simp only [List.all_cons, Bool.and_eq_true, Bool.not_eq_true'] at hops ⊢
    have h1 := step_outside v cfg env s op hi hb hops.1
    obtain ⟨r, e, hr⟩ := ih (step v cfg env s op).1 (by rw [h1]; exact hi) (by rw [h1]; exact hb) hops.2
    refine ⟨r, by rw [exec_cons, e, h1]; simp [written_cons], fun hcl => ?_⟩
    rw [hr hcl.2, h1]; cases cfg.record <;> simp [hcl.1]

/-- `end_capture` in any state: it returns the rendering of the buffer above the cut — the innermost mark if the variant keeps
marks, 0 if not — and stages the rest (`staged`). -/
theorem step_endCapture (v : Variant) (cfg : Config) (env : StyleEnv σ) (s : State σ) :
    step v cfg env s .endCapture =
      (checkBuffer v cfg env (staged v cfg env s .endCapture),
       .captured (flat (renderPieces cfg env (s.buffer.drop (if v.captureMarks then s.marks.headD 0 else 0))))) := rfl

/-- **A capture block** `begin_capture; inner; end_capture` around operations that are not bracket operations, opened in
any state at a depth other than -1, in every variant.  Until `end_capture` only the buffer grows, to `B` (and the record is
emptied, to `r`, if `inner` exports with `clear`); `end_capture` cuts `B` at `k` — where the block began if the variant keeps
marks, at 0 if not —, returns the rendering of the upper part, hands it to `_render_buffer` for its record side effect,
restores depth and marks and calls `_check_buffer` on the lower part. -/
theorem capture_block (v : Variant) (cfg : Config) (env : StyleEnv σ) (s : State σ) (inner : List (Op σ))
    (hi : s.index + 1 ≠ 0) (hinner : inner.all (fun op => !isCapture op) = true) :
    let B := s.buffer ++ inner.flatMap (appended cfg)
    let k := if v.captureMarks then s.buffer.length else 0
    let r := if inner.any isClearing && cfg.record then [] else s.record
    exec v cfg env (.beginCapture :: inner) s =
        { s with buffer := B, index := s.index + 1, record := r,
                 marks := if v.captureMarks then s.buffer.length :: s.marks else s.marks } ∧
      step v cfg env (exec v cfg env (.beginCapture :: inner) s) .endCapture =
        (checkBuffer v cfg env { s with buffer := B.take k, record := (renderBuffer v cfg env (B.drop k) r).2 },
         .captured (flat (renderPieces cfg env (B.drop k)))) := by
  have e := exec_inside v cfg env inner (step v cfg env s .beginCapture).1 hi hinner
  refine ⟨by rw [exec_cons, e]; rfl, ?_⟩
  rw [step_endCapture, exec_cons, e]
  simp only [staged, step, Int.add_sub_cancel]
  cases v.captureMarks <;> rfl

/-- When the cut falls where the block began — the variant keeps marks, or the buffer was empty then — the block returns the
rendering of what `inner` appended, and `_check_buffer` finds the state from before the block, but for the record. -/
theorem capture_block_own (v : Variant) (cfg : Config) (env : StyleEnv σ) (s : State σ) (inner : List (Op σ))
    (hi : s.index + 1 ≠ 0) (hinner : inner.all (fun op => !isCapture op) = true)
    (hown : v.captureMarks = true ∨ s.buffer = []) :
    let own := inner.flatMap (appended cfg)
    let r := if inner.any isClearing && cfg.record then [] else s.record
    step v cfg env (exec v cfg env (.beginCapture :: inner) s) .endCapture =
      (checkBuffer v cfg env { s with record := (renderBuffer v cfg env own r).2 },
       .captured (flat (renderPieces cfg env own))) := by
  rw [(capture_block v cfg env s inner hi hinner).2]
  rcases hown with h | h
  · rw [h, if_pos rfl, List.take_left, List.drop_left]
  · simp [h]

/-- Where the record is appended to in `_check_buffer` only, a capture block records nothing — at any depth, with marks or
without: the `_render_buffer` of `end_capture` has no side effect, and its `_check_buffer` finds nothing to flush (at depth
zero the buffer below the cut is the empty buffer from before the block). -/
theorem capture_block_record (v : Variant) (cfg : Config) (env : StyleEnv σ) (s : State σ) (inner : List (Op σ))
    (hv : v.recordInRender = false) (hs : OutsideEmpty s) (hinner : inner.all (fun op => !isCapture op) = true) :
    (step v cfg env (exec v cfg env (.beginCapture :: inner) s) .endCapture).1.record =
      if inner.any isClearing && cfg.record then [] else s.record := by
  rw [(capture_block v cfg env s inner (by have := hs.nonneg; omega) hinner).2,
    checkBuffer_idle v cfg env _ fun h0 => by simp [hs.empty h0]]
  simp [renderBuffer, hv]

/-! ## well-nested histories (the vocabulary of `C15.reachable_outside_empty`) -/

/-- Capture blocks are never closed more often than opened (`d` = current depth). -/
def wellNested : Nat → List (Op σ) → Bool
  | _, [] => true
  | d, .beginCapture :: rest => wellNested (d + 1) rest
  | d, .endCapture :: rest => d != 0 && wellNested (d - 1) rest
  | _, .enterBuffer :: _ => false   -- `with console:` blocks are outside the nesting statements
  | _, .exitBuffer :: _ => false
  | d, _ :: rest => wellNested d rest

/-! ## several consoles (the vocabulary of `C15.consoles_do_not_interfere`) -/

/-- Several consoles alive together: console `k` has its own configuration, style table and state; an operation is
addressed to one console. -/
def multiStep (v : Variant) (cfgs : Nat → Config) (envs : Nat → StyleEnv σ) (sts : Nat → State σ)
    (k : Nat) (op : Op σ) : (Nat → State σ) × Out :=
  let r := step v (cfgs k) (envs k) (sts k) op
  (fun j => if j = k then r.1 else sts j, r.2)

/-- An interleaved history: (console, operation) pairs; answers tagged with their console. -/
def multiRun (v : Variant) (cfgs : Nat → Config) (envs : Nat → StyleEnv σ) :
    List (Nat × Op σ) → (Nat → State σ) → (Nat → State σ) × List (Nat × Out)
  | [], sts => (sts, [])
  | (k, op) :: rest, sts =>
    let r := multiStep v cfgs envs sts k op
    let r2 := multiRun v cfgs envs rest r.1
    (r2.1, (k, r.2) :: r2.2)

/-- the operations addressed to console `k`, in order -/
def projOps (k : Nat) (sched : List (Nat × Op σ)) : List (Op σ) :=
  (sched.filter (fun p => p.1 == k)).map (·.2)

/-- the answers console `k` got, in order -/
def projOuts (k : Nat) (outs : List (Nat × Out)) : List Out :=
  (outs.filter (fun p => p.1 == k)).map (·.2)

end RichModel.Console
