import RichModel.Lemmas.Syntax
/-
The ranged path of `Syntax.highlight` (line_tokenize + tokens_to_spans) yields the text up to and including a certain
newline (`highlight_ranged`).
-/
namespace RichModel.Syntax

/-- A piece produced by `line_tokenize`: newline-free, optionally followed by one newline. -/
def LinePiece (p : Line) : Prop := ∃ x, '\n' ∉ x ∧ (p = x ++ ['\n'] ∨ p = x)

theorem takeThroughNL_piece {p : Line} (hp : LinePiece p) {k : Nat} (hk : 1 ≤ k) (r : List Char) :
    takeThroughNL k (p ++ r) = p ++ takeThroughNL (if endsNL p then k - 1 else k) r := by
  obtain ⟨k, rfl⟩ := Nat.exists_eq_add_of_le' hk
  obtain ⟨x, hx, rfl | rfl⟩ := hp
  · rw [endsNL_append_singleton, List.append_assoc, List.singleton_append, takeThroughNL_line x r k hx]
    simp
  · rw [endsNL_false_of_not_mem hx]
    simpa using takeThroughNL_noNL_append p r k hx

theorem pieces_flatten (s : List Char) : (pieces s).flatten = s := by
  fun_induction pieces s <;> simp_all

theorem LinePiece.cons {c : Char} (hc : c ≠ '\n') {q : Line} : LinePiece q → LinePiece (c :: q)
  | ⟨x, hx, hq⟩ => ⟨c :: x, by simp [hx, hc.symm], hq.imp (by simp [·]) (by simp [·])⟩

theorem pieces_ok (s : List Char) : ∀ p ∈ pieces s, LinePiece p := by
  fun_induction pieces s with
  | case1 => simp
  | case2 c rest hc ih => simpa using ⟨⟨[], by simp⟩, ih⟩
  | case3 c rest hc h0 ih => simpa using LinePiece.cons (by simpa using hc) ⟨[], by simp⟩
  | case4 c rest hc q qs h0 ih =>
    rw [h0] at ih
    simp only [List.forall_mem_cons] at ih ⊢
    exact ⟨ih.1.cons (by simpa using hc), ih.2⟩

theorem lineTokenize_flatten (toks : List Line) : (lineTokenize toks).flatten = toks.flatten := by
  induction toks <;> simp_all [lineTokenize, pieces_flatten]

theorem lineTokenize_ok (toks : List Line) : ∀ p ∈ lineTokenize toks, LinePiece p := by
  intro p hp
  simp only [lineTokenize, List.mem_flatMap] at hp
  obtain ⟨t, _, h⟩ := hp
  exact pieces_ok t p h

/-- How many more newlines the take loop lets through when it stands at line count `ln`: it always takes the line it is
on, and stops after the newline that brings the count to `lineEnd`. -/
def linesLeft (lineEnd : Int) (ln : Nat) : Nat := max 1 (lineEnd - ln).toNat

theorem linesLeft_pos (le : Int) (ln : Nat) : 1 ≤ linesLeft le ln := Nat.le_max_left _ _

theorem linesLeft_last {le : Int} {ln : Nat} (h : ((ln + 1 : Nat) : Int) ≥ le) : linesLeft le ln = 1 := by
  unfold linesLeft; omega

theorem linesLeft_succ {le : Int} {ln : Nat} (h : ¬ ((ln + 1 : Nat) : Int) ≥ le) :
    linesLeft le ln = linesLeft le (ln + 1) + 1 := by
  unfold linesLeft; omega

theorem takeLoop_flatten (le : Int) (ps : List Line) (ln : Nat) (h : ∀ p ∈ ps, LinePiece p) :
    (takeLoop le ln ps).flatten = takeThroughNL (linesLeft le ln) ps.flatten := by
  induction ps generalizing ln with
  | nil => simp [takeLoop]
  | cons p rest ih =>
    obtain ⟨hp, hr⟩ := List.forall_mem_cons.mp h
    rw [List.flatten_cons, takeThroughNL_piece hp (linesLeft_pos le ln), takeLoop]
    cases he : endsNL p with
    | true =>
      by_cases hge : ((ln + 1 : Nat) : Int) ≥ le
      · simp only [if_true, if_pos hge, linesLeft_last hge]
        simp
      · simp only [if_true, if_neg hge, List.flatten_cons, ih (ln + 1) hr, linesLeft_succ hge,
          Nat.add_sub_cancel]
    | false => simp only [Bool.false_eq_true, if_false, List.flatten_cons, ih ln hr]

/-- The skip loop, `d` lines before its target, followed by the take loop: the newlines of the `d` lines skipped, then
those the take loop lets through from line `target` on. -/
theorem skip_take_flatten (target : Nat) (le : Int) (ps : List Line) (hps : ∀ p ∈ ps, LinePiece p) (ln d : Nat)
    (hd : ln + d = target) :
    ∃ y ln' r, skipLoop false target ln ps = .ok (y, ln', r) ∧
      (y ++ takeLoop le ln' r).flatten = takeThroughNL (d + linesLeft le target) ps.flatten := by
  induction ps generalizing ln d with
  | nil =>
    refine ⟨[], ln, [], ?_, by simp [takeLoop]⟩
    unfold skipLoop; split <;> rfl
  | cons p rest ih =>
    cases d with
    | zero =>
      subst hd
      exact ⟨[], ln, p :: rest, by rw [skipLoop]; simp, by simp [takeLoop_flatten le (p :: rest) ln hps]⟩
    | succ d =>
      obtain ⟨hp, hr⟩ := List.forall_mem_cons.mp hps
      have hlt : ln < target := by omega
      obtain ⟨y, ln', r, hs, hf⟩ := ih hr (if endsNL p then ln + 1 else ln) (if endsNL p then d else d + 1)
        (by split <;> omega)
      refine ⟨p :: y, ln', r, by rw [skipLoop, if_pos hlt, hs], ?_⟩
      rw [List.flatten_cons, takeThroughNL_piece hp (by omega), List.cons_append, List.flatten_cons, hf]
      congr 2
      cases endsNL p <;> simp

/-- Which newline the ranged text ends after. -/
def rangeEnd (a b : Int) : Nat := (a - 1).toNat + max 1 (b - ((a - 1).toNat : Int)).toNat

theorem rangeEnd_ge (a b : Int) : b.toNat ≤ rangeEnd a b ∧ (a - 1).toNat + 1 ≤ rangeEnd a b := by
  refine ⟨?_, Nat.add_le_add_left (linesLeft_pos b _) _⟩
  unfold rangeEnd
  generalize (a - 1).toNat = t
  omega

/-- The ranged path of the repaired `highlight`: the token text up to the end of line
`max(line_end, line_start, 1)` (everything, when the text has fewer lines). -/
theorem highlight_ranged (toks : List Line) (code : List Char) (a b : Int) :
    highlight false true toks code (some (a, b)) = .ok (takeThroughNL (rangeEnd a b) toks.flatten) := by
  obtain ⟨y, ln', r, hs, hf⟩ :=
    skip_take_flatten (a - 1).toNat b (lineTokenize toks) (lineTokenize_ok toks) 0 _ (Nat.zero_add _)
  unfold highlight
  simp only [Bool.not_true, Bool.false_eq_true, if_false, hs]
  rw [hf, lineTokenize_flatten]
  rfl

end RichModel.Syntax
