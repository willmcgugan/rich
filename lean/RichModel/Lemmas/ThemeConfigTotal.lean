import RichModel.Lemmas.ThemeConfig
/-!
With interpolation off the modelled `configparser` answers every text (property C20) but one that has a
U+03A3 while names are lower-cased.  `C20.from_file_total` rests on this.  Also `Theme.read`'s universal
newlines.
-/
namespace RichModel.Cfg
open RichModel.Theme

theorem mem_rstrip {c : Char} {s : List Char} (h : c ∈ rstrip s) : c ∈ s := by
  unfold rstrip at h
  have := List.dropWhile_subset (l := s.reverse) isSpace (List.mem_reverse.1 h)
  exact List.mem_reverse.1 this

theorem mem_strip {c : Char} {s : List Char} (h : c ∈ strip s) : c ∈ s := by
  unfold strip lstrip at h
  exact List.dropWhile_subset isSpace (mem_rstrip h)

/-- a text (or a line of it) is free of U+03A3 whenever names are lower-cased: what the model needs to answer it -/
def SigmaFree (lower : Bool) (s : List Char) : Prop := lower = true → ∀ c ∈ s, c.toNat ≠ 0x3A3

theorem lowerName_isSome (n : Name) (h : ∀ c ∈ n, c.toNat ≠ 0x3A3) : lowerName n ≠ none := by
  rw [lowerName, List.any_eq_false.2 fun c hc => by simpa using h c hc, if_neg Bool.false_ne_true]
  exact nofun

theorem step_modelled (lower : Bool) (st : RS) (line : List Char) (h : SigmaFree lower line) :
    step lower st line ≠ .unmodelled := by
  fun_cases step lower st line <;> intro hc <;> cases hc
  -- left: the branch that answers `unmodelled`, taken when `optionxform` gives no name
  rename_i hnone
  cases lower with
  | false => cases hnone
  | true =>
    exact lowerName_isSome _ (fun c hc => h rfl c (mem_strip (List.mem_of_mem_take (mem_rstrip hc)))) hnone

theorem readLines_modelled (lower : Bool) (ls : List (List Char)) (st : RS)
    (h : ∀ l ∈ ls, SigmaFree lower l) : readLines lower st ls ≠ .unmodelled := by
  induction ls generalizing st with
  | nil => exact nofun
  | cons l ls ih =>
    rw [readLines]
    cases hs : step lower st l with
    | ok st' => exact ih st' fun x hx => h x (List.mem_cons_of_mem _ hx)
    | err e => exact nofun
    | unmodelled => exact absurd hs (step_modelled lower st l (h l List.mem_cons_self))

theorem flatten_splitNL (t : List Char) : (splitNL t).flatten = t.filter (· != '\n') := by
  rw [splitNL_eq, Lines.flatten_split]; rfl

theorem cfgItems_modelled (lower : Bool) (text : List Char) (h : SigmaFree lower text) :
    cfgItems lower false text ≠ .unmodelled := by
  have hr := readLines_modelled lower (splitNL text) {} fun l hl hlow c hc =>
    h hlow c (List.mem_filter.1 (flatten_splitNL text ▸ List.mem_flatten.2 ⟨l, hl, hc⟩)).1
  unfold cfgItems
  cases hs : readLines lower {} (splitNL text) with
  | unmodelled => exact absurd hs hr
  | err e => simp
  | ok st =>
    simp only
    split
    · simp
    · split <;> simp

variable {σ : Type}

theorem evalItems_error (parse : Parse σ) (items : List (Name × List Char)) (e : PErr)
    (h : evalItems parse (items.map (fun p => (p.1, SV.str p.2))) = .error e) : ∃ d, parse d = .error e := by
  induction items with
  | nil => cases h
  | cons p r ih =>
    rw [List.map_cons, evalItems] at h
    split at h
    · next hp => exact ⟨p.2, hp.trans (by cases h; rfl)⟩
    · split at h
      · next hr => exact ih (hr.trans (by cases h; rfl))
      · cases h

/-- over any reader: `Theme.from_file` adds no `unmodelled` of its own -/
theorem fromFileWith_total (read : List Char → Res (List (Name × List Char))) (defaults : Dict σ) (parse : Parse σ)
    (text : List Char) (inherit : Bool) (hm : read text ≠ .unmodelled) :
    (∃ t, fromFileWith read defaults parse text inherit = .ok t) ∨
    (∃ e, fromFileWith read defaults parse text inherit = .err (.cfg e)) ∨
    (∃ e d, parse d = .error e ∧ fromFileWith read defaults parse text inherit = .err (.parse e)) := by
  unfold fromFileWith
  cases hc : read text with
  | unmodelled => exact absurd hc hm
  | err e => exact .inr (.inl ⟨e, rfl⟩)
  | ok items =>
    dsimp only
    cases he : evalItems parse (items.map (fun p => (p.1, SV.str p.2))) with
    | error e =>
      obtain ⟨d, hd⟩ := evalItems_error parse items e he
      exact .inr (.inr ⟨e, d, hd, rfl⟩)
    | ok parsed =>
      -- `Theme(styles, …)` is given styles that are evaluated already: nothing left to raise
      simp only [Theme.new, evalItems_style]
      exact .inl ⟨_, rfl⟩

theorem universalNL_id (t : List Char) (h : '\r' ∉ t) : universalNL false t = t := by
  induction t with
  | nil => rfl
  | cons c r ih =>
    have hc : c ≠ '\r' := fun e => h (by simp [e])
    have hr : '\r' ∉ r := fun e => h (List.mem_cons_of_mem _ e)
    unfold universalNL
    simp only [hc, if_false, Bool.false_eq_true]
    by_cases hn : c = '\n' <;> simp [hn, ih hr]

end RichModel.Cfg
