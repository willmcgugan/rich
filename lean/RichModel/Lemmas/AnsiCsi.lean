import RichModel.Lemmas.AnsiRoundTrip
/-!
Foreign control sequences other than SGR (property C19, repaired variant of F32): the tokenizer leaves them in the
pending text, `re_csi` removes them from it — they add nothing to the decoded text (`Decodes.otherCsi`).
-/
namespace RichModel
namespace Ansi
open AsciiStr Style

/-- `ESC [ params intermediates final`: a control sequence the repaired `re_ansi` does not read as SGR —
its final byte is not `m`, or it has intermediate bytes, or a parameter byte outside `[0-9;:]`. -/
structure OtherCsi (ps is : List Char) (f : Char) : Prop where
  params : ∀ c ∈ ps, isCsiParam c = true
  inters : ∀ c ∈ is, isCsiInter c = true
  final : isCsiFinal f = true
  notSgr : f ≠ 'm' ∨ is ≠ [] ∨ ∃ c ∈ ps, isSgrParam c = false

def csiSeq (ps is : List Char) (f : Char) : List Char := ESC :: '[' :: (ps ++ (is ++ [f]))

theorem param_ne_m {c : Char} (h : isCsiParam c = true) : c ≠ 'm' := by
  rintro rfl
  revert h
  decide

theorem inter_facts {c : Char} (h : isCsiInter c = true) :
    c ≠ 'm' ∧ isSgrParam c = false ∧ isCsiParam c = false := by
  simp only [isCsiInter, Bool.and_eq_true, decide_eq_true_eq] at h
  have h1 : c ≠ 'm' ∧ c ≠ ';' ∧ c ≠ ':' := by
    refine ⟨?_, ?_, ?_⟩ <;> (rintro rfl; revert h; decide)
  refine ⟨h1.1, ?_, ?_⟩ <;> simp [isSgrParam, isCsiParam, h1] <;> omega

theorem final_facts {c : Char} (h : isCsiFinal c = true) :
    isSgrParam c = false ∧ isCsiParam c = false ∧ isCsiInter c = false := by
  simp only [isCsiFinal, Bool.and_eq_true, decide_eq_true_eq] at h
  have h1 : c ≠ ';' ∧ c ≠ ':' := by
    refine ⟨?_, ?_⟩ <;> (rintro rfl; revert h; decide)
  refine ⟨?_, ?_, ?_⟩ <;> simp [isSgrParam, isCsiParam, isCsiInter, h1] <;> omega

theorem OtherCsi.bytes {ps is : List Char} {f : Char} (h : OtherCsi ps is f) :
    ∀ c ∈ '[' :: (ps ++ (is ++ [f])), c ≠ ESC ∧ c ≠ '\r' := by
  intro c hc
  simp only [List.mem_cons, List.mem_append, List.not_mem_nil, or_false] at hc
  rcases hc with rfl | hc | hc | rfl
  · exact ⟨ESC_ne_bracket.symm, by decide⟩
  · have := h.params c hc
    constructor <;> (rintro rfl; revert this; decide)
  · have := h.inters c hc
    constructor <;> (rintro rfl; revert this; decide)
  · have := h.final
    constructor <;> (rintro rfl; revert this; decide)

/-- The scan for `[0-9;:]*m` fails at the first character that is neither in the class nor `m`, if no `m` comes before it. -/
theorem findSgrM_stops (a : List Char) {c : Char} (rest : List Char) (ha : ∀ x ∈ a, x ≠ 'm') (hc : c ≠ 'm')
    (hs : isSgrParam c = false) : findSgrM (a ++ c :: rest) = none := by
  induction a with
  | nil => simp [findSgrM, hc, hs]
  | cons x r ih =>
    have := ih fun y hy => ha y (by simp [hy])
    by_cases hx : isSgrParam x = true <;> simp [findSgrM, ha x (by simp), hx, this]

theorem findSgrM_other {ps is : List Char} {f : Char} (h : OtherCsi ps is f) (rest : List Char) :
    findSgrM (ps ++ (is ++ f :: rest)) = none := by
  have hpm : ∀ x ∈ ps, x ≠ 'm' := fun x hx => param_ne_m (h.params x hx)
  rcases h.notSgr with hf | hi | ⟨c, hc, hbad⟩
  · -- the final byte is not `m`
    rw [← List.append_assoc]
    exact findSgrM_stops _ rest
      (fun x hx => (List.mem_append.mp hx).elim (hpm x) fun hx => (inter_facts (h.inters x hx)).1) hf (final_facts h.final).1
  · -- the first intermediate byte
    obtain ⟨c, r, rfl⟩ := List.exists_cons_of_ne_nil hi
    have hc := inter_facts (h.inters c (by simp))
    exact findSgrM_stops ps _ hpm hc.1 hc.2.1
  · -- a parameter byte outside `[0-9;:]`
    obtain ⟨a, b, rfl⟩ := List.append_of_mem hc
    rw [List.append_assoc]
    exact findSgrM_stops a _ (fun x hx => hpm x (by simp [hx])) (hpm c (by simp)) hbad

theorem Reads.otherCsi {cfg : Cfg} (hl : cfg.sgrLazy = false) {ps is : List Char} {f : Char} (h : OtherCsi ps is f)
    (st : Style) (acc : List Char) : Reads cfg st acc (csiSeq ps is f) [] st (acc ++ csiSeq ps is f) := fun rest => by
  have hne : ∀ c ∈ '[' :: (ps ++ (is ++ [f])), c ≠ ESC := fun c hc => (h.bytes c hc).1
  have h1 : findM false (ps ++ (is ++ f :: rest)) = none := findSgrM_other h rest
  have h2 := tokAux_plain false (!cfg.oscStOnly) ('[' :: (ps ++ (is ++ [f]))) rest (acc ++ [ESC]) hne
  simp only [csiSeq, List.cons_append, List.append_assoc, List.nil_append] at h2 ⊢
  simp only [tokAux] at h2
  simp only [R, hl, push_nil, tokAux, if_true, h1]
  rw [h2]

theorem removeCsiAux_skip (p r : List Char) : removeCsiAux (p ++ r) p.length = removeCsiAux r 0 := by
  induction p with
  | nil => rfl
  | cons c q ih => simpa [removeCsiAux] using ih

theorem csiTail_seq {ps is : List Char} {f : Char} (hp : ∀ c ∈ ps, isCsiParam c = true)
    (hi : ∀ c ∈ is, isCsiInter c = true) (hf : isCsiFinal f = true) (rest : List Char) :
    csiTail (ps ++ (is ++ f :: rest)) = some (ps.length + is.length + 1) := by
  -- what follows the parameter bytes does not begin with one
  obtain ⟨hd1, ht1⟩ : (ps ++ (is ++ f :: rest)).dropWhile isCsiParam = is ++ f :: rest ∧
      (ps ++ (is ++ f :: rest)).takeWhile isCsiParam = ps := by
    rw [List.dropWhile_append_of_pos hp, List.takeWhile_append_of_pos hp]
    cases is with
    | nil => simp [(final_facts hf).2.1]
    | cons c r => simp [(inter_facts (hi c (by simp))).2.2]
  have hd2 : (is ++ f :: rest).dropWhile isCsiInter = f :: rest := by
    rw [List.dropWhile_append_of_pos hi]
    simp [(final_facts hf).2.2]
  have ht2 : (is ++ f :: rest).takeWhile isCsiInter = is := by
    rw [List.takeWhile_append_of_pos hi]
    simp [(final_facts hf).2.2]
  simp [csiTail, hd1, ht1, hd2, ht2, hf]

theorem removeCsi_csi {ps is : List Char} {f : Char} (hp : ∀ c ∈ ps, isCsiParam c = true)
    (hi : ∀ c ∈ is, isCsiInter c = true) (hf : isCsiFinal f = true) (rest : List Char) :
    removeCsi (csiSeq ps is f ++ rest) = removeCsi rest := by
  have hb : isEscFinal '[' = false := by decide
  have ht := csiTail_seq hp hi hf rest
  have hs := removeCsiAux_skip (ps ++ (is ++ [f])) rest
  simp only [List.append_assoc, List.cons_append, List.nil_append, List.length_append, List.length_cons,
    List.length_nil] at hs
  simp only [removeCsi, csiSeq, List.cons_append, List.append_assoc, List.nil_append]
  simp only [removeCsiAux, if_true, hb, Bool.false_eq_true, if_false]
  rw [ht]
  simp only
  have : ps.length + is.length + 1 = ps.length + (is.length + (0 + 1)) := by omega
  rw [this]
  exact hs

theorem Decodes.otherCsi {cfg : Cfg} (hl : cfg.sgrLazy = false) {ps is : List Char} {f : Char} (h : OtherCsi ps is f)
    (st : Style) : Decodes cfg st (csiSeq ps is f) [] st := by
  have hrm := removeCsi_csi h.params h.inters h.final
  have h0 : removeCsi (csiSeq ps is f) = [] := by simpa [removeCsi, removeCsiAux] using hrm []
  have hc : NoOpenCsi (csiSeq ps is f) := fun rest => by rw [hrm, h0, List.nil_append]
  have hcr : ∀ c ∈ csiSeq ps is f, c ≠ '\r' := fun c hc => by
    rcases List.mem_cons.mp hc with rfl | hc
    · decide
    · exact (h.bytes c hc).2
  simpa [h0, stripCtl] using Decodes.joins hcr hc (Reads.otherCsi hl h st)

end Ansi
end RichModel
