import RichModel.Lemmas.MarkupFinish
import RichModel.Lemmas.MarkupRun
import RichModel.Lemmas.Except
import RichModel.Model.MarkupHL
/-! The refinement: the render loop with its stack of offsets and its span slots computes the
chunk-level reference semantics; hence the text `render` returns is free of the stripped controls, and what
`render_str` and `print` do with a highlighter (Model/MarkupHL.lean). -/
namespace RichModel.Markup

/-- any emoji setting: the loop over `_parse`'s chunks computes `semC` — same failures, same characters,
and at every character the covering entries are the tags open there in opening order -/
theorem runC_refines (cfg : Cfg) (cs : List CEv) : ∀ (st : St) (abs : List OpenedTag) (ann : Annotated),
    Describes st abs ann →
    (∀ rest, semC cfg (st.stack.map Ent.toOTag) cs = some rest →
      ∃ st' abs', runC cfg st cs = some st' ∧ Describes st' abs' (ann ++ rest)) ∧
    (semC cfg (st.stack.map Ent.toOTag) cs = none → runC cfg st cs = none) := by
  induction cs with
  | nil =>
    intro st abs ann h
    exact ⟨fun rest hs => by cases hs; exact ⟨st, abs, rfl, by simpa using h⟩, nofun⟩
  | cons c cs ih =>
    intro st abs ann h
    cases c with
    | txt s =>
      have ih := ih _ abs _ (describes_text h (chunkText_clean cfg s))
      rw [semC_txt]
      refine ⟨fun rest hs => ?_, fun hs => ih.2 (Option.map_eq_none_iff.1 hs)⟩
      obtain ⟨a, ha, rfl⟩ := Option.map_eq_some_iff.1 hs
      obtain ⟨st', abs', h1, h2⟩ := ih.1 a ha
      exact ⟨st', abs', h1, by rwa [List.append_assoc] at h2⟩
    | tag t =>
      rw [semC_tag, runC, ← stepC_tag_stack]
      cases hs : stepC cfg st (.tag t) with
      | none => exact ⟨nofun, fun _ => rfl⟩
      | some st' =>
        obtain ⟨abs', h'⟩ := stepC_tag_describes cfg h hs
        exact ih st' abs' ann h'

theorem render_of_semC_some (cfg : Cfg) {m : List Char} {ann : Annotated} (h : semC cfg [] (chunks m) = some ann) :
    ∃ st abs, render cfg m = .ok (finish cfg st) ∧ Describes st abs ann := by
  obtain ⟨st, abs, h1, h2⟩ := (runC_refines cfg (chunks m) St.init [] [] describes_init).1 ann h
  have hr := render_eq_runC cfg m
  rw [h1] at hr
  exact ⟨st, abs, eq_ok_of_toOption hr, h2⟩

theorem render_of_semC_none (cfg : Cfg) {m : List Char} (h : semC cfg [] (chunks m) = none) :
    ∃ e, render cfg m = .error e := by
  have hr := render_eq_runC cfg m
  rw [(runC_refines cfg (chunks m) St.init [] [] describes_init).2 h] at hr
  exact toOption_eq_none hr

theorem render_spans (cfg : Cfg) (hS : cfg.sortSpans = false) {m : List Char} {ann : Annotated}
    (h : semC cfg [] (chunks m) = some ann) :
    ∃ spans, render cfg m = .ok (ann.map Prod.fst, spans) ∧
      ∀ p (h : p < ann.length), effStyles spans p = (ann[p]).2 := by
  obtain ⟨st, abs, hr, hinv⟩ := render_of_semC_some cfg h
  obtain ⟨spans, hf, hp⟩ := finish_refines cfg hS hinv
  exact ⟨spans, by rw [hr, hf], hp⟩

/-- **tags_style_exactly, full strength**: any markup string, emoji on or off, any emoji table. -/
theorem render_refinesC (cfg : Cfg) (hS : cfg.sortSpans = false) (m : List Char) :
    match semC cfg [] (chunks m) with
    | some ann => ∃ spans, render cfg m = .ok (ann.map Prod.fst, spans) ∧
        ∀ p (h : p < ann.length), effStyles spans p = (ann[p]).2
    | none => ∃ e, render cfg m = .error e := by
  cases h : semC cfg [] (chunks m) with
  | none => exact render_of_semC_none cfg h
  | some ann => exact render_spans cfg hS h

/-- failure does not depend on the span order -/
theorem render_error_iff_semC (cfg : Cfg) (m : List Char) :
    (∃ e, render cfg m = .error e) ↔ semC cfg [] (chunks m) = none := by
  refine ⟨fun ⟨e, he⟩ => ?_, render_of_semC_none cfg⟩
  cases h : semC cfg [] (chunks m) with
  | none => rfl
  | some ann =>
    obtain ⟨st, abs, hr, _⟩ := render_of_semC_some cfg h
    rw [he] at hr; cases hr

/-- so `Text(str(text))` strips nothing from what `render` returns -/
theorem render_plain_clean (cfg : Cfg) (m : List Char) (p : List Char) (sp : List Span)
    (h : render cfg m = .ok (p, sp)) : stripControl p = p := by
  cases hs : semC cfg [] (chunks m) with
  | none =>
    obtain ⟨e, he⟩ := render_of_semC_none cfg hs
    rw [he] at h; cases h
  | some ann =>
    -- the state `finish` is applied to satisfies the loop's invariant
    obtain ⟨st, abs, hr, hinv⟩ := render_of_semC_some cfg hs
    rw [hr] at h
    rw [show p = st.text from (congrArg Prod.fst (Except.ok.inj h)).symm.trans (finish_text cfg st)]
    exact hinv.clean

theorem renderStr_plain_clean (cfg : Cfg) (con : ConsoleFlags) (emoji markup : Option Bool) (text p : List Char)
    (sp : List Span) (h : renderStr cfg con emoji markup text = .ok (p, sp)) : stripControl p = p := by
  by_cases hm : triFlag markup con.markup = true
  · simp only [renderStr, hm, if_true] at h
    exact render_plain_clean _ _ _ _ h
  · simp only [renderStr, hm, Bool.false_eq_true, if_false, Except.ok.injEq, Prod.mk.injEq] at h
    rw [← h.1]; exact chunkText_clean _ _

/-- the extra `Text(str(...))` of the highlighter strips nothing -/
theorem renderStrH_eq (cfg : Cfg) (con : ConsoleH) (emoji markup highlight : Option Bool)
    (hl : Option Highlighter) (text : List Char) :
    renderStrH cfg con emoji markup highlight hl text =
      match renderStr cfg con.flags emoji markup text with
      | .error e => .error e
      | .ok (plain, spans) =>
        .ok (plain, (if triFlag highlight con.highlight then (hl.getD con.highlighter) plain else []) ++ spans) := by
  unfold renderStrH
  cases hr : renderStr cfg con.flags emoji markup text with
  | error e => rfl
  | ok r =>
    obtain ⟨plain, spans⟩ := r
    have hc := renderStr_plain_clean cfg con.flags emoji markup text plain spans hr
    by_cases hh : triFlag highlight con.highlight = true
    · simp only [hh, if_true, hc]
    · simp only [hh, Bool.false_eq_true, if_false, List.nil_append]

/-- `print` highlights with the console's own highlighter, exactly when the console default is on and the
argument is not `False` -/
theorem printStrsH_eq (cfg : Cfg) (con : ConsoleH) (emoji markup highlight : Option Bool) (sep : List Char)
    (objs : List (List Char)) :
    printStrsH cfg con emoji markup highlight sep objs =
      match objs.mapM (renderStrH cfg con emoji markup (some (con.highlight && highlight != some false)) none) with
      | .ok ts => .ok (joinRendered sep 0 true ts)
      | .error e => .error e := by
  have hf : renderStrH cfg con emoji markup none
        (some (if triFlag highlight con.highlight then con.highlighter else nullHighlighter)) =
      renderStrH cfg con emoji markup (some (con.highlight && highlight != some false)) none := by
    funext text
    rw [renderStrH_eq, renderStrH_eq]
    cases renderStr cfg con.flags emoji markup text with
    | error e => rfl
    | ok r =>
      cases con.highlight <;> cases highlight with
      | none => simp [triFlag]
      | some b => cases b <;> simp [triFlag, nullHighlighter]
  rw [printStrsH, hf]
  rfl

end RichModel.Markup
