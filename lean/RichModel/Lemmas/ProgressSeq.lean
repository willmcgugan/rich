import RichModel.Lemmas.Progress
/-!
Sequential histories of the progress model: the specification-level reading of a history (`lastSet`,
`advSince`), and the two ways to carry a fact about a task along a history: as an invariant of every task of
the table (`run_forall`; no well-formedness needed), or as a relation between one id's task at the start and at the
end (`run_lookup_induction`; for an id below `_task_index`, so that it stays free once its task is removed).
-/
namespace RichModel.Progress

/-- one sequential operation gives the same result in both code variants -/
theorem step_variant_irrelevant (cfg : Cfg) (b : Bool) (clock : Clock) (op : Op) (st : State) :
    step { cfg with clockOutside := b } clock op st = step cfg clock op st := by
  rw [step_eq_body_none, step_eq_body_none]
  cases op <;> rfl

/-- the value an operation explicitly sets `completed` of task `id` to, if it does -/
def setValue (id : Nat) : Op → Option Int
  | .update i u => if i = id then u.completed else none
  | .reset i r => if i = id then some r.completed else none
  | _ => none

/-- the amount an operation advances task `id` by -/
def advValue (id : Nat) : Op → Int
  | .advance i a => if i = id then a else 0
  | .update i u => if i = id then u.advance.getD 0 else 0
  | _ => 0

/-- last explicitly set value (starting from `init`) -/
def lastSet (id : Nat) (init : Int) (ops : List Op) : Int :=
  ops.foldl (fun v op => (setValue id op).getD v) init

/-- sum of the advances since the last explicit set (starting from `acc`) -/
def advSince (id : Nat) (acc : Int) (ops : List Op) : Int :=
  ops.foldl (fun a op => if (setValue id op).isSome then 0 else a + advValue id op) acc

theorem lastSet_cons (id : Nat) (v : Int) (op : Op) (l : List Op) :
    lastSet id v (op :: l) = lastSet id ((setValue id op).getD v) l := rfl

theorem advSince_cons (id : Nat) (a : Int) (op : Op) (l : List Op) :
    advSince id a (op :: l) = advSince id (if (setValue id op).isSome then 0 else a + advValue id op) l := rfl

theorem lastSet_append (id : Nat) (v : Int) (l l' : List Op) :
    lastSet id v (l ++ l') = lastSet id (lastSet id v l) l' := List.foldl_append

theorem advSince_append (id : Nat) (a : Int) (l l' : List Op) :
    advSince id a (l ++ l') = advSince id (advSince id a l) l' := List.foldl_append

theorem setValue_untouched {id : Nat} {op : Op} (h : op.target ≠ some id) :
    setValue id op = none ∧ advValue id op = 0 := by
  cases op <;> simp_all [Op.target, setValue, advValue]

theorem taskEffect_completed (cfg : Cfg) (clock : Clock) (op : Op) (pre : Option Int) (o : Nat) (t : Task) (k : Nat)
    (id : Nat) (h : op.target = some id) :
    (taskEffect cfg clock op pre o t k).1.completed = (setValue id op).getD (t.completed + advValue id op) := by
  refine (congrArg ATask.completed (absTask_taskEffect cfg clock op pre o t k)).trans ?_
  cases op with
  | update i u => cases h; simp only [aEffect, setValue, advValue, if_true]; rfl
  | reset i r => cases h; simp only [aEffect, setValue, if_true, Option.getD_some]
  | advance i a => cases h; simp only [aEffect, setValue, advValue, if_true, Option.getD_none]; rfl
  | startTask i | removeTask i | stopTask i => exact (Int.add_zero _).symm
  | _ => cases h

/-- **A per-task invariant along a history.**  `H` is what is assumed of the operations still to come, seen
from the state they start in (`NonnegAdvances`, `StartedWhenAdvanced`, `NoResetWhileStopped`); it is handed on
from operation to operation. -/
theorem run_forall (cfg : Cfg) (clock : Clock) {P : Nat → Task → Prop} {H : List Op → State → Prop}
    (hmono : ∀ {K K' t}, K ≤ K' → P K t → P K' t)
    (hnext : ∀ {op ops st}, H (op :: ops) st → H ops (step cfg clock op st).st)
    (hnew : ∀ a K st, st.clk ≤ K → P K (newTask clock a st))
    (heff : ∀ {op ops st} i x o, H (op :: ops) st → op.target = some i → lookup st.tasks i = some x → P st.clk x →
      P (taskEffect cfg clock op none o x st.clk).2 (taskEffect cfg clock op none o x st.clk).1)
    (ops : List Op) (st : State) (hH : H ops st) (h : ∀ t ∈ st.tasks, P st.clk t) :
    ∀ t ∈ (run cfg clock ops st).tasks, P (run cfg clock ops st).clk t := by
  refine (run_induction cfg clock (I := fun ops st => H ops st ∧ ∀ t ∈ st.tasks, P st.clk t) (fun op _ st ⟨hH, h⟩ => ?_)
    ops st ⟨hH, h⟩).2
  refine ⟨hnext hH, ?_⟩
  rw [step_eq_body_none]
  exact body_forall cfg clock op none st hmono (fun a K _ hK => hnew a K st hK) (fun i x o => heff i x o hH) h

/-- **Following one task through a history.**  A relation between the task at the start, the operations
and the task at the end, extended backwards over one operation at a time, holds of every history after which the
task is still there.  (An operation that removes the task ends the matter: its id stays free.) -/
theorem run_lookup_induction (cfg : Cfg) (clock : Clock) (id : Nat) {P : List Op → Task → Task → Prop}
    (hnil : ∀ t, P [] t t)
    (heff : ∀ op ops o k t t', op.target = some id → P ops (taskEffect cfg clock op none o t k).1 t' →
      P (op :: ops) t t')
    (hother : ∀ op ops t t', op.target ≠ some id → P ops t t' → P (op :: ops) t t') (ops : List Op) :
    ∀ (st : State), id < st.nextId → ∀ t t', lookup st.tasks id = some t →
      lookup (run cfg clock ops st).tasks id = some t' → P ops t t' := by
  induction ops with
  | nil =>
    intro st _ t t' h h'
    rw [run, h] at h'; cases h'
    exact hnil t
  | cons op ops ih =>
    intro st hid t t' h h'
    have hid' := Nat.lt_of_lt_of_le hid (step_nextId_le cfg clock op st)
    rcases step_lookup cfg clock op st id t h with ⟨_, hn⟩ | ⟨htg, hl, _⟩ | ⟨htg, hl⟩
    · rw [run, (run_lookup_none cfg clock ops _ id hid' hn).1] at h'; cases h'
    · exact heff op ops _ _ t t' htg (ih _ hid' _ t' hl h')
    · exact hother op ops t t' htg (ih _ hid' t t' hl h')

/-- `completed` at the end is the last value set plus the advances since, from any split
`completed = v + a` at the start -/
theorem completed_eq_lastSet_add_advSince (cfg : Cfg) (clock : Clock) (id : Nat) : ∀ (ops : List Op) (st : State), id < st.nextId →
    ∀ t t', lookup st.tasks id = some t → lookup (run cfg clock ops st).tasks id = some t' →
      ∀ v a : Int, t.completed = v + a → t'.completed = lastSet id v ops + advSince id a ops := by
  refine run_lookup_induction cfg clock id (fun t v a hc => hc) ?_ ?_
  · intro op ops o k t t' htg ih v a hc
    have hcomp := taskEffect_completed cfg clock op none o t k id htg
    rw [lastSet_cons, advSince_cons]
    cases hsv : setValue id op with
    | none => exact ih v (a + advValue id op) (by rw [hcomp, hsv, Option.getD_none]; exact hc ▸ Int.add_assoc ..)
    | some x => exact ih x 0 (by rw [hcomp, hsv, Int.add_zero]; rfl)
  · intro op ops t t' htg ih v a hc
    rw [lastSet_cons, advSince_cons, (setValue_untouched htg).1, (setValue_untouched htg).2]
    exact ih v (a + 0) (by rw [Int.add_zero]; exact hc)

theorem run_lookup_some (cfg : Cfg) (clock : Clock) (ops : List Op) (st : State) (id : Nat) (t : Task)
    (h : lookup st.tasks id = some t) (hno : ∀ op ∈ ops, op ≠ .removeTask id) :
    ∃ t', lookup (run cfg clock ops st).tasks id = some t' := by
  refine (run_induction cfg clock (I := fun ops st => (∀ op ∈ ops, op ≠ .removeTask id) ∧ ∃ t, lookup st.tasks id = some t)
    (fun op ops st ⟨hno, t, h⟩ => ⟨fun o ho => hno o (List.mem_cons_of_mem _ ho), ?_⟩) ops st ⟨hno, t, h⟩).2
  rcases step_lookup cfg clock op st id t h with ⟨hrm, _⟩ | ⟨_, hl, _⟩ | ⟨_, hl⟩
  · exact absurd hrm (hno op List.mem_cons_self)
  · exact ⟨_, hl⟩
  · exact ⟨_, hl⟩

end RichModel.Progress
