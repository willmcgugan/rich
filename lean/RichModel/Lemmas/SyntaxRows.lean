import RichModel.Lemmas.SyntaxSelect
import RichModel.Lemmas.Cells
/-
Numbered rows for property C17 and the C09 clause on `__rich_measure__`: consecutive numbers and the marker, the gutter
of a row in characters and in cells, and what fitting does to a line's cell length.
-/
namespace RichModel.Syntax

/-- decidable equality of results, so that concrete witnesses can be closed by `decide` -/
scoped instance instDecEqExcept {ε α : Type} [DecidableEq ε] [DecidableEq α] : DecidableEq (Except ε α)
  | .ok a, .ok b => if h : a = b then isTrue (by rw [h]) else isFalse (by intro e; cases e; exact h rfl)
  | .error a, .error b => if h : a = b then isTrue (by rw [h]) else isFalse (by intro e; cases e; exact h rfl)
  | .ok _, .error _ => isFalse (by intro e; cases e)
  | .error _, .ok _ => isFalse (by intro e; cases e)

theorem natStr_length_mono (b a : Nat) (hab : a ≤ b) : (natStr a).length ≤ (natStr b).length := by
  fun_induction natStr b generalizing a with
  | case1 b hb => rw [natStr, if_pos (by omega)]; exact Nat.le_refl _
  | case2 b hb ih =>
    rw [natStr.eq_1 a]
    split
    · simp
    · simpa using ih (a / 10) (Nat.div_le_div_right hab)

theorem numberRows_eq_mapIdx (hl : List Nat) (bs : List Line) (start : Nat) :
    numberRows start hl bs = bs.mapIdx (fun i b => { num := start + i, marked := hl.contains (start + i), body := b }) := by
  induction bs generalizing start with
  | nil => rfl
  | cons b bs ih => simp [numberRows, List.mapIdx_cons, ih, Nat.add_assoc, Nat.add_comm 1]

@[simp] theorem numberRows_length (start : Nat) (hl : List Nat) (bs : List Line) :
    (numberRows start hl bs).length = bs.length := by
  rw [numberRows_eq_mapIdx, List.length_mapIdx]

theorem numberRows_mem {hl : List Nat} {bs : List Line} {start : Nat} {r : Row} (h : r ∈ numberRows start hl bs) :
    ∃ i, ∃ hi : i < bs.length, r = { num := start + i, marked := hl.contains (start + i), body := bs[i] } := by
  rw [numberRows_eq_mapIdx, List.mem_mapIdx] at h
  obtain ⟨i, hi, rfl⟩ := h
  exact ⟨i, hi, rfl⟩

theorem numberedRows_of_selected {cw : Char → Nat} {sr rp : Bool} {o : Opts} {found : Bool} {lex : List Char → List Line}
    {code : List Char} {sel : List Line} (hs : selectedLines sr rp o found lex code = .ok sel)
    (hroom : (o.wordWrap && decide (codeWidthInt o code < 1)) = false) :
    numberedRows cw sr rp o found lex code =
      .ok (numberRows (o.startLine + lineOffset o) o.highlightLines
            (sel.map (fitLine cw (codeWidthInt o code).toNat o.pad (!o.wordWrap && o.optNoWrap)))) := by
  simp only [numberedRows, hs, hroom, Bool.false_eq_true, if_false]

theorem plainRows_fitted {cw : Char → Nat} {sr : Bool} {o : Opts} {found : Bool} {lex : List Char → List Line}
    {code : List Char} {rows : List Line} (h : plainRows cw sr o found lex code = .ok rows) :
    ∀ r ∈ rows, ∃ l, r = fitLine cw (codeWidthInt o code).toNat o.pad false l := by
  intro r hr
  unfold plainRows at h
  dsimp only at h
  split at h
  · cases h
  · split at h <;> cases h
    · cases hr
    · obtain ⟨l, _, rfl⟩ := List.mem_map.mp hr
      exact ⟨_, rfl⟩

/-- Without line numbers a range selects nothing: under a lexer it only ends the text (`hlLines`). -/
theorem plainRows_eq (cw : Char → Nat) (o : Opts) (found : Bool) (lex : List Char → List Line) (code : List Char)
    (hclean : Clean (shownCode o code))
    (hlex : found = true → (lex (expandTabs o.tabSize (shownCode o code))).flatten = pygPre false (expandTabs o.tabSize (shownCode o code)))
    (hw : 1 ≤ codeWidthInt o code) :
    plainRows cw false o found lex code =
      .ok ((hlLines found o.lineRange (expandTabs o.tabSize (shownCode o code))).map
        (fitLine cw (codeWidthInt o code).toNat o.pad false)) := by
  obtain ⟨text, hhl, hsp⟩ :=
    highlight_split found (lex (expandTabs o.tabSize (shownCode o code))) (expandTabs o.tabSize (shownCode o code)) o.lineRange
      (hclean.expandTabs o.tabSize) hlex
  have hnw : ¬ codeWidthInt o code < 1 := by omega
  unfold plainRows
  simp only [hhl, hnw, decide_false, Bool.false_eq_true, if_false, (hsp true).1, if_true]

/-- with a single highlighted number, exactly the row carrying that number is marked -/
theorem numberRows_filter_marked (x : Nat) (bs : List Line) (start : Nat) :
    (numberRows start [x] bs).filter (·.marked) =
      if start ≤ x then (match bs[x - start]? with
        | some b => [{ num := x, marked := true, body := b }]
        | none => []) else [] := by
  induction bs generalizing start with
  | nil => simp [numberRows]
  | cons b bs ih =>
    simp only [numberRows, List.filter_cons, ih (start + 1), List.contains_eq_mem, List.mem_singleton, decide_eq_true_eq]
    rcases Nat.lt_trichotomy start x with h | rfl | h
    · have : x - start = (x - (start + 1)) + 1 := by omega
      simp [Nat.ne_of_lt h, Nat.le_of_lt h, Nat.succ_le_of_lt h, this]
    · simp [Nat.not_succ_le_self]
    · simp [Nat.ne_of_gt h, Nat.not_le.mpr h, Nat.not_le.mpr (Nat.lt_succ_of_lt h)]

/-- the gutter of a numbered row: `line_pointer` or two blanks, `str(line_no).rjust(numbers_column_width - 2)`, `" "` -/
def numberGutter (ncw : Nat) (legacy : Bool) (num : Nat) (marked : Bool) : Line :=
  (if marked then pointer legacy else [' ', ' ']) ++ rjust (natStr num) (ncw - 2) ++ [' ']

theorem Row.render_eq_gutter (ncw : Nat) (legacy : Bool) (r : Row) :
    r.render ncw legacy = numberGutter ncw legacy r.num r.marked ++ r.body := by
  simp [Row.render, numberGutter]

theorem numberGutter_length (ncw : Nat) (legacy : Bool) (num : Nat) (marked : Bool) (h : (natStr num).length + 2 ≤ ncw) :
    (numberGutter ncw legacy num marked).length = ncw + 1 := by
  have h1 : (if marked then pointer legacy else [' ', ' ']).length = 2 := by cases marked <;> cases legacy <;> rfl
  simp only [numberGutter, List.length_append, h1, rjust, List.length_replicate, List.length_cons, List.length_nil]
  omega

theorem Row.render_shape (ncw : Nat) (legacy : Bool) (r : Row) (h : (natStr r.num).length + 2 ≤ ncw) :
    (r.render ncw legacy).length = ncw + 1 + r.body.length ∧ (r.render ncw legacy).drop (ncw + 1) = r.body := by
  have hg := numberGutter_length ncw legacy r.num r.marked h
  rw [Row.render_eq_gutter]
  exact ⟨by rw [List.length_append, hg], by rw [← hg, List.drop_left]⟩

/-- the characters a gutter is made of: blank, the two pointers, decimal digits -/
def GutterChar (c : Char) : Prop := c = ' ' ∨ c = '>' ∨ c = '❱' ∨ (48 ≤ c.toNat ∧ c.toNat ≤ 57)

theorem digit_char : ∀ d, d < 10 → 48 ≤ (Char.ofNat (48 + d)).toNat ∧ (Char.ofNat (48 + d)).toNat ≤ 57 := by
  decide

theorem natStr_digits (n : Nat) : ∀ c ∈ natStr n, 48 ≤ c.toNat ∧ c.toNat ≤ 57 := by
  fun_induction natStr n with
  | case1 n h => intro c hc; rw [List.mem_singleton.mp hc]; exact digit_char n h
  | case2 n h ih =>
    intro c hc
    rcases List.mem_append.mp hc with hc | hc
    · exact ih c hc
    · rw [List.mem_singleton.mp hc]; exact digit_char _ (Nat.mod_lt _ (by omega))

theorem numberGutter_chars (ncw : Nat) (legacy : Bool) (num : Nat) (marked : Bool) :
    ∀ c ∈ numberGutter ncw legacy num marked, GutterChar c := by
  intro c hc
  simp only [numberGutter, rjust, List.mem_append, List.mem_singleton] at hc
  rcases hc with (hc | hc | hc) | rfl
  · have : ∀ c ∈ (if marked then pointer legacy else [' ', ' ']), GutterChar c := by
      unfold GutterChar; cases marked <;> cases legacy <;> decide
    exact this c hc
  · exact Or.inl (List.eq_of_mem_replicate hc)
  · exact Or.inr (Or.inr (Or.inr (natStr_digits num c hc)))
  · exact Or.inl rfl

theorem Row.render_cells (cw : Char → Nat) (h1 : ∀ c, GutterChar c → cw c = 1) (ncw : Nat) (legacy : Bool) (r : Row)
    (h : (natStr r.num).length + 2 ≤ ncw) :
    cellLen cw (r.render ncw legacy) = ncw + 1 + cellLen cw r.body := by
  rw [Row.render_eq_gutter, cellLen_append, cellLen_eq_length cw _ (fun c hc => h1 c (numberGutter_chars _ _ _ _ c hc)),
    numberGutter_length ncw legacy r.num r.marked h]

theorem fitLine_fits (cw : Char → Nat) (w : Nat) (pad noCrop : Bool) (l : Line) (h : cellLen cw l ≤ w) :
    fitLine cw w pad noCrop l = l ++ List.replicate (if pad && !noCrop then w - cellLen cw l else 0) ' ' := by
  unfold fitLine
  cases noCrop with
  | true => simp
  | false =>
    simp only [Bool.false_eq_true, if_false, Bool.not_false, Bool.and_true]
    by_cases h1 : cellLen cw l < w
    · simp only [h1, if_true]
      cases pad <;> simp
    · have h2 : cellLen cw l = w := by omega
      simp [h2]

theorem fitLine_crops (cw : Char → Nat) (w : Nat) (pad : Bool) (l : Line) (h : w < cellLen cw l) :
    fitLine cw w pad false l = setCellSize cw l w := by
  unfold fitLine
  have h1 : ¬ cellLen cw l < w := by omega
  have h2 : cellLen cw l > w := h
  simp [h1, h2]

theorem fitLine_cellLen (cw : Char → Nat) (hsp : cw ' ' = 1) (h2 : ∀ c, cw c ≤ 2) (w : Nat) (pad : Bool) (l : Line) :
    cellLen cw (fitLine cw w pad false l) ≤ w ∧ (pad = true → cellLen cw (fitLine cw w pad false l) = w) := by
  rcases Nat.lt_or_ge w (cellLen cw l) with h | h
  · rw [fitLine_crops cw w pad l h, (setCellSize_exact cw hsp h2 l w).1]
    exact ⟨Nat.le_refl w, fun _ => rfl⟩
  · rw [fitLine_fits cw w pad false l h, cellLen_append, cellLen_replicate, hsp]
    cases pad <;> simp <;> omega

end RichModel.Syntax
