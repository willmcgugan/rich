/-!
Cutting a list at a list of offsets (what `Text.divide` does to the characters and, per `divide_view`, to the
styled string), and the list facts about `take` / `drop` that go with it.
-/
namespace RichModel

/-- the pieces of `l` between `start`, the offsets and the end of the list -/
def piecesFrom {α : Type} (start : Nat) : List Nat → List α → List (List α)
  | [], l => [l.drop start]
  | o :: os, l => (l.drop start).take (o - start) :: piecesFrom o os l

/-- `[l[0:o1], l[o1:o2], …, l[ok:]]` -/
def pieces {α : Type} (offs : List Nat) (l : List α) : List (List α) := piecesFrom 0 offs l

/-- offsets ascending (not necessarily strictly) from `start` on -/
def AscFrom (start : Nat) : List Nat → Prop
  | [] => True
  | o :: os => start ≤ o ∧ AscFrom o os

theorem piecesFrom_flatten {α : Type} (l : List α) : ∀ (offs : List Nat) (start : Nat), AscFrom start offs →
    (piecesFrom start offs l).flatten = l.drop start
  | [], start, _ => by simp [piecesFrom]
  | o :: os, start, h => by
    obtain ⟨h1, h2⟩ := h
    simp only [piecesFrom, List.flatten_cons]
    rw [piecesFrom_flatten l os o h2]
    have : l.drop o = (l.drop start).drop (o - start) := by
      rw [List.drop_drop]; congr 1; omega
    rw [this, List.take_append_drop]

theorem pieces_flatten {α : Type} (l : List α) (offs : List Nat) (h : AscFrom 0 offs) :
    (pieces offs l).flatten = l := by
  unfold pieces; rw [piecesFrom_flatten l offs 0 h]; simp

theorem piecesFrom_length {α : Type} (l : List α) : ∀ (offs : List Nat) (start : Nat),
    (piecesFrom start offs l).length = offs.length + 1
  | [], _ => rfl
  | _ :: os, _ => by simp [piecesFrom, piecesFrom_length l os]

theorem piecesFrom_map {α β : Type} (f : α → β) (l : List α) : ∀ (offs : List Nat) (start : Nat),
    (piecesFrom start offs l).map (List.map f) = piecesFrom start offs (l.map f)
  | [], _ => by simp [piecesFrom]
  | o :: os, start => by simp [piecesFrom, piecesFrom_map f l os o, List.map_take, List.map_drop]

theorem pieces_map {α β : Type} (f : α → β) (l : List α) (offs : List Nat) :
    (pieces offs l).map (List.map f) = pieces offs (l.map f) := piecesFrom_map f l offs 0

theorem ascFrom_of_pairwise : ∀ (offs : List Nat) (start : Nat), offs.Pairwise (· ≤ ·) → (∀ o ∈ offs, start ≤ o) →
    AscFrom start offs
  | [], _, _, _ => trivial
  | o :: os, start, hp, hb => by
    rw [List.pairwise_cons] at hp
    exact ⟨hb o (by simp), ascFrom_of_pairwise os o hp.2 (fun x hx => hp.1 x hx)⟩

theorem ascFrom_ends : ∀ (ms : List (Nat × Nat)) (s : Nat),
    AscFrom s (ms.flatMap (fun m => [m.1, m.2])) → AscFrom s (ms.map (·.2))
  | [], _, _ => trivial
  | m :: rest, s, h => by
    simp only [List.flatMap_cons, List.cons_append, List.nil_append, AscFrom] at h
    obtain ⟨h1, h2, h3⟩ := h
    show AscFrom s (m.2 :: rest.map (·.2))
    exact ⟨by omega, ascFrom_ends rest m.2 h3⟩

theorem mem_piecesFrom_infix {α : Type} (l : List α) : ∀ (offs : List Nat) (s : Nat) (p : List α),
    p ∈ piecesFrom s offs l → ∃ a b, l = a ++ (p ++ b)
  | [], s, p, hp => by
    simp only [piecesFrom, List.mem_singleton] at hp
    subst hp
    exact ⟨l.take s, [], by simp⟩
  | o :: os, s, p, hp => by
    simp only [piecesFrom, List.mem_cons] at hp
    rcases hp with rfl | hp
    · exact ⟨l.take s, (l.drop s).drop (o - s), by rw [List.take_append_drop, List.take_append_drop]⟩
    · exact mem_piecesFrom_infix l os o p hp

theorem mem_piecesFrom {α : Type} (l : List α) (offs : List Nat) (s : Nat) (p : List α)
    (hp : p ∈ piecesFrom s offs l) : ∀ c ∈ p, c ∈ l := by
  obtain ⟨a, b, hab⟩ := mem_piecesFrom_infix l offs s p hp
  exact fun c hc => hab ▸ List.mem_append_right _ (List.mem_append_left _ hc)

theorem take_drop_prefix {α : Type} (pre tail : List α) (start : Nat) (hs : start ≤ pre.length) :
    ((pre ++ tail).drop start).take (pre.length - start) = pre.drop start := by
  rw [List.drop_append_of_le_length hs]
  exact List.take_left' List.length_drop

theorem drop_of_append {α : Type} (text x y : List α) (s : Nat) (h : text.drop s = x ++ y) :
    text.drop (s + x.length) = y := by
  rw [← List.drop_drop, h]; simp

end RichModel
