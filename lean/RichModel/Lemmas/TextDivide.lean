import RichModel.Lemmas.TextPad
import RichModel.Lemmas.TextSort
import RichModel.Lemmas.Pieces
/-!
`Text.divide` (repaired variant) cuts the styled string `view` into the pieces named by the offsets:
every character keeps exactly its effective style — `divide_view`, with its auxiliaries.
Last section: in every variant `divide` cuts the characters at the offsets (`divide_plain`).
-/
namespace RichModel

/-! ### span order restored from index-tagged records -/
namespace Text
variable {σ : Type}

/-- `L` is a list of index-tagged spans, strictly increasing in the index (`b` is the index of the head of `ss`); each entry
`(i, sp)` carries the style of span `i` of `ss` and covers position `k` exactly when that span covers `j`; and every span
of `ss` that covers `j` has an entry.  Then `L` shows at `k` the styles `ss` shows at `j`, in the same order: by
induction on `ss`, the head of `ss` either is the head of `L` (index `b`) or covers nothing and is skipped. -/
theorem spanIds_indexed (k j : Nat) : ∀ (ss : List (Span σ)) (b : Nat) (L : List (Nat × Span σ)),
    L.Pairwise (fun a c => a.1 < c.1) →
    (∀ p ∈ L, b ≤ p.1 ∧ ∃ o, ss[p.1 - b]? = some o ∧ p.2.style = o.style ∧ p.2.covers k = o.covers j) →
    (∀ i o, ss[i]? = some o → o.covers j = true → ∃ sp, (b + i, sp) ∈ L) →
    spanIds (L.map (·.2)) k = spanIds ss j
  | [], b, L, _, hent, _ => by
    have : L = [] := List.eq_nil_iff_forall_not_mem.2 fun p hp => by
      obtain ⟨_, o, ho, _⟩ := hent p hp
      cases ho
    subst this; rfl
  | sp0 :: rest, b, L, hsorted, hent, hcomp => by
    -- entries with an index above `b` speak about `rest`
    have shift : ∀ p ∈ L, b + 1 ≤ p.1 →
        ∃ o, rest[p.1 - (b + 1)]? = some o ∧ p.2.style = o.style ∧ p.2.covers k = o.covers j := by
      intro p hp h3
      obtain ⟨_, o, ho, h2⟩ := hent p hp
      rw [show p.1 - b = (p.1 - (b + 1)) + 1 by omega, List.getElem?_cons_succ] at ho
      exact ⟨o, ho, h2⟩
    have comp : ∀ i o, rest[i]? = some o → o.covers j = true → ∃ sp, (b + 1 + i, sp) ∈ L := by
      intro i o ho hc
      rw [Nat.add_right_comm, Nat.add_assoc]
      exact hcomp (i + 1) o ho hc
    -- the case where no entry of `L` has index `b`
    have skip : (∀ p ∈ L, b + 1 ≤ p.1) → spanIds (L.map (·.2)) k = spanIds (sp0 :: rest) j := by
      intro hall
      have hnc : ¬ sp0.covers j = true := by
        intro hc
        obtain ⟨sp, hsp⟩ := hcomp 0 sp0 rfl hc
        exact Nat.not_succ_le_self b (hall _ hsp)
      rw [spanIds_cons, if_neg hnc]
      exact spanIds_indexed k j rest (b + 1) L hsorted (fun p hp => ⟨hall p hp, shift p hp (hall p hp)⟩) comp
    match L, hsorted, hent, hcomp, shift, comp, skip with
    | [], _, _, _, _, _, skip => exact skip (fun _ hp => nomatch hp)
    | (i, sp') :: L', hsorted, hent, hcomp, shift, comp, skip =>
      rw [List.pairwise_cons] at hsorted
      by_cases hib : i = b
      · subst hib
        obtain ⟨_, o, ho, hst, hcv⟩ := hent (i, sp') (List.mem_cons_self ..)
        rw [Nat.sub_self, List.getElem?_cons_zero, Option.some.injEq] at ho
        subst ho
        have hst' : sp'.style = sp0.style := hst
        have hcv' : sp'.covers k = sp0.covers j := hcv
        simp only [List.map_cons, spanIds_cons, hst', hcv']
        rw [spanIds_indexed k j rest (i + 1) L' hsorted.2
          (fun p hp => ⟨hsorted.1 p hp, shift p (List.mem_cons_of_mem _ hp) (hsorted.1 p hp)⟩)
          (fun i' o ho hc => by
            obtain ⟨sp, hsp⟩ := comp i' o ho hc
            rcases List.mem_cons.1 hsp with heq | hmem
            · rw [Prod.mk.injEq] at heq; omega
            · exact ⟨sp, hmem⟩)]
      · apply skip
        intro p hp
        have hi : b + 1 ≤ i := Nat.lt_of_le_of_ne (hent (i, sp') (List.mem_cons_self ..)).1 (Ne.symm hib)
        rcases List.mem_cons.1 hp with rfl | hmem
        · exact hi
        · exact Nat.le_trans hi (Nat.le_of_lt (hsorted.1 p hmem))

/-! ### one line of the repaired `divide` loop -/

/-- what the loop records for a popped stack entry (line `[s, e)`) -/
def recOf (s e : Int) (p : Nat × Span σ) : Nat × Span σ :=
  (p.1, ⟨p.2.start - s, min p.2.stop e - s, p.2.style⟩)

/-- what the loop pushes back for a popped stack entry -/
def remOf (e : Int) (p : Nat × Span σ) : Option (Nat × Span σ) :=
  if e < p.2.stop then some (p.1, ⟨e, p.2.stop, p.2.style⟩) else none

theorem Span.split_of_start_lt {sp : Span σ} {e : Int} (h : sp.start < e) :
    sp.split e =
      (⟨sp.start, min sp.stop e, sp.style⟩, if e < sp.stop then some ⟨e, sp.stop, sp.style⟩ else none) := by
  unfold Span.split
  rw [if_neg (by omega)]
  by_cases h2 : e < sp.stop
  · rw [if_neg (by omega), if_pos h2, Int.min_eq_right (by omega)]
  · rw [if_pos (by omega), if_neg h2, Int.min_eq_left (by omega)]

/-- the span loop of the line `[s, e)` takes the entries that start before `e`: each leaves its record, and its remainder
if it goes on -/
theorem divLineLoop_eq (s e : Int) (todo done acc : List (Nat × Span σ)) :
    divLineLoop s e todo done acc =
      (todo.dropWhile (fun p => decide (p.2.start < e)),
       done ++ (todo.takeWhile (fun p => decide (p.2.start < e))).filterMap (remOf e),
       acc ++ (todo.takeWhile (fun p => decide (p.2.start < e))).map (recOf s e)) := by
  induction todo generalizing done acc with
  | nil => simp [divLineLoop]
  | cons p rest ih =>
    obtain ⟨i, sp⟩ := p
    unfold divLineLoop
    by_cases h : sp.start < e
    · rw [if_pos h, Span.split_of_start_lt h]
      simp only [h, List.dropWhile_cons, List.takeWhile_cons, decide_true, if_true, List.filterMap_cons, List.map_cons,
        ih, recOf, remOf]
      by_cases h2 : e < sp.stop
      · have hne : Span.nonEmpty (⟨e, sp.stop, sp.style⟩ : Span σ) = true := decide_eq_true h2
        simp [h2, hne]
      · simp [h2]
    · simp [h]

/-! ### the stack invariant -/

/-- State of the (reversed) span stack at the beginning of the line starting at `s`: ascending in the start; entry
`(i, sp)` is span `i` of the text with its start clipped to `s` (`entry`); no index twice; every span that reaches
beyond `s` has its entry (`complete`). -/
structure TodoInv (spans : List (Span σ)) (s : Nat) (todo : List (Nat × Span σ)) : Prop where
  sorted : todo.Pairwise (fun a b => a.2.start ≤ b.2.start)
  entry : ∀ p ∈ todo, ∃ o, spans[p.1]? = some o ∧ p.2.style = o.style ∧ p.2.stop = o.stop ∧
    p.2.start = max o.start (s : Int) ∧ p.2.start ≤ p.2.stop
  nodup : (todo.map (·.1)).Nodup
  complete : ∀ i o, spans[i]? = some o → max o.start (s : Int) < o.stop → ∃ sp, (i, sp) ∈ todo

theorem dropWhile_ge {e : Int} : ∀ (todo : List (Nat × Span σ)),
    todo.Pairwise (fun a b => a.2.start ≤ b.2.start) →
    ∀ q ∈ todo.dropWhile (fun p => decide (p.2.start < e)), e ≤ q.2.start
  | [], _ => by simp
  | x :: xs, h => by
    rw [List.pairwise_cons] at h
    rw [List.dropWhile_cons]
    split
    · exact dropWhile_ge xs h.2
    · rename_i hx
      simp only [decide_eq_true_eq] at hx
      intro q hq
      rcases List.mem_cons.1 hq with rfl | hq
      · exact Int.not_lt.mp hx
      · exact Int.le_trans (Int.not_lt.mp hx) (h.1 q hq)

theorem takeWhile_lt {e : Int} (todo : List (Nat × Span σ)) :
    ∀ q ∈ todo.takeWhile (fun p => decide (p.2.start < e)), q.2.start < e :=
  fun q hq => of_decide_eq_true (mem_takeWhile_true _ _ q hq)

theorem remOf_eq_some {e : Int} {p d : Nat × Span σ} :
    remOf e p = some d ↔ e < p.2.stop ∧ d = (p.1, ⟨e, p.2.stop, p.2.style⟩) := by
  unfold remOf
  split
  · rename_i h; exact ⟨fun hr => ⟨h, (Option.some.inj hr).symm⟩, fun hd => congrArg some hd.2.symm⟩
  · rename_i h; exact ⟨fun hr => (nomatch hr), fun hd => absurd hd.1 h⟩

theorem remOf_fst (e : Int) : ∀ (P : List (Nat × Span σ)),
    ((P.filterMap (remOf e)).map (·.1)).Sublist (P.map (·.1))
  | [] => by simp
  | p :: P => by
    simp only [List.filterMap_cons, List.map_cons]
    cases hr : remOf e p with
    | none => exact (remOf_fst e P).cons _
    | some d => rw [(remOf_eq_some.1 hr).2]; exact (remOf_fst e P).cons_cons _

theorem mem_remOf {e : Int} {P : List (Nat × Span σ)} {d : Nat × Span σ} :
    d ∈ P.filterMap (remOf e) ↔ ∃ p ∈ P, e < p.2.stop ∧ d = (p.1, ⟨e, p.2.stop, p.2.style⟩) := by
  simp only [List.mem_filterMap, remOf_eq_some]

theorem todoInv_next_aux (spans : List (Span σ)) (s e : Nat) (hse : s ≤ e) (P R : List (Nat × Span σ))
    (h : TodoInv spans s (P ++ R))
    (hP : ∀ q ∈ P, q.2.start < (e : Int)) (hR : ∀ q ∈ R, (e : Int) ≤ q.2.start) :
    TodoInv spans e ((P.filterMap (remOf (e : Int))).reverse ++ R) := by
  have hDstart : ∀ d ∈ (P.filterMap (remOf (e : Int))).reverse, d.2.start = (e : Int) := by
    intro d hd
    obtain ⟨p, _, _, rfl⟩ := mem_remOf.1 (List.mem_reverse.1 hd)
    rfl
  refine ⟨?_, ?_, ?_, ?_⟩
  · refine List.pairwise_append.2 ⟨?_, (List.pairwise_append.1 h.sorted).2.1, ?_⟩
    · apply List.pairwise_of_forall_mem_list
      intro a ha b hb
      rw [hDstart a ha, hDstart b hb]; exact Int.le_refl _
    · intro a ha b hb
      rw [hDstart a ha]; exact hR b hb
  · intro p hp
    rcases List.mem_append.1 hp with hp | hp
    · obtain ⟨q, hq, hlt, rfl⟩ := mem_remOf.1 (List.mem_reverse.1 hp)
      obtain ⟨o, ho, h1, h2, h3, h4⟩ := h.entry q (List.mem_append_left _ hq)
      have hoe : o.start ≤ (e : Int) := Int.le_of_lt (Int.lt_of_le_of_lt (h3 ▸ Int.le_max_left _ _) (hP q hq))
      exact ⟨o, ho, h1, h2, (Int.max_eq_right hoe).symm, Int.le_of_lt hlt⟩
    · obtain ⟨o, ho, h1, h2, h3, h4⟩ := h.entry p (List.mem_append_right _ hp)
      have := hR p hp
      exact ⟨o, ho, h1, h2, by omega, h4⟩
  · have h0 := h.nodup
    rw [List.map_append] at h0 ⊢
    rw [List.map_reverse]
    refine ((List.reverse_perm _).append_right _).nodup_iff.2 ?_
    exact List.Nodup.sublist ((remOf_fst _ P).append (List.Sublist.refl _)) h0
  · intro i o ho hcov
    obtain ⟨sp, hsp⟩ := h.complete i o ho (by omega)
    rcases List.mem_append.1 hsp with hsp | hsp
    · obtain ⟨o', ho', _, h2, _, _⟩ := h.entry _ (List.mem_append_left _ hsp)
      rw [ho] at ho'; cases ho'
      have hes : (e : Int) < sp.stop := h2 ▸ Int.lt_of_le_of_lt (Int.le_max_right _ _) hcov
      exact ⟨⟨(e : Int), sp.stop, sp.style⟩,
        List.mem_append_left _ (List.mem_reverse.2 (mem_remOf.2 ⟨(i, sp), hsp, hes, rfl⟩))⟩
    · exact ⟨sp, List.mem_append_right _ hsp⟩

theorem todoInv_next (spans : List (Span σ)) (s e : Nat) (hse : s ≤ e) (todo : List (Nat × Span σ))
    (h : TodoInv spans s todo) :
    TodoInv spans e
      (((todo.takeWhile (fun p => decide (p.2.start < (e : Int)))).filterMap (remOf (e : Int))).reverse ++
        todo.dropWhile (fun p => decide (p.2.start < (e : Int)))) := by
  apply todoInv_next_aux spans s e hse
  · rw [List.takeWhile_append_dropWhile]; exact h
  · exact takeWhile_lt todo
  · exact dropWhile_ge todo h.sorted

/-- the records of the line `[s, e)`, in the order of the spans they stem from -/
def lineRecs (s e : Int) (todo : List (Nat × Span σ)) : List (Nat × Span σ) :=
  Py.sortByKey (fun p => (p.1 : Int)) ((todo.takeWhile (fun p => decide (p.2.start < e))).map (recOf s e))

/-- the spans the loop gives the line `[s, e)` -/
def lineSpans (s e : Int) (todo : List (Nat × Span σ)) : List (Span σ) :=
  (Py.sortByKey (fun p => (p.1 : Int)) ((todo.takeWhile (fun p => decide (p.2.start < e))).map (recOf s e))).map (·.2)

theorem mem_lineRecs {s e : Int} {todo : List (Nat × Span σ)} {p : Nat × Span σ} (hp : p ∈ lineRecs s e todo) :
    ∃ q ∈ todo, q.2.start < e ∧ p = recOf s e q := by
  have := (sortByKey_perm _ _).mem_iff.1 hp
  obtain ⟨q, hq, rfl⟩ := List.mem_map.1 this
  exact ⟨q, (List.takeWhile_sublist _).subset hq, takeWhile_lt todo q hq, rfl⟩

theorem lineRecs_sorted (spans : List (Span σ)) (s : Nat) (e : Int) (todo : List (Nat × Span σ)) (h : TodoInv spans s todo) :
    (lineRecs (s : Int) e todo).Pairwise (fun a c => a.1 < c.1) := by
  have h1 := sortByKey_sorted (fun p : Nat × Span σ => (p.1 : Int))
    ((todo.takeWhile (fun p => decide (p.2.start < e))).map (recOf (s : Int) e))
  have h2 : ((lineRecs (s : Int) e todo).map (·.1)).Nodup := by
    refine ((sortByKey_perm _ _).map _).nodup_iff.2 ?_
    rw [List.map_map]
    have : ((fun x : Nat × Span σ => x.1) ∘ recOf (s : Int) e) = (fun x => x.1) := rfl
    rw [this]
    exact List.Nodup.sublist ((List.takeWhile_sublist _).map _) h.nodup
  rw [List.nodup_iff_pairwise_ne, List.pairwise_map] at h2
  exact (h1.and h2).imp (fun {a b} hab => by have h3 := hab.1; have h4 := hab.2; omega)

theorem line_spanIds (spans : List (Span σ)) (s e : Nat) (todo : List (Nat × Span σ))
    (h : TodoInv spans s todo) (k : Nat) (hk : s + k < e) :
    spanIds (lineSpans (s : Int) (e : Int) todo) k = spanIds spans (s + k) := by
  unfold lineSpans
  apply spanIds_indexed k (s + k) spans 0 _ (lineRecs_sorted spans s e todo h)
  · intro p hp
    obtain ⟨q, hq, hlt, rfl⟩ := mem_lineRecs hp
    obtain ⟨o, ho, h1, h2, h3, h4⟩ := h.entry q hq
    refine ⟨Nat.zero_le _, o, ho, h1, ?_⟩
    simp only [recOf, Span.covers]
    congr 1 <;> (apply decide_eq_decide.2; omega)
  · intro i o ho hc
    have hc' := (covers_iff o (s + k)).1 hc
    obtain ⟨sp, hsp⟩ := h.complete i o ho (by omega)
    obtain ⟨o', ho', h1, h2, h3, h4⟩ := h.entry _ hsp
    simp only [] at ho' h1 h2 h3 h4
    rw [ho] at ho'; cases ho'
    refine ⟨(recOf (s : Int) (e : Int) (i, sp)).2, ?_⟩
    rw [Nat.zero_add]
    refine (sortByKey_perm _ _).mem_iff.2 (List.mem_map.2 ⟨(i, sp), ?_, rfl⟩)
    rw [← List.takeWhile_append_dropWhile (p := fun p : Nat × Span σ => decide (p.2.start < (e : Int))) (l := todo)] at hsp
    rcases List.mem_append.1 hsp with hsp | hsp
    · exact hsp
    · have := dropWhile_ge todo h.sorted _ hsp
      simp only [] at this
      omega

theorem line_spansIn (spans : List (Span σ)) (s e : Nat) (todo : List (Nat × Span σ))
    (h : TodoInv spans s todo) :
    SpansIn (lineSpans (s : Int) (e : Int) todo) ((e : Int) - (s : Int)) := by
  intro sp hsp
  unfold lineSpans at hsp
  obtain ⟨p, hp, rfl⟩ := List.mem_map.1 hsp
  obtain ⟨q, hq, hlt, rfl⟩ := mem_lineRecs hp
  obtain ⟨o, _, _, _, h3, h4⟩ := h.entry q hq
  have hs : (s : Int) ≤ q.2.start := h3 ▸ Int.le_max_right _ _
  have hm : q.2.start ≤ min q.2.stop (e : Int) := Int.le_min.mpr ⟨h4, Int.le_of_lt hlt⟩
  have hm' : min q.2.stop (e : Int) ≤ (e : Int) := Int.min_le_right _ _
  exact ⟨Int.sub_nonneg.mpr hs, Int.sub_le_sub_right hm _, Int.sub_le_sub_right hm' _⟩

/-! ### the line ranges and the fresh lines -/

/-- `zip(divide_offsets, divide_offsets[1:])` from offset `s` on -/
def rangesFrom (s : Nat) : List Nat → Nat → List (Int × Int)
  | [], n => [((s : Int), (n : Int))]
  | o :: os, n => ((s : Int), (o : Int)) :: rangesFrom o os n

theorem lineRanges_from (n : Nat) : ∀ (offs : List Nat) (s : Nat),
    ((s :: offs ++ [n]).map Int.ofNat).zip ((s :: offs ++ [n]).map Int.ofNat).tail = rangesFrom s offs n
  | [], s => by simp [rangesFrom]
  | o :: os, s => by
    have ih := lineRanges_from n os o
    simp only [List.map_cons, List.tail_cons, List.cons_append, List.zip_cons_cons, rangesFrom] at ih ⊢
    rw [ih]; rfl

theorem lineRanges_eq (offs : List Nat) (n : Nat) : lineRanges offs n = rangesFrom 0 offs n := by
  unfold lineRanges
  exact lineRanges_from n offs 0

/-- a fresh line of `divide` -/
def lineOf (t : Text σ) (r : Int × Int) : Text σ :=
  new Variant.repaired (Py.slice t.plain r.1 r.2) t.style [] t.justify t.overflow

theorem newLines_eq (t : Text σ) (ranges : List (Int × Int)) :
    newLines Variant.repaired t ranges = ranges.map (lineOf t) := rfl

theorem newLines_zip (t : Text σ) : ∀ (ranges : List (Int × Int)),
    (newLines Variant.repaired t ranges).zip ranges = ranges.map (fun r => (lineOf t r, r))
  | [] => rfl
  | r :: rs => by
    have ih := newLines_zip t rs
    rw [newLines_eq] at ih ⊢
    simp only [List.map_cons, List.zip_cons_cons, ih]

theorem lineOf_plain (t : Text σ) (h : Inv t) (s e : Nat) :
    (lineOf t ((s : Int), (e : Int))).plain = (t.plain.drop s).take (e - s) := by
  have h1 : (lineOf t ((s : Int), (e : Int))).plain = stripControl (Py.slice t.plain (s : Int) (e : Int)) := rfl
  rw [h1, slice_nat]
  apply stripControl_id
  intro c hc
  exact h.2.1 c (List.mem_of_mem_drop (List.mem_of_mem_take hc))

theorem divLines_nil : ∀ (rest : List (Text σ × Int × Int)), divLines rest [] = rest.map (·.1)
  | [] => rfl
  | (line, s, e) :: rest => by simp [divLines]

theorem lineSpans_nil (s e : Int) : lineSpans s e ([] : List (Nat × Span σ)) = [] := rfl

theorem divLines_cons (line : Text σ) (s e : Int) (rest : List (Text σ × Int × Int)) (todo : List (Nat × Span σ))
    (hl : line.spans = []) :
    divLines ((line, s, e) :: rest) todo =
      { line with spans := lineSpans s e todo } ::
        divLines rest (((todo.takeWhile (fun p => decide (p.2.start < e))).filterMap (remOf e)).reverse ++
          todo.dropWhile (fun p => decide (p.2.start < e))) := by
  cases todo with
  | nil =>
    simp only [divLines, List.isEmpty_nil, if_true, lineSpans_nil, List.takeWhile_nil, List.filterMap_nil,
      List.reverse_nil, List.dropWhile_nil, List.append_nil, divLines_nil]
    cases line
    simp only [] at hl
    subst hl; rfl
  | cons p ps =>
    rw [divLines]
    simp only [List.isEmpty_cons, Bool.false_eq_true, if_false, divLineLoop_eq, List.nil_append]
    rfl

/-- one line of `divide`; `l` is a variable with its value in `hl` so that the record term stays out of the goals -/
theorem line_spec (t : Text σ) (h : Inv t) (s e : Nat) (hse : s ≤ e) (he : e ≤ t.plain.length)
    (todo : List (Nat × Span σ)) (hT : TodoInv t.spans s todo) (l : Text σ)
    (hl : l = { lineOf t ((s : Int), (e : Int)) with spans := lineSpans (s : Int) (e : Int) todo }) :
    Shows l t.style ((t.view.drop s).take (e - s)) ∧ l.justify = t.justify ∧ l.overflow = t.overflow := by
  have hp : l.plain = (t.plain.drop s).take (e - s) := by rw [hl]; exact lineOf_plain t h s e
  have hlen : l.plain.length = e - s := by
    rw [hp, List.length_take, List.length_drop, Nat.min_eq_left (Nat.sub_le_sub_right he s)]
  have hsp : l.spans = lineSpans (s : Int) (e : Int) todo := by rw [hl]
  have hst : l.style = t.style := by rw [hl]; rfl
  refine ⟨⟨⟨?_, ?_, ?_⟩, hst, ?_⟩, by rw [hl]; rfl, by rw [hl]; rfl⟩
  · have : l.length = ((l.plain.length : Nat) : Int) := by rw [hl]; rfl
    exact this
  · rw [hl]; exact stripControl_noCtl _
  · have hlen' : l.length = (e : Int) - (s : Int) := by
      have : l.length = ((l.plain.length : Nat) : Int) := by rw [hl]; rfl
      rw [this, hlen, Int.ofNat_sub hse]
    rw [hsp, hlen']
    exact line_spansIn t.spans s e todo hT
  · rw [view_eq_annot, view_eq_annot, hp]
    have h1 : (annot t.plain t.effStyle 0).drop s = annot (t.plain.drop s) t.effStyle (0 + s) :=
      (annot_drop t.plain t.effStyle 0 s).symm
    rw [h1, ← annot_take, annot_shift]
    apply annot_congr
    intro i _ hi
    rw [← hp, hlen, Nat.zero_add] at hi
    simp only [effStyle, hst, hsp]
    rw [line_spanIds t.spans s e todo hT i (Nat.add_lt_of_lt_sub' hi), Nat.add_comm]

theorem lineOf_spans (t : Text σ) (r : Int × Int) : (lineOf t r).spans = [] := rfl

theorem divLines_spec (t : Text σ) (h : Inv t) : ∀ (offs : List Nat) (s : Nat) (todo : List (Nat × Span σ)),
    TodoInv t.spans s todo → AscFrom s offs → (∀ o ∈ offs, o ≤ t.plain.length) → s ≤ t.plain.length →
    (divLines ((rangesFrom s offs t.plain.length).map (fun r => (lineOf t r, r))) todo).map view
        = piecesFrom s offs t.view ∧
    ∀ l ∈ divLines ((rangesFrom s offs t.plain.length).map (fun r => (lineOf t r, r))) todo,
      Inv l ∧ l.style = t.style ∧ l.justify = t.justify ∧ l.overflow = t.overflow
  | [], s, todo, hT, _, _, hs => by
    simp only [rangesFrom, List.map_cons, List.map_nil]
    rw [divLines_cons _ _ _ _ _ (lineOf_spans t _)]
    obtain ⟨h1, h2, h3⟩ := line_spec t h s t.plain.length hs (Nat.le_refl _) todo hT _ rfl
    have hv := h1.view
    rw [List.take_of_length_le (by rw [List.length_drop, view_length]; exact Nat.le_refl _)] at hv
    refine ⟨congrArg (· :: []) hv, ?_⟩
    intro l hl
    simp only [divLines, List.mem_singleton] at hl
    subst hl; exact ⟨h1.inv, h1.style, h2, h3⟩
  | o :: os, s, todo, hT, hasc, hb, hs => by
    obtain ⟨hso, hasc'⟩ := hasc
    have ho : o ≤ t.plain.length := hb o (by simp)
    simp only [rangesFrom, List.map_cons]
    rw [divLines_cons _ _ _ _ _ (lineOf_spans t _)]
    obtain ⟨h1, h2, h3⟩ := line_spec t h s o hso ho todo hT _ rfl
    obtain ⟨i1, i3⟩ := divLines_spec t h os o _ (todoInv_next t.spans s o hso todo hT) hasc'
      (fun x hx => hb x (by simp [hx])) ho
    refine ⟨List.cons_eq_cons.mpr ⟨h1.view, i1⟩, ?_⟩
    intro l hl
    rcases List.mem_cons.1 hl with rfl | hl
    · exact ⟨h1.inv, h1.style, h2, h3⟩
    · exact i3 l hl

theorem todoInv_init (t : Text σ) (h : Inv t) :
    TodoInv t.spans 0
      (Py.sortByKeyDesc (fun (p : Nat × Span σ) => p.2.start) (t.spans.zipIdx.map (fun p => (p.2, p.1)))).reverse := by
  have hperm := sortByKey_perm (fun (p : Nat × Span σ) => - p.2.start) (t.spans.zipIdx.map (fun p => (p.2, p.1)))
  have hmem : ∀ p, p ∈ (Py.sortByKeyDesc (fun (p : Nat × Span σ) => p.2.start)
      (t.spans.zipIdx.map (fun p => (p.2, p.1)))).reverse ↔ t.spans[p.1]? = some p.2 := by
    intro p
    rw [List.mem_reverse]
    unfold Py.sortByKeyDesc
    rw [hperm.mem_iff, List.mem_map]
    constructor
    · rintro ⟨q, hq, rfl⟩
      exact List.mem_zipIdx_iff_getElem?.1 hq
    · intro hp
      exact ⟨(p.2, p.1), List.mem_zipIdx_iff_getElem?.2 hp, rfl⟩
  refine ⟨?_, ?_, ?_, ?_⟩
  · rw [List.pairwise_reverse]
    unfold Py.sortByKeyDesc
    exact (sortByKey_sorted (fun (p : Nat × Span σ) => - p.2.start) _).imp (fun {a b} hab => by omega)
  · intro p hp
    have hp' := (hmem p).1 hp
    have hin : p.2 ∈ t.spans := List.mem_iff_getElem?.2 ⟨p.1, hp'⟩
    obtain ⟨h0, h1, _⟩ := h.2.2 p.2 hin
    exact ⟨p.2, hp', rfl, rfl, by omega, h1⟩
  · rw [List.map_reverse]
    refine ((List.reverse_perm _).trans (hperm.map _)).nodup_iff.2 ?_
    rw [List.map_map]
    have : ((fun x : Nat × Span σ => x.1) ∘ fun p : Span σ × Nat => (p.2, p.1)) = Prod.snd := rfl
    rw [this, List.zipIdx_map_snd]
    exact List.nodup_range' 1
  · intro i o ho _
    exact ⟨o, (hmem (i, o)).2 ho⟩

/-- the repaired `divide` at one offset or more: the span loop over the fresh lines (a text without spans has an empty
stack, and the loop returns the fresh lines as they are) -/
theorem divide_repaired [BEq σ] (t : Text σ) (o : Nat) (os : List Nat) :
    t.divide Variant.repaired (o :: os) =
      .ok (divLines ((rangesFrom 0 (o :: os) t.plain.length).map (fun r => (lineOf t r, r)))
        (Py.sortByKeyDesc (fun (p : Nat × Span σ) => p.2.start) (t.spans.zipIdx.map (fun p => (p.2, p.1)))).reverse) := by
  unfold divide
  simp only [List.isEmpty_cons, Bool.false_eq_true, if_false]
  rw [lineRanges_eq, newLines_zip]
  by_cases hsp : t.spans.isEmpty = true
  · rw [if_pos hsp, List.isEmpty_iff.1 hsp, newLines_eq]
    exact congrArg _ (by rw [show ([] : List (Span σ)).zipIdx.map _ = [] from rfl]; simp [Py.sortByKeyDesc, Py.sortByKey, divLines_nil])
  · rw [if_neg hsp]
    rfl

theorem divide_nil [BEq σ] (t : Text σ) (h : Inv t) : t.divide Variant.repaired [] = .ok [t] := by
  unfold Text.divide
  simp [copy_eq_self t h]

/-- **`divide` cuts the styled string.**  On the repaired code, dividing a consistent text at ascending
offsets inside the text yields one line per piece of `pieces offs`, each carrying exactly the characters of
its piece and, on every character, exactly the effective style (`base :: covering spans, in span order`)
the character had. -/
theorem divide_view [BEq σ] (t : Text σ) (offs : List Nat) (h : Inv t)
    (hs : AscFrom 0 offs) (hb : ∀ o ∈ offs, o ≤ t.plain.length) :
    ∃ lines, t.divide Variant.repaired offs = .ok lines ∧
      lines.map Text.view = pieces offs t.view ∧
      lines.map (·.plain) = pieces offs t.plain ∧
      (∀ l ∈ lines, Inv l ∧ l.style = t.style ∧ l.justify = t.justify ∧ l.overflow = t.overflow) := by
  cases offs with
  | nil =>
    refine ⟨[t], divide_nil t h, by simp [pieces, piecesFrom], by simp [pieces, piecesFrom], ?_⟩
    intro l hl
    simp only [List.mem_singleton] at hl
    subst hl; exact ⟨h, rfl, rfl, rfl⟩
  | cons o os =>
    obtain ⟨hv, hall⟩ := divLines_spec t h (o :: os) 0 _ (todoInv_init t h) hs hb (Nat.zero_le _)
    change _ = pieces (o :: os) t.view at hv
    -- the characters of the lines are read off their styled strings
    exact ⟨_, divide_repaired t o os, hv, by rw [map_plain, hv, pieces_map, view_map_fst], hall⟩

/-! ### the characters alone, in every variant -/

theorem divLines_plain : ∀ (work : List (Text σ × Int × Int)) (todo : List (Nat × Span σ)),
    (divLines work todo).map (·.plain) = work.map (·.1.plain) := by
  intro work
  induction work with
  | nil => intro _; rfl
  | cons x rest ih =>
    intro todo
    obtain ⟨line, s, e⟩ := x
    simp only [divLines]
    split
    · simp [Function.comp_def]
    · generalize divLineLoop s e todo [] [] = r
      obtain ⟨a, b, c⟩ := r
      simp only [List.map_cons, ih]

theorem divLinesOld_plain [BEq σ] : ∀ (work : List (Text σ × Int × Int)) (todo : List (Span σ))
    (ord : List (Span σ × Nat)) (r : List (Text σ)), divLinesOld work todo ord = some r →
    r.map (·.plain) = work.map (·.1.plain) := by
  intro work
  induction work with
  | nil => intro _ _ r h; simp only [divLinesOld] at h; cases h; rfl
  | cons x rest ih =>
    intro todo ord r h
    obtain ⟨line, s, e⟩ := x
    simp only [divLinesOld] at h
    -- no span left to place: the remaining lines as they are; else the three places where the as-found code can fail (the span
    -- loop, the lookup of a span's rank, the rest of the lines) answer `none`, and only the spans of the line are replaced
    split at h
    · cases h; simp [Function.comp_def]
    · split at h
      · cases h
      · split at h
        · cases h
        · split at h
          · cases h
          · rename_i tl htl
            cases h
            simp only [List.map_cons, ih _ _ _ htl]

theorem rangesFrom_plain (l : List Char) : ∀ (offs : List Nat) (s : Nat),
    (rangesFrom s offs l.length).map (fun r => stripControl (Py.slice l r.1 r.2)) = (piecesFrom s offs l).map stripControl
  | [], s => by
    simp only [rangesFrom, piecesFrom, List.map_cons, List.map_nil, slice_nat]
    rw [List.take_of_length_le (by simp)]
  | o :: os, s => by
    simp only [rangesFrom, piecesFrom, List.map_cons, slice_nat]
    rw [rangesFrom_plain l os o]

theorem newLines_plain (v : Variant) (t : Text σ) (ranges : List (Int × Int)) :
    (newLines v t ranges).map (·.plain) = ranges.map (fun r => stripControl (Py.slice t.plain r.1 r.2)) := by
  simp only [newLines, List.map_map]
  rfl

/-- `divide` cuts the characters at the offsets (and strips control codes), in every variant -/
theorem divide_plain [BEq σ] (v : Variant) (t : Text σ) (offs : List Nat) (lines : List (Text σ))
    (h : t.divide v offs = .ok lines) : lines.map (·.plain) = (RichModel.pieces offs t.plain).map stripControl := by
  unfold divide at h
  have hwork : ((newLines v t (lineRanges offs t.plain.length)).zip (lineRanges offs t.plain.length)).map (·.1.plain)
      = (RichModel.pieces offs t.plain).map stripControl := by
    have : ((newLines v t (lineRanges offs t.plain.length)).zip (lineRanges offs t.plain.length)).map (·.1.plain)
        = (newLines v t (lineRanges offs t.plain.length)).map (·.plain) := by
      rw [show (fun x : Text σ × Int × Int => x.1.plain) = (fun x : Text σ => x.plain) ∘ Prod.fst from rfl,
        ← List.map_map, List.map_fst_zip]
      simp [newLines]
    rw [this, newLines_plain, lineRanges_eq, rangesFrom_plain]
    rfl
  split at h
  · -- no offsets: a copy of the text
    rename_i he
    cases h
    have : offs = [] := List.isEmpty_iff.mp he
    subst this
    simp [RichModel.pieces, piecesFrom, copy, new]
  · simp only at h
    split at h
    · -- no spans: the new lines as they are cut
      cases h
      rw [newLines_plain, lineRanges_eq, rangesFrom_plain]
      rfl
    · -- spans: the as-found order of the spans (`divLinesOld`, which may raise `KeyError`), or the repaired one (`divLines`)
      split at h
      · split at h
        · rename_i r hr
          cases h
          rw [divLinesOld_plain _ _ _ _ hr, hwork]
        · cases h
      · cases h
        rw [divLines_plain, hwork]

/-- "abcdef" with base style 0 and three overlapping spans (two of them equal as values, one empty) -/
def exText : Text Nat :=
  { plain := ['a', 'b', 'c', 'd', 'e', 'f'], length := 6, style := 0
    spans := [⟨1, 5, 1⟩, ⟨0, 3, 2⟩, ⟨1, 5, 1⟩, ⟨4, 4, 3⟩] }

example : Inv exText := by
  refine ⟨rfl, by decide, ?_⟩
  intro sp hsp
  simp only [exText, List.mem_cons, List.not_mem_nil, or_false] at hsp
  rcases hsp with rfl | rfl | rfl | rfl <;> decide

example : AscFrom 0 [2, 2, 5] ∧ ∀ o ∈ [2, 2, 5], o ≤ exText.plain.length := by
  refine ⟨⟨by decide, by decide, by decide, trivial⟩, by decide⟩

example : (exText.divide Variant.repaired [2, 2, 5]).toOption.map (·.map view) =
    some [[('a', [0, 2]), ('b', [0, 1, 2, 1])], [], [('c', [0, 1, 2, 1]), ('d', [0, 1, 1]), ('e', [0, 1, 1])],
      [('f', [0])]] := by decide +kernel

end Text

end RichModel
