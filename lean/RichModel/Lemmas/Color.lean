import RichModel.Model.Color
import RichModel.Lemmas.Except
/-!
Colour down-conversion (property C18): the specification predicates (`IsNearest`, `Color.WF`, `Color.InGamut`,
`onGreyRamp`, `sourceTriplet`, `sgrSpec`) and the lemmas under them; Python's `round` enters through `pyRound_near`,
`downgrade` through one equation per target system.
-/
namespace RichModel

/-- `r` is the first index of a minimum of `ks`. -/
def IsFirstMin (ks : List Nat) (r : Nat) : Prop :=
  ∃ kr, ks[r]? = some kr ∧ ∀ j k, ks[j]? = some k → kr ≤ k ∧ (j < r → kr < k)

private theorem getElem?_concat_some {pre : List Nat} {k k' j : Nat} (h : (pre ++ [k])[j]? = some k') :
    pre[j]? = some k' ∨ (j = pre.length ∧ k' = k) := by
  rcases Nat.lt_trichotomy j pre.length with hj | rfl | hj
  · exact Or.inl (List.getElem?_append_left hj ▸ h)
  · rw [List.getElem?_concat_length] at h; exact Or.inr ⟨rfl, (Option.some.inj h).symm⟩
  · rw [List.getElem?_eq_none (by rw [List.length_append, List.length_singleton]; omega)] at h; cases h

/-- The loop invariant of `min`: `best` is the first minimum of the keys `pre` seen so far, with key `bk`. -/
theorem minIndexAux_spec (ks : List Nat) : ∀ (pre : List Nat) (best bk : Nat),
    pre[best]? = some bk →
    (∀ j k, pre[j]? = some k → bk ≤ k ∧ (j < best → bk < k)) →
    IsFirstMin (pre ++ ks) (minIndexAux ks pre.length best bk) := by
  induction ks with
  | nil => intro pre best bk h1 h2; rw [List.append_nil]; exact ⟨bk, h1, h2⟩
  | cons k ks ih =>
    intro pre best bk h1 h2
    have hb : best < pre.length := (List.getElem?_eq_some_iff.1 h1).1
    have hlen : (pre ++ [k]).length = pre.length + 1 := by rw [List.length_append, List.length_singleton]
    rw [List.append_cons, minIndexAux, ← hlen]
    split
    · next hk =>
      refine ih (pre ++ [k]) pre.length k List.getElem?_concat_length ?_
      intro j k' hj
      rcases getElem?_concat_some hj with h | ⟨rfl, rfl⟩
      · have := h2 j k' h; omega
      · omega
    · next hk =>
      refine ih (pre ++ [k]) best bk (by rw [List.getElem?_append_left hb]; exact h1) ?_
      intro j k' hj
      rcases getElem?_concat_some hj with h | ⟨rfl, rfl⟩
      · exact h2 j k' h
      · omega

theorem minIndex_spec (ks : List Nat) (r : Nat) (h : minIndex ks = some r) : IsFirstMin ks r := by
  cases ks with
  | nil => cases h
  | cons k ks =>
    cases h
    refine minIndexAux_spec ks [k] 0 k rfl ?_
    intro j k' hj
    cases j with
    | zero => cases hj; omega
    | succ j => cases hj

theorem IsFirstMin.lt {ks : List Nat} {r : Nat} (h : IsFirstMin ks r) : r < ks.length := by
  obtain ⟨kr, h1, _⟩ := h
  exact (List.getElem?_eq_some_iff.1 h1).1

/-- `k` is the first palette entry of minimum distance from `c`. -/
def IsNearest (pal : List Triplet) (c : Triplet) (k : Nat) : Prop :=
  ∃ p, pal[k]? = some p ∧ ∀ j q, pal[j]? = some q →
    colorDist2 c p ≤ colorDist2 c q ∧ (j < k → colorDist2 c p < colorDist2 c q)

theorem paletteMatch_spec (pal : List Triplet) (c : Triplet) (k : Nat)
    (h : paletteMatch pal c = .ok k) : IsNearest pal c k := by
  unfold paletteMatch at h
  split at h
  · cases h
  · next i hi =>
    cases h
    obtain ⟨kr, h1, h2⟩ := minIndex_spec _ _ hi
    rw [List.getElem?_map] at h1
    obtain ⟨p, hp, rfl⟩ := Option.map_eq_some_iff.1 h1
    exact ⟨p, hp, fun j q hq => h2 j _ (by rw [List.getElem?_map, hq]; rfl)⟩

theorem paletteMatch_ok (pal : List Triplet) (c : Triplet) (h : pal ≠ []) :
    ∃ k, paletteMatch pal c = .ok k := by
  cases pal with
  | nil => exact absurd rfl h
  | cons p ps => exact ⟨_, rfl⟩

theorem IsNearest.lt {pal : List Triplet} {c : Triplet} {k : Nat} (h : IsNearest pal c k) : k < pal.length := by
  obtain ⟨p, h1, _⟩ := h
  exact (List.getElem?_eq_some_iff.1 h1).1

theorem IsNearest.unique {pal : List Triplet} {c : Triplet} {k k' : Nat}
    (h : IsNearest pal c k) (h' : IsNearest pal c k') : k = k' := by
  obtain ⟨p, hp, hmin⟩ := h
  obtain ⟨p', hp', hmin'⟩ := h'
  have a := hmin k' p' hp'
  have b := hmin' k p hp
  omega

theorem absDiff_le {a b m : Nat} (ha : a ≤ m) (hb : b ≤ m) : absDiff a b ≤ m := by
  unfold absDiff
  split
  · exact Nat.le_trans (Nat.sub_le a b) ha
  · exact Nat.le_trans (Nat.sub_le b a) hb

theorem distTerm_le {w x W X : Nat} (hw : w ≤ W) (hx : x ≤ X) : w * x * x / 256 ≤ W * X * X / 256 :=
  Nat.div_le_div_right (Nat.mul_le_mul (Nat.mul_le_mul hw hx) hx)

/-- `pyRound n d` is within one half of `n / d`. -/
theorem pyRound_near (n d : Nat) (hd : 0 < d) :
    2 * n ≤ 2 * (d * pyRound n d) + d ∧ 2 * (d * pyRound n d) ≤ 2 * n + d := by
  have hn := Nat.div_add_mod n d
  have hr := Nat.mod_lt n hd
  simp only [pyRound]
  generalize n / d = q, n % d = r at *
  subst hn
  split
  · omega
  · split
    · rw [Nat.mul_succ]; omega
    · split
      · omega
      · rw [Nat.mul_succ]; omega

theorem cubeCoord_eq (c : Nat) : cubeCoord c = (c + 25) / 51 := by
  have := pyRound_near (5 * c) 255 (by decide)
  unfold cubeCoord
  omega

theorem cubeCoord_le (c : Nat) (h : c ≤ 255) : cubeCoord c ≤ 5 := by
  rw [cubeCoord_eq]; omega

/-- Three values of `cubeCoord`: on both sides of the first rounding threshold, and at 255. -/
theorem cubeCoord_diag_examples : cubeCoord 25 = 0 ∧ cubeCoord 26 = 1 ∧ cubeCoord 255 = 5 := by decide +kernel

/-- A `ColorTriplet` in range. -/
def Triplet.WF (t : Triplet) : Prop := t.red ≤ 255 ∧ t.green ≤ 255 ∧ t.blue ≤ 255

/-- A colour object with a number exactly where the type is an indexed one — below 16 for the sixteen STANDARD /
WINDOWS colours, below 256 for the EIGHT_BIT palette — and a triplet with components ≤ 255 exactly for TRUECOLOR: the
shape of what `Color.parse` and the `from_*` constructors make from arguments in range (C06's `MadeColor`; no theorem
states that link). -/
def Color.WF (c : Color) : Prop :=
  match c.type with
  | .default => c.number = none ∧ c.triplet = none
  | .standard => (∃ n, c.number = some n ∧ n < 16) ∧ c.triplet = none
  | .windows => (∃ n, c.number = some n ∧ n < 16) ∧ c.triplet = none
  | .eightBit => (∃ n, c.number = some n ∧ n < 256) ∧ c.triplet = none
  | .truecolor => c.number = none ∧ ∃ t, c.triplet = some t ∧ t.WF

/-- `r` is well-formed and representable in the colour system: default, or of a type the system can show. -/
def Color.InGamut (r : Color) : ColorSystem → Prop
  | .standard => r.WF ∧ (r.type = .default ∨ r.type = .standard)
  | .windows => r.WF ∧ (r.type = .default ∨ r.type = .windows)
  | .eightBit => r.WF ∧ r.type ≠ .truecolor
  | .truecolor => r.WF

theorem Color.InGamut.wf {r : Color} {sys : ColorSystem} (h : r.InGamut sys) : r.WF := by
  cases sys with
  | truecolor => exact h
  | _ => exact h.1

/-- `Triplet.WF` as a test `decide` runs on the translated tables. -/
def tripletOk (t : Triplet) : Bool := t.red ≤ 255 && t.green ≤ 255 && t.blue ≤ 255

/-- The side condition on the translated palettes: 16 / 16 / 256 entries, every component in range. -/
def Palettes.ok (P : Palettes) : Bool :=
  P.standard.length == 16 && P.windows.length == 16 && P.eightBit.length == 256 &&
  P.standard.all tripletOk && P.windows.all tripletOk && P.eightBit.all tripletOk

theorem Palettes.lengths {P : Palettes} (hP : P.ok = true) :
    P.standard.length = 16 ∧ P.windows.length = 16 ∧ P.eightBit.length = 256 := by
  simp only [Palettes.ok, Bool.and_eq_true, beq_iff_eq] at hP
  exact ⟨hP.1.1.1.1.1, hP.1.1.1.1.2, hP.1.1.1.2⟩

/-- Black (16), white (231) or one of the 24 greys 232..255 of the 256-colour palette. -/
def onGreyRamp (n : Nat) : Prop := n = 16 ∨ n = 231 ∨ (232 ≤ n ∧ n ≤ 255)

theorem Color.WF.triplet {c : Color} (h : c.WF) (ht : c.type = .truecolor) : ∃ t, c.triplet = some t ∧ t.WF := by
  simp only [Color.WF, ht] at h
  exact h.2

theorem Color.WF.number {c : Color} (h : c.WF) (hd : c.type ≠ .default) (ht : c.type ≠ .truecolor) :
    ∃ n, c.number = some n ∧ n < 256 := by
  obtain ⟨name, type, number, triplet⟩ := c
  cases type
  case default => exact absurd rfl hd
  case truecolor => exact absurd rfl ht
  all_goals
    obtain ⟨⟨n, hn, hlt⟩, -⟩ := h
    exact ⟨n, hn, by omega⟩

theorem grayLevel_le (t : Triplet) (h : t.WF) : grayLevel t ≤ 25 := by
  have hM : t.maxc ≤ 255 := Nat.max_le.2 ⟨h.1, Nat.max_le.2 h.2⟩
  have hm : t.minc ≤ 255 := Nat.le_trans (Nat.min_le_left _ _) h.1
  have := pyRound_near (25 * (t.maxc + t.minc)) 510 (by decide)
  unfold grayLevel
  omega

theorem grayLevel_diag (v : Nat) : grayLevel ⟨v, v, v⟩ = (10 * v + 51) / 102 := by
  have := pyRound_near (25 * (v + v)) 510 (by decide)
  simp only [grayLevel, Triplet.maxc, Triplet.minc, Nat.max_self, Nat.min_self]
  omega

theorem toEightBitNumber_spec (exc : List (Nat × Nat)) (t : Triplet) (h : t.WF) :
    16 ≤ toEightBitNumber exc t ∧ toEightBitNumber exc t ≤ 255 ∧
    (satLow exc t = true → onGreyRamp (toEightBitNumber exc t)) ∧
    (satLow exc t = false →
      toEightBitNumber exc t = 16 + 36 * ((t.red + 25) / 51) + 6 * ((t.green + 25) / 51) + (t.blue + 25) / 51 ∧
      toEightBitNumber exc t ≤ 231) := by
  have hg := grayLevel_le t h
  have hr := cubeCoord_le t.red h.1
  have hgr := cubeCoord_le t.green h.2.1
  have hb := cubeCoord_le t.blue h.2.2
  simp only [← cubeCoord_eq, onGreyRamp]
  unfold toEightBitNumber
  cases satLow exc t
  · simp only [Bool.false_eq_true, if_false, false_imp_iff, forall_const, true_and]
    omega
  · simp only [if_true, reduceCtorEq, false_imp_iff, forall_const, and_true]
    split
    · omega
    · split <;> omega

theorem paletteGet_eq_ok {pal : List Triplet} {n : Nat} {t : Triplet} : paletteGet pal n = .ok t ↔ pal[n]? = some t := by
  unfold paletteGet
  cases pal[n]? with
  | none => exact ⟨nofun, nofun⟩
  | some p => exact ⟨fun h => congrArg some (Except.ok.inj h), fun h => congrArg Except.ok (Option.some.inj h)⟩

/-- the 16-colour type that belongs to a 16-colour system -/
def ColorSystem.type16 : ColorSystem → ColorType
  | .windows => .windows
  | _ => .standard

/-- `Palette.match` of `t` in the palette of the 16-colour system `sys`, made into a colour of that system. -/
def search16 (P : Palettes) (sys : ColorSystem) (name : List Char) (t : Triplet) : Except ColorErr Color := do
  let n ← paletteMatch (if sys = .windows then P.windows else P.standard) t
  .ok { name := name, type := sys.type16, number := some n, triplet := none }

theorem search16_spec {P : Palettes} {sys : ColorSystem} {name : List Char} {t : Triplet} {r : Color}
    (h : search16 P sys name t = .ok r) :
    ∃ k, r = { name := name, type := sys.type16, number := some k, triplet := none } ∧
      IsNearest (if sys = .windows then P.windows else P.standard) t k := by
  obtain ⟨k, hk, h⟩ := bind_ok.mp h
  exact ⟨k, (Except.ok.inj h).symm, paletteMatch_spec _ _ _ hk⟩

theorem downgrade_self (cfg : Cfg) (P : Palettes) (c : Color) (sys : ColorSystem)
    (h : c.type = .default ∨ c.type.toNat = sys.toNat) : downgrade cfg P c sys = .ok c :=
  if_pos h

theorem downgrade_truecolor (cfg : Cfg) (P : Palettes) (c : Color) : downgrade cfg P c .truecolor = .ok c := by
  simp only [downgrade, reduceCtorEq, false_and, if_false, ite_self]

theorem downgrade_eightBit (cfg : Cfg) (P : Palettes) (c : Color) :
    downgrade cfg P c .eightBit =
      if c.type = .truecolor then do
        let t ← assertSome c.triplet
        .ok { name := c.name, type := .eightBit, number := some (toEightBitNumber cfg.satExc t), triplet := none }
      else .ok c := by
  obtain ⟨name, type, number, triplet⟩ := c
  cases type <;> rfl

/-- Both 16-colour targets run the same code up to the palette searched, the type tag, and the one
place where the variants differ: as found, only WINDOWS keeps a number below 16. -/
theorem downgrade_16 (cfg : Cfg) (P : Palettes) (c : Color) {sys : ColorSystem} (hsys : sys = .standard ∨ sys = .windows) :
    downgrade cfg P c sys =
      (if c.type = .default ∨ c.type = sys.type16 then .ok c
      else if c.type = .truecolor then do
        let t ← assertSome c.triplet
        search16 P sys c.name t
      else do
        let number ← assertSome c.number
        if (sys = .standard → cfg.stdViaPalette = false) ∧ number < 16 then
          .ok { name := c.name, type := sys.type16, number := some number, triplet := none }
        else do
          let t ← paletteGet P.eightBit number
          search16 P sys c.name t) := by
  obtain ⟨name, type, number, triplet⟩ := c
  rcases hsys with rfl | rfl <;> cases type <;>
    simp [downgrade, search16, Color.system, ColorType.toNat, ColorSystem.toNat, ColorSystem.type16]

theorem downgrade_eightBit_of_triplet (cfg : Cfg) (P : Palettes) {c : Color} {t : Triplet} (ht : c.type = .truecolor)
    (htr : c.triplet = some t) :
    downgrade cfg P c .eightBit =
      .ok { name := c.name, type := .eightBit, number := some (toEightBitNumber cfg.satExc t), triplet := none } := by
  rw [downgrade_eightBit, if_pos ht, htr]
  rfl

theorem downgrade_16_of_lt (cfg : Cfg) (P : Palettes) (c : Color) {sys : ColorSystem} (hsys : sys = .standard ∨ sys = .windows)
    (hcfg : sys = .standard → cfg.stdViaPalette = false) (ht : c.type = .standard ∨ c.type = .eightBit ∨ c.type = .windows)
    {n : Nat} (hn : c.number = some n) (h16 : n < 16) :
    ∃ r, downgrade cfg P c sys = .ok r ∧ r.number = some n ∧ r.type = sys.type16 ∧ r.name = c.name := by
  rw [downgrade_16 cfg P c hsys]
  by_cases hself : c.type = .default ∨ c.type = sys.type16
  · rw [if_pos hself]
    refine ⟨c, rfl, hn, hself.resolve_left ?_, rfl⟩
    rcases ht with ht | ht | ht <;> rw [ht] <;> decide
  · rw [if_neg hself, if_neg (by rcases ht with ht | ht | ht <;> rw [ht] <;> decide), hn]
    exact ⟨_, if_pos ⟨hcfg, h16⟩, rfl, rfl, rfl⟩

theorem ColorSystem.eq_of_beq {a b : ColorSystem} (h : (a == b) = true) : a = b := by
  revert h; cases a <;> cases b <;> decide

theorem ColorSystem.is16_or (sys : ColorSystem) :
    (sys = .standard ∨ sys = .windows) ∨ sys = .eightBit ∨ sys = .truecolor := by
  cases sys <;> simp

theorem type16_toNat {sys : ColorSystem} (hsys : sys = .standard ∨ sys = .windows) : sys.type16.toNat = sys.toNat := by
  rcases hsys with rfl | rfl <;> rfl

theorem inGamut_16 {sys : ColorSystem} (hsys : sys = .standard ∨ sys = .windows) (name : List Char) {k : Nat} (hk : k < 16) :
    Color.InGamut { name := name, type := sys.type16, number := some k, triplet := none } sys := by
  rcases hsys with rfl | rfl <;> exact ⟨⟨⟨k, rfl, hk⟩, rfl⟩, Or.inr rfl⟩

theorem search16_inGamut {P : Palettes} (hP : P.ok = true) {sys : ColorSystem} (hsys : sys = .standard ∨ sys = .windows)
    (name : List Char) (t : Triplet) : ∃ r, search16 P sys name t = .ok r ∧ r.InGamut sys ∧ r.name = name := by
  have hlen : (if sys = .windows then P.windows else P.standard).length = 16 := by
    split
    · exact (Palettes.lengths hP).2.1
    · exact (Palettes.lengths hP).1
  obtain ⟨k, hk⟩ := paletteMatch_ok _ t (List.ne_nil_of_length_pos (Nat.lt_of_lt_of_eq (Nat.succ_pos 15) hlen.symm))
  refine ⟨_, congrArg (· >>= _) hk, inGamut_16 hsys name (hlen ▸ (paletteMatch_spec _ _ _ hk).lt), rfl⟩

theorem downgrade_wf (cfg : Cfg) (P : Palettes) (hP : P.ok = true) (c : Color) (sys : ColorSystem) (h : c.WF) :
    ∃ r, downgrade cfg P c sys = .ok r ∧ r.InGamut sys ∧ r.name = c.name := by
  rcases sys.is16_or with hsys | rfl | rfl
  · rw [downgrade_16 cfg P c hsys]
    split
    · next hn => exact ⟨c, rfl, by rcases hsys with rfl | rfl <;> exact ⟨h, hn⟩, rfl⟩
    · next hn =>
      split
      · next ht =>
        obtain ⟨t, htr, -⟩ := h.triplet ht
        rw [htr]
        exact search16_inGamut hP hsys c.name t
      · next ht =>
        obtain ⟨n, hnum, hn256⟩ := h.number (fun hd => hn (Or.inl hd)) ht
        rw [hnum]
        simp only [assertSome, bind, Except.bind]
        split
        · next hk => exact ⟨_, rfl, inGamut_16 hsys _ hk.2, rfl⟩
        · rw [paletteGet_eq_ok.2 (List.getElem?_eq_getElem ((Palettes.lengths hP).2.2 ▸ hn256))]
          exact search16_inGamut hP hsys c.name _
  · by_cases ht : c.type = .truecolor
    · obtain ⟨t, htr, htwf⟩ := h.triplet ht
      have := (toEightBitNumber_spec cfg.satExc t htwf).2.1
      exact ⟨_, downgrade_eightBit_of_triplet cfg P ht htr, ⟨⟨⟨_, rfl, by omega⟩, rfl⟩, nofun⟩, rfl⟩
    · exact ⟨c, by rw [downgrade_eightBit, if_neg ht], ⟨h, ht⟩, rfl⟩
  · exact ⟨c, downgrade_truecolor cfg P c, h, rfl⟩

theorem downgrade_type (cfg : Cfg) (P : Palettes) (c r : Color) (sys : ColorSystem)
    (h : downgrade cfg P c sys = .ok r) : r = c ∨ r.type.toNat = sys.toNat := by
  rcases sys.is16_or with hsys | rfl | rfl
  · rw [downgrade_16 cfg P c hsys] at h
    split at h
    · exact Or.inl (Except.ok.inj h).symm
    · right
      rw [← type16_toNat hsys]
      split at h
      · obtain ⟨t, -, h⟩ := bind_ok.mp h
        obtain ⟨k, rfl, -⟩ := search16_spec h
        rfl
      · obtain ⟨n, -, h⟩ := bind_ok.mp h
        split at h
        · cases h; rfl
        · obtain ⟨t, -, h⟩ := bind_ok.mp h
          obtain ⟨k, rfl, -⟩ := search16_spec h
          rfl
  · rw [downgrade_eightBit] at h
    split at h
    · obtain ⟨t, -, h⟩ := bind_ok.mp h
      cases h; exact Or.inr rfl
    · exact Or.inl (Except.ok.inj h).symm
  · exact Or.inl (Except.ok.inj ((downgrade_truecolor cfg P c).symm.trans h)).symm

theorem downgrade_idem (cfg : Cfg) (P : Palettes) (c r : Color) (sys : ColorSystem)
    (h : downgrade cfg P c sys = .ok r) : downgrade cfg P r sys = .ok r := by
  rcases downgrade_type cfg P c r sys h with rfl | ht
  · exact h
  · exact downgrade_self cfg P r sys (Or.inr ht)

/-- The RGB value a palette search is specified over: the triplet of a truecolor colour, the
8-bit palette entry of an 8-bit colour. -/
def sourceTriplet (P : Palettes) (c : Color) : Option Triplet :=
  match c.type with
  | .truecolor => c.triplet
  | .eightBit => match c.number with
    | some n => P.eightBit[n]?
    | none => none
  | _ => none

theorem sourceTriplet_eq_some {P : Palettes} {c : Color} {t : Triplet} (h : sourceTriplet P c = some t) :
    (c.type = .truecolor ∧ c.triplet = some t) ∨
    (c.type = .eightBit ∧ ∃ n, c.number = some n ∧ P.eightBit[n]? = some t) := by
  obtain ⟨name, type, number, triplet⟩ := c
  cases type
  case truecolor => exact Or.inl ⟨rfl, h⟩
  case eightBit =>
    cases number with
    | none => cases h
    | some n => exact Or.inr ⟨rfl, n, rfl, h⟩
  all_goals cases h

theorem downgrade_16_search (cfg : Cfg) (P : Palettes) (c : Color) {sys : ColorSystem} (hsys : sys = .standard ∨ sys = .windows)
    {t : Triplet} (hsrc : sourceTriplet P c = some t) (hbig : c.type = .eightBit → ∀ n, c.number = some n → 16 ≤ n) :
    downgrade cfg P c sys = search16 P sys c.name t := by
  rw [downgrade_16 cfg P c hsys]
  rcases sourceTriplet_eq_some hsrc with ⟨ht, htr⟩ | ⟨ht, n, hn, hp⟩
  · rw [if_neg (by rw [ht]; rcases hsys with rfl | rfl <;> decide), if_pos ht, htr]
    rfl
  · rw [if_neg (by rw [ht]; rcases hsys with rfl | rfl <;> decide), if_neg (by rw [ht]; decide), hn]
    show (if _ then _ else _) = _
    rw [if_neg (fun hk => Nat.not_lt.2 (hbig ht n hn) hk.2), paletteGet_eq_ok.2 hp]
    rfl

/-- The standard SGR parameters for a colour of each kind (ECMA-48 / xterm):
39/49 default; 30-37, 90-97 (fg) and 40-47, 100-107 (bg) for the 16 colours;
38;5;n / 48;5;n; 38;2;r;g;b / 48;2;r;g;b. -/
def sgrSpec (c : Color) (fg : Bool) : List Nat :=
  match c.type with
  | .default => [if fg then 39 else 49]
  | .standard | .windows =>
    let n := c.number.getD 0
    [if n < 8 then (if fg then 30 else 40) + n else (if fg then 90 else 100) + (n - 8)]
  | .eightBit => [if fg then 38 else 48, 5, c.number.getD 0]
  | .truecolor =>
    match c.triplet with
    | some t => [if fg then 38 else 48, 2, t.red, t.green, t.blue]
    | none => []

theorem getAnsiCodes_spec (c : Color) (fg : Bool) (h : c.WF) : getAnsiCodes c fg = .ok (sgrSpec c fg) := by
  obtain ⟨name, type, number, triplet⟩ := c
  cases type
  case default => rfl
  case eightBit => obtain ⟨⟨n, rfl, -⟩, -⟩ := h; rfl
  case truecolor => obtain ⟨-, t, rfl, -⟩ := h; rfl
  -- STANDARD and WINDOWS: the code adds 82 / 92 to numbers 8..15, the specification 90 / 100 to `n - 8`
  all_goals
    obtain ⟨⟨n, rfl, -⟩, -⟩ := h
    have e : 8 ≤ n → 82 + n = 90 + (n - 8) ∧ 92 + n = 100 + (n - 8) := by omega
    simp only [getAnsiCodes, sgrSpec, assertSome, bind, Except.bind, Option.getD_some]
    by_cases h8 : n < 8
    · cases fg <;> simp only [h8, if_true, Bool.false_eq_true, if_false]
    · cases fg <;> simp only [h8, if_true, Bool.false_eq_true, if_false, e (Nat.le_of_not_lt h8)]

end RichModel
