import RichModel.Model.Ansi
/-!
Foreign ANSI (property C19, "with its ANSI styling preserved"): an interpreter of SGR parameter lists
written from ECMA-48 8.3.117 / ISO 8613-6 — not from `rich/ansi.py` —, what a `Style` means to it, and the
check that the decoder's table agrees with it.  Definitions only: the check is evaluated in `AnsiTables`, and
`AnsiForeign` proves that the repaired decoder's running style always means what the interpreter says.

The rendition aspects modelled are the 13 attributes of `Style`, foreground, background and the OSC 8
hyperlink.  SGR 26 (proportional spacing in ECMA-48, "not blink2" in rich's table) is outside:
`decode_sgr_means_ecma` excludes parameter lists containing 26.  For a colour-space selector after 38 / 48 other than 5
and 2 the standard fixes no meaning; the interpreter skips the selector (as rich does).
-/
namespace RichModel
namespace Ansi
open AsciiStr Style

/-- a colour as a terminal understands it: palette index or direct RGB (`none` elsewhere = default) -/
inductive CKey where
  | idx (n : Nat)
  | rgb (r g b : Nat)
deriving DecidableEq, Repr

/-- the graphic rendition in force -/
structure Rend where
  /-- attributes that are on, bit `i` = attribute `i` of `Style` -/
  on : Nat
  fg : Option CKey
  bg : Option CKey
  link : Option (List Char)
deriving DecidableEq, Repr

/-- what one SGR parameter does: attributes switched off, attributes switched on, colours set -/
structure Effect where
  clear : Nat
  set : Nat
  fg : Option (Option CKey)
  bg : Option (Option CKey)
deriving DecidableEq, Repr

def Effect.apply (e : Effect) (m : Rend) : Rend :=
  { on := andNot m.on e.clear ||| e.set, fg := e.fg.getD m.fg, bg := e.bg.getD m.bg, link := m.link }

def attrOn (i : Nat) : Effect := ⟨2 ^ i, 2 ^ i, none, none⟩
def attrOff (mask : Nat) : Effect := ⟨mask, 0, none, none⟩
def fgSet (c : Option CKey) : Effect := ⟨0, 0, some c, none⟩
def bgSet (c : Option CKey) : Effect := ⟨0, 0, none, some c⟩

/-- ECMA-48 8.3.117 SGR, restricted to the modelled aspects.  Attribute bits: 0 bold, 1 faint, 2 italic,
3 underline, 4 slow blink, 5 rapid blink, 6 negative, 7 concealed, 8 crossed out, 9 doubly underlined,
10 framed, 11 encircled, 12 overlined. -/
def ecmaTable : List (Nat × Effect) :=
  [(1, attrOn 0), (2, attrOn 1), (3, attrOn 2), (4, attrOn 3), (5, attrOn 4), (6, attrOn 5), (7, attrOn 6),
   (8, attrOn 7), (9, attrOn 8), (21, attrOn 9),
   (22, attrOff 3),            -- normal intensity: neither bold nor faint
   (23, attrOff 4),            -- not italicized
   (24, attrOff 520),          -- not underlined (neither singly nor doubly)
   (25, attrOff 48),           -- steady (not blinking)
   (27, attrOff 64), (28, attrOff 128), (29, attrOff 256),
   (39, fgSet none), (49, bgSet none),
   (51, attrOn 10), (52, attrOn 11), (53, attrOn 12),
   (54, attrOff 3072),         -- not framed, not encircled
   (55, attrOff 4096)] ++
  (List.range 8).map (fun n => (30 + n, fgSet (some (.idx n)))) ++
  (List.range 8).map (fun n => (40 + n, bgSet (some (.idx n)))) ++
  (List.range 8).map (fun n => (90 + n, fgSet (some (.idx (n + 8))))) ++
  (List.range 8).map (fun n => (100 + n, bgSet (some (.idx (n + 8)))))

def ecmaEffect (c : Nat) : Option Effect := (ecmaTable.find? fun p => p.1 == c).map (·.2)

/-- ISO 8613-6 extended colour after 38 / 48: `5 ; n` or `2 ; r ; g ; b`.  `none` = the list ended inside. -/
def ecmaExt : List Nat → Option (Option CKey × Nat)
  | [] => none
  | ct :: r =>
    if ct = 5 then
      match r with
      | [] => none
      | n :: _ => some (some (.idx n), 2)
    else if ct = 2 then
      match r with
      | a :: b :: c :: _ => some (some (.rgb a b c), 4)
      | _ => none
    else some (none, 1)

/-- Apply a list of SGR parameters to a rendition (third argument: parameters already consumed). -/
def ecmaFold : Rend → List Nat → Nat → Rend
  | m, [], _ => m
  | m, _ :: r, k + 1 => ecmaFold m r k
  | m, c :: r, 0 =>
    if c = 0 then ecmaFold { on := 0, fg := none, bg := none, link := m.link } r 0
    else if c = 38 then
      match ecmaExt r with
      | none => m
      | some (some col, n) => ecmaFold { m with fg := some col } r n
      | some (none, n) => ecmaFold m r n
    else if c = 48 then
      match ecmaExt r with
      | none => m
      | some (some col, n) => ecmaFold { m with bg := some col } r n
      | some (none, n) => ecmaFold m r n
    else
      match ecmaEffect c with
      | some e => ecmaFold (e.apply m) r 0
      | none => ecmaFold m r 0

/-- what a colour means to the interpreter (`none` = the default colour) -/
def absColor (c : Color) : Option CKey :=
  match c.type with
  | .default => none
  | .truecolor => c.triplet.map fun t => .rgb t.red t.green t.blue
  | _ => c.number.map .idx

/-- what a style means to the interpreter: the attributes that are on, the colours, the link (`""` counts as none) -/
def absStyle (s : Style) : Rend :=
  ⟨s.attributes &&& s.setAttributes, s.color.bind absColor, s.bgcolor.bind absColor, linkVal s.link⟩

/-- the effect of adding style `b` -/
def effOf (b : Style) : Effect :=
  ⟨b.setAttributes, b.attributes &&& b.setAttributes, b.color.map absColor, b.bgcolor.map absColor⟩

/-- Code `c` in the decoder's table (variant `cfg`) is a well-formed addend whose effect is exactly what
ECMA-48 gives `c`; a code that is not in the table has no meaning in ECMA-48 either (modelled aspects). -/
def codeAgrees (cfg : Cfg) (c : Nat) : Bool :=
  match sgrLookupV cfg c with
  | some d =>
    match Style.parse cfg.sv d with
    | .ok b => b.link == none && !b.isNull && decide (b.attributes &&& b.setAttributes = b.attributes) &&
        decide (b.setAttributes < 8192) && ecmaEffect c == some (effOf b)
    | .error _ => false
  | none => ecmaEffect c == none

/-- `codeAgrees` for every code below 256 but 0, 38, 48 (read by the loop itself) and 26 (outside), and no row of either
table at 256 or above -/
def tableAgrees (cfg : Cfg) : Bool :=
  (List.range 256).all (fun c => c == 0 || c == 26 || c == 38 || c == 48 || codeAgrees cfg c) &&
    Gen.sgrStyleMap.all (fun p => decide (p.1 < 256)) && ecmaTable.all (fun p => decide (p.1 < 256))

/-- `tableAgrees`, row by row instead of code by code: every row of rich's table agrees with ECMA-48 (24 / 25 as
the repaired variant has them), and every code ECMA-48 gives a meaning to has a row. -/
def rowsAgree : Bool :=
  Gen.sgrStyleMap.all (fun p => p.1 == 0 || p.1 == 26 || p.1 == 38 || p.1 == 48 || codeAgrees Cfg.repaired p.1) &&
    codeAgrees Cfg.repaired 24 && codeAgrees Cfg.repaired 25 &&
    ecmaTable.all (fun p => (sgrLookupV Cfg.repaired p.1).isSome)

end Ansi
end RichModel
