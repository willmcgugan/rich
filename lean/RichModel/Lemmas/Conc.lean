import RichModel.Model.Conc
/-!
The static check `Sim` on the code of the operations of `Model/Conc.lean`, and `code_ok`: the code of every operation
passes it.

The code of every operation is a *static* list of guarded actions, so what a thread may still do is a
function of its continuation.  `Sim` runs an abstract interpreter over the continuation, starting from the
thread's actual lock stack / buffer depth / flags, and checks at every action what the concrete step needs
(a released lock is held, locks are taken in rank order, the record append and the file write happen under
the console lock, nothing is buffered between the record append and the write, the operation ends with no
lock held, depth 0 and a flushed buffer).  One concrete step performs exactly the head of the abstract run
(`exec_eff` of `ConcEff.lean`).
-/
namespace RichModel.Conc
open RichModel
open RichModel.Live (Line Frame)

/-- What the static check follows of a thread's own state (`Local.abs`). -/
structure Abs where
  held : List Lock
  depth : Nat
  hooked : Bool
  recDone : Bool
  dirty : Bool
  /-- between the read and the end of an export -/
  xread : Bool
deriving DecidableEq, Repr

def Local.abs (l : Local) : Abs := ⟨l.held, l.depth, l.hooked, l.recDone, l.dirty, l.xread⟩

/-- Abstract effect of an action (`none`: the action is not allowed in this abstract state).
`readHooks`, `guardStarted` and `advance` branch and are handled by `Sim`. -/
def absAct (cfg : Cfg) (a : Abs) : Act → Option Abs
  | .acq l => if l ∈ a.held ∨ a.held.all (fun h => h.rank < l.rank) then some { a with held := l :: a.held } else none
  | .rel l => if l ∈ a.held ∧ (l = .console → a.recDone = false) ∧ (l = .record → a.xread = false) then some { a with held := a.held.erase l } else none
  | .enter => some { a with depth := a.depth + 1 }
  | .exitDec => if a.depth = 0 then none else some { a with depth := a.depth - 1 }
  | .hookPos | .pushUser _ | .pushCtl _ _ | .renderFrame | .restorePush =>
    if a.recDone then none else some { a with dirty := true }
  | .recAppend => if .console ∈ a.held ∧ .record ∈ a.held ∧ a.recDone = false ∧ a.xread = false then some { a with recDone := true } else none
  | .write => if .console ∈ a.held ∧ (cfg.record = true → a.recDone = true) then some { a with recDone := false, dirty := false } else none
  | .capBegin => some { a with depth := a.depth + 1 }
  | .capEnd => if a.recDone then none else some a
  | .exportRead => if .record ∈ a.held ∧ a.xread = false then some { a with xread := true } else none
  | .exportEnd _ => if .record ∈ a.held ∧ a.xread = true then some { a with xread := false } else none
  | _ => some a

/-- The state in which an operation may end. -/
def Abs.final (a : Abs) : Bool := !a.xread && a.held.isEmpty && a.depth == 0 && !a.recDone && !a.dirty

/-- `readHooks` can be answered either way: both are followed.  The early exit of `guardStarted` / `advance` leaves
`[rel live]` as the whole continuation, so these two also ask for the state from which that passes (`sim_exit`): the
display lock alone held, depth 0, nothing half done. -/
def Sim (cfg : Cfg) : List GAct → Abs → Bool
  | [], a => a.final
  | g :: r, a =>
    if guardOn cfg a.depth a.hooked g.g then
      match g.a with
      | .readHooks => Sim cfg r { a with hooked := true } && Sim cfg r { a with hooked := false }
      | .guardStarted _ => Sim cfg r a && (!a.xread && a.held == [.live] && a.depth == 0 && !a.recDone && !a.dirty)
      | .advance _ _ => Sim cfg r a && (!a.xread && a.held == [.live] && a.depth == 0 && !a.recDone && !a.dirty)
      | act =>
        match absAct cfg a act with
        | some a' => Sim cfg r a'
        | none => false
    else Sim cfg r a

theorem Abs.eq_of_final {a : Abs} (h : a.final = true) :
    a = { held := [], depth := 0, hooked := a.hooked, recDone := false, dirty := false, xread := false } := by
  obtain ⟨held, d, hk, rdn, dty, xr⟩ := a
  simp only [Abs.final, Bool.and_eq_true, Bool.not_eq_true', List.isEmpty_iff, beq_iff_eq] at h
  obtain ⟨⟨⟨⟨rfl, rfl⟩, rfl⟩, rfl⟩, rfl⟩ := h
  rfl

theorem sim_exit {cfg : Cfg} {a : Abs}
    (h : (!a.xread && a.held == [Lock.live] && a.depth == 0 && !a.recDone && !a.dirty) = true) :
    Sim cfg [ga (.rel .live)] a = true := by
  obtain ⟨held, d, hk, rdn, dty, xr⟩ := a
  simp only [Bool.and_eq_true, beq_iff_eq, Bool.not_eq_true'] at h
  obtain ⟨⟨⟨⟨rfl, rfl⟩, rfl⟩, rfl⟩, rfl⟩ := h
  simp [Sim, ga, guardOn, absAct, Abs.final]

/-- Actions at which `Sim` branches instead of following `absAct`. -/
def Act.special : Act → Bool
  | .readHooks | .guardStarted _ | .advance _ _ => true
  | _ => false

theorem sim_generic {cfg : Cfg} {g : Guard} {act : Act} {r : List GAct} {a : Abs}
    (hact : act.special = false) (hg : guardOn cfg a.depth a.hooked g = true)
    (h : Sim cfg (⟨g, act⟩ :: r) a = true) : ∃ a', absAct cfg a act = some a' ∧ Sim cfg r a' = true := by
  rw [Sim, if_pos hg] at h
  split at h
  -- the three branches of `Sim` for the special actions
  iterate 3 (rename_i e; cases (e : act = _); nomatch hact)
  split at h
  · exact ⟨_, ‹_›, h⟩
  · nomatch h

theorem sim_acq {cfg : Cfg} {g : Guard} {lk : Lock} {r : List GAct} {a : Abs}
    (hg : guardOn cfg a.depth a.hooked g = true) (h : Sim cfg (⟨g, .acq lk⟩ :: r) a = true) :
    lk ∈ a.held ∨ ∀ h ∈ a.held, h.rank < lk.rank := by
  obtain ⟨a', ha, _⟩ := sim_generic (act := .acq lk) rfl hg h
  simp only [absAct, Option.ite_none_right_eq_some, List.all_eq_true, decide_eq_true_eq] at ha
  exact ha.1

theorem sim_console {cfg : Cfg} {g : Guard} {act : Act} {r : List GAct} {a : Abs} (hact : act = .write ∨ act = .recAppend)
    (hg : guardOn cfg a.depth a.hooked g = true) (h : Sim cfg (⟨g, act⟩ :: r) a = true) : Lock.console ∈ a.held := by
  rcases hact with rfl | rfl <;>
  · obtain ⟨a', ha, -⟩ := sim_generic rfl hg h
    simp only [absAct, Option.ite_none_right_eq_some] at ha
    exact ha.1.1

/-! Each block (`flushCode`, `printBody`, `refreshCode`, the transient erase of `stop()`) is checked once, for any
continuation `r`, entered with at most the display lock held: the lemma says in which abstract states the check goes
on behind the block.
The check is run by `simp`, which unfolds it action by action. -/

section
attribute [local simp] ga gh Sim guardOn absAct

theorem acq_of_live {held : List Lock} (hl : ∀ h ∈ held, h = .live) (lk : Lock) :
    lk ∈ held ∨ ∀ h ∈ held, h.rank < lk.rank := by
  cases held with
  | nil => exact Or.inr (fun _ h => nomatch h)
  | cons x xs =>
    cases lk
    · exact Or.inl (by rw [hl x List.mem_cons_self]; exact List.mem_cons_self)
    all_goals exact Or.inr (fun h hh => by rw [hl h hh]; decide)

theorem sim_flush (cfg : Cfg) {held : List Lock} (hl : ∀ h ∈ held, h = .live) (depth : Nat) (hooked dirty : Bool)
    (r : List GAct) :
    Sim cfg (flushCode ++ r) { held, depth, hooked, dirty, recDone := false, xread := false } =
      Sim cfg r { held, depth, hooked, dirty := dirty && depth != 0, recDone := false, xread := false } := by
  have h : Lock.console.rank < Lock.record.rank := by decide
  cases depth <;> cases hrec : cfg.record <;> simp [flushCode, hrec, acq_of_live hl, h]

theorem sim_print (cfg : Cfg) (k : DKind) {push : Act} (hp : (∃ ls, push = .pushUser ls) ∨ ∃ o c, push = .pushCtl o c)
    {held : List Lock} (hl : ∀ h ∈ held, h = .live) (depth : Nat) (hooked dirty : Bool) (r : List GAct) :
    Sim cfg (printBody k push ++ r) { held, depth, hooked, dirty, recDone := false, xread := false } =
      (Sim cfg r { held, depth, hooked := true, dirty := depth != 0, recDone := false, xread := false } &&
        Sim cfg r { held, depth, hooked := false, dirty := depth != 0, recDone := false, xread := false }) := by
  rcases hp with ⟨ls, rfl⟩ | ⟨o, c, rfl⟩ <;> cases k <;>
    simp [printBody, hookCode, frameCode, acq_of_live hl, sim_flush cfg hl]

theorem sim_refresh (cfg : Cfg) {k : DKind} (hk : k ≠ .none) {held : List Lock} (hl : ∀ h ∈ held, h = .live)
    (depth : Nat) (hooked dirty : Bool) (r : List GAct) :
    Sim cfg (refreshCode k ++ r) { held, depth, hooked, dirty, recDone := false, xread := false } =
      (Sim cfg r { held, depth, hooked := true, dirty := depth != 0, recDone := false, xread := false } &&
        Sim cfg r { held, depth, hooked := false, dirty := depth != 0, recDone := false, xread := false }) := by
  have hl' : ∀ h ∈ Lock.live :: held, h = .live := by simpa using hl
  cases k <;>
    simp [refreshCode, acq_of_live hl, sim_print cfg _ (.inr ⟨_, _, rfl⟩) hl', sim_flush cfg hl'] at hk ⊢

/-- The transient erase at the end of `stop()`, a push and a flush at depth 0, leaves the abstract state as it is. -/
theorem sim_erase (cfg : Cfg) {held : List Lock} (hl : ∀ h ∈ held, h = .live) (hooked : Bool) (r : List GAct) :
    Sim cfg ((if cfg.transient then ⟨.always, .restorePush⟩ :: flushCode else []) ++ r)
        { held, depth := 0, hooked, dirty := false, recDone := false, xread := false } =
      Sim cfg r { held, depth := 0, hooked, dirty := false, recDone := false, xread := false } := by
  cases cfg.transient <;> simp [sim_flush cfg hl]

theorem sim_bodies (cfg : Cfg) (k : DKind) {held : List Lock} (hl : ∀ h ∈ held, h = .live) (depth : Nat) (r : List GAct)
    (hr : ∀ hooked dirty, Sim cfg r { held, depth, hooked, dirty, recDone := false, xread := false } = true)
    (bodies : List (List Line)) (hooked dirty : Bool) :
    Sim cfg (bodies.flatMap (fun ls => printBody k (.pushUser ls)) ++ r)
      { held, depth, hooked, dirty, recDone := false, xread := false } = true := by
  induction bodies generalizing hooked dirty with
  | nil => exact hr hooked dirty
  | cons b bs ih => simp [sim_print cfg k (.inl ⟨b, rfl⟩) hl, ih]

theorem sim_code (cfg : Cfg) (op : Op) (hk : Bool) (r : List GAct)
    (hr : ∀ hooked, Sim cfg r { held := [], depth := 0, hooked, recDone := false, dirty := false, xread := false } = true) :
    Sim cfg (code cfg op ++ r) { held := [], depth := 0, hooked := hk, recDone := false, dirty := false, xread := false } =
      true := by
  have hl : ∀ h ∈ ([] : List Lock), h = .live := fun _ h => nomatch h
  have hl1 : ∀ h ∈ [Lock.live], h = .live := by simp
  cases op with
  | print ls => simp [code, sim_print cfg _ (.inl ⟨_, rfl⟩) hl, hr]
  | proxyPrint ls =>
    simp [code, sim_print cfg _ (.inl ⟨_, rfl⟩) hl, sim_flush cfg hl, hr]
  | nested a b c =>
    simp [code, nestedCode, sim_print cfg _ (.inl ⟨_, rfl⟩) hl, sim_flush cfg hl, hr]
  | capture bodies =>
    simp only [code, captureCode, List.append_assoc, List.cons_append, List.nil_append, Sim, ga, guardOn, absAct]
    refine sim_bodies cfg _ hl _ _ ?_ bodies _ _
    simp [sim_flush cfg hl, hr]
  | «export» c => simp [code, hr]
  | refresh =>
    cases hkind : cfg.kind
    case none => simpa [code, hkind, refreshCode] using hr hk
    all_goals simp [code, hkind, sim_refresh cfg _ hl, hr]
  | advance id n =>
    cases hkind : cfg.kind <;> simp [code, hkind, hr]
  | update f rf =>
    cases hkind : cfg.kind <;> cases rf <;>
      simp [code, hkind, sim_refresh cfg _ hl1, hr]
  | start =>
    cases hkind : cfg.kind <;>
      simp [code, startCode, ctlCode, hkind, sim_refresh cfg _ hl1, sim_flush cfg hl1, hr]
  | stop =>
    cases hkind : cfg.kind
    case none => simpa [code, stopCode, hkind] using hr hk
    case live =>
      simp [code, stopCode, ctlCode, hkind, sim_refresh cfg _ hl1, sim_flush cfg hl1, sim_erase cfg hl1, hr]
    case progress =>
      cases htl : cfg.stopTailUnlocked <;>
        simp [code, stopCode, ctlCode, hkind, htl, sim_refresh cfg _ hl1, sim_flush cfg hl1, sim_erase cfg hl1,
          sim_erase cfg hl, hr]

end

theorem code_ok (cfg : Cfg) (op : Op) (hk : Bool) : Sim cfg (code cfg op) ⟨[], 0, hk, false, false, false⟩ = true := by
  simpa using sim_code cfg op hk [] (fun _ => rfl)

end RichModel.Conc
