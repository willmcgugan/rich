import RichModel.Model.Totality
import RichModel.Lemmas.Except
import RichModel.Lemmas.StyleGrammar
/-!
Property C14: the exception layer of the string entry points — `Color.parse`, `Style.parse` / `normalize` (C06's parsers),
`markup.render` (C04's machine with a `normalize` that can raise), `Console.get_style` (C20's lookup over `Style.parse`) —
raises the documented errors only, for every `PyStr` (character tables of the running Python).  The lemmas about the two
parsers speak of every code variant at once (`StyleVariant.Raises`: the documented error, or the `ValueError` of F9 in the
code as found); the entry points take them at the repaired variant.
-/
namespace RichModel
open AsciiStr

namespace Style
variable {T : StrTables} {v : StyleVariant}

theorem argColor_str_ok {w : Option (List Char)} (h : ∀ x, w = some x → ∃ c, Color.parseT T v x = .ok c) :
    ∃ c, argColorT T v (w.map .str) = .ok c := by
  cases w with
  | none => exact ⟨none, rfl⟩
  | some x =>
    obtain ⟨c, hc⟩ := h x rfl
    exact ⟨some c, argColor_some.mpr ⟨c, hc, rfl⟩⟩

theorem ColorsOk.init_ok {st : ParseState} (h : ColorsOk T v st) :
    ∃ s, initT T v (st.color.map .str) (st.bgcolor.map .str) st.attributes st.link = .ok s := by
  obtain ⟨c, hc⟩ := argColor_str_ok h.color
  obtain ⟨b, hb⟩ := argColor_str_ok h.bgcolor
  exact ⟨_, init_ok_iff.mpr ⟨c, b, hc, hb, rfl⟩⟩

theorem parseT_err {d : List Char} {e : StyleErr} : parseT T v d = .error e → v.Raises .styleSyntax e := by
  fun_cases parseT T v d
  · exact nofun
  · rename_i e' hl
    intro h; cases h
    exact parseLoop_err hl
  · rename_i st hl
    obtain ⟨s', hs'⟩ := ((reads_of_parseLoop hl).colorsOk ⟨nofun, nofun⟩).init_ok
    rw [hs']; exact nofun

/-- `Style.normalize` catches `StyleSyntaxError`: only the `ValueError` of the code as found is left -/
theorem normalizeT_err {d : List Char} {e : StyleErr} :
    normalizeT T v d = .error e → v.rgbValueError = true ∧ e = .valueError := by
  fun_cases normalizeT T v d
  · exact nofun
  · exact nofun
  · rename_i e' hne hp
    intro h; cases h
    exact (parseT_err hp).resolve_left hne

end Style

namespace Totality

/-- `Except` values are compared in the witnesses (`by decide`). -/
scoped instance instDecEqExceptC14 {ε α : Type} [DecidableEq ε] [DecidableEq α] : DecidableEq (Except ε α)
  | .ok x, .ok y => decidable_of_iff (x = y) ⟨congrArg _, Except.ok.inj⟩
  | .error x, .error y => decidable_of_iff (x = y) ⟨congrArg _, Except.error.inj⟩
  | .ok _, .error _ => isFalse nofun
  | .error _, .ok _ => isFalse nofun

variable (P : PyStr)

theorem liftS_raises {α : Type} {x : Except StyleErr α} {v : StyleVariant} {e₀ : StyleErr}
    (hx : ∀ e', x = .error e' → v.Raises e₀ e') {e : Exc} (h : liftS x = .error e) :
    e = ofStyleErr e₀ ∨ v.rgbValueError = true ∧ e = .valueError := by
  cases x with
  | ok a => cases h
  | error e' => cases h; exact (hx e' rfl).imp (congrArg _) (.imp_right (congrArg _))

theorem repaired_err {v : StyleVariant} (hv : v.rgbValueError = false) {e e₀ : Exc}
    (h : e = e₀ ∨ v.rgbValueError = true ∧ e = .valueError) : e = e₀ :=
  h.resolve_right fun h' => Bool.false_ne_true (hv ▸ h'.1)

theorem color_parse_err (s : List Char) (e : Exc) (h : UColor.parse P false s = .error e) :
    e = .colorParseError :=
  repaired_err rfl (liftS_raises (fun _ => Color.parseT_err P) h)

theorem style_parse_err (s : List Char) (e : Exc) (h : UStyle.parse P false s = .error e) :
    e = .styleSyntaxError :=
  repaired_err rfl (liftS_raises (fun _ => Style.parseT_err) h)

theorem normalize_ok (s : List Char) : ∃ r, UStyle.normalize P false s = .ok r := by
  unfold UStyle.normalize
  cases h : Style.normalizeT P (variantOf false) s with
  | ok r => exact ⟨r, rfl⟩
  | error e => exact absurd (Style.normalizeT_err h).1 Bool.false_ne_true

section Markup
variable (cfg : Markup.Cfg) (norm : List Char → Except Exc (List Char))

/-- the C04 error type seen through the exception classes -/
def liftM : Except Markup.MErr α → Except Exc α
  | .ok a => .ok a
  | .error _ => .error .markupError

theorem liftM_err {x : Except Markup.MErr α} {e : Exc} (h : liftM x = .error e) : e = .markupError := by
  cases x with
  | ok a => cases h
  | error e' => cases h; rfl

/-! The loop with a raising `normalize` never reads `cfg.norm`: with a `normalize` that returns what a function `n` computes, it is
C04's loop with `n` for its `norm`, whose one error is `MarkupError`. -/

theorem stepE_eq_step (n : List Char → List Char) (st : Markup.St) (ev : Markup.PEv) :
    stepE cfg (fun x => .ok (n x)) st ev = liftM (Markup.step { cfg with norm := n } st ev) := by
  cases ev with
  | text p s => rfl
  | tag p t =>
    -- both sides branch on the same two tests and the same scrutinee
    simp only [stepE, Markup.step]
    by_cases h1 : t.name.head? = some '/'
    · by_cases h2 : Markup.pyStrip cfg.isSpace t.name.tail ≠ []
      · simp only [if_pos h1, if_pos h2]
        cases Markup.popByName (n (Markup.pyStrip cfg.isSpace t.name.tail)) st.stack <;> rfl
      · simp only [if_pos h1, if_neg h2]
        cases st.stack <;> rfl
    · simp only [if_neg h1]; rfl

theorem runE_eq_run (n : List Char → List Char) (evs : List Markup.PEv) (st : Markup.St) :
    runE cfg (fun x => .ok (n x)) st evs = liftM (Markup.run { cfg with norm := n } st evs) := by
  induction evs generalizing st with
  | nil => rfl
  | cons ev evs ih =>
    simp only [runE, Markup.run, stepE_eq_step cfg n]
    cases Markup.step { cfg with norm := n } st ev with
    | ok st' => simp only [liftM]; exact ih st'
    | error e => rfl

theorem renderE_eq_render (n : List Char → List Char) (hn : ∀ x, norm x = .ok (n x)) (s : List Char) :
    renderE cfg norm s = liftM (Markup.render { cfg with norm := n } s) := by
  obtain rfl : norm = fun x => .ok (n x) := funext hn
  unfold renderE Markup.render
  split
  · rfl
  · rw [runE_eq_run cfg n]
    cases Markup.run { cfg with norm := n } Markup.St.init (Markup.parse s) <;> rfl

theorem renderE_err (hn : ∀ x, ∃ r, norm x = .ok r) (s : List Char) (e : Exc) (h : renderE cfg norm s = .error e) :
    e = .markupError :=
  liftM_err ((renderE_eq_render cfg norm (fun x => match norm x with | .ok r => r | .error _ => [])
    (fun x => by obtain ⟨r, hr⟩ := hn x; rw [hr]) s).symm.trans h)

end Markup

theorem themeParse_no_other (n : Theme.Name) : themeParse P false n ≠ .error .other := by
  fun_cases themeParse P false n
  · exact nofun
  · exact nofun
  · rename_i e hne hp
    exact absurd (style_parse_err P n e hp) hne

end Totality
end RichModel
