import RichModel.Lemmas.Totality
import RichModel.Lemmas.Theme
import RichModel.Lemmas.TotalityLayout
import RichModel.Lemmas.AnsiTotal
import RichModel.Lemmas.TotalityTitle
/-!
# C14 — no input makes the pipeline fail with an undocumented error

`P : PyStr` are the character tables of the running Python (`str.isspace`, `\d`/`int()` digit values, `str.lower`, the
`int()` digit limit): **every theorem below holds for all of them**, so nothing here depends on the generated Unicode
tables; the driver's instance (`Totality.Py.real`) is compared with the running interpreter by `./check C14`.

`vErr = false` is the repaired `Color.parse` (fix c34676b), what /repo contains; `vErr = true` is rich 9.10.0 as found,
for which the `old_…` witnesses show the escape (F9) at every entry point that reaches `Color.parse`.

Termination: every function of `Model/Totality.lean` is structurally recursive (accepted by Lean without `partial` /
fuel); so are C04's tokenizer and C20's lookup which it calls.

After the string entry points come the layers they feed, used as they stand: C19's decoder model, C05's `Text`, C02's
`Wrap.wrap`, the `Text.__rich_console__` glue and the renderable trees `R` of `Model/Layout.lean` (C01/C09) with C07's
table solver and C08's frames underneath; the witnesses at the end show where rich 9.10.0 as found did raise there.
-/
namespace RichModel.C14
open RichModel RichModel.Totality AsciiStr

/-! ## `Color.parse` -/

/-- For every string, `Color.parse` (repaired) returns a colour or raises
`ColorParseError` — nothing else. -/
theorem color_parse_total (P : PyStr) (s : List Char) :
    (∃ c, UColor.parse P false s = .ok c) ∨ UColor.parse P false s = .error .colorParseError :=
  Except.ok_or_error (color_parse_err P s)

/-- rich 9.10.0 as found (`vErr = true`, before fix c34676b): besides `ColorParseError` the only exception is the `ValueError` of `int()`. -/
theorem old_color_parse_errors (P : PyStr) (s : List Char) (e : Exc) (h : UColor.parse P true s = .error e) :
    e = .colorParseError ∨ e = .valueError :=
  (liftS_raises (fun _ => Color.parseNormT_err P) h).imp_right And.right

/-- F9: `Color.parse("rgb(1,,2)")` raises `ValueError` (`int("")`). -/
theorem old_color_parse_empty_component :
    UColor.parse PyStr.ascii true (cl! "rgb(1,,2)") = .error .valueError := by decide +kernel

/-- F9: `Color.parse("rgb(1 2,3,4)")` raises `ValueError` (`int("1 2")`). -/
theorem old_color_parse_inner_blank :
    UColor.parse PyStr.ascii true (cl! "rgb(1 2,3,4)") = .error .valueError := by decide +kernel

/-- F9 through `\s`: U+001C is white space for `RE_COLOR` and `strip()` but not for `int()`. -/
theorem old_color_parse_separator :
    UColor.parse PyStr.ascii true [' ', 'R', 'G', 'B', '(', Char.ofNat 28, '1', ',', '2', ',', '3', ')'] = .error .valueError := by decide +kernel

example : UColor.parse PyStr.ascii false (cl! "rgb(1,,2)") = .error .colorParseError := by decide +kernel
example : (UColor.parse PyStr.ascii false (cl! " RGB( 1 ,2,3)")).toOption.map (·.triplet) = some (some ⟨1, 2, 3⟩) := by decide +kernel
example : UColor.parse PyStr.ascii false (cl! "color(256)") = .error .colorParseError := by decide +kernel
example : (UColor.parse PyStr.ascii false (cl! "color(255)")).toOption.map (·.number) = some (some 255) := by decide +kernel

/-! ## `Style.parse`, `Style.normalize` -/

/-- For every string, `Style.parse` returns a style or raises
`StyleSyntaxError` ("link" / "on" / "not" as the last word, an unknown word, a bad colour, …). -/
theorem style_parse_total (P : PyStr) (s : List Char) :
    (∃ st, UStyle.parse P false s = .ok st) ∨ UStyle.parse P false s = .error .styleSyntaxError :=
  Except.ok_or_error (style_parse_err P s)

/-- `Style.normalize` never raises. -/
theorem normalize_total (P : PyStr) (s : List Char) : ∃ r, UStyle.normalize P false s = .ok r :=
  normalize_ok P s

theorem old_style_parse_value_error :
    UStyle.parse PyStr.ascii true (cl! "bold on rgb(1,,2)") = .error .valueError := by decide +kernel

theorem old_normalize_raises :
    UStyle.normalize PyStr.ascii true (cl! "rgb(1,,2)") = .error .valueError := by decide +kernel

example : UStyle.parse PyStr.ascii false (cl! "bold link") = .error .styleSyntaxError := by decide +kernel
example : UStyle.parse PyStr.ascii false (cl! "on") = .error .styleSyntaxError := by decide +kernel
example : UStyle.parse PyStr.ascii false (cl! "not") = .error .styleSyntaxError := by decide +kernel
example : UStyle.parse PyStr.ascii false (cl! "not Bold") = .error .styleSyntaxError := by decide +kernel
example : UStyle.parse PyStr.ascii false (cl! "bold on rgb(1,,2)") = .error .styleSyntaxError := by decide +kernel
example : UStyle.normalize PyStr.ascii false (cl! " B  ON Red ") = .ok (cl! "bold on red") := by decide +kernel
example : UStyle.normalize PyStr.ascii false (cl! " Bold X ") = .ok (cl! "bold x") := by decide +kernel

/-! ## `markup.render` -/

/-- For every string (emoji on or off), `markup.render` returns a text or
raises `MarkupError` (`[/]` on an empty stack, `[/x]` without an open `[x]`). -/
theorem markup_render_total (P : PyStr) (emoji : Option (List Char → Option (List Char))) (s : List Char) :
    (∃ r, markupRender P false emoji s = .ok r) ∨ markupRender P false emoji s = .error .markupError :=
  Except.ok_or_error (renderE_err (markupCfg P emoji) (UStyle.normalize P false) (normalize_ok P) s)

/-- The render loop with a raising `normalize` is C04's `render` whenever `normalize` does not raise:
the theorems of `Props/C04.lean` are about the same function. -/
theorem markup_render_refines_c04 (cfg : Markup.Cfg) (norm : List Char → Except Exc (List Char))
    (hn : ∀ x, norm x = .ok (cfg.norm x)) (s : List Char) :
    renderE cfg norm s = liftM (Markup.render cfg s) :=
  renderE_eq_render cfg norm cfg.norm hn s

/-- F9 seen from markup: `markup.render("[rgb(1,,2)]x")` raises `ValueError`. -/
theorem old_markup_render_value_error :
    markupRender PyStr.ascii true none (cl! "[rgb(1,,2)]x") = .error .valueError := by decide +kernel

/-- … and from a closing tag (`normalize` is called outside the `try`). -/
theorem old_markup_close_value_error :
    markupRender PyStr.ascii true none (cl! "[b]x[/rgb(1,,2)]") = .error .valueError := by decide +kernel

example : markupRender PyStr.ascii false none (cl! "[/]") = .error .markupError := by decide +kernel
example : markupRender PyStr.ascii false none (cl! "[b]x[/i]") = .error .markupError := by decide +kernel
example : markupRender PyStr.ascii false none (cl! "[rgb(1,,2)]x[/rgb(1,,2)]") = .ok (cl! "x", [⟨0, 1, cl! "rgb(1,,2)"⟩]) := by decide +kernel
example : markupRender PyStr.ascii false none (cl! "[=x]a[link=]b") = .ok (cl! "[=x]ab", [⟨5, 6, cl! "link "⟩]) := by decide +kernel

/-! ## `Console.get_style` -/

/-- For every name, every default (none, a `Style`, a string) and every theme
stack, `Console.get_style` returns a style or raises `MissingStyle`. -/
theorem get_style_total (P : PyStr) (st : Theme.Stack Style) (name : Theme.NS Style) (default : Option (Theme.NS Style)) :
    (∃ s, getStyle P false st name default = .ok s) ∨ getStyle P false st name default = .error .missingStyle :=
  Except.ok_or_error (Theme.getStyle_err (themeParse P false) (themeParse_no_other P) st name default)

theorem old_get_style_raises :
    getStyle PyStr.ascii true defaultStack (.str (cl! "x")) (some (.str (cl! "rgb(1,,2)"))) = .error .other := by decide +kernel

example : getStyle PyStr.ascii false defaultStack (.str (cl! "x")) (some (.str (cl! "rgb(1,,2)"))) = .error .missingStyle := by decide +kernel
example : (getStyle PyStr.ascii false defaultStack (.str (cl! "no such")) (some (.str (cl! "bold")))).toOption.isSome = true := by decide +kernel

/-! ## `AnsiDecoder.decode` (over C19's decoder model) -/

/-- The repaired decoder (`int()` failures skipped, fix 8dc20cb) accepts every string: every line of
`AnsiDecoder.decode(text)` decodes, whatever the decoder's carried style, the other code variants either way. -/
theorem decode_total (cfg : Ansi.Cfg) (h : cfg.intRaises = false) (st : Style) (text : List Char) :
    ∃ st' lines, Ansi.decode cfg st text = (st', .ok lines) :=
  Ansi.decodeMany_total (Ansi.decodeLine_total cfg h) st (Ansi.splitlines text)

example : Ansi.Cfg.repaired.intRaises = false := rfl

/-- F10 on the decoder model as found: `"²".isdigit()` holds, `int("²")` raises. -/
theorem old_decode_value_error :
    (Ansi.decode Ansi.Cfg.old Style.null [Ansi.ESC, '[', '²', 'm']).2 = .error .valueError := by decide +kernel

/-! ## `Text(...)`, `Text.wrap`, `Text.render`, `Console.print(markup=False)` -/

section
open RichModel.Text

/-- `Text(s, style, justify=…, overflow=…, no_wrap=…, end=…, tab_size=…)` constructs a consistent
text for every string — control characters included (they are stripped, and `len()` counts what is kept) — and with any
`spans` that lie inside the stripped text (C05: `Text.inv_new`). -/
theorem text_ctor_total {σ : Type} (s : List Char) (style : σ) (spans : List (Span σ)) (j : Option Justify) (o : Option Overflow)
    (nw : Option Bool) (e : List Char) (ts : Option Nat) (hs : SpansIn spans ((stripControl s).length : Int)) :
    Text.Inv (Text.new Variant.repaired s style spans j o nw e ts) :=
  inv_new s style spans j o nw e ts hs

example : Text.Inv (Text.new Variant.repaired ['a', '\r', '\x08', 'b'] (0 : Nat)) :=
  text_ctor_total _ _ [] none none none _ _ (by intro sp h; cases h)
example : (Text.new Variant.repaired ['a', '\r', '\x08', 'b'] (0 : Nat)).plain = ['a', 'b'] := by decide +kernel

/-- `Text.wrap(console, width, justify=, overflow=, tab_size=, no_wrap=)` of a consistent text never raises
and returns consistent lines: EVERY width (0 and 1 included — a double-width character then does not fit and `chop_cells`
yields an empty first chunk: the first offset is 0, an empty first line), every cell-width function, every `justify`
(default / left / center / right / full) and `overflow` (fold / crop / ellipsis / ignore) as argument or attribute,
`no_wrap` or not, every tab size ≥ 1; both variants of `rstrip_end`. -/
theorem wrap_total {σ : Type} [BEq σ] (chars : Bool) (cw : Char → Nat) (A : Wrap.StyleAlg σ) (t : Text σ) (h : Text.Inv t) (w : Nat)
    (justify : Option Justify) (overflow : Option Overflow) (ts : Nat) (hts : 0 < ts) (noWrap : Option Bool) :
    ∃ lines, Wrap.wrap (Wrap.WVariant.fixed chars) cw A t w justify overflow (some ts) noWrap = .ok lines ∧
      ∀ l ∈ lines, Text.Inv l :=
  Wrap.wrap_total (chars := chars) cw A t h w justify overflow ts hts noWrap

/-- `tab_size = 0` is not a valid option: `expand_tabs` divides by it (the console never passes 0:
`console.tab_size or self.tab_size or 8`). -/
example : Wrap.wrap Wrap.WVariant.repaired (fun _ => 1) Layout.alg (Text.new Variant.repaired ['a', '\t', 'b'] [0]) 5 none none (some 0)
    = .error .zeroDivisionError := by decide +kernel

/-- the offsets of `divide_line` at a width below a character's: ascending, not strictly -/
example : Wrap.divideLine (fun _ => 2) ['a', 'b'] 1 true = [0, 1] := by decide +kernel

/-- `Text.render(console, end=e)` of a consistent text raises neither the `ValueError` of
`stack.remove` nor the `RuntimeError` of `Style.combine(())`. -/
theorem text_render_total {σ : Type} (t : Text σ) (h : Text.Inv t) (e : List Char) : ∃ segs, t.render e = .ok segs :=
  Text.render_total t h e

end

open Layout in
/-- `Text.__rich_console__` (wrap, `Text("\n").join`, render) of a consistent text never raises: every `ConsoleOptions`
in force (`justify`, `overflow`, `no_wrap`), every width, every console `tab_size`. -/
theorem text_console_total (cfg : Layout.Cfg) (hc : CfgRepaired cfg) (t : T) (h : Text.Inv t) (o : Opts) (w : Nat) :
    ∃ s, textConsoleE cfg t o w = .ok s :=
  textConsoleE_total cfg hc.wv t h o w

open Layout in
/-- `Console.print(s, markup=False)` never raises: every string, every console width, every
width function, `overflow` / `no_wrap` / `sep` / `end` / `crop` as given, emoji replacement on (any emoji table) or off,
highlighting off or any highlighter keeping its contract (`HighlighterOk`: its spans lie inside the text; checked on
rich's `ReprHighlighter` per generated case by `./check C14`). -/
theorem print_plain_total (cfg : Layout.Cfg) (hc : CfgRepaired cfg) (po : PrintOpts)
    (hhl : ∀ hl, po.highlighter = some hl → HighlighterOk hl) (s : List Char) (w : Nat) :
    ∃ lines, printPlainE cfg po s w = .ok lines :=
  have hj := Text.inv_join _ [renderStrPlain po s] (Text.inv_new_nil po.sep ([0] : S) none none none po.endStr (some 8))
    (List.forall_mem_singleton.mpr (renderStrPlain_inv po hhl s))
  Except.Returns.bind_ok (.of_ok (textConsoleE_total cfg hc.wv _ hj _ w)) fun _ _ => ⟨_, rfl⟩

/-- `Text.__rich_measure__` never reaches `max()` of an empty sequence: for every text — empty,
made only of white space of ANY kind (NO-BREAK SPACE, IDEOGRAPHIC SPACE, U+001C..U+001F, U+2028, …), or not — and every
width function, provided the blank-text guard (`if not text.strip()`) strips every character `str.split()` splits on.
In rich both are Python's `str.isspace` class (`pyIsSpace`, translated from the running interpreter): the corollary. -/
theorem text_measure_total (guard split : Char → Bool) (h : ∀ c, split c = true → guard c = true) (cw : Char → Nat)
    (plain : List Char) : ∃ m, textRichMeasureE guard split cw plain = .ok m :=
  textRichMeasure_ok cw h plain fun hne => splitLinesPy_ne_nil plain [] (.inl hne)

theorem text_measure_total_rich (cw : Char → Nat) (plain : List Char) :
    ∃ m, textRichMeasureE pyIsSpace pyIsSpace cw plain = .ok m :=
  text_measure_total pyIsSpace pyIsSpace (fun _ h => h) cw plain

/-- The same for `Text.__rich_measure__` as /repo has it since fix 542a59e (the maximum over
`text.split("\n")` instead of `text.splitlines()`; `textRichMeasureNL` is what the driver answers `c14_text_measure` with;
`textRichMeasureE` above is the code before that fix): every text, every width function, any guard covering `split`. -/
theorem text_measure_total_nl (guard split : Char → Bool) (h : ∀ c, split c = true → guard c = true) (cw : Char → Nat)
    (plain : List Char) : ∃ m, textRichMeasureNL guard split cw plain = .ok m :=
  textRichMeasure_ok cw h plain fun _ => splitNLPy_ne_nil plain []

theorem text_measure_total_nl_rich (cw : Char → Nat) (plain : List Char) :
    ∃ m, textRichMeasureNL pyIsSpace pyIsSpace cw plain = .ok m :=
  text_measure_total_nl pyIsSpace pyIsSpace (fun _ h => h) cw plain

/-- the narrow guard still raises with the new line split (seeded change C14-f1) -/
theorem narrow_guard_measure_raises_nl :
    textRichMeasureNL asciiBlank pyIsSpace (fun _ => 1) [Char.ofNat 0xA0] = .error .valueError := by decide +kernel

example : textRichMeasureNL pyIsSpace pyIsSpace (fun _ => 1) ['a', 'b', ' ', 'c', '\n', 'd'] = .ok ⟨2, 4⟩ := by decide +kernel
/-- where the two differ: U+2028 ends a line for `splitlines()` only -/
example : textRichMeasureNL pyIsSpace pyIsSpace (fun _ => 1) ['a', Char.ofNat 0x2028, 'b'] = .ok ⟨1, 3⟩ ∧
    textRichMeasureE pyIsSpace pyIsSpace (fun _ => 1) ['a', Char.ofNat 0x2028, 'b'] = .ok ⟨1, 1⟩ := by decide +kernel

/-- a guard that strips only `" \t\n"` while `split()` keeps Python's white space: a cell holding a NO-BREAK SPACE raises
`ValueError` when it is measured (seeded change C14-f1) -/
theorem narrow_guard_measure_raises :
    textRichMeasureE asciiBlank pyIsSpace (fun _ => 1) [Char.ofNat 0xA0] = .error .valueError ∧
    textRichMeasureE asciiBlank pyIsSpace (fun _ => 1) [Char.ofNat 0x1C, Char.ofNat 0x3000] = .error .valueError := by decide +kernel

example : textRichMeasureE pyIsSpace pyIsSpace (fun _ => 1) [Char.ofNat 0xA0, Char.ofNat 0x3000] = .ok ⟨2, 2⟩ := by decide +kernel
example : textRichMeasureE pyIsSpace pyIsSpace (fun _ => 1) ['a', 'b', ' ', 'c', '\n', 'd'] = .ok ⟨2, 4⟩ := by decide +kernel
example : textRichMeasureE pyIsSpace pyIsSpace (fun _ => 1) [] = .ok ⟨0, 0⟩ := by decide +kernel

/-- a console with every code variant repaired (what /repo contains); unit cell widths keep the examples small -/
def exCfg : Layout.Cfg :=
  { cw := fun _ => 1, env := { consoleWidth := 10 },
    v := { zeroWidthChild := false, ruleRightRepeat := false, rstripCountsChars := false, columnsZeroCount := false },
    wv := Wrap.WVariant.repaired, fl := Flags.allRepaired, poison := [Frames.seg ['!']] }

example : Layout.CfgRepaired exCfg := ⟨⟨false, rfl⟩, rfl, rfl, rfl⟩
example : HighlighterOk (fun x => [⟨0, x.length, [7]⟩]) := by
  intro x sp hsp
  simp only [List.mem_singleton] at hsp
  subst hsp
  exact ⟨Int.le_refl 0, Int.natCast_nonneg _, Int.le_refl _⟩
example : (printPlainE exCfg {} ['a', 'b', ' ', 'c', '\t', 'd'] 2).toOption.map (·.map Layout.lineText)
    = some [['a', 'b', '\n'], ['c', ' ', '\n'], ['d', '\n']] := by decide +kernel

/-! ## Trees of built-in renderables (over the composition layer of C01/C09) -/

open Layout in
/-- For every tree of built-in renderables with valid options (`Valid`: every text consistent, every
`padding` an int or a tuple of 1, 2 or 4 ints — all other options are naturals and enumerations) and the repaired code
(`CfgRepaired`), `AllOk` holds: at every node, for every `ConsoleOptions` in
force and EVERY width a parent may hand down — any natural number, however far below the structural minimum —
* a text (also the `Text` of a `Rule`, a table title / caption, the blank filler of `Columns`) wraps and renders;
* `Panel.__rich_console__` and `__rich_measure__` unpack their padding (stated for C08's `panelConsole` / `panelRichMeasure`;
  the `panelConsoleL` that `render` matches on also answers `none` for a box index outside `Gen.boxes`, which `Valid` does not
  exclude and `AllOk` does not speak of);
* `Table._calculate_column_widths` returns widths (no `AssertionError` of `ratio_distribute`: zero columns, zero-ratio
  columns, `width` / `min_width` / `expand` in any combination), for rendering and for measuring;
* `Columns` lays out at least one column (no `ZeroDivisionError`) and its inner grid's widths are computed;
Padding / Align / Constrain / Styled / group / Bar / ProgressBar / Tree have no raising branch (their model functions are
total).  `render` and `measure` of `Model/Layout.lean` are total functions that map a raising branch to `cfg.poison`; `AllOk`
lists, per kind of node, conditions under which the scrutinees named above are not errors.  No bound on depth, number of
children, rows, columns, or widths. -/
theorem layout_total (cfg : Layout.Cfg) (hc : CfgRepaired cfg) (r : R) (h : Valid r) : AllOk cfg r :=
  allOk cfg hc r h

open Layout in
/-- what `AllOk` says at a table node, spelled out: `_calculate_column_widths` returns at every width, for the options `o` as
given (`render` applies `o.subst cfg.env` first; the statement holds for every `o`) -/
theorem layout_total_table (cfg : Layout.Cfg) (hc : CfgRepaired cfg) (o : TableOpts) (cols : List Col) (h : Valid (.table o cols))
    (w : Nat) :
    ∃ ws, (toTable cfg o (colsR cfg cols)).calcWidths cfg.fl
      ((toTable cfg o (colsR cfg cols)).width.getD (w : Int) - (toTable cfg o (colsR cfg cols)).extraWidth) = some ws :=
  (layout_total cfg hc _ h).1.1 w

section
open Layout

def exText (s : String) : R := .text (Text.new Variant.repaired s.toList [0])

/-- a tree that raised three different ways in rich 9.10.0 as found: a table without columns asked to expand, a
zero-ratio column next to a ratio column with `min_width`, `Columns` with a `width` wider than the console -/
def exTree : R :=
  .panel { box := 0, padding := [0, 1] }
    (.group true [
      .table { expand := true, box := some 0 } [],
      .table { expand := true, minWidth := some 5, box := some 0, padding := ⟨0, 0, 0, 0⟩, padEdge := false }
        [.mk { ratio := some 1 } (exText "") (exText "") [], .mk { ratio := some 0 } (exText "") (exText "") []],
      .columns { lay := { width := some 30 } } [exText "ab", exText "c d"]])

example : Valid exTree :=
  have ht : ∀ s, Valid (exText s) := fun _ => Text.inv_new_nil ..
  have pad : PadOk [0, 1] := .inr (.inl rfl)
  ⟨pad, ⟨trivial, trivial, trivial⟩, ⟨trivial, trivial, ⟨ht _, ht _, trivial⟩, ⟨ht _, ht _, trivial⟩, trivial⟩,
    ⟨pad, trivial, ht _, ht _, trivial⟩, trivial⟩

/-- the same tree on the model of the code as found renders the poison at width 3 (a raising branch is taken) … -/
theorem old_layout_raises :
    (render { exCfg with fl := Flags.repaired, v := { exCfg.v with columnsZeroCount := true } }
      (.group true [.table { expand := true } [], .columns { lay := { width := some 30 } } [exText "ab"]]) {} 3)
      = [Frames.seg ['!'], Frames.seg ['!']] := by decide +kernel

/-- … and not with the repaired code -/
example : (render exCfg (.group true [.table { expand := true } [], .columns { lay := { width := some 30 } } [exText "ab"]]) {} 3).all
    (fun g => g.text != ['!']) = true := by decide +kernel

end

/-! ## `expand_tabs()` on a user `Text`: Rule / Panel titles, `with_indent_guides` (finding C14-T1)

`tabAssert = true` is rich 9.10.0 as found (`assert tab_size is not None`) — C05's `Text.expandTabs`, the function C08's
title models call; `tabAssert = false` is the repair /repo contains (`if tab_size is None: tab_size = 8`, text.py:643).
`TabOk t`: the text's `tab_size` option has a documented value — `None`, or a number ≥ 1. -/

section
open RichModel.Text

/-- With the repair, for every consistent `Text` — any content (tabs, line feeds), any spans,
every documented `tab_size` INCLUDING `None`, every other option — the title preparation of `Rule.__rich_console__`
(rule.py:76-79), `Panel._title` (panel.py:93-106, used by `__rich_console__` and `__rich_measure__`) and the
`copy(); expand_tabs()` of `Text.with_indent_guides` succeed and return a consistent text.  No bound on the length. -/
theorem title_expand_tabs_total {σ : Type} [BEq σ] (t : Text σ) (hi : Text.Inv t) (ht : TabOk t) :
    (∃ q, ruleTitlePrep false Variant.repaired t = .ok q ∧ Text.Inv q) ∧
    (∃ q, panelTitle false Variant.repaired t = .ok q ∧ Text.Inv q) ∧
    (∃ q, guidesPrep false Variant.repaired t = .ok q ∧ Text.Inv q) := by
  have nl := noCtl_nlToSpace _ hi.2.1
  refine ⟨?_, ?_, ?_⟩
  · exact expandTabsV_total _ (inv_setPlain t _ hi nl) (ht.of_tabSize_eq (setPlain_tabSize t _))
  · unfold panelTitle
    rw [copy_eq_self t hi]
    have h1 := inv_setPlain { t with endStr := [] } (nlToSpace t.plain) hi nl
    -- `Inv` does not look at `no_wrap`; handing over its three parts spares the unifier the way through `setPlain`
    exact Except.Returns.bind
      (expandTabsV_total _ ⟨h1.1, h1.2.1, h1.2.2⟩ (ht.of_tabSize_eq (setPlain_tabSize { t with endStr := [] } _)))
      fun q hq => .ok (inv_pad q 1 ' ' hq noCtl_space)
  · unfold guidesPrep
    rw [copy_eq_self t hi]
    exact expandTabsV_total t hi ht

/-- The repair changes `expand_tabs(tab_size)` only where the code as found raised the
`AssertionError`: whenever a tab size is in force (the argument, else the text's attribute) both variants are the same
function — every existing theorem about `Text.expandTabs` with a tab size carries over. -/
theorem expand_tabs_repair_conservative {σ : Type} [BEq σ] (v : Variant) (t : Text σ) (ts : Option Nat) (n : Nat)
    (h : ts.orElse (fun _ => t.tabSize) = some n) :
    expandTabsV false v t ts = t.expandTabs v ts := by
  simp only [expandTabsV, h, Option.getD_some, Bool.false_eq_true, if_false]
  unfold expandTabs
  simp only [Option.orElse_some, h]

/-- a title `Text("a\tb", tab_size=None)`: every option documented -/
def exTabTitle : Text Nat := Text.new Variant.repaired ['a', '\t', 'b'] 0 [] none none none ['\n'] none

example : Text.Inv exTabTitle ∧ TabOk exTabTitle :=
  ⟨text_ctor_total _ _ [] none none none _ _ (by intro sp h; cases h), by intro n h; cases h⟩
example : (ruleTitlePrep false Variant.repaired exTabTitle).toOption.map (·.plain) = some (cl! "a       b") := by decide +kernel
example : (panelTitle false Variant.repaired exTabTitle).toOption.map (·.plain) = some (cl! " a       b ") := by decide +kernel
example : (none : Option Nat).orElse (fun _ => (Text.new Variant.repaired ['\t'] (0 : Nat)).tabSize) = some 8 := rfl

/-- C14-T1, the code as found: `Rule(Text("a\tb", tab_size=None))` raises `AssertionError` when rendered … -/
theorem old_rule_title_tab_assertion : ruleTitlePrep true Variant.repaired exTabTitle = .error .assertionError := by decide +kernel

/-- … so does `Panel("x", title=Text("a\tb", tab_size=None))`, rendered or measured … -/
theorem old_panel_title_tab_assertion : panelTitle true Variant.repaired exTabTitle = .error .assertionError := by decide +kernel

/-- … and `Text("a\tb", tab_size=None).with_indent_guides()`. -/
theorem old_indent_guides_tab_assertion : guidesPrep true Variant.repaired exTabTitle = .error .assertionError := by decide +kernel

/-- without a tab the code as found does not raise either (the assertion sits behind `if "\t" not in self.plain: return`) -/
example : (ruleTitlePrep true Variant.repaired (Text.new Variant.repaired ['a', '\n', 'b'] (0 : Nat) [] none none none ['\n'] none)).toOption.map (·.plain)
    = some (cl! "a b") := by decide +kernel

end

/-! ## Layout: what the frame / table models say -/

open Frames in
/-- `Panel`: with a valid `padding` option (an int, or a tuple of 1, 2 or 4 ints) neither `__rich_console__` nor
`__rich_measure__` raises, at any width, over any child oracle. -/
theorem panel_total (cw : Char → Nat) (env : Env) (v : Frames.Variant) (o : PanelOpts) (c : Child σ) (w mw : Int)
    (hp : o.padding.length = 1 ∨ o.padding.length = 2 ∨ o.padding.length = 4) :
    (∃ r, panelConsole cw env v o c w = .ok r) ∧ (∃ m, panelRichMeasure cw o c mw = .ok m) :=
  have ⟨_, hu⟩ := Layout.unpackPad_ok o.padding hp
  ⟨Layout.panelConsole_ok cw env v o c w hu, Layout.panelRichMeasure_ok cw o c mw hu⟩

example : ([0, 1] : List Nat).length = 1 ∨ ([0, 1] : List Nat).length = 2 ∨ ([0, 1] : List Nat).length = 4 := by decide +kernel

/-- Finding in rich 9.10.0 as found, repaired in /repo by fix 1d61bac (C07's model of `_calculate_column_widths`
reproduces it at `Flags.repaired`, which repairs only C07's first three defects and leaves `noColumnsAsserts` and
`flexNegative` on; `Flags.allRepaired` is the variant /repo contains now, see `C07.calc_widths_total`): a table without columns
that is asked to expand — `Table(expand=True)`, `Table(width=10)`, `Table(min_width=10)` — fails the
`assert total_ratio > 0` of `ratio_distribute`. -/
theorem old_table_no_columns_raises :
    ({ columns := [], expandFlag := true } : Table).calcWidths Flags.repaired 20 = none ∧
    ({ columns := [], width := some 10 } : Table).calcWidths Flags.repaired 10 = none ∧
    ({ columns := [], minWidth := some 10 } : Table).calcWidths Flags.repaired 20 = none := calcWidths_noColumns_asserts

example : ({ columns := [] } : Table).calcWidths Flags.repaired 20 = some [] := by decide +kernel

/-- an empty cell (header `""`, no padding) -/
def emptyCell : Cell := { measure := fun _ => ⟨0, 0⟩, renderLines := fun _ => [] }

/-- Finding in rich 9.10.0 as found, repaired in /repo by fix ab98098: an expanding table with `min_width`, a `ratio=1` and a `ratio=0` column, rendered with no
room left for the columns (`max_width - extra_width = 0`: the width is spent on the borders):
`ratio_distribute(0, [1, 0], [1, 1])` hands the zero-ratio column the *remaining* −1, the widths sum to 0 and
the padding step's `ratio_distribute(…, widths)` fails its assertion. -/
def narrowTable : Table :=
  { columns := [{ header := emptyCell, footer := emptyCell, cells := [], ratio := some 1 },
                { header := emptyCell, footer := emptyCell, cells := [], ratio := some 0 }],
    expandFlag := true, minWidth := some 5, padding := (0, 0, 0, 0) }

theorem old_table_zero_ratio_narrow_raises : narrowTable.calcWidths Flags.repaired 0 = none := by decide +kernel

example : (narrowTable.calcWidths Flags.repaired 4).isSome = true := by decide +kernel

end RichModel.C14
