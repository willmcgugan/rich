import RichModel.Lemmas.AnsiForeign
import RichModel.Lemmas.AnsiLegacy
import RichModel.Lemmas.AnsiCsi
import RichModel.Lemmas.AnsiLiveStreams
import RichModel.Lemmas.AnsiParams
import RichModel.Lemmas.AnsiTotal
import RichModel.Props.C10
/-!
# C19 — the ANSI decoder inverts the truecolor encoder, and redirected output is never lost

Model: `Model/Ansi.lean` (`rich/ansi.py`, `rich/file_proxy.py`, the truecolor path of `Style.render`).
Tables: `Gen/SgrMap.lean` (`SGR_STYLE_MAP`, `Style._style_map`, translated on every run) and
`Gen/PyDigits.lean` (`str.isdigit`, `int`, `sys.get_int_max_str_digits` of the running Python).

Everything here holds for lines, texts, styles, histories of any size.  `decide +kernel` is used
only for the obligations on the decoder's table and for closed finite facts (witnesses and examples on concrete inputs).

The code variants (`Ansi.Cfg`), each `true` for rich 9.10.0 as found and `false` for the repaired code /repo contains
now: `intRaises` (F10, fix 8dc20cb), `flushRaw` (F20, fix c4ae818), `emptyIgnored` (F27, fix eb349e5), `resetDropsLink`
(F28, fix c143415), `offSingle` (F29, fix b9c1000), `crErases` (F31, fix 70d7986), `sgrLazy` (F32, fix a4759bf),
`oscStOnly` (F33, fix 37dd303).  The full-strength theorems are proved for the repaired variant (each names the flags it
needs as hypotheses) and the `old_…` theorems show by evaluation that the variant as found violates them.  The round
trip `decode_encode` holds for every variant (the encoder never writes anything the eight variants read differently).
Proofs: `Lemmas/AnsiEcma` (the ECMA-48 interpreter and the table check against it, definitions only), `AnsiTables` (the
table obligations, evaluated), `AnsiSgr` (parameter texts, attributes), `AnsiColor` (colours, `_make_ansi_codes` as a whole),
`AnsiTok`, `AnsiRoundTrip` (one segment, one line), `AnsiTotal` (totality), `AnsiProxy` (proxy against `units`; `write` of a
non-`str`, `writelines`, no-op `flush` over `Model/AnsiProxyApi.lean`), `AnsiForeign` (ECMA-48 reading of SGR), `AnsiCsi`
(other CSI), `AnsiLegacy`, `AnsiLiveStreams` (the proxy inside C10's display), `AnsiParams` (every SGR parameter the
encoder can emit for one attribute or colour, fed to a fresh decoder) over `Model/AnsiParams.lean`.

A carriage return that is NOT at the end of a line is outside the statement: `decode_line` keeps what follows the
last one ("what is visible after the cursor returned": `10%\r50%\r100%` → `100%`), which is what the code means
to do and agrees with a terminal whenever the later text is at least as long as the earlier; a faithful overwrite
(`abc\rxy` → `xyc`) would need cell positions, which a line of text printed through the console does not have.
The proxy theorems hold for such lines too (they are about what is handed to the decoder); only "complete" is
then relative to that reading, and the generators keep interior CRs in the model-only stream.

Escape sequences that are neither SGR, OSC nor CSI — classification against "complete … with its ANSI styling preserved"
(evidence: the probes of `section_decoder`, compared with the model on every run, counted with `ctx.note`):
* control strings DCS / SOS / PM / APC (`ESC P|X|^|_ … ESC \`): `re_csi` removes the two-character introducer and the
  terminator, the PAYLOAD is printed as text (`ESC P q#0… ESC \` prints `q#0…`).  Nothing written as text is lost and no
  styling changes; characters that were not text appear.  Outside the statement (it speaks of lines written and their
  styling, not of control strings a line-oriented console cannot honour); a repair (`re_csi` consuming the whole string) is
  noted in the MANIFEST, not proposed as a finding.
* 8-bit C1 controls (`U+009B` CSI, `U+009D` OSC, `U+0090` DCS, `U+009C` ST): not part of the decoder's grammar, kept
  verbatim and handed to the terminal as written — complete, styling as the terminal reads it.  Outside.
* two-character escapes other than `ESC @ … ESC _` (`ESC 7`, `ESC 8`, `ESC c`, `ESC =`, `ESC ( B`): kept verbatim, ESC included.
  Complete; whether the terminal then moves its cursor is the display's concern (C10), not this property's.
* ISO 8613-6 colon sub-parameters (`ESC [ 38:2::r:g:b m`, `4:3`): read as SGR (nothing is swallowed), the parameter is not a
  number and is ignored like every invalid code — the text is complete and unstyled.  `decode_sgr_means_ecma` is about
  semicolon-separated numeric parameters; this form is outside it.

Outside the statement (observed by the harness and counted, not a check): WHERE a partial line pending at `stop()`
lands.  Such text is not a *line written* (no newline yet) and no *flush* was asked for, which are the two things the
property speaks of; nor is it lost.  In rich 9.10.0 as found `Live.stop` / `Progress.stop` did not flush the two
proxies: `io.IOBase.close` calls `flush`, so the text was printed when the proxy object was collected
(`proxy_flush_empties` covers that flush), after the final frame or later.  Since fix 4c3921f (a finding of C10, the
display's property) `stop` flushes both proxies before the last refresh and the text lands above the final frame; on the
model that placement is part of `live_screen_with_proxied_streams` below (the body's lines, then the pending text of
stdout, then of stderr, then the last frame).  `proxy_two_streams` and `proxy_lines` say what is pending (`pending h`)
and that it stays in the stream's own buffer up to that flush.
-/
namespace RichModel.C19
open RichModel RichModel.Ansi RichModel.Style

/-! ## The table half of the round trip -/

/-- Every SGR parameter the encoder can write is read back by the decoder's table as the very attribute
or colour it was written for: for each of the 13 attribute bits `Style._style_map[bit]` is a number `k`
such that `Style.parse(SGR_STYLE_MAP[k])` sets exactly that bit; 30-37 / 90-97 / 40-47 / 100-107 / 39 / 49
parse to the sixteen standard colours and `default` on the right side; every entry parses; 38 and 48 are
not in the table (they would shadow the extended-colour sub-parsers); the off codes 22-29, 54, 55 only switch
off the attributes ECMA-48 assigns to them.  (Style operations at `StyleVariant.fixed`, see `Ansi.Cfg.sv`.) -/
theorem sgr_table_inverts_style_map : tablesOk StyleVariant.fixed = true := tables_ok

/-- `str(n)` for `n ≤ 255` is made of characters `str.isdigit` accepts, `int()` reads it back as `n`, and it
contains none of `;`, `m`, newline, ESC, CR. -/
theorem sgr_numbers_read_back : digitsOk = true :=
  List.all_eq_true.mpr fun _ hn => natStr_paramOk (List.mem_range.mp hn)

/-! ## The decoder inverts the encoder -/

/-- **decode_encode.**  For every line of segments satisfying `SegOk` (`textOk`, `idOk`, `linkOk`, `noBel`: no ESC / CR / stripped control
code in the text, no ESC / line break in link and link id, no `;` in the link id, no BEL in link and link id —
BEL ends an OSC string in the repaired tokenizer —, colours as the constructors build them, styles
with the constructors' invariant), every code variant and every blank decoder state (in particular a fresh
decoder): `_render_buffer` on a truecolor terminal succeeds, `decode_line` of its output succeeds, leaves
the decoder blank again, and yields **per character** the same character with the same attributes that
are on, the same colours (type, number, triplet) and the same link. -/
theorem decode_encode (cfg : Ansi.Cfg) (segs : List Seg) (hok : ∀ g ∈ segs, SegOk g) (st : Style) (hst : Blank st) :
    ∃ x st' runs, encodeSegs false segs = .ok x ∧ decodeLine cfg st x = (st', .ok runs) ∧ Blank st' ∧
      charsOf runs = expectedChars segs := by
  obtain ⟨x, hx, st2, hb, hd⟩ := segs_roundtrip cfg segs hok st hst
  obtain ⟨runs, hl, hc⟩ := hd.line
  exact ⟨x, st2, runs, hx, hl, hb, hc⟩

/-- The same for a whole printed text: lines decoded one after the other by one decoder
(`AnsiDecoder.decode` after `splitlines`) — the style carried from line to line is blank at every line
break, so every line decodes to what its own segments say. -/
theorem decode_encode_lines (cfg : Ansi.Cfg) (lines : List (List Seg)) (hok : ∀ l ∈ lines, ∀ g ∈ l, SegOk g)
    (st : Style) (hst : Blank st) :
    ∃ xs st' texts, lines.mapM (encodeSegs false) = .ok xs ∧ decodeMany cfg st xs = (st', .ok texts) ∧ Blank st' ∧
      texts.map charsOf = lines.map expectedChars := by
  induction lines generalizing st with
  | nil => exact ⟨[], st, [], rfl, rfl, hst, rfl⟩
  | cons l r ih =>
    obtain ⟨x, s1, runs, hx, hd, hb, hch⟩ := decode_encode cfg l (hok l (by simp)) st hst
    obtain ⟨xs, s2, texts, hxs, hd2, hb2, hch2⟩ := ih (fun y hy => hok y (by simp [hy])) s1 hb
    refine ⟨x :: xs, s2, runs :: texts, ?_, ?_, hb2, by simp [hch, hch2]⟩
    · simp [List.mapM_cons, hx, hxs, bind, Except.bind, pure, Except.pure]
    · simp [decodeMany_cons xs hd, hd2, Except.map]

/-- A line without escapes and stripped control codes decodes to itself, complete and in order,
whatever the decoder's state. -/
theorem decode_plain_complete (cfg : Ansi.Cfg) (st : Style) (l : List Char) (h : textOk l = true) :
    ∃ runs, decodeLine cfg st l = (st, .ok runs) ∧ plainOf runs = l := by
  simpa [Function.comp_def] using (Decodes.text (cfg := cfg) (st := st) h).plain_line

/-- Repaired variant: `decode_line` never raises, for every line and every decoder state. -/
theorem decode_total (cfg : Ansi.Cfg) (h : cfg.intRaises = false) (st : Style) (l : List Char) :
    ∃ st' runs, decodeLine cfg st l = (st', .ok runs) :=
  decodeLine_total cfg h st l

/-- F10 on the model of the code as found: `AnsiDecoder().decode_line("\x1b[²m")` raises `ValueError`
(`"²".isdigit()` is true, `int("²")` is not defined). -/
theorem old_decode_raises :
    (decodeLine Ansi.Cfg.old Style.null [ESC, '[', '²', 'm']).2 = .error .valueError := by decide +kernel

/-! ## Redirected output is never lost -/

/-- **proxy_lines.**  For every history of `write` / `flush` calls on a fresh proxy (repaired variant): the
line texts handed to the console are exactly the decoded units of the *flattened* history — the
character stream cut at every newline and at every flush with something pending — each once, in order,
decoded by one decoder whose state is carried along; nothing is raised; what stays buffered is the
unterminated rest. -/
theorem proxy_lines (cfg : Ansi.Cfg) (hraw : cfg.flushRaw = false) (hint : cfg.intRaises = false) (h : List Op) :
    ∃ st' ts,
      decodeMany cfg Style.null (units h) = (st', .ok ts) ∧
      printedTexts (run cfg Proxy.init h).2 = ts ∧ ts.length = (units h).length ∧
      (run cfg Proxy.init h).1.buffer.flatten = pending h ∧ (run cfg Proxy.init h).1.style = st' := by
  have hs := run_spec hraw (decodeLine_total cfg hint) h Proxy.init (Proxy.noEmptyChunk_nil _)
  exact ⟨_, _, hs.texts, rfl, decodeMany_length hs.texts, hs.pending, rfl⟩

/-- Where one `write` ends and the next begins plays no role: two histories with the same flattened
character stream print the same texts in the same order. -/
theorem proxy_chunking_irrelevant (cfg : Ansi.Cfg) (hraw : cfg.flushRaw = false) (hint : cfg.intRaises = false)
    (h1 h2 : List Op) (hflat : flat h1 = flat h2) :
    printedTexts (run cfg Proxy.init h1).2 = printedTexts (run cfg Proxy.init h2).2 := by
  have s1 := run_spec hraw (decodeLine_total cfg hint) h1 Proxy.init (Proxy.noEmptyChunk_nil _)
  rw [hflat] at s1
  exact s1.texts_eq (run_spec hraw (decodeLine_total cfg hint) h2 Proxy.init (Proxy.noEmptyChunk_nil _))

/-- Without flushes the units are the complete (newline-terminated) lines of the concatenation of
everything written, and the unterminated rest stays pending. -/
theorem proxy_writes_complete_lines (ws : List (List Char)) :
    units (writesOnly ws) = (completeLines ws.flatten []).1 ∧
    pending (writesOnly ws) = (completeLines ws.flatten []).2 := by
  unfold units pending
  rw [flat_writesOnly, unitsAux_map_ch]
  exact ⟨rfl, rfl⟩

/-- A flush emits the pending partial line: after a history that ends with `flush`, nothing is pending. -/
theorem proxy_flush_empties (cfg : Ansi.Cfg) (hraw : cfg.flushRaw = false) (hint : cfg.intRaises = false)
    (h : List Op) (b : Bool) : (run cfg Proxy.init (h ++ [.flush b])).1.buffer = [] := by
  rw [run_append]
  exact flush_buffer_nil hraw (decodeLine_total cfg hint) _ b

/-- **proxy_verbatim.**  Repaired variant: every print the proxy issues, in every history, is
`console.print(text, markup=False, emoji=False, highlight=False)` with a `Text` produced by the proxy's
decoder; no exception is recorded. -/
theorem proxy_verbatim (cfg : Ansi.Cfg) (hraw : cfg.flushRaw = false) (hint : cfg.intRaises = false) (h : List Op) :
    ∀ e ∈ (run cfg Proxy.init h).2, e.verbatim = true :=
  (run_spec hraw (decodeLine_total cfg hint) h Proxy.init (Proxy.noEmptyChunk_nil _)).verbatim

/-- F20 on the model of the code as found: `write("[b]x"); flush()` hands the raw string to
`console.print` (markup, emoji and highlighting on, nothing decoded). -/
theorem old_flush_prints_raw :
    (run Ansi.Cfg.old Proxy.init [.write ['[', 'b', ']', 'x'], .flush false]).2 = [.call (.printStr ['[', 'b', ']', 'x'])] ∧
    ¬ (∀ e ∈ (run Ansi.Cfg.old Proxy.init [.write ['[', 'b', ']', 'x'], .flush false]).2, e.verbatim = true) := by
  decide +kernel

/-- F10 through the proxy, code as found: `write("q\n\x1b[²m\n")` raises and prints nothing — the complete
line `q` is lost (`units` says it must be printed).  The variant has `intRaises` and `sgrLazy` (first and seventh flag)
as found, the rest repaired: with the repaired pattern `²` is not in `[0-9;:]`, `ESC[²m` stays text and `int()` is never
reached. -/
theorem old_write_loses_line :
    (run ⟨true, false, false, false, false, false, true, false⟩ Proxy.init [.write ['q', '\n', ESC, '[', '²', 'm', '\n']]).2 = [.raised .valueError] ∧
    units [.write ['q', '\n', ESC, '[', '²', 'm', '\n']] = [['q'], [ESC, '[', '²', 'm']] := by
  decide +kernel

/-! ## The proxies as a live display installs them: stdout and stderr on one console -/

/-- **proxy_two_streams.**  `Live.start` / `Progress.start` install two proxies (stdout, stderr), each with its own
buffer and decoder, printing through one console.  For every interleaved history of calls on the two streams and
each stream `b`: what the console is asked to print on behalf of `b` is exactly the decoded units of the flattened
calls made on `b` — each once, in order, complete, carried by `b`'s own decoder state; so nothing written to one
stream is ever glued to, or styled by, what was written to the other; nothing is raised; `b`'s unterminated rest
stays in `b`'s buffer; every print is verbatim. -/
theorem proxy_two_streams (cfg : Ansi.Cfg) (hraw : cfg.flushRaw = false) (hint : cfg.intRaises = false)
    (h : List (Bool × Op)) (b : Bool) :
    ∃ st' ts,
      decodeMany cfg Style.null (units (proj b h)) = (st', .ok ts) ∧
      printedTexts (eventsOf b (run2 cfg Proxies.init h).2) = ts ∧ ts.length = (units (proj b h)).length ∧
      ((run2 cfg Proxies.init h).1.get b).buffer.flatten = pending (proj b h) ∧
      (∀ e ∈ eventsOf b (run2 cfg Proxies.init h).2, e.verbatim = true) := by
  have hinit : Proxies.init.get b = Proxy.init := by cases b <;> rfl
  have hs := run2_spec hraw (decodeLine_total cfg hint) h Proxies.init b (hinit ▸ Proxy.noEmptyChunk_nil _)
  rw [hinit] at hs
  exact ⟨_, _, hs.texts, rfl, decodeMany_length hs.texts, hs.pending, hs.verbatim⟩

/-! ## The proxies inside the live display (C10's model, imported read-only) -/

/-- **live_write_is_proxy_write.**  The `Op.write` of C10's display model IS the `FileProxy.write` of this model —
the same function on the same inputs: on a redirected stream it prints, through the display, exactly the lines
`writeLoop` completes from the pending text and the written characters, and keeps exactly `writeLoop`'s new buffer
pending.  (C10 restates the part of `proxy_lines` it needs as `stream_writes_print_complete_lines`; with
this theorem the two models cannot drift apart: `cutNL_eq_completeLines`, `writeLoop_eq_pw`.) -/
theorem live_write_is_proxy_write (cfg : Live.Cfg) (fails : Nat → Bool) (st : Live.St) (e : Bool)
    (lines : List Live.Line) (tail : Live.Line) (hp : Live.proxied st e = true)
    (hnl : (∀ l ∈ lines, '\n' ∉ l) ∧ '\n' ∉ tail) (buf : List (List Char)) (hb : buf.flatten = Live.getBuf st e) :
    Live.doWrite cfg fails st e lines tail =
      (match (writeLoop (Live.flatW (lines, tail)) [] buf []).1 with
       | [] => { st := Live.setBuf st e (writeLoop (Live.flatW (lines, tail)) [] buf []).2.flatten }
       | ls => Live.doPrint cfg fails (Live.setBuf st e (writeLoop (Live.flatW (lines, tail)) [] buf []).2.flatten) ls) :=
  doWrite_eq_proxy cfg fails st e lines tail hp hnl buf hb

/-- **live_screen_with_proxied_streams** (C10's `live_screen` composed with this property).  A display is started,
then any sequence `b` of prints, refreshes, updates, resizes and writes to the two redirected streams (chunked
anyhow), then it is stopped (repaired `stop`).  Replaying everything written on a fresh terminal shows:
the printed lines, then the last frame, then blank rows only — where the printed lines are, operation by operation
in program order, what C19's proxy hands over (`bodyPrinted`), followed by the text still pending on stdout, then on
stderr; and for each stream `e` the lines printed on its behalf are exactly the complete lines of `e`'s own
flattened character stream (`unitsAux`: each once, in order, nothing glued in from the other stream) and its
pending text is the unterminated rest.  The last conjunct is `decode_plain_complete` again, on its own variables: a
line without escapes decodes to a Text with the line's characters.  The display model prints the proxy's raw lines and
never applies `decodeLine` to them, so that the lines above come out as written when they have no escapes is this
conjunct read beside the others, not a statement about `b`. -/
theorem live_screen_with_proxied_streams (cfg : Live.Cfg) (ov : Live.Overflow) (r0 : Live.Frame) (b : List Live.Op)
    (hfix : cfg.bareBypass = false) (hflush : cfg.flushFix = true)
    (hwf : Live.wf cfg ov r0 (.start :: b ++ [.stop]) = true)
    (hb : ∀ op ∈ b, isBody op = true ∧ writeOk op)
    (hprox : ∀ e, Live.proxied (Live.step cfg Live.noFault (Live.initSt ov r0) .start).st e = true) :
    let st1 := (Live.step cfg Live.noFault (Live.initSt ov r0) .start).st
    let stE := runBody cfg st1 b
    (∃ k, (Screen.replay cfg.height Screen.init (Live.emit cfg ov r0 (.start :: b ++ [.stop]))).rows =
        (Live.printed cfg ov r0 (.start :: b ++ [.stop]) ++ Live.lastFrame cfg ov r0 (.start :: b ++ [.stop])).map
          (Live.cells cfg.cw) ++ List.replicate k []) ∧
    Live.printed cfg ov r0 (.start :: b ++ [.stop]) =
      bodyPrinted cfg st1 b ++ (if stE.started then Live.pendLines cfg stE else []) ∧
    (∀ e, streamLines cfg e st1 b = (unitsAux ((streamText e b).map .ch) (Live.getBuf st1 e)).1 ∧
          Live.getBuf stE e = (unitsAux ((streamText e b).map .ch) (Live.getBuf st1 e)).2) ∧
    (∀ (acfg : Ansi.Cfg) (dst : Style) (l : List Char), textOk l = true →
        ∃ runs, decodeLine acfg dst l = (dst, .ok runs) ∧ plainOf runs = l) := by
  intro st1 stE
  refine ⟨C10.live_screen cfg ov r0 _ hfix hflush hwf, ?_, ?_, fun acfg dst l hl => decode_plain_complete acfg dst l hl⟩
  · have hne : (Live.Op.start : Live.Op) ≠ .stop := by decide
    simp only [Live.printed, List.cons_append, Live.specRun, hne, if_false]
    rw [specRun_body_stop cfg b hb]
    rfl
  · exact fun e => body_stream_lines cfg e b st1 hb hprox

/-- a display 6 rows high with the repaired `stop`, and a body mixing writes to both streams, a refresh and a print -/
def jointCfg : Live.Cfg := { C10.cfgLive with bareBypass := false, flushFix := true, height := 6 }
def jointBody : List Live.Op :=
  [.write false [['a']] ['b'], .write true [] ['x'], .refresh, .write false [['c']] [], .print [['p']], .write true [['y']] ['z']]

example : Live.wf jointCfg .crop [['F']] (.start :: jointBody ++ [.stop]) = true := by decide +kernel
example : ∀ e, Live.proxied (Live.step jointCfg Live.noFault (Live.initSt .crop [['F']]) .start).st e = true := by decide +kernel
example : ∀ op ∈ jointBody, isBody op = true := by decide +kernel
/-- stdout wrote `a⏎b` then `c⏎`, stderr `x` then `y⏎z`: lines `a`, `bc`, (print `p`), `xy`, and `z` completed by `stop` -/
example : Live.printed jointCfg .crop [['F']] (.start :: jointBody ++ [.stop]) = [['a'], ['b', 'c'], ['p'], ['x', 'y'], ['z']] := by
  decide +kernel

/-! ## Foreign ANSI: the decoder reads SGR the way ECMA-48 does -/

/-- Every row of the decoder's table (repaired rows for 24 / 25) has exactly the effect ECMA-48 8.3.117 gives
its code on the modelled aspects, and no code ECMA-48 gives a meaning to is missing (0, 38, 48 are handled by
the loop itself; 26 is outside).  Re-proved on the translated table on every run. -/
theorem sgr_table_agrees_with_ecma48 : tableAgrees Ansi.Cfg.repaired = true :=
  tableAgrees_of_offSingle _ rfl

/-- **decode_sgr_means_ecma.**  Repaired variant: for every style that kept the constructors' invariant and
every list of SGR parameters (without 26), the style the decoder reaches means — attributes on, foreground,
background, hyperlink — exactly what the ECMA-48 / ISO 8613-6 interpreter `ecmaFold` computes from the meaning
of the style it started from.  In particular a reset keeps the hyperlink, 24 / 25 clear the double variants. -/
theorem decode_sgr_means_ecma (cfg : Ansi.Cfg) (hr : cfg.resetDropsLink = false) (ho : cfg.offSingle = false)
    (codes : List Nat) (h26 : ∀ c ∈ codes, c ≠ 26) (st : Style) (hs : Inv st) :
    absStyle (applyCodes cfg st codes 0).1 = ecmaFold (absStyle st) codes 0 :=
  applyCodes_means_ecma cfg hr ho codes h26 st hs 0

/-- Repaired variant: an omitted parameter is a zero (ECMA-48 5.4.2) — `p1;p2;…` with each `pi` omitted or a
number ≤ 255 in decimal reads as those numbers, and `ESC [ m` reads as `[0]`, a reset. -/
theorem sgr_omitted_parameters_are_zero (cfg : Ansi.Cfg) (he : cfg.emptyIgnored = false) :
    sgrCodes cfg [] = .ok [0] ∧
    ∀ ps : List (Option Nat), ps ≠ [] → (∀ n, some n ∈ ps → n < 256) →
      sgrCodes cfg (joinWith ';' (ps.map paramText)) = .ok (ps.map (·.getD 0)) :=
  ⟨sgrCodes_empty cfg he, fun ps hne hlt => sgrCodes_params cfg he ps hne hlt⟩

/-- F27 on the code as found: in `ESC[1m b ESC[m p` the `p` is still bold; repaired: it is plain. -/
theorem old_empty_param_ignored :
    ((decodeLine Ansi.Cfg.old Style.null [ESC, '[', '1', 'm', 'b', ESC, '[', 'm', 'p']).2.toOption.map charsOf).map (·.map (·.2.on.head?))
      = some [some true, some true] ∧
    ((decodeLine Ansi.Cfg.repaired Style.null [ESC, '[', '1', 'm', 'b', ESC, '[', 'm', 'p']).2.toOption.map charsOf).map (·.map (·.2.on.head?))
      = some [some true, some false] := by decide +kernel

/-- F28 on the code as found: SGR 0 inside a hyperlink drops the link; ECMA-48 keeps it. -/
theorem old_reset_drops_link :
    (absStyle (applyCodes Ansi.Cfg.old (linkOnly (some ['u'])) [0] 0).1).link = none ∧
    (ecmaFold (absStyle (linkOnly (some ['u']))) [0] 0).link = some ['u'] := by decide +kernel

/-- F29 on the code as found: `21;24` leaves the double underline (bit 9) on; ECMA-48: not underlined. -/
theorem old_off_keeps_double :
    (absStyle (applyCodes Ansi.Cfg.old Style.null [21, 24] 0).1).on = 512 ∧
    (ecmaFold ⟨0, none, none, none⟩ [21, 24] 0).on = 0 := by decide +kernel

/-! ## Foreign output: CR LF line ends and control sequences other than SGR -/

/-- **crlf_lines_complete** (repaired F31).  A line of CR LF terminated output reaches `decode_line` with its
carriage return(s) at the end (the proxy cuts at LF only): they erase nothing — the text comes out complete. -/
theorem crlf_lines_complete (cfg : Ansi.Cfg) (hc : cfg.crErases = false) (st : Style) (l : List Char)
    (h : textOk l = true) (k : Nat) :
    ∃ runs, decodeLine cfg st (l ++ List.replicate k '\r') = (st, .ok runs) ∧ plainOf runs = l := by
  rw [decodeLine_trailing_CRs cfg hc]
  exact decode_plain_complete cfg st l h

/-- **osc_bel_terminated** (repaired F33).  An OSC 8 hyperlink written with the BEL terminator — `ESC ] 8 ; params ; url BEL`,
the form most programs use — is read exactly like the `ESC \\` form: whatever text was pending is flushed with the old
state, the decoder's style gets the link (or loses it, for an empty url), and decoding goes on after the BEL. -/
theorem osc_bel_terminated (cfg : Ansi.Cfg) (hb : cfg.oscStOnly = false) (st : Style) (params link rest acc : List Char)
    (hp : ∀ c ∈ params, c ≠ ESC ∧ c ≠ '\n' ∧ c ≠ ';' ∧ c ≠ BEL) (hl : ∀ c ∈ link, c ≠ ESC ∧ c ≠ '\n' ∧ c ≠ BEL) :
    R cfg st ([ESC, ']', '8', ';'] ++ params ++ ';' :: link ++ [BEL] ++ rest) acc =
      push (flushRuns st acc) (R cfg (Style.updateLink cfg.sv st (linkOrNone link)) rest []) :=
  Reads.osc8 (Or.inr ⟨by simp [hb], rfl⟩) hp hl rest

/-- F33 on the code as found: `ESC]8;;http://x BEL link ESC]8;; BEL` — the link is lost and `8;;http://x` is printed. -/
theorem old_osc_bel_not_recognised :
    ((decodeLine { Ansi.Cfg.repaired with oscStOnly := true } Style.null
        (ESC :: ']' :: "8;;u".toList ++ BEL :: 'L' :: ESC :: ']' :: "8;;".toList ++ [BEL])).2.toOption.map fun rs => (plainOf rs, charsOf rs |>.map (·.2.link)))
      = some ("8;;u".toList ++ BEL :: 'L' :: "8;;".toList ++ [BEL], List.replicate 10 none) ∧
    ((decodeLine Ansi.Cfg.repaired Style.null
        (ESC :: ']' :: "8;;u".toList ++ BEL :: 'L' :: ESC :: ']' :: "8;;".toList ++ [BEL])).2.toOption.map fun rs => (plainOf rs, charsOf rs |>.map (·.2.link)))
      = some (['L'], [some ['u']]) := by
  repeat rw [String.toList_ofList]
  decide +kernel

/-- **decode_cr_keeps_last_segment.**  Exactly what is kept of a line with carriage returns inside (repaired F31): the
text after the last carriage return that is followed by text.  `pre ⏎ seg ⏎…⏎` with `seg` non-empty and free of CR
decodes as `seg` alone — whatever `pre` contains (text, escapes, further CRs) has no effect, not even on the decoder's
state.  A terminal would show `seg` written over `pre`: the two readings agree whenever `seg` covers at least as many
cells as what was on the line before (evaluated on real rich by the harness), otherwise the tail of the earlier text
that a terminal would leave visible is dropped. -/
theorem decode_cr_keeps_last_segment (cfg : Ansi.Cfg) (hc : cfg.crErases = false) (st : Style) (pre seg : List Char)
    (hs : ∀ c ∈ seg, c ≠ '\r') (hne : seg ≠ []) (k : Nat) :
    decodeLine cfg st (pre ++ '\r' :: (seg ++ List.replicate k '\r')) = decodeLine cfg st seg := by
  have e : pre ++ '\r' :: (seg ++ List.replicate k '\r') = (pre ++ '\r' :: seg) ++ List.replicate k '\r' := by simp
  rw [e, decodeLine_trailing_CRs cfg hc, decodeLine_after_CR cfg st pre seg hs hne]

/-- **other_csi_dropped** (repaired F32).  A control sequence `ESC [ params intermediates final` that is not SGR
(cursor show / hide, erase, cursor movement, private sequences …) is dropped and the text before and after it
comes out complete — nothing up to "the next letter m" is swallowed. -/
theorem other_csi_dropped (cfg : Ansi.Cfg) (hl : cfg.sgrLazy = false) (st : Style) {ps is : List Char} {f : Char}
    (h : OtherCsi ps is f) (t1 t2 : List Char) (h1 : textOk t1 = true) (h2 : textOk t2 = true) :
    ∃ runs, decodeLine cfg st (t1 ++ csiSeq ps is f ++ t2) = (st, .ok runs) ∧ plainOf runs = t1 ++ t2 := by
  simpa [Function.comp_def] using (((Decodes.text h1).append (Decodes.otherCsi hl h st)).append (Decodes.text h2)).plain_line

/-- `other_csi_dropped` leaves no gap: every control sequence `ESC [ P…P I…I F` — any parameter bytes `0-?`, any
intermediate bytes (space to slash), ANY final byte `@-~` — is either exactly what the repaired pattern reads as SGR (final `m`, no
intermediates, parameters in `[0-9;:]`) or an `OtherCsi`, which is dropped with the text around it intact. -/
theorem every_csi_is_sgr_or_dropped (ps is : List Char) (f : Char) (hp : ∀ c ∈ ps, isCsiParam c = true)
    (hi : ∀ c ∈ is, isCsiInter c = true) (hf : isCsiFinal f = true) :
    (f = 'm' ∧ is = [] ∧ ∀ c ∈ ps, isSgrParam c = true) ∨ OtherCsi ps is f := by
  by_cases h : f = 'm' ∧ is = [] ∧ ∀ c ∈ ps, isSgrParam c = true
  · exact Or.inl h
  · -- `OtherCsi.notSgr` is the negation of the SGR condition
    refine Or.inr ⟨hp, hi, hf, ?_⟩
    rw [Classical.not_and_iff_not_or_not, Classical.not_and_iff_not_or_not] at h
    simpa using h

/-- F31 on the code as found: `write("foo\r\n")` — the line `foo\r` decodes to nothing. -/
theorem old_trailing_cr_erases_line :
    ((decodeLine Ansi.Cfg.old Style.null ['f', 'o', 'o', '\r']).2.toOption.map plainOf) = some [] ∧
    ((decodeLine Ansi.Cfg.repaired Style.null ['f', 'o', 'o', '\r']).2.toOption.map plainOf) = some ['f', 'o', 'o'] := by
  decide +kernel

/-- F32 on the code as found: `ESC[?25l` followed by `loading items` — everything up to the `m` is swallowed. -/
theorem old_csi_swallows_text :
    ((decodeLine Ansi.Cfg.old Style.null (ESC :: '[' :: "?25lloading items".toList)).2.toOption.map plainOf) = some ['s'] ∧
    ((decodeLine Ansi.Cfg.repaired Style.null (ESC :: '[' :: "?25lloading items".toList)).2.toOption.map plainOf)
      = some "loading items".toList := by
  repeat rw [String.toList_ofList]
  decide +kernel

example : OtherCsi ['?', '2', '5'] [] 'l' := ⟨by decide, by decide, by decide, Or.inl (by decide)⟩
example : OtherCsi ['2'] [] 'K' := ⟨by decide, by decide, by decide, Or.inl (by decide)⟩
example : OtherCsi ['>', '4', ';', '2'] [] 'm' := ⟨by decide, by decide, by decide, Or.inr (Or.inr ⟨'>', by decide, by decide⟩)⟩

/-! ## `legacy_windows=True` -/

/-- On a legacy Windows console `Style.render` writes no hyperlink: the round trip holds with the link
dropped from what is expected, everything else — characters, attributes, colours — as before. -/
theorem decode_encode_legacy (cfg : Ansi.Cfg) (segs : List Seg) (hok : ∀ g ∈ segs, SegOk g) (st : Style) (hst : Blank st) :
    ∃ x st' runs, encodeSegs true segs = .ok x ∧ decodeLine cfg st x = (st', .ok runs) ∧ Blank st' ∧
      charsOf runs = (expectedChars segs).map fun p => (p.1, p.2.dropLink) := by
  have hok' : ∀ g ∈ segs.map stripLink, SegOk g := List.forall_mem_map.mpr fun g hg => segOk_stripLink (hok g hg)
  obtain ⟨x, st', runs, h1, h2, h3, h4⟩ := decode_encode cfg (segs.map stripLink) hok' st hst
  exact ⟨x, st', runs, by rw [encodeSegs_legacy]; exact h1, h2, h3, by rw [h4, expectedChars_stripLink]⟩

/-! ## Non-vacuity -/

/-- bold italic, truecolor on an 8-bit background, with a link -/
def sampleStyle : Style :=
  { color := some (fromRgb 255 136 0), bgcolor := some (fromAnsi 200), attributes := 5, setAttributes := 7,
    link := some ['h', ':', 'x'], hash := ⟨none, none, none, none, none⟩, isNull := false, styleDef := none }

def sampleSegs : List Seg :=
  [⟨['a', 'b'], some sampleStyle, ['1', '.', '5']⟩, ⟨[' '], none, []⟩, ⟨['c'], some (fromColor StyleVariant.fixed (some defaultColor) none), []⟩]

example : ∀ g ∈ sampleSegs, SegOk g := by
  intro g hg
  simp only [sampleSegs, List.mem_cons, List.not_mem_nil, or_false] at hg
  rcases hg with rfl | rfl | rfl
  · refine ⟨by decide, by decide, ?_, ⟨by decide, ?_⟩⟩
    · rintro _ ⟨⟩
      exact ⟨⟨by decide, by decide, by intro h; cases h⟩, by decide, by decide⟩
    · rintro _ ⟨⟩
      decide
  · exact ⟨by decide, by decide, (by intro s hs; cases hs), ⟨by decide, (by intro s hs; cases hs)⟩⟩
  · refine ⟨by decide, by decide, ?_, ⟨by decide, ?_⟩⟩
    · rintro _ ⟨⟩
      exact ⟨inv_fromColor _ _ _, by decide, by decide⟩
    · rintro _ ⟨⟩
      decide

example : Blank Style.null := ⟨inv_null, rfl, rfl, rfl, rfl⟩

/-- what the model writes for the sample, and that it decodes back (evaluated) -/
example : (encodeSegs false sampleSegs).toOption.map (fun x => (decodeLine Ansi.Cfg.old Style.null x).2.toOption.map charsOf)
    = some (some (expectedChars sampleSegs)) := by decide +kernel

example : units [.write ['a'], .write ['b', '\n', 'c'], .flush false, .flush false, .write ['\n']] = [['a', 'b'], ['c'], []] := by
  decide +kernel

example : (run Ansi.Cfg.repaired Proxy.init [.write ['a'], .write ['b', '\n', 'c'], .flush false, .write ['\n']]).2.length = 3 := by
  decide +kernel

/-! ## Every SGR parameter the encoder can emit is decoded (function level) -/

/-- **encoder_sgr_params_decoded.**  On the tables translated from the working tree, for the code as it is now and as
found: for each of the 13 attributes, `Style(attr=False)` writes no parameter and `Style(attr=True)` writes one
non-empty parameter text which `decode_line` (a fresh decoder: `sgrCodes`, then the loop `applyCodes`) reads back as a
style with exactly that attribute set and on, no colour, no link; for every palette number `n ≤ 255`, foreground and
background, what `Color.from_ansi(n)` makes the encoder write (30-37 / 90-97 / 40-47 / 100-107 below 16, `38;5;n` /
`48;5;n` above) is read back as exactly `from_ansi(n)` on that side and nothing else, and so is the explicit form
`38;5;n` / `48;5;n` for EVERY `n` (also below 16); `default` (39 / 49) likewise.  It holds for every variant
(`encoderParamsOk_all`), by argument from the table obligations. -/
theorem encoder_sgr_params_decoded :
    encoderParamsOk Ansi.Cfg.repaired = true ∧ encoderParamsOk Ansi.Cfg.old = true :=
  ⟨encoderParamsOk_all _, encoderParamsOk_all _⟩

/-- The numbers the encoder writes for the 13 attributes, in bit order: 1-9, 21 (`underline2`), 51-53 (`frame`,
`encircle`, `overline`) — each of which `encoder_sgr_params_decoded` shows to be read back. -/
theorem encoder_attribute_numbers :
    (List.range 13).map (fun i => (makeAnsiCodes (attrStyle i true)).toOption) =
      [1, 2, 3, 4, 5, 6, 7, 8, 9, 21, 51, 52, 53].map (fun k => some (natStr k)) := by decide +kernel

/-- **truecolor_params_decoded.**  The form `38;2;r;g;b` / `48;2;r;g;b`, all `r g b ≤ 255`, every variant: it is what the
encoder writes for `Color.from_rgb(r, g, b)`; the decoder splits it into exactly those five numbers; and from the null
style the loop reaches, without raising, a style whose colour on that side is `from_rgb(r, g, b)` (name, type,
triplet), the other side, all attributes and the link untouched. -/
theorem truecolor_params_decoded (cfg : Ansi.Cfg) (fg : Bool) (r g b : Nat) (hr : r < 256) (hg : g < 256) (hb : b < 256) :
    colorCodes (fromRgb r g b) fg = .ok ([if fg then 38 else 48, 2, r, g, b].map natStr) ∧
    sgrCodes cfg (joinWith ';' ([if fg then 38 else 48, 2, r, g, b].map natStr)) = .ok [if fg then 38 else 48, 2, r, g, b] ∧
    ∃ st', applyCodes cfg Style.null [if fg then 38 else 48, 2, r, g, b] 0 = (st', none) ∧
      SetColor fg (fromRgb r g b) Style.null st' := by
  have hc := canon_fromRgb hr hg hb
  exact ⟨colorCodes_eq hc fg, (colorCodes_spec cfg _ hc fg).setColor Style.inv_null⟩

example : ∃ st', applyCodes Ansi.Cfg.repaired Style.null [38, 2, 255, 136, 0] 0 = (st', none) ∧
    SetColor true (fromRgb 255 136 0) Style.null st' :=
  (truecolor_params_decoded Ansi.Cfg.repaired true 255 136 0 (by decide) (by decide) (by decide)).2.2

/-- **sgr_reset_exact.**  Repaired variant: SGR 0 — written `ESC [ 0 m` or with the parameter omitted, `ESC [ m` —
resets exactly, from ANY style: both parameter texts read as `[0]`, the loop does not raise, and the style reached has
no colour, no attribute set and — OSC 8 not being part of the rendition — the link it had; without a link it is
`Style.null()`. -/
theorem sgr_reset_exact (cfg : Ansi.Cfg) (he : cfg.emptyIgnored = false) (hr : cfg.resetDropsLink = false) (st : Style) :
    sgrCodes cfg [] = .ok [0] ∧ sgrCodes cfg ['0'] = .ok [0] ∧
    applyCodes cfg st [0] 0 = (resetOf cfg st, none) ∧
    fieldsOf (resetOf cfg st) =
      (if strTruthy st.link then ⟨none, none, 0, 0, st.link, false⟩ else fieldsOf Style.null) := by
  refine ⟨sgrCodes_empty cfg he, sgrCodes_natStr cfg [0] (by simp) (by simp), by simp [applyCodes], ?_⟩
  rw [resetOf_keeps_link cfg hr]
  split <;> rfl

/-- a fully styled, linked state is reset to "link only" -/
example : fieldsOf (resetOf Ansi.Cfg.repaired sampleStyle) = ⟨none, none, 0, 0, some ['h', ':', 'x'], false⟩ := by decide +kernel

/-! ## The rest of `FileProxy`'s file-object surface: non-`str` writes, `writelines`, `flush` with nothing pending -/

/-- **proxy_api_is_write_flush.**  Repaired variant: a history of `write(str)`, `flush()` and `writelines([str, …])` calls
(`io.IOBase.writelines`: one `write` per element) does exactly what the `write` / `flush` history `flatOps h` does — same
final buffer and decoder state, same prints in the same order — so `proxy_lines`, `proxy_chunking_irrelevant` and
`proxy_verbatim` speak about `writelines` too. -/
theorem proxy_api_is_write_flush (cfg : Ansi.Cfg) (hint : cfg.intRaises = false) (h : List ApiOp) (hs : allStr h = true) (p : Proxy) :
    apiRun cfg p h = ((run cfg p (flatOps h)).1, (run cfg p (flatOps h)).2.map .ev) :=
  apiRun_str cfg (decodeLine_total cfg hint) h hs p

/-- **proxy_api_noops.**  Every variant, every proxy state: `write(x)` with `x` not a `str` raises `TypeError` and changes
nothing (pending text and decoder state kept, nothing printed); `write("")` does nothing; `flush()` with nothing pending
does nothing (no empty line is printed). -/
theorem proxy_api_noops (cfg : Ansi.Cfg) (p : Proxy) :
    apiWrite cfg p .notStr = (p, [.typeError]) ∧ p.write cfg [] = (p, []) ∧
    (p.buffer = [] → ∀ b, p.flush cfg b = (p, [])) :=
  ⟨rfl, write_empty cfg p, fun h b => flush_empty cfg p b h⟩

example : allStr [.write (.str ['a']), .writelines [.str ['b', '\n'], .str ['c']], .flush] = true := by decide +kernel
example : flatOps [.write (.str ['a']), .writelines [.str ['b', '\n'], .str ['c']], .flush] =
    [.write ['a'], .write ['b', '\n'], .write ['c'], .flush false] := by decide
/-- a non-`str` element ends `writelines` with `TypeError`; what was written before it stays pending -/
example : (apiRun Ansi.Cfg.repaired Proxy.init [.writelines [.str ['a'], .notStr, .str ['b']]]) =
    (⟨[['a']], Style.null⟩, [.typeError]) := by decide +kernel

end RichModel.C19
