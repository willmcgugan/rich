import RichModel.Lemmas.LayoutFitsTable
/-!
# C01 — rendered output never exceeds the available width

Helper lemmas: `Lemmas/Layout*.lean`; the induction `good` / `goodL` behind `render_fits` is in `Lemmas/LayoutFitsTable.lean`.  Model: `Model/Layout.lean` — the inductive type `R` of renderable
trees (text | str | padding | panel | align | constrain | styled | cast (`__rich__`) | opaque (no `__rich_measure__`) | group | rule | bar |
progressBar | table | columns | tree, with every layout option), `render r opts w` = `Console.render(tree, options)` as a Segment
stream, `measure`, and `smin`, the statement's *structural minimum*.  The model instantiates the oracles of the finished layers
with its own recursive functions: `Wrap.wrap` (C02) / `Text.render` (C05) for text, the frames of C08, the table algorithm of C07.

`Fits cw w segs` is the observation of the property: the stream is split at line feeds and no line occupies more than `w` cells
(double-width characters count two, zero-width characters none: `cellLen` over rich's own width table); `fits_iff_lines` shows it is
the same as measuring the lines `Segment.split_lines` yields.

The domain.  `Dom cfg r opts w` (Lemmas/LayoutBase.lean) spells out where the statement applies to a renderable whose lines reach the
output uncropped; containers that crop what they are given (padding, panel, table, columns, tree) put NO condition on their children.
Every exclusion is justified below by a witness on the model (section "Why each exclusion is there") or marked as not discharged:
* text / `str`: not `overflow="ignore"` (`excluded_overflow_ignore`), `end` is the line feed or empty (`excluded_text_end`);
* group: every member but the last ends its line — a `ProgressBar` never does (known finding F23 `progressbar-no-newline`:
  `known_progressbar_in_group_overflows`), nor does a text with `end=""` (`excluded_open_member_in_group`);
* table — any number of columns, also none; ratio columns included: EITHER columns free to wrap exactly as the statement says, OR
  arbitrary columns (fixed `width`, `max_width`, `no_wrap`) within the budget `tableBudget` of C07's `width_bound_general`; below that
  budget the bound fails (`excluded_fixed_width_column`, `excluded_no_wrap_column`), and a binding `min_width` makes the table up to
  `floorSum` cells wider than the offer — the precise bound is `table_general_bound` (`excluded_min_width_column`); in an
  expanding table every ratio is allowed on the code with the repaired flexible-width clamp (fix 75c2776), and no `ratio=0` column
  on the code before it (finding `table-ratio-zero-column`, found by this check: `old_ratio_zero_column_overflows`);
* `Constrain` / `Align`, which render their child at a narrower width, put NO condition on that width: `render_fits_any` bounds every
  line by `max w (smin r)` at every width.  The arithmetic fact behind it, about `_calculate_column_widths`: free columns offered LESS
  than one cell each (zero and negative budgets included) all end at exactly one cell — `collapseWidths_low` (the collapse levels every
  column to 0 or 1: invariant "all ≥ 1 or all in {0, 1}" over the `while` loop, `Lemmas/Collapse.lean`), `calcWidths_free_low` (the
  re-measure then hands every column one cell; the padding block adds nothing), `tableConsole_decomp_any` /
  `columnsConsole_decomp_any` (`Lemmas/LayoutTable.lean`, `Lemmas/LayoutTableCols.lean`).  So `Constrain` / `Align` narrower than the
  child's structural minimum, a `Table(width=tw)` below the borders plus one cell per column and `Columns` offered fewer cells than
  items are all inside `Dom`; the precise width below the minimum is the headline `free_table_below_one_cell_per_column` (exactly
  reached: `below_minimum_table_is_borders_plus_columns`);
* `Columns(width=…)`: `excluded_columns_width_zero` shows the bound failing for `width=0`; for `width ≥ 1` no counterexample is known
  (evaluated directly on rich in every run, brute-forced over 40k cases) — NOT DISCHARGED: the inner grid's fixed-width columns exceed
  C07's `tableBudget` whenever both paddings are positive and there are two or more columns, where only the last-resort `ratio_reduce`
  brings the widths back; no theorem covers that path;
* a rule is in the domain under every options, `overflow="ignore"` included (its text is exactly `w` cells wide: `text_fits_unless_ignore`),
  provided the text it yields has no tab when it is not going to be truncated;
* bar / progress bar: proper fractions (positive denominators) and no negative `width` — every value the wire format can carry.

`CfgOk cfg` asks four things only: the width function is rich's (`Gen.cellWidths`, regenerated from rich/_cell_widths.py on every run),
tables draw `leading` as separate lines (`leadingRepeat = false`: with the as-found `true` a table line is `leading` times too wide, C07
`old_table_rect_fails`), a panel renders its title at the width it aligned it to (`titleAtConsoleWidth = false`, the code since fix
0e1edf7: before it a title longer than the console was wrapped at the console's width inside the top border), and the poison is empty
(the model's marker for a Python exception; the driver answers `unmodelled` there — no request does on the code in /repo as it is now).  EVERY OTHER code
variant is universally quantified: all 2^4 frame variants, both values of `ruleNoTitleEnd` (a `Rule` without title ignoring its `end`: as
found / fix a442cbd), all 2^8 text/wrap variants and all 2^6 remaining table variants — in particular the code as it is now (`nowCfg`:
everything repaired).  (`Dom` itself reads two of the table flags: with `flexNegative` or `flexClampZero` as found it excludes the `ratio=0`
columns of expanding tables.)
-/
namespace RichModel.C01
open RichModel RichModel.Frames RichModel.Layout

/-- **render_fits_any.**  For every renderable tree, every options and EVERY width `w ≥ 1` (inside the domain `Dom`): no line of
`Console.render(tree, options)` occupies more than `max w (smin r)` terminal cells — the available width when it is at or above the
structural minimum of the tree, and below it never more than that structural minimum.  No bound on the depth of the nesting, the number
of children, rows, columns or characters, or on `w`.  (This is what lets `Constrain` / `Align` render their child at any narrower width.) -/
theorem render_fits_any (cfg : Cfg) (ok : CfgOk cfg) (r : R) (o : Opts) (w : Nat) (hw : 1 ≤ w) (hd : Dom cfg r o w) :
    Fits cfg.cw (max w (smin cfg.cw r)) (render cfg r o w) :=
  (good cfg ok r o w hw hd).1

/-- **render_fits.**  At or above the structural minimum: no line of `Console.render(tree, options)` occupies more than `w` cells. -/
theorem render_fits (cfg : Cfg) (ok : CfgOk cfg) (r : R) (o : Opts) (w : Nat)
    (hs : smin cfg.cw r ≤ w) (hd : Dom cfg r o w) : Fits cfg.cw w (render cfg r o w) :=
  Layout.render_fits cfg ok r o w hs hd

/-- The same through the observation point of the property: `Console.render` (with its `max_width < 1` guard), the stream split
by `Segment.split_lines`, every line measured by `Segment.cell_length`. -/
theorem rendered_lines_fit (cfg : Cfg) (ok : CfgOk cfg) (r : R) (o : Opts) (w : Nat)
    (hs : smin cfg.cw r ≤ w) (hd : Dom cfg r o w) : ∀ l ∈ renderedLines cfg r o (w : Int), lineLength cfg.cw l ≤ w :=
  rendered_lines_le cfg r o (w : Int) w (fun _ => render_fits cfg ok r o w hs hd)

/-- A renderable that ends its last line (statically: `closedR`) really does: what follows it in a group starts on a fresh line. -/
theorem render_closed (cfg : Cfg) (ok : CfgOk cfg) (r : R) (o : Opts) (w : Nat)
    (hs : smin cfg.cw r ≤ w) (hd : Dom cfg r o w) (hc : closedR r = true) : Closed (render cfg r o w) :=
  (good cfg ok r o w (Nat.le_trans (smin_pos cfg.cw r) hs) hd).2 hc

/-- the structural minimum is never 0: there is always room for one character -/
theorem smin_positive (cw : Char → Nat) (r : R) : 1 ≤ smin cw r := smin_pos cw r

/-- Containers that crop: whatever is inside a padding — any tree, in or out of the domain, overflowing or not — the padded
block fits as soon as the padding itself leaves one cell. -/
theorem padding_fits_whatever_the_child (cfg : Cfg) (ok : CfgOk cfg) (p : PadDims) (e : Bool) (c : R) (o : Opts) (w : Nat)
    (hs : smin cfg.cw (.padding p e c) ≤ w) : Fits cfg.cw w (render cfg (.padding p e c) o w) :=
  have _ := hs
  (padding_fits cfg ok p e c o w).1

/-- …and a tree of any labels never uses more than the width it is given, at any width (each label is rendered in what its
guides leave, and vanishes when they leave nothing). -/
theorem tree_fits_whatever_the_labels (cfg : Cfg) (ok : CfgOk cfg) (root : TNode) (o : Opts) (w : Nat) :
    Fits cfg.cw w (render cfg (.tree root) o w) :=
  (tree_render_fits cfg ok root o w).1

/-- Side condition on the generated tables (re-checked on every run): the box constants of rich/box.py are listed in the same order, with
the same characters and ASCII flags, in `Gen.boxes` (on whose indices C08 models `Box.substitute`) and `Gen.tableBoxes` (from which the
table takes its box) — so the legacy-Windows / ASCII-only substitution of a table's box (`TableOpts.subst`) is the one rich performs. -/
theorem table_boxes_same_order :
    Gen.boxes.map (·.2) = Gen.tableBoxes.map (·.2.2) ∧ Gen.boxes.map (·.1) = Gen.tableBoxes.map (·.2.1) := by decide +kernel

/-! ## The known finding F23 (`progressbar-no-newline`), machine-checked on the model -/

/-- the code as it is in /repo now (every repair applied), under a truecolor console -/
def nowCfg : Cfg :=
  { cw := cwR, env := { consoleWidth := 80, colorSystem := 3 }, v := { zeroWidthChild := false, ruleRightRepeat := false, rstripCountsChars := false, columnsZeroCount := false }, wv := Wrap.WVariant.repaired, fl := Flags.allRepaired }

/-- rich 9.10.0 as released, except `leading` and the width a panel title is rendered at -/
def releasedCfg : Cfg :=
  { cw := cwR, env := { consoleWidth := 80 }, v := {}, wv := Wrap.WVariant.released, fl := { leadingRepeat := false } }

example : CfgOk nowCfg := ⟨rfl, rfl, rfl, rfl⟩
example : CfgOk releasedCfg := ⟨rfl, rfl, rfl, rfl⟩

def wText (s : String) : R := .text (Text.new Variant.repaired s.toList [0])
def wBar : R := .progressBar { total := ⟨100, 1⟩, completed := ⟨50, 1⟩, width := some 5 }

/-- the cell widths of the lines of `Console.render(r, width=w)` on the code as it is now (`nowCfg`) -/
def widthsOf (r : R) (w : Int) : List Nat := (renderedLines nowCfg r {} w).map (lineLength cwR)

/-- The renderings of this section in one kernel evaluation (so the width table is searched and the members are rendered once);
likewise `wRatioZero_widths`, `wTable2_widths`, `columns_widths`, `nested_widths` below. -/
theorem bar_group_widths :
    (widthsOf (.group true [wBar, wText "ccc dd"]) 9 = [11] ∧ smin cwR (.group true [wBar, wText "ccc dd"]) = 1) ∧
    widthsOf (.group true [wText "ccc dd", wBar]) 9 = [6, 5] := by decide +kernel

/-- `RenderGroup(ProgressBar(width=5), Text("ccc dd"))` at width 9: `ProgressBar` emits no line end, the text continues on the
bar's line, which is 11 cells wide.  (The only thing `Dom` excludes here is "the bar is not the last member of the group".) -/
theorem known_progressbar_in_group_overflows :
    widthsOf (.group true [wBar, wText "ccc dd"]) 9 = [11] ∧ smin cwR (.group true [wBar, wText "ccc dd"]) = 1 :=
  bar_group_widths.1

/-- the same two renderables the other way round are inside the domain and fit -/
example : widthsOf (.group true [wText "ccc dd", wBar]) 9 = [6, 5] := bar_group_widths.2

/-! ## The finding `table-ratio-zero-column` (found by this check, repaired by fix 75c2776) -/

def wRatioZero : R :=
  .table { box := some 15, expand := true }
    [.mk { ratio := some 1 } (wText "a") (wText "") [wText "x"], .mk { ratio := some 0 } (wText "b") (wText "") [wText "y"],
     .mk {} (wText "c") (wText "") [wText "long long long long long long long long text"]]

/-- the code before fix 75c2776: flexible widths clamped with `max(0, width)` -/
def clampZeroCfg : Cfg := { nowCfg with fl := { Flags.allRepaired with flexClampZero := true } }

theorem wRatioZero_widths :
    (smin cwR wRatioZero = 13 ∧
      ((renderedLines clampZeroCfg wRatioZero {} 13).map (lineLength cwR)).all (· == 14) = true ∧
      ((renderedLines clampZeroCfg wRatioZero {} 30).map (lineLength cwR)).all (· == 31) = true) ∧
    ((widthsOf wRatioZero 13).all (· == 13) = true ∧ (widthsOf wRatioZero 30).all (· == 30) = true) := by
  -- the string literals of the tree are turned into lists of characters first: evaluating `String.toList` on a literal runs the UTF-8
  -- decoder, again at every use of the text
  simp only [wRatioZero, wText]
  repeat rw [String.toList_ofList]
  decide +kernel

/-- Before the fix, `Table(expand=True)` with columns `ratio=1`, `ratio=0` and an ordinary wide one: the `ratio=0` column is handed 0
cells (`max(0, width)`), the wide column is collapsed until the widths sum to the budget, and the re-measure then gives the 0-cell column
one cell (`maximum or 1`): every line is ONE CELL TOO WIDE, at its structural minimum 13 and at every width at which the wide column
still has to wrap (here also at 30) — although all columns are free to wrap.  (`Dom` excludes `ratio=0` columns of expanding tables for
this variant only.) -/
theorem old_ratio_zero_column_overflows :
    smin cwR wRatioZero = 13 ∧
    ((renderedLines clampZeroCfg wRatioZero {} 13).map (lineLength cwR)).all (· == 14) = true ∧
    ((renderedLines clampZeroCfg wRatioZero {} 30).map (lineLength cwR)).all (· == 31) = true :=
  wRatioZero_widths.1

/-- the repaired code (`max(minimum, width)`): the same table is in the domain (`render_fits` applies) and is exactly as wide as asked -/
example : Dom nowCfg wRatioZero {} 13 := by
  unfold wRatioZero Dom
  refine ⟨trivial, trivial, Or.inl ?_⟩
  intro c hc
  simp only [List.mem_cons, List.not_mem_nil, or_false] at hc
  rcases hc with rfl | rfl | rfl <;> exact ⟨⟨rfl, rfl, rfl⟩, Or.inl ⟨rfl, rfl⟩⟩
example : (widthsOf wRatioZero 13).all (· == 13) = true ∧ (widthsOf wRatioZero 30).all (· == 30) = true := wRatioZero_widths.2

/-! ## Why each exclusion of `Dom` is there: the bound really fails -/

/-- `overflow="ignore"`: the documented opt-out — `Text("abcdef", overflow="ignore")` at width 3 is 6 cells wide -/
theorem excluded_overflow_ignore :
    widthsOf (.text (Text.new Variant.repaired "abcdef".toList [0] [] none (some RichModel.Overflow.ignore))) 3 = [6] := by decide +kernel

/-- an explicit `end`: `Text("abc", end="xyz")` at width 3 is 6 cells wide -/
theorem excluded_text_end :
    widthsOf (.text (Text.new Variant.repaired "abc".toList [0] [] none none none "xyz".toList)) 3 = [6] := by decide +kernel

/-- a member of a group that does not end its line: `RenderGroup(Text("abc", end=""), Text("def"))` at width 3 is one line of 6 cells -/
theorem excluded_open_member_in_group :
    widthsOf (.group true [.text (Text.new Variant.repaired "abc".toList [0] [] none none none []), wText "def"]) 3 = [6] := by
  decide +kernel

def wTable2 (c1 : ColOpts) : R :=
  .table { box := some 15 } [.mk c1 (wText "a") (wText "") [wText "hello world foo"], .mk {} (wText "b") (wText "") [wText "hello world"]]

theorem wTable2_widths :
    (smin cwR (wTable2 {}) = 9 ∧ (widthsOf (wTable2 {}) 9).all (· == 9) = true) ∧
    (widthsOf (wTable2 { width := some 10 }) 12).all (· == 13) = true ∧
    (widthsOf (wTable2 { noWrap := true }) 12).all (· == 13) = true ∧
    (widthsOf (wTable2 { minWidth := some 8 }) 12).all (· == 17) = true ∧
    (widthsOf (wTable2 { width := some 10 }) 16).all (· == 16) = true := by
  simp only [wTable2, wText]
  repeat rw [String.toList_ofList]
  decide +kernel

/-- the same two-column table with both columns free to wrap fits its structural minimum 9 exactly … -/
example : smin cwR (wTable2 {}) = 9 ∧ (widthsOf (wTable2 {}) 9).all (· == 9) = true := wTable2_widths.1

/-! Columns that are NOT free to wrap are in the domain exactly when they meet `tableBudget` (first-pass widths of the columns that may
not shrink + one cell per column that may ≤ the width on offer).  Below that budget the bound really fails: -/

/-- `width=10` on the first column (budget 3 + 12 + 1 = 16): 13 cells at 12 (the free column is collapsed to 0 and gets a cell back) -/
theorem excluded_fixed_width_column : (widthsOf (wTable2 { width := some 10 }) 12).all (· == 13) = true := wTable2_widths.2.1
/-- `no_wrap=True` on it (budget 3 + 17 + 1 = 21): likewise 13 cells at 12 -/
theorem excluded_no_wrap_column : (widthsOf (wTable2 { noWrap := true }) 12).all (· == 13) = true := wTable2_widths.2.2.1
/-- a binding `min_width=8` (floor 8 + 2 padding = 10): 17 cells at 12 — inside the bound `12 + floorSum = 22` of `table_general_bound`,
outside `Dom` (which promises the width itself) -/
theorem excluded_min_width_column : (widthsOf (wTable2 { minWidth := some 8 }) 12).all (· == 17) = true := wTable2_widths.2.2.2.1

/-- at its budget 16 the table with the fixed-width column IS in the domain (`render_fits` applies) and is exactly 16 cells wide -/
example : Dom nowCfg (wTable2 { width := some 10 }) {} 16 := by
  unfold wTable2 Dom
  refine ⟨trivial, trivial, Or.inr ⟨by simp, ?_, Or.inl ⟨rfl, rfl⟩, ⟨[12, 13], by decide +kernel, by decide +kernel⟩⟩⟩
  intro c hc
  simp only [List.mem_cons, List.not_mem_nil, or_false] at hc
  rcases hc with rfl | rfl <;> exact Or.inl rfl
example : (widthsOf (wTable2 { width := some 10 }) 16).all (· == 16) = true := wTable2_widths.2.2.2.2

/-- **table_general_bound.**  A table with ARBITRARY columns (fixed `width`, `max_width`, `no_wrap`, `min_width`; ratios on the
code as it is now — both flexible-width clamps repaired, fixes ab98098 and 75c2776 — and no active ratio on the code before them)
that meets `tableBudget`: no line is wider than the available width plus `floorSum`, the `min_width + padding` floors of the
columns that have a `min_width` and no fixed `width` — the exact amount by which such a table can exceed the offer (attained: C07
`min_width_overflows`), and 0 when no `min_width` binds. -/
theorem table_general_bound (cfg : Cfg) (ok : CfgOk cfg) (to : TableOpts) (cols : List Col) (o : Opts) (w : Nat)
    (hne : cols ≠ []) (hwd : ∀ tw, to.width = some tw → tw ≤ w) (ht : annDom to.title o) (hc : annDom to.caption o)
    (hr : (cfg.fl.flexNegative = false ∧ cfg.fl.flexClampZero = false) ∨ (toTable cfg (to.subst cfg.env) (colsR cfg cols)).NoRatio)
    (hb : tableBudget cfg (to.subst cfg.env) (colsR cfg cols) w) :
    Fits cfg.cw (w + (toTable cfg (to.subst cfg.env) (colsR cfg cols)).floorSum.toNat) (render cfg (.table to cols) o w) :=
  Layout.table_general_bound cfg ok to cols o w hne hwd ht hc hr hb

theorem columns_widths :
    (smin cwR (.columns { lay := { width := some 0 } } [wText "a", wText "b", wText "c", wText "d", wText "e"]) = 9 ∧
      widthsOf (.columns { lay := { width := some 0 } } [wText "a", wText "b", wText "c", wText "d", wText "e"]) 9 = [10]) ∧
    (widthsOf (.constrain (some 2) (.columns {} [wText "a", wText "b", wText "c", wText "d", wText "e"])) 30).all (· ≤ 2) = true := by
  decide +kernel

/-- `Columns(width=0)`: five items at their structural minimum 9 (one column each, one cell of padding between) make a 10-cell line -/
theorem excluded_columns_width_zero :
    smin cwR (.columns { lay := { width := some 0 } } [wText "a", wText "b", wText "c", wText "d", wText "e"]) = 9 ∧
    widthsOf (.columns { lay := { width := some 0 } } [wText "a", wText "b", wText "c", wText "d", wText "e"]) 9 = [10] :=
  columns_widths.1

/-! ## Below one cell per column -/

/-- **free_table_below_one_cell_per_column.**  A table whose columns are free to wrap (no `width`, `min_width`, `no_wrap`; any
`max_width`, any ratio on the code as it is now), at EVERY width `w` — zero room, an explicit `Table(width=tw)` smaller than its own
borders, inside a `Constrain` / `Align` of any width: no line is wider than the width the table is laid out for (`w`, or its own
`width`: written here as the larger of the two, `Layout.table_free_fits` has the exact one), or, when that leaves less than one cell
per column, than its borders plus ONE cell per column.  No bound on the number of columns, rows or the cells' contents (the cells are
arbitrary trees). -/
theorem free_table_below_one_cell_per_column (cfg : Cfg) (ok : CfgOk cfg) (to : TableOpts) (cols : List Col) (o : Opts) (w : Nat)
    (hne : cols ≠ []) (ht : annDom to.title o) (hc : annDom to.caption o)
    (hfree : ∀ c ∈ cols, (colOptsOf c).wrappable ∧ ((cfg.fl.flexNegative = false ∧ cfg.fl.flexClampZero = false) ∨
      (to.expand || to.width.isSome) = false ∨ (colOptsOf c).ratio ≠ some 0)) :
    Fits cfg.cw (max (max w (to.width.getD 0)) (tableExtra to cols.length + cols.length)) (render cfg (.table to cols) o w) :=
  have _ := hne
  fits_mono _ _ _ _ (table_free_fits cfg ok to cols o w ht hc hfree).1 (by have := laidOut_le to w; omega)

/-- the arithmetic behind it, on `Table._calculate_column_widths` itself (C07's model): columns free to wrap, measured soundly, offered
LESS than one cell each (any integer budget): the widths are computed (no `AssertionError`), every column gets at least one cell and
together they take no more than one cell per column (so exactly one each). -/
theorem column_widths_below_one_cell_per_column (fl : Flags) (t : Table) (maxWidth : Int)
    (hfirst : ∃ ws0, t.firstWidths fl maxWidth = some ws0 ∧ ws0.length = t.columns.length ∧ ∀ w ∈ ws0, 1 ≤ w) (hfree : t.AllFree)
    (hne : t.columns ≠ []) (hnw : ∀ c ∈ t.columns, c.noWrap = false) (hmw : maxWidth < (t.columns.length : Int)) :
    ∃ ws, t.calcWidths fl maxWidth = some ws ∧ ws.sum ≤ (t.columns.length : Int) ∧ ws.length = t.columns.length ∧ ∀ w ∈ ws, 1 ≤ w :=
  calcWidths_free_low fl t maxWidth hfirst hfree hne hnw hmw

/-- …and on `Table._collapse_widths`: every column wrappable, every width at least 1, a budget below the number of columns: every
collapsed width is 0 or 1 (no column keeps two cells while another is starved). -/
theorem collapse_below_one_cell_per_column (widths : List Int) (wrapable : List Bool) (maxWidth : Int)
    (hlen : widths.length = wrapable.length) (hall : ∀ b ∈ wrapable, b = true) (h1 : ∀ w ∈ widths, 1 ≤ w)
    (hmw : maxWidth < (widths.length : Int)) : ∀ w ∈ collapseWidths widths wrapable maxWidth, 0 ≤ w ∧ w ≤ 1 :=
  collapseWidths_low widths wrapable maxWidth hlen hall h1 hmw

/-- the hypotheses are satisfiable and the collapse is really uneven there: `[1, 0, 1]` -/
example : collapseWidths [2, 2, 2] [true, true, true] 2 = [1, 0, 1] := by decide

/-- five one-letter columns in a box: borders 6, structural minimum 6 + 4 × 3 + 4 = 22 (the last column holds a double-width character) -/
def wTable5 (tw : Option Nat) : R :=
  .table { box := some 15, width := tw }
    [.mk {} (wText "a") (wText "") [wText "v w"], .mk {} (wText "b") (wText "") [wText "x"], .mk {} (wText "c") (wText "") [wText "y"],
     .mk {} (wText "d") (wText "") [wText "z"], .mk {} (wText "e") (wText "") [wText "日本"]]

/-- The bound of `free_table_below_one_cell_per_column` is reached exactly, in each of three positions below the minimum: the table
inside `Constrain(width=4)`, with an explicit `Table(width=3)`, and at top level offered 7 cells — every line is 11 cells wide, the six
border cells plus one cell per column (structural minimum 22: every one of these is in `Dom`, and `render_fits_any` promises 22). -/
theorem below_minimum_table_is_borders_plus_columns :
    smin cwR (wTable5 none) = 22 ∧
    (widthsOf (.constrain (some 4) (wTable5 none)) 30).all (· == 11) = true ∧
    (widthsOf (wTable5 (some 3)) 30).all (· == 11) = true ∧
    (widthsOf (wTable5 none) 7).all (· == 11) = true := by decide +kernel

example : Dom nowCfg (.constrain (some 4) (wTable5 none)) {} 30 := by
  unfold Dom wTable5 Dom
  refine ⟨trivial, trivial, Or.inl ?_⟩
  intro c hc
  simp only [List.mem_cons, List.not_mem_nil, or_false] at hc
  rcases hc with rfl | rfl | rfl | rfl | rfl <;> exact ⟨⟨rfl, rfl, rfl⟩, Or.inl ⟨rfl, rfl⟩⟩

/-- `Columns` offered fewer cells than it has items (inside a `Constrain(width=2)`): five items, one column per row, no line wider than 2 -/
example : Dom nowCfg (.constrain (some 2) (.columns {} [wText "a", wText "b", wText "c", wText "d", wText "e"])) {} 30 := by
  unfold Dom Dom; exact ⟨trivial, rfl⟩
example : (widthsOf (.constrain (some 2) (.columns {} [wText "a", wText "b", wText "c", wText "d", wText "e"])) 30).all (· ≤ 2) = true :=
  columns_widths.2

/-! ## Non-vacuity: nested trees inside the domain, at their structural minimum -/

/-- a panel with a title around a group of a text with a double-width character and a padded text -/
def exTree : R :=
  .panel { box := 0, title := ['T'] } (.group true [wText "日本 abc", .padding ⟨0, 1, 0, 2⟩ true (wText "x y")])

/-- an expanding table with active ratio columns is in the domain and fills its structural minimum exactly -/
def exRatio : R :=
  .table { box := some 15, expand := true }
    [.mk { ratio := some 1 } (wText "a") (wText "") [wText "x"], .mk { ratio := some 2 } (wText "b") (wText "") [wText "yy yy yy"]]

theorem nested_widths :
    smin cwR exTree = 8 ∧ widthsOf exTree 8 = [8, 8, 8, 8, 8, 8] ∧
    (smin cwR (.table { box := some 15 } []) = 2 ∧ widthsOf (.table { box := some 15 } []) 2 = [2, 2]) ∧
    (smin cwR exRatio = 9 ∧ (widthsOf exRatio 9).all (· == 9) = true) := by decide +kernel

example : smin cwR exTree = 8 := nested_widths.1
example : Dom nowCfg exTree {} 8 := by unfold exTree Dom; trivial
example : widthsOf exTree 8 = [8, 8, 8, 8, 8, 8] := nested_widths.2.1

/-- a table without columns is in the domain: two corner characters per edge -/
example : smin cwR (.table { box := some 15 } []) = 2 ∧ widthsOf (.table { box := some 15 } []) 2 = [2, 2] := nested_widths.2.2.1

example : smin cwR exRatio = 9 ∧ (widthsOf exRatio 9).all (· == 9) = true := nested_widths.2.2.2

end RichModel.C01
