import RichModel.Lemmas.SyntaxMarked
import RichModel.Lemmas.SyntaxStyles
import RichModel.Lemmas.SyntaxTrace
import RichModel.Lemmas.SyntaxGutter
/-
Property C17 — Syntax and tracebacks show the source line for line under the right numbers.

Everything below is about the executable model `RichModel.Syntax` (Model/Syntax.lean; the last three sections about
Model/SyntaxWrap.lean, `renderW`, and Model/SyntaxTrace.lean, `extract` / `renderStack`), for an ARBITRARY
lexer `lex` that meets the contract "the token texts concatenate to Pygments' preprocessing of the code it
was handed", an arbitrary cell-width function `cw`, and sources / widths / ranges of any size.
The theorems are stated for the REPAIRED variant (`stripnl = false`, `skipRaises = false`, `rangePop = false`):
all three are what /repo contains now (`fix:` commits 92fb879, 1d638e8, bc6c38f); the `old_…` witnesses show that
the variants of rich 9.10.0 as found (`= true`) violate them.  Two further variants exist only to say what the
history / purity theorems rule out (`renderHistory true`: a source cache that outlives a call; `objRenders true`:
a highlighted Text remembered on the instance) — no version of rich had them.
The C09 clause for Syntax (`__rich_measure__`): `measure_maximum_sound` for the repaired variant,
`old_measure_maximum_one_short_with_numbers` as found; re-exported in Props/C09.lean.

Vocabulary (Lemmas/Syntax*.lean):
  `splitNL s`            `s.split("\n")`,
  `srcLines s`           the source lines as a reader counts them: `s.split("\n")` without the empty string a final
                         newline leaves behind,
  `shownCode o code`     the text that is shown: `textwrap.dedent(code)` when `dedent` is on, else `code`,
  `expandTabs ts code`   `code.expandtabs(ts)`,
  `Trail n D P`          `D` is `P` except that at most `n` EMPTY lines are missing at the very end,
  `expectedLines r P`    all of `P`, or lines `a..b` of `P` (1-based, clipped to the lines that exist),
  `numberRows s hl bs`   rows numbered `s, s+1, …`, marked iff the number is in `hl`,
  `fitLine cw w pad nc`  a line put into a column of `w` cells (unchanged if it fits, up to padding).
-/
namespace RichModel.C17
open RichModel RichModel.Syntax

/-- The hypotheses shared by the theorems: a clean shown text (no BS/VT/FF/CR, no byte-order mark), the lexer
contract at it, indent guides off (they have their own theorem), a non-negative range end, room to write a row
when word wrap is on, and `dedent` not adding newlines (it never does). -/
structure Setting (o : Opts) (found : Bool) (lex : List Char → List Line) (code : List Char) : Prop where
  clean : Clean (shownCode o code)
  contract : found = true → (lex (expandTabs o.tabSize (shownCode o code))).flatten = pygPre false (expandTabs o.tabSize (shownCode o code))
  noGuides : (o.indentGuides && !o.asciiOnly) = false
  rangeEnd : ∀ a b, o.lineRange = some (a, b) → 0 ≤ b
  room : (o.wordWrap && decide (codeWidthInt o code < 1)) = false
  dedentNL : countNL (shownCode o code) ≤ countNL code

/-- The code column's width and crop switch, as `__rich_console__` computes them. -/
abbrev colWidth (o : Opts) (code : List Char) : Nat := (codeWidthInt o code).toNat
abbrev noCrop (o : Opts) : Bool := !o.wordWrap && o.optNoWrap
/-- the tab-expanded text that is shown -/
abbrev shownSrc (o : Opts) (code : List Char) : List Char := expandTabs o.tabSize (shownCode o code)

/-! ## Highlighting never changes the characters of the code -/

/-- `Syntax.highlight` returns the source itself: with a lexer, the source with its final newline ensured, cut
after a whole line when a range is given; without a lexer, the source.  No character is altered, none is
dropped from the middle.  (Full strength: every token stream meeting the contract, every range.) -/
theorem highlighting_keeps_characters (found : Bool) (toks : List Line) (src : List Char) (range : Option (Int × Int))
    (hclean : Clean src) (hlex : found = true → toks.flatten = pygPre false src) :
    ∃ text, highlight false found toks src range = .ok text ∧ text <+: ensureNL src ∧
      (range = none → text = src ∨ text = src ++ ['\n']) ∧
      (∀ a b, range = some (a, b) → found = true → text = takeThroughNL (rangeEnd a b) (ensureNL src)) := by
  refine ⟨_, highlight_clean found toks src range hclean hlex, ?_, fun hr => ?_, fun a b hr hf => by subst hr hf; rfl⟩
  · cases found with
    | false => exact prefix_ensureNL src
    | true =>
      cases range with
      | none => exact List.prefix_refl _
      | some ab => exact takeThroughNL_prefix _ _
  · subst hr
    cases found with
    | false => exact Or.inl rfl
    | true =>
      show ensureNL src = src ∨ ensureNL src = src ++ ['\n']
      unfold ensureNL; split <;> simp

/-! ## Highlighting gives every character the style of its token -/

/-- For every token stream (texts with opaque style ids, as the lexer and the theme deliver them) and every range:
the styled text has exactly the characters of `highlight`; without a lexer no character carries a token style; with
a lexer every character carries the style of the token it came from, except that the lines BEFORE line `a` of a range
`(a, b)` are left unstyled (`specStyle`: the reference walk over the token characters).  This is what a change of
`_line_start`, of the token/style pairing or of the piece splitting would break. -/
theorem highlight_styles_follow_tokens (found : Bool) (toks : List (Line × StyleId)) (src : List Char)
    (range : Option (Int × Int)) :
    ∃ st, highlightStyled false found toks src range = .ok st ∧
      highlight false found (toks.map Prod.fst) src range = .ok (st.map Prod.fst) ∧
      (found = false → ∀ p ∈ st, p.2 = none) ∧
      (found = true → st <+: specStyle (match range with | some (a, _) => (a - 1).toNat | none => 0) 0 (tokChars toks)) :=
  highlightStyled_spec found toks src range

/-! ## The selected lines are the source lines -/

/-- Range selection, full strength: with line numbers shown and a range `(a, b)`, the rows are numbered
consecutively from `start_line + max(0, a-1)` and show — each fitted into the code column — EXACTLY lines `a..b`
of the tab-expanded source, clipped to the lines that exist.  No allowance: a blank line that ends the range is
shown like any other.  The error branch is excluded: the repaired code returns rows for every range. -/
theorem range_selects_clipped (cw : Char → Nat) (o : Opts) (found : Bool) (lex : List Char → List Line)
    (code : List Char) (h : Setting o found lex code) (a b : Int) (hr : o.lineRange = some (a, b)) :
    numberedRows cw false false o found lex code =
      .ok (numberRows (o.startLine + (a - 1).toNat) o.highlightLines
            ((((srcLines (shownSrc o code)).take b.toNat).drop (a - 1).toNat).map
              (fitLine cw (colWidth o code) o.pad (noCrop o)))) := by
  rw [numberedRows_of_selected (selectedLines_eq o found lex code h.clean h.contract h.noGuides h.rangeEnd) h.room,
    show lineOffset o = (a - 1).toNat by simp [lineOffset, hr], hr]

/-- Without a range, numbered: the rows show the source lines in order from the first, numbered from
`start_line`; only ONE empty line at the very end of the source may be missing. -/
theorem lines_are_source_lines (cw : Char → Nat) (o : Opts) (found : Bool) (lex : List Char → List Line)
    (code : List Char) (h : Setting o found lex code) (hr : o.lineRange = none) :
    ∃ sel, Trail 1 sel (srcLines (shownSrc o code)) ∧
      numberedRows cw false false o found lex code =
        .ok (numberRows o.startLine o.highlightLines (sel.map (fitLine cw (colWidth o code) o.pad (noCrop o)))) := by
  refine ⟨_, popBlank_trail _, ?_⟩
  rw [numberedRows_of_selected (selectedLines_eq o found lex code h.clean h.contract h.noGuides h.rangeEnd) h.room,
    show lineOffset o = 0 by simp [lineOffset, hr], hr, Nat.add_zero]

/-- Both cases in the form the numbering and gutter theorems use: the rows are the expected slice of
`source.split("\n")`, numbered from `start_line + offset`, up to at most two empty strings at the very end (the one
a final newline leaves behind, and — only without a range — one empty last line). -/
theorem rows_are_numbered_selection (cw : Char → Nat) (o : Opts) (found : Bool) (lex : List Char → List Line)
    (code : List Char) (h : Setting o found lex code) :
    ∃ sel, Trail 2 sel (expectedLines o.lineRange (splitNL (shownSrc o code))) ∧
      numberedRows cw false false o found lex code =
        .ok (numberRows (o.startLine + lineOffset o) o.highlightLines
              (sel.map (fitLine cw (colWidth o code) o.pad (noCrop o)))) := by
  obtain ⟨sel, hs, ht⟩ := selected_trail o found lex code h.clean h.contract h.noGuides h.rangeEnd
  exact ⟨sel, ht, numberedRows_of_selected hs h.room⟩

/-- Without line numbers and without a range (and with room to write): the rows are exactly the source lines in
order, each fitted. -/
theorem plain_lines_are_source_lines (cw : Char → Nat) (o : Opts) (found : Bool) (lex : List Char → List Line)
    (code : List Char) (h : Setting o found lex code) (hr : o.lineRange = none) (hw : 1 ≤ codeWidthInt o code) :
    plainRows cw false o found lex code =
      .ok ((srcLines (shownSrc o code)).map (fitLine cw (colWidth o code) o.pad false)) := by
  rw [plainRows_eq cw o found lex code h.clean h.contract hw, hr, hlLines_none]

/-- A line that fits the code column is shown exactly, followed by padding spaces only; a longer line is what
`set_cell_size` leaves of it (by C13's `setCellSize_exact`: a prefix, plus one space when a wide character
straddles the edge). -/
theorem fitted_line_is_line (cw : Char → Nat) (w : Nat) (pad nc : Bool) (l : Line) :
    (cellLen cw l ≤ w → fitLine cw w pad nc l = l ++ List.replicate (if pad && !nc then w - cellLen cw l else 0) ' ') ∧
    (w < cellLen cw l → fitLine cw w pad false l = setCellSize cw l w) ∧
    fitLine cw w pad true l = l :=
  ⟨fitLine_fits cw w pad nc l, fitLine_crops cw w pad l, by simp [fitLine]⟩

/-! ## Each displayed number is the number of that line -/

/-- The row at position `i` carries number `start_line + offset + i`, shows the source line with that number
(counting the first source line as `start_line`), and is marked exactly when its number is in `highlight_lines`. -/
theorem numbers_are_line_numbers (cw : Char → Nat) (o : Opts) (found : Bool) (lex : List Char → List Line)
    (code : List Char) (h : Setting o found lex code) :
    ∃ rows, numberedRows cw false false o found lex code = .ok rows ∧
      ∀ r ∈ rows, o.startLine ≤ r.num ∧
        (∃ l, (splitNL (shownSrc o code))[r.num - o.startLine]? = some l ∧
              r.body = fitLine cw (colWidth o code) o.pad (noCrop o) l) ∧
        r.marked = o.highlightLines.contains r.num := by
  obtain ⟨sel, ht, he⟩ := rows_are_numbered_selection cw o found lex code h
  refine ⟨_, he, fun r hr => ?_⟩
  obtain ⟨i, hi, rfl⟩ := numberRows_mem hr
  have hi' : i < sel.length := by simpa using hi
  exact ⟨Nat.le_trans (Nat.le_add_right _ _) (Nat.le_add_right _ _), ⟨sel[i], ht.source_line o hi' _, by simp⟩, rfl⟩

/-! ## The gutter is wide enough -/

/-- A number under which a source line is shown fits the numbers column: the column is as wide as
`start_line + (number of newlines in the code)` written out, and the source has one line more than newlines. -/
theorem number_fits {o : Opts} {found : Bool} {lex : List Char → List Line} {code : List Char}
    (h : Setting o found lex code) (hn : o.lineNumbers = true) {n : Nat} {l : Line} (hge : o.startLine ≤ n)
    (hl : (splitNL (shownSrc o code))[n - o.startLine]? = some l) :
    (natStr n).length + 2 ≤ numbersColumnWidth o code := by
  have hlt := (List.getElem?_eq_some_iff.mp hl).1
  rw [length_splitNL, countNL_expandTabs] at hlt
  have := natStr_length_mono _ _ (show n ≤ o.startLine + countNL code by have := h.dedentNL; omega)
  simp only [numbersColumnWidth, hn, if_true]
  omega

/-- Every displayed number fits the numbers column computed from the number of newlines in the code: all rows
have a gutter of exactly `numbers_column_width + 1` characters, and removing it leaves the code cell. -/
theorem gutter_wide_enough (cw : Char → Nat) (o : Opts) (found : Bool) (lex : List Char → List Line)
    (code : List Char) (h : Setting o found lex code) (hn : o.lineNumbers = true) :
    ∃ rows, numberedRows cw false false o found lex code = .ok rows ∧
      ∀ r ∈ rows, (natStr r.num).length + 2 ≤ numbersColumnWidth o code ∧
        (r.render (numbersColumnWidth o code) o.legacyWindows).length = numbersColumnWidth o code + 1 + r.body.length ∧
        (r.render (numbersColumnWidth o code) o.legacyWindows).drop (numbersColumnWidth o code + 1) = r.body := by
  obtain ⟨rows, he, hnum⟩ := numbers_are_line_numbers cw o found lex code h
  refine ⟨rows, he, fun r hr => ?_⟩
  obtain ⟨hge, ⟨l, hl, _⟩, _⟩ := hnum r hr
  have hw := number_fits h hn hge hl
  exact ⟨hw, Row.render_shape _ _ r hw⟩

/-! ## `__rich_measure__` (the C09 clause "rendering at the reported maximum fits")

`measureV short`: `short = true` is rich 9.10.0 as found, `short = false` the repaired variant
(pending_fixes/C09-syntax-measure-one-short.diff: `+ 1` for the blank after the line number). -/

theorem colWidth_le_maximum (short : Bool) (o : Opts) (code : List Char) :
    colWidth o code ≤ (measureV short o code o.maxWidth).2 := by
  unfold colWidth codeWidthInt measureV
  cases o.codeWidth <;> simp only <;> omega

/-- Without line numbers the clause holds in either variant: every row takes at most `code_width` cells, which is the reported
maximum when `code_width` is given, and one less than it otherwise. -/
theorem measure_maximum_fits_without_numbers (cw : Char → Nat) (hsp : cw ' ' = 1) (h2 : ∀ c, cw c ≤ 2) (short : Bool)
    (o : Opts) (found : Bool) (lex : List Char → List Line) (code : List Char) (hn : o.lineNumbers = false)
    (rows : List Line) (hr : plainRows cw false o found lex code = .ok rows) :
    ∀ r ∈ rows, cellLen cw r ≤ (measureV short o code o.maxWidth).2 := by
  intro r hrow
  obtain ⟨l, rfl⟩ := plainRows_fitted hr r hrow
  exact Nat.le_trans (fitLine_cellLen cw hsp h2 _ o.pad l).1 (colWidth_le_maximum short o code)

/-- AS FOUND, with line numbers and an explicit `code_width` the clause FAILS: the reported maximum
`code_width + numbers_column_width` forgets the blank that follows the number, so every row whose code cell is full (every
padded row, every line at least `code_width` long) is one character longer than the maximum. -/
theorem old_measure_maximum_one_short_with_numbers (cw : Char → Nat) (o : Opts) (found : Bool) (lex : List Char → List Line)
    (code : List Char) (h : Setting o found lex code) (hn : o.lineNumbers = true) (w : Nat) (hw : o.codeWidth = some w) :
    ∃ rows, numberedRows cw false false o found lex code = .ok rows ∧
      ∀ r ∈ rows, w ≤ r.body.length →
        (measureV true o code o.maxWidth).2 < (r.render (numbersColumnWidth o code) o.legacyWindows).length := by
  obtain ⟨rows, he, hall⟩ := gutter_wide_enough cw o found lex code h hn
  refine ⟨rows, he, ?_⟩
  intro r hr hlen
  rw [(hall r hr).2.1]
  simp only [measureV, hw, Bool.not_true, Bool.false_and, Bool.false_eq_true, if_false, Nat.add_zero]
  omega

/-- The cells of a numbered row (cropping on: `options.no_wrap` off or word wrap on): `numbers_column_width + 1` for the
gutter, then a code cell of at most `code_width` cells — exactly `code_width` when the background is not transparent
(`pad`), because the cell is then padded. -/
theorem numbered_row_cells (cw : Char → Nat) (h1 : ∀ c, GutterChar c → cw c = 1) (h2 : ∀ c, cw c ≤ 2)
    (o : Opts) (found : Bool) (lex : List Char → List Line) (code : List Char) (h : Setting o found lex code)
    (hn : o.lineNumbers = true) (hnc : noCrop o = false) :
    ∃ rows, numberedRows cw false false o found lex code = .ok rows ∧
      ∀ r ∈ rows,
        cellLen cw (r.render (numbersColumnWidth o code) o.legacyWindows) = numbersColumnWidth o code + 1 + cellLen cw r.body ∧
        cellLen cw r.body ≤ colWidth o code ∧ (o.pad = true → cellLen cw r.body = colWidth o code) := by
  obtain ⟨rows, he, hnum⟩ := numbers_are_line_numbers cw o found lex code h
  refine ⟨rows, he, fun r hr => ?_⟩
  obtain ⟨hge, ⟨l, hl, hbody⟩, _⟩ := hnum r hr
  refine ⟨Row.render_cells cw h1 _ _ r (number_fits h hn hge hl), ?_⟩
  rw [hbody, hnc]
  exact fitLine_cellLen cw (h1 ' ' (Or.inl rfl)) h2 _ _ l

/-- Both forms of the sound statement: whenever the reported maximum is gutter + blank + code column, every row of
`numbered_row_cells` takes at most that many cells, and exactly that many on a padded background. -/
theorem rows_fit_maximum (cw : Char → Nat) (h1 : ∀ c, GutterChar c → cw c = 1) (h2 : ∀ c, cw c ≤ 2)
    (o : Opts) (found : Bool) (lex : List Char → List Line) (code : List Char) (h : Setting o found lex code)
    (hn : o.lineNumbers = true) (hnc : noCrop o = false) (m : Nat)
    (hm : m = numbersColumnWidth o code + 1 + colWidth o code) :
    ∃ rows, numberedRows cw false false o found lex code = .ok rows ∧
      ∀ r ∈ rows,
        cellLen cw (r.render (numbersColumnWidth o code) o.legacyWindows) ≤ m ∧
        (o.pad = true → cellLen cw (r.render (numbersColumnWidth o code) o.legacyWindows) = m) := by
  obtain ⟨rows, he, hall⟩ := numbered_row_cells cw h1 h2 o found lex code h hn hnc
  refine ⟨rows, he, fun r hr => ?_⟩
  obtain ⟨hc, hle, heq⟩ := hall r hr
  rw [hc, hm]
  exact ⟨Nat.add_le_add_left hle _, fun hp => congrArg _ (heq hp)⟩

/-- REPAIRED, the sound statement: with line numbers and an explicit `code_width`, every rendered row takes at most the
reported maximum `code_width + numbers_column_width + 1` — and exactly that many cells when the background is not transparent.
Hypotheses the render path needs: cropping on (`options.no_wrap` off, or word wrap on), gutter characters and blanks one cell
wide, no character wider than two cells. -/
theorem measure_maximum_sound (cw : Char → Nat) (h1 : ∀ c, GutterChar c → cw c = 1) (h2 : ∀ c, cw c ≤ 2)
    (o : Opts) (found : Bool) (lex : List Char → List Line) (code : List Char) (h : Setting o found lex code)
    (hn : o.lineNumbers = true) (hnc : noCrop o = false) (w : Nat) (hw : o.codeWidth = some w) :
    ∃ rows, numberedRows cw false false o found lex code = .ok rows ∧
      ∀ r ∈ rows,
        cellLen cw (r.render (numbersColumnWidth o code) o.legacyWindows) ≤ (measureV false o code o.maxWidth).2 ∧
        (o.pad = true →
          cellLen cw (r.render (numbersColumnWidth o code) o.legacyWindows) = (measureV false o code o.maxWidth).2) :=
  rows_fit_maximum cw h1 h2 o found lex code h hn hnc _ (by
    simp only [measureV, colWidth, codeWidthInt, hw, hn, Int.toNat_natCast, Bool.not_false, Bool.true_and, if_true]
    omega)

/-- … and without an explicit `code_width` (maximum = the width offered), as soon as the gutter and its blank fit:
rows take at most the width offered (exactly, on a non-transparent background). -/
theorem measure_maximum_sound_auto (cw : Char → Nat) (h1 : ∀ c, GutterChar c → cw c = 1) (h2 : ∀ c, cw c ≤ 2) (short : Bool)
    (o : Opts) (found : Bool) (lex : List Char → List Line) (code : List Char) (h : Setting o found lex code)
    (hn : o.lineNumbers = true) (hnc : noCrop o = false) (hw : o.codeWidth = none)
    (hroom : numbersColumnWidth o code + 1 ≤ o.maxWidth) :
    ∃ rows, numberedRows cw false false o found lex code = .ok rows ∧
      ∀ r ∈ rows,
        cellLen cw (r.render (numbersColumnWidth o code) o.legacyWindows) ≤ (measureV short o code o.maxWidth).2 ∧
        (o.pad = true →
          cellLen cw (r.render (numbersColumnWidth o code) o.legacyWindows) = (measureV short o code o.maxWidth).2) :=
  rows_fit_maximum cw h1 h2 o found lex code h hn hnc _ (by
    simp only [measureV, colWidth, codeWidthInt, hw]
    generalize numbersColumnWidth o code = n at hroom ⊢
    omega)

/-- minimum ≤ maximum, in either variant: always with an explicit `code_width`; otherwise as soon as the width offered
holds the numbers column. -/
theorem measure_minimum_le_maximum (short : Bool) (o : Opts) (code : List Char) (maxWidth : Nat)
    (h : o.codeWidth = none → numbersColumnWidth o code ≤ maxWidth) :
    (measureV short o code maxWidth).1 ≤ (measureV short o code maxWidth).2 := by
  unfold measureV
  cases hc : o.codeWidth with
  | some w => simp only; omega
  | none => exact h hc

/-! ## Indent guides only overdraw leading spaces -/

/-- `indent_guides` (repaired variant, `tab_size ≥ 1`, any list of newline-free lines): never an error; as many
lines out as in, each at its place (an empty selection stays empty, a blank line that ends the selection stays);
a non-blank line keeps its length and everything after its leading spaces, and inside the leading spaces only
guide characters appear; a blank line shows spaces and guides only. -/
theorem guides_only_overdraw_indent (ts : Nat) (hts : 1 ≤ ts) (lines : List Line) (hno : ∀ l ∈ lines, '\n' ∉ l) :
    ∃ out, indentGuides false ts lines = .ok out ∧ GuideRel lines out :=
  indentGuides_spec ts hts lines hno

/-! ## Tracebacks mark the failing line -/

/-- Corollary for `Traceback._render_stack`: the Syntax built for a frame at line `lineno` of a readable file —
whatever the file's leading blank lines or length, for every `extra_lines`, with or without indent guides and
word wrap — has exactly one marked row; it carries the number `lineno` and shows line `lineno` of the file,
fitted into 88 cells, with at most its leading spaces overdrawn by indent guides.
`¬ Blank l`: the failing line holds a statement. -/
theorem traceback_marks_failing_line (cw : Char → Nat) (lineno extra : Nat) (wordWrap guides : Bool)
    (maxWidth : Nat) (nw lw asc pad found : Bool) (lex : List Char → List Line) (code : List Char) (l : Line)
    (hclean : Clean code)
    (hlex : found = true → (lex (expandTabs 4 code)).flatten = pygPre false (expandTabs 4 code))
    (hpos : 1 ≤ lineno) (hline : (splitNL (expandTabs 4 code))[lineno - 1]? = some l) (hl : ¬ Blank l) :
    let o := tracebackOpts lineno extra wordWrap guides maxWidth nw lw asc pad
    ∃ rows g, numberedRows cw false false o found lex code = .ok rows ∧
      rows.filter (·.marked) = [{ num := lineno, marked := true, body := fitLine cw 88 pad (noCrop o) g }] ∧
      (if guides && !asc then GuideOf l g else g = l) := by
  intro o
  exact highlighted_line_marked cw o found lex code lineno l hclean hlex
    (fun a b hab => by cases hab; exact Int.add_nonneg (Int.natCast_nonneg _) (Int.natCast_nonneg _))
    (by simp [codeWidthInt, o, tracebackOpts]) (show 1 ≤ 4 by decide) rfl
    (show 1 + ((lineno : Int) - extra - 1).toNat ≤ lineno by omega)
    (fun a b hab => by cases hab; show lineno - 1 < ((lineno : Int) + extra).toNat; omega) hline hl

/-! ## What a traceback shows depends only on the files as they are when it is rendered -/

/-- History independence of `_render_stack`: for EVERY history of renders (each with its own file system and
frames, of any length), the code each frame's Syntax is built from is the file's content at the moment of that
render — earlier renders, and earlier contents of the same path, leave no trace.  Together with
`traceback_marks_failing_line` (which is about that code): the marked row shows the failing line of the file as
it is now. -/
theorem render_history_independent (history : List ((FileId → List Char) × List FileId))
    (cache : List (FileId × List Char)) :
    renderHistory false cache history = history.map (fun h => h.2.map h.1) := by
  induction history generalizing cache with
  | nil => rfl
  | cons h rest ih =>
    obtain ⟨fs, frames⟩ := h
    simp only [renderHistory, Bool.false_eq_true, if_false, List.map_cons]
    rw [(stackCodesFrom_spec fs frames [] (cacheInv_nil fs)).1, ih]

/-- Within one render the cache is transparent too: a file read once and looked up again gives the same code. -/
theorem stack_cache_transparent (fs : FileId → List Char) (frames : List FileId) :
    (stackCodesFrom fs [] frames).1 = frames.map fs :=
  (stackCodesFrom_spec fs frames [] (cacheInv_nil fs)).1

/-- Why the cache must not outlive a call: with a persistent cache, a file changed between two renders is
shown with its OLD text (file 0 holds "a" first, then "\nb"; the second render still gets "a"). -/
theorem persistent_cache_would_show_stale_code :
    renderHistory true [] [((fun _ => "a".toList), [0]), ((fun _ => "\nb".toList), [0])]
      = [["a".toList], ["a".toList]] := by
  repeat rw [String.toList_ofList]
  decide +kernel

/-! ## The code before the fixes violates the statements (witnesses for the three defects; variant flags = true)

The witnesses and the examples at the end are evaluated by the kernel.  String literals are first turned into their
characters by `String.toList_ofList`: left to the kernel, `"…".toList` is a UTF-8 round trip that grows with the
square of the length. -/

/-- The lexer every witness uses: one token holding Pygments' preprocessing (it meets the contract of its
variant by definition). -/
def oneToken (stripnl : Bool) : List Char → List Line := fun s => [pygPre stripnl s]

theorem oneToken_contract (stripnl : Bool) (s : List Char) : (oneToken stripnl s).flatten = pygPre stripnl s := by
  simp [oneToken]

def demoOpts (range : Option (Int × Int)) (hl : List Nat) (guides : Bool := false) : Opts :=
  { lineNumbers := true, startLine := 1, lineRange := range, highlightLines := hl, codeWidth := some 20, tabSize := 4,
    wordWrap := false, indentGuides := guides, maxWidth := 40, optNoWrap := false, legacyWindows := false,
    asciiOnly := false, pad := false }

def demoCode : List Char := "\n\nx=1\ny=2\n".toList

/-- F13 (`stripnl=True`): two leading blank lines vanish; `x=1` (line 3) is shown under number 1 … -/
theorem old_stripnl_shifts_numbers :
    numberedRows (fun _ => 1) true true (demoOpts none []) true (oneToken true) demoCode =
      .ok [{ num := 1, marked := false, body := "x=1".toList }, { num := 2, marked := false, body := "y=2".toList }] := by
  unfold demoCode
  repeat rw [String.toList_ofList]
  decide +kernel

/-- … so the full-strength statement fails for that variant: no list of shown lines is the source lines up
to trailing blank lines. -/
theorem old_stripnl_breaks_lines_are_source_lines :
    ¬ ∃ sel, Trail 2 sel (splitNL (expandTabs 4 demoCode)) ∧
        selectedLines true true (demoOpts none []) true (oneToken true) demoCode = .ok sel := by
  rintro ⟨sel, ht, hs⟩
  -- two lines are shown where the source has five: three are missing, not two
  have hsel : (selectedLines true true (demoOpts none []) true (oneToken true) demoCode).map List.length = .ok 2 := by
    unfold demoCode; rw [String.toList_ofList]; decide +kernel
  have hP : (splitNL (expandTabs 4 demoCode)).length = 5 := by
    unfold demoCode; rw [String.toList_ofList]; decide +kernel
  rw [hs] at hsel
  have hlen := ht.length_le
  rw [hP, Except.ok.inj hsel] at hlen
  omega

/-- F13 seen through a range: `line_range=(3,4)` of the same source selects nothing at all. -/
theorem old_stripnl_range_selects_nothing :
    numberedRows (fun _ => 1) true true (demoOpts (some (3, 4)) []) true (oneToken true) demoCode = .ok [] := by
  unfold demoCode
  repeat rw [String.toList_ofList]
  decide +kernel

/-- F13 seen through a traceback: a module with one leading blank line that raises on line 2 — no row carries the
failing-line marker. -/
theorem old_stripnl_traceback_unmarked :
    (numberedRows (fun _ => 1) true true (tracebackOpts 2 3 false false 100 false false false false) true (oneToken true)
      "\nraise E\n".toList).map (fun rows => rows.filter (·.marked)) = .ok [] := by
  repeat rw [String.toList_ofList]
  decide +kernel

/-- Second defect (bare `next(tokens)`): a range starting more than one line past the end raises instead of
selecting nothing. -/
theorem old_skip_raises_beyond_end :
    numberedRows (fun _ => 1) true true (demoOpts (some (3, 4)) []) true (oneToken false) "x".toList
      = .error .runtimeStopIteration := by
  repeat rw [String.toList_ofList]
  decide +kernel

def gapCode : List Char := "def f():\n    return 1\n\n\n\ndef g():\n    pass\n".toList

/-- Third defect (`text.split("\n")` after the text was cut at the end of the range): `line_range=(1,3)` of a source
whose line 3 is an INTERIOR blank line shows lines 1 and 2 only … -/
theorem old_range_drops_trailing_blank_line :
    numberedRows (fun _ => 1) false true (demoOpts (some (1, 3)) []) true (oneToken false) gapCode =
      .ok [{ num := 1, marked := false, body := "def f():".toList },
           { num := 2, marked := false, body := "    return 1".toList }] := by
  unfold gapCode
  repeat rw [String.toList_ofList]
  decide +kernel

/-- … and `(3, 4)` — two interior blank lines — shows one row; with indent guides the same happens (the guide step
loses the line a second time). -/
theorem old_range_drops_trailing_blank_line_guides :
    (numberedRows (fun _ => 1) false true (demoOpts (some (3, 4)) []) true (oneToken false) gapCode).map List.length = .ok 1 ∧
    (numberedRows (fun _ => 1) false true (demoOpts (some (1, 3)) [] true) true (oneToken false) gapCode).map List.length = .ok 2 ∧
    -- an empty selection under indent guides is shown as one row numbered past the end of the source
    (numberedRows (fun _ => 1) false true (demoOpts (some (9, 12)) [] true) true (oneToken false) gapCode).map (List.map (·.num)) = .ok [9] := by
  unfold gapCode
  repeat rw [String.toList_ofList]
  decide +kernel

/-! ## Rendering is pure: one Syntax object rendered again and again -/

/-- The rest of the numbered branch as a function of the text after `remove_suffix` (what `numberedRows` does with it). -/
def rowsOfText (cw : Char → Nat) (rangePop : Bool) (o : Opts) (code : List Char) (text : List Char) : Except Err (List Row) :=
  match linesOfText rangePop o text with
  | .error e => .error e
  | .ok lines =>
    if o.wordWrap && decide (codeWidthInt o code < 1) then .ok []
    else .ok (numberRows (o.startLine + lineOffset o) o.highlightLines
               (lines.map (fitLine cw (colWidth o code) o.pad (noCrop o))))

/-- `render_pure`: however often ONE object with unchanged attributes is rendered, and whatever it may have been handed as
"remembered" text, every render answers what the first one answers — for every `rest`, every `highlight` result, every
number of renders.  (The code as it is remembers nothing: `cacheText = false`.) -/
theorem render_pure {β : Type} (rest : List Char → β) (hl : Except Err (List Char)) (cache : Option (List Char)) (n : Nat) :
    objRenders false rest hl cache n = List.replicate n (hl.map (fun t => rest (removeSuffixNL t))) := by
  induction n generalizing cache with
  | zero => rfl
  | succ k ih =>
    cases hl <;> simp only [objRenders, Bool.false_eq_true, if_false, List.replicate_succ, ih] <;> rfl

/-- … instantiated: the rows of the numbered branch are `highlight` followed by `rowsOfText`, so `n` renders of one Syntax
object give `n` times the rows `numberedRows` gives. -/
theorem render_pure_rows (cw : Char → Nat) (sr rp : Bool) (o : Opts) (found : Bool) (lex : List Char → List Line)
    (code : List Char) (cache : Option (List Char)) (n : Nat) :
    (objRenders false (rowsOfText cw rp o code)
        (highlight sr found (lex (shownSrc o code)) (shownSrc o code) o.lineRange) cache n).map
      (fun r => r.bind id) = List.replicate n (numberedRows cw sr rp o found lex code) := by
  rw [render_pure, List.map_replicate]
  congr 1
  unfold numberedRows selectedLines rowsOfText
  dsimp only [shownSrc]
  generalize highlight sr found (lex (expandTabs o.tabSize (shownCode o code))) (expandTabs o.tabSize (shownCode o code)) o.lineRange = h
  cases h with
  | error e => rfl
  | ok t =>
    simp only [Except.map, Except.bind, id]
    cases linesOfText rp o (removeSuffixNL t) <;> rfl

/-- Why nothing may be remembered: with the highlighted Text kept on the instance and handed out uncopied, the blank
line 3 that ends the range (1, 3) is shown by the first render and gone — number and row — from the second on. -/
theorem cached_text_would_decay :
    (objRenders true (rowsOfText (fun _ => 1) false (demoOpts (some (1, 3)) []) gapCode)
        (highlight false true (oneToken false (expandTabs 4 gapCode)) (expandTabs 4 gapCode) (some (1, 3))) none 3).map
      (fun r => r.bind (fun x => x.map List.length)) = [.ok 3, .ok 2, .ok 2] := by
  unfold gapCode
  repeat rw [String.toList_ofList]
  decide +kernel

/-! ## The gutter: pointer, number, blank continuation rows -/

/-- The gutter of EVERY numbered row, read character by character: `❱ ` (`> ` on legacy Windows) exactly when the row's
number is in `highlight_lines`, two blanks otherwise; then `str(number)` right-justified in `numbers_column_width - 2`;
then one blank; the rest of the row is the code cell.  The gutter is `numbers_column_width + 1` characters long for every
row (the width computed from the number of newlines in the code holds every number shown). -/
theorem gutter_shows_pointer_and_number (cw : Char → Nat) (o : Opts) (found : Bool) (lex : List Char → List Line)
    (code : List Char) (h : Setting o found lex code) (hn : o.lineNumbers = true) :
    ∃ rows, numberedRows cw false false o found lex code = .ok rows ∧
      ∀ r ∈ rows,
        r.render (numbersColumnWidth o code) o.legacyWindows =
          numberGutter (numbersColumnWidth o code) o.legacyWindows r.num (o.highlightLines.contains r.num) ++ r.body ∧
        (numberGutter (numbersColumnWidth o code) o.legacyWindows r.num (o.highlightLines.contains r.num)).length =
          numbersColumnWidth o code + 1 := by
  obtain ⟨rows, he, hnum⟩ := numbers_are_line_numbers cw o found lex code h
  refine ⟨rows, he, fun r hr => ?_⟩
  obtain ⟨hge, ⟨l, hl, _⟩, hm⟩ := hnum r hr
  exact ⟨by rw [Row.render_eq_gutter, hm], numberGutter_length _ _ _ _ (number_fits h hn hge hl)⟩

/-- Word wrap (`numberFolded`, the loop `for first, wrapped_line in loop_first(wrapped_lines)`), for ANY folding of any number
of logical lines into rows: removing `numbers_column_width + 1` characters from every row gives the folded rows back in
order; the gutters are — per logical line — the numbered gutter (pointer iff highlighted) on its FIRST row and
`" " * numbers_column_width + " "` on every continuation row; the number advances by one per LOGICAL line, however many
rows a line takes. -/
theorem folded_rows_have_blank_gutter (ncw : Nat) (legacy : Bool) (hl : List Nat) (bodies : List (List Line)) (n : Nat)
    (hfit : ∀ i, i < bodies.length → (natStr (n + i)).length + 2 ≤ ncw) :
    (numberFolded ncw legacy hl n bodies).map (List.drop (ncw + 1)) = bodies.flatten ∧
    (numberFolded ncw legacy hl n bodies).map (List.take (ncw + 1)) = gutters ncw legacy hl n bodies := by
  induction bodies generalizing n with
  | nil => exact ⟨rfl, rfl⟩
  | cons bs rest ih =>
    replace ih := ih (n + 1) (fun i hi => by
      have := hfit (i + 1) (by simp; omega)
      rwa [show n + (i + 1) = n + 1 + i by omega] at this)
    have h0 := renderFolded_spec ncw legacy n (hl.contains n) bs (by simpa using hfit 0 (by simp))
    simp only [numberFolded, gutters, List.map_append, List.flatten_cons, ih.1, ih.2, h0.1, h0.2, and_self]

/-- … and on the render path itself (`renderW`, numbered, word wrap on, repaired variant, any `Text.wrap` variant): whatever
rows come out, they are one group of folded rows per selected logical line; with the gutter removed they are those folded
rows in order; the gutters are the numbered one on the first row of each line and blanks on its continuation rows, numbers
running from `start_line + offset` once per logical line. -/
theorem wordwrap_rows_numbered_once (wv : Wrap.WVariant) (cw : Char → Nat) (o : Opts) (found : Bool) (lex : List Char → List Line)
    (code : List Char) (h : Setting o found lex code) (hn : o.lineNumbers = true) (hww : o.wordWrap = true) (rows : List Line)
    (hr : renderW wv cw false false o found lex code = some (.ok rows)) :
    ∃ lines bodies, selectedLines false false o found lex code = .ok lines ∧ bodies.length = lines.length ∧
      rows.map (List.drop (numbersColumnWidth o code + 1)) = bodies.flatten ∧
      rows.map (List.take (numbersColumnWidth o code + 1)) =
        gutters (numbersColumnWidth o code) o.legacyWindows o.highlightLines (o.startLine + lineOffset o) bodies := by
  have hroom : ¬ codeWidthInt o code < 1 := by
    have := h.room; rw [hww] at this; simpa using this
  obtain ⟨lines, bodies, hsel, hlen, hrows⟩ := renderW_wrapped_numbered wv cw false false o found lex code rows hww hn hroom hr
  obtain ⟨sel, hsel', ht⟩ := selected_trail o found lex code h.clean h.contract h.noGuides h.rangeEnd
  obtain rfl : lines = sel := by rw [hsel] at hsel'; exact Except.ok.inj hsel'
  have hfit : ∀ i, i < bodies.length → (natStr (o.startLine + lineOffset o + i)).length + 2 ≤ numbersColumnWidth o code := by
    intro i hi
    rw [hlen] at hi
    exact number_fits (l := lines[i]) h hn (Nat.le_trans (Nat.le_add_right _ _) (Nat.le_add_right _ _))
      (ht.source_line o hi _)
  obtain ⟨h1, h2⟩ := folded_rows_have_blank_gutter (numbersColumnWidth o code) o.legacyWindows o.highlightLines bodies (o.startLine + lineOffset o) hfit
  exact ⟨lines, bodies, hsel, hlen, hrows ▸ h1, hrows ▸ h2⟩

/-! ## The exception chain and the frames of a stack -/

/-- `Traceback.extract` + `Traceback.__rich_console__`, for EVERY finite exception tree whose designated older exceptions
were raised (truthy, with a traceback): what is printed is the chain by Python's own rule — `__cause__` when set, else
`__context__` unless `__suppress_context__` — OLDEST exception first; every exception with its own frames in `walk_tb`
order (panel only when it has frames), its SyntaxError panel, its `Type: message` line; and between an older and the next
newer exception the sentence "direct cause" exactly when the older one is the newer one's `__cause__`, "during handling"
when it is its `__context__`.  No sentence after the newest. -/
theorem chain_is_shown_oldest_first (e : Exc) (h : AllUsable e) :
    renderException e = expectedChain e :=
  renderTrace_extract false e h

/-- `_render_stack`, either variant, any number of frames, any file system: what is yielded is what each frame contributes
when the file system is read directly — the per-call cache changes nothing, a file that cannot be opened is not
remembered, frames come in call order, a blank separator before every frame but the first. -/
theorem render_stack_frame_by_frame (g : Bool) (special known : FileId → Bool) (fs : FileId → Option (List Char))
    (frames : List Frame) :
    renderStack g special known fs frames = stackSpec g special known fs true frames :=
  renderStackFrom_spec g special known fs frames [] true (cacheInvOpt_nil fs)

/-- REPAIRED variant (`guessRaises = false`): EVERY frame of a readable file — whatever its name: `.py`, no extension, an
extension no Pygments lexer claims — gets its header followed by a blank row and the `Syntax` built from the file's
content NOW with `line_range = (lineno - extra, lineno + extra)`, `highlight_lines = {lineno}`; and (with
`traceback_marks_failing_line`, for every lexer meeting the contract, the fallback lexer "text" included) that Syntax has
exactly one marked row, numbered `lineno`, showing line `lineno`. -/
theorem readable_frame_shows_marked_line (special known : FileId → Bool) (fs : FileId → Option (List Char))
    (frames : List Frame) (fr : Frame) (code : List Char) (hfr : fr ∈ frames) (hsp : special fr.file = false)
    (hread : fs fr.file = some code)
    (cw : Char → Nat) (extra : Nat) (wordWrap guides : Bool) (maxWidth : Nat) (nw lw asc pad found : Bool)
    (lex : List Char → List Line) (l : Line) (hclean : Clean code)
    (hlex : found = true → (lex (expandTabs 4 code)).flatten = pygPre false (expandTabs 4 code))
    (hpos : 1 ≤ fr.lineno) (hline : (splitNL (expandTabs 4 code))[fr.lineno - 1]? = some l) (hl : ¬ Blank l) :
    (∃ pre, pre ++ [FrameItem.header fr.file fr.lineno, FrameItem.blank, FrameItem.syntax code fr.lineno (known fr.file)]
        <:+: renderStack false special known fs frames) ∧
    (let o := tracebackOpts fr.lineno extra wordWrap guides maxWidth nw lw asc pad
     ∃ rows g, numberedRows cw false false o found lex code = .ok rows ∧
       rows.filter (·.marked) = [{ num := fr.lineno, marked := true, body := fitLine cw 88 pad (noCrop o) g }] ∧
       (if guides && !asc then GuideOf l g else g = l)) := by
  refine ⟨?_, traceback_marks_failing_line cw fr.lineno extra wordWrap guides maxWidth nw lw asc pad found lex code l
    hclean hlex hpos hline hl⟩
  rw [render_stack_frame_by_frame]
  obtain ⟨fst, hin⟩ := stackSpec_infix false special known fs fr frames true hfr
  refine ⟨if !special fr.file && !fst then [FrameItem.blank] else [], ?_⟩
  simpa [frameSpec, hsp, hread] using hin

/-- AS FOUND (`guessRaises = true`): a readable file whose name no lexer claims (a script without extension) gets the row
"no lexer for filename … found" and NO source line — the traceback clause fails for it. -/
theorem old_unknown_extension_shows_no_source :
    renderStack true (fun _ => false) (fun _ => false) (fun _ => some "x = 1 // 0\n".toList) [⟨0, 1⟩]
      = [FrameItem.header 0 1, FrameItem.error] ∧
    renderStack false (fun _ => false) (fun _ => false) (fun _ => some "x = 1 // 0\n".toList) [⟨0, 1⟩]
      = [FrameItem.header 0 1, FrameItem.blank, FrameItem.syntax "x = 1 // 0\n".toList 1 false] := by
  repeat rw [String.toList_ofList]
  decide +kernel

/-! ## Non-vacuity: the hypotheses are met by concrete, non-trivial values; the repaired variant on the witnesses -/

example : Setting (demoOpts (some (3, 4)) [3]) true (oneToken false) demoCode := by
  unfold demoCode; rw [String.toList_ofList]
  exact ⟨by unfold Clean; decide +kernel, fun _ => oneToken_contract _ _, rfl, fun a b h => by cases h; decide, rfl, by decide +kernel⟩

/-- repaired variant at the F13 witness: lines 3-4 under numbers 3-4, line 3 marked -/
example : numberedRows (fun _ => 1) false false (demoOpts (some (3, 4)) [3]) true (oneToken false) demoCode =
    .ok [{ num := 3, marked := true, body := "x=1".toList }, { num := 4, marked := false, body := "y=2".toList }] := by
  unfold demoCode
  repeat rw [String.toList_ofList]
  decide +kernel

/-- repaired variant at the second witness: nothing selected, no error -/
example : numberedRows (fun _ => 1) false false (demoOpts (some (3, 4)) []) true (oneToken false) "x".toList = .ok [] := by
  repeat rw [String.toList_ofList]
  decide +kernel

/-- repaired variant at the third witness: three rows, the blank line 3 under number 3 — with and without guides;
an empty selection under guides shows nothing -/
example : numberedRows (fun _ => 1) false false (demoOpts (some (1, 3)) []) true (oneToken false) gapCode =
    .ok [{ num := 1, marked := false, body := "def f():".toList },
         { num := 2, marked := false, body := "    return 1".toList },
         { num := 3, marked := false, body := [] }] := by
  unfold gapCode
  repeat rw [String.toList_ofList]
  decide +kernel

example : numberedRows (fun _ => 1) false false (demoOpts (some (1, 3)) [] true) true (oneToken false) gapCode =
    .ok [{ num := 1, marked := false, body := "def f():".toList },
         { num := 2, marked := false, body := "│   return 1".toList },
         { num := 3, marked := false, body := [] }] := by
  unfold gapCode
  repeat rw [String.toList_ofList]
  decide +kernel

example : numberedRows (fun _ => 1) false false (demoOpts (some (9, 12)) [] true) true (oneToken false) gapCode = .ok [] := by
  unfold gapCode
  repeat rw [String.toList_ofList]
  decide +kernel

example : srcLines gapCode = ["def f():".toList, "    return 1".toList, [], [], [], "def g():".toList, "    pass".toList] := by
  unfold gapCode
  repeat rw [String.toList_ofList]
  decide +kernel

/-- the measure witness is not vacuous: `Syntax("abcdef", line_numbers=True, code_width=6)` reports maximum 9 and has a row
whose code cell is full -/
example : (numberedRows (fun _ => 1) false false { demoOpts none [] with codeWidth := some 6 } true (oneToken false) "abcdef".toList).map
    (List.map (·.body.length)) = .ok [6] := by
  repeat rw [String.toList_ofList]
  decide +kernel

/-- styles on a concrete stream: range (2,2) of "a\nbc\n" with token styles 7 ("a\n") and 9 ("bc\n"): line 1 unstyled, line 2 style 9 -/
example : highlightStyled false true [("a\n".toList, 7), ("bc\n".toList, 9)] "a\nbc\n".toList (some (2, 2)) =
    .ok [('a', none), ('\n', none), ('b', some 9), ('c', some 9), ('\n', some 9)] := by
  repeat rw [String.toList_ofList]
  decide +kernel

/-- `dedent`: the shown text is the dedented one, the gutter still counts the newlines of the original -/
example : numberedRows (fun _ => 1) false false { demoOpts none [] with dedented := some "a\n b".toList } true (oneToken false) "  a\n   b".toList =
    .ok [{ num := 1, marked := false, body := "a".toList }, { num := 2, marked := false, body := " b".toList }] := by
  repeat rw [String.toList_ofList]
  decide +kernel

/-- the traceback hypotheses are satisfiable (leading blank line, failing line 2) and the row is marked -/
example : (numberedRows (fun _ => 1) false false (tracebackOpts 2 3 false false 100 false false false false) true (oneToken false)
      "\nraise E\n".toList).map (fun rows => rows.filter (·.marked)) =
    .ok [{ num := 2, marked := true, body := "raise E".toList }] := by
  repeat rw [String.toList_ofList]
  decide +kernel

example : (splitNL (expandTabs 4 "\nraise E\n".toList))[2 - 1]? = some "raise E".toList := by
  repeat rw [String.toList_ofList]
  decide +kernel

/-- the same frame with indent guides on, failing line indented by four spaces: the guide overdraws the first space -/
example : (numberedRows (fun _ => 1) false false (tracebackOpts 3 1 false true 100 false false false false) true (oneToken false)
      "\ndef f():\n    raise E\n".toList).map (fun rows => rows.filter (·.marked)) =
    .ok [{ num := 3, marked := true, body := "│   raise E".toList }] := by
  repeat rw [String.toList_ofList]
  decide +kernel

example : ¬ Blank "    raise E".toList := by
  rw [String.toList_ofList]
  unfold Blank; decide +kernel

example : GuideOf "    raise E".toList "│   raise E".toList := by
  repeat rw [String.toList_ofList]
  unfold GuideOf Blank OnlyGuide; decide +kernel

/-- a history in which the same path changes between renders and is read twice inside one render -/
example : renderHistory false [] [((fun _ => "a".toList), [0, 0]), ((fun _ => "\nb".toList), [0])]
    = [["a".toList, "a".toList], ["\nb".toList]] := by
  repeat rw [String.toList_ofList]
  decide +kernel

/-- a Trail with something actually missing: without a range, a source ending in a blank line -/
example : Trail 1 ["a".toList] (srcLines "a\n\n".toList) := ⟨1, Nat.le_refl 1, by decide +kernel⟩

/-- a three-level MIXED chain: `TypeError` raised while handling `RuntimeError`, which was raised `from` a `KeyError`
(names 3, 2, 1; frames in files 7, 8, 9) -/
def demoChain : Exc :=
  .mk 3 [⟨7, 10⟩, ⟨7, 4⟩] true true false false none
    (some (.mk 2 [⟨8, 5⟩] true true true false
      (some (.mk 1 [⟨9, 2⟩] true true false false none none))
      (some (.mk 1 [⟨9, 2⟩] true true false false none none))))

example : AllUsable demoChain := by
  simp [demoChain, AllUsable, Exc.usable]

example : renderException demoChain =
    [.panel [⟨9, 2⟩], .excLine 1 false, .link true, .panel [⟨8, 5⟩], .excLine 2 false, .link false,
     .panel [⟨7, 10⟩, ⟨7, 4⟩], .excLine 3 false] := by
  decide +kernel

/-- outside `AllUsable` (observed, not claimed): a cause that was never raised (`raise X from ValueError()`) carries no
traceback and is NOT shown by rich, where Python's own traceback shows it -/
example : renderException (.mk 2 [⟨8, 5⟩] true true true false (some (.mk 1 [] true false false false none none)) none)
    = [.panel [⟨8, 5⟩], .excLine 2 false] := by
  decide +kernel

/-- a stack that reads the same file twice, meets a `<frozen …>` frame and a file that cannot be opened -/
example : renderStack false (fun f => f == 5) (fun f => f == 0) (fun f => if f == 3 then none else some [Char.ofNat (97 + f)])
      [⟨0, 1⟩, ⟨5, 9⟩, ⟨3, 2⟩, ⟨0, 7⟩, ⟨1, 4⟩] =
    [.header 0 1, .blank, .syntax ['a'] 1 true, .header 5 9, .blank, .header 3 2, .error,
     .blank, .header 0 7, .blank, .syntax ['a'] 7 true, .blank, .header 1 4, .blank, .syntax ['b'] 4 false] := by
  decide +kernel

/-- folded rows: line 9 takes one row, line 10 (highlighted) three; the gutter is 4 + 1 wide -/
example : numberFolded 4 false [10] 9 [["ab".toList], ["cd".toList, "ef".toList, "g".toList]] =
    ["   9 ab".toList, "❱ 10 cd".toList, "     ef".toList, "     g".toList] := by
  repeat rw [String.toList_ofList]
  decide +kernel

example : ∀ i, i < [["ab".toList], ["cd".toList, "ef".toList, "g".toList]].length → (natStr (9 + i)).length + 2 ≤ 4 := by
  decide +kernel

/-- the hypotheses of `wordwrap_rows_numbered_once` are satisfiable: word wrap on, line numbers on, room for a row
(that `renderW` answers `some (.ok rows)` there is what the driver shows on every word-wrapped `syn_render` case) -/
example : Setting { demoOpts none [2] with wordWrap := true } true (oneToken false) "ab cd\nef\n".toList := by
  rw [String.toList_ofList]
  exact ⟨by unfold Clean; decide +kernel, fun _ => oneToken_contract _ _, rfl, fun a b h => (by cases h), by decide +kernel, by decide +kernel⟩

end RichModel.C17
