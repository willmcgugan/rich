import RichModel.Lemmas.Pretty
import RichModel.Lemmas.PrettyTraverse
import RichModel.Lemmas.PrettyMeasure
import RichModel.Lemmas.PrettyConsole
/-!
# C16 — pretty-printed data evaluates back to the data

Property theorems only (helper lemmas live in `Lemmas/Pretty*.lean`).  The model is
`Model/Pretty.lean` (`Node`, `_Line`, the render loop, `traverse` over a heap with identities).

What is proved here is everything about the printer that is *not* Python's `repr`/`eval`: the
rendered text is the one-line form with layout inserted (so it denotes the same expression), the
one-line form is chosen exactly when it fits, kept lines fit, indentation is regular, abbreviations
count exactly, cycles end in the marker and `traverse` is total; and (last section) that the width
`Pretty.__rich_measure__` reports is enough to render in, what the options do outside their documented
domain, and that the root's `last` flag cannot be observed.  "Evaluates back" itself rests on
`eval` and on `repr` of leaves, which are runtime: it is evaluated on every generated case by
`harness/props/c16.py`.

All theorems hold for an **arbitrary width function** `cw` and any `max_width`, `indent_size`,
tree size and depth.  `Variant.repaired` is the code with the three fixes (`fix:` commits 376cec1, e5d1b9a,
db5535b), which is what /repo contains now; `Variant.today` (the name dates from before those commits) is
rich 9.10.0 as found; `Variant.current` (the name dates from before db5535b) is the code with the first two
fixes only, i.e. with `__rich_measure__` still ignoring `expand_all` (witnesses `old_*` show where the
as-found behaviour breaks the statement).
-/
namespace RichModel.C16
open RichModel RichModel.Pretty

variable (cw : Char → Nat)

/-! ## The render loop -/

/-- **render_terminates.** The `while line_no < len(lines)` loop of `Node.render`, run as an iteration
with a step budget, finishes within `weight n + 2` steps (`weight` = twice the number of nodes,
minus one) for every tree, width, indent and variant, and its result is the well-founded
`renderLines` the driver executes.  (That `renderLoop` is accepted by Lean at all is the
well-foundedness on the total weight of the pending lines.) -/
theorem render_terminates (v : Variant) (n : Node) (w ind : Int) (ea : Bool) :
    renderLoopFuel cw v w ind ea (n.weight + 2) [rootLine n] [] = some (renderLines cw v n w ind ea) := by
  apply renderLoopFuel_eq
  simp only [todoWeight, Line.weight, rootLine]
  omega

/-- **The loop computes the structural specification**: a line whose node is a non-empty container
that must be expanded becomes `open`, then each child (recursively) at one more indent, then
`close`; every other line is kept. -/
theorem render_is_spec (v : Variant) (n : Node) (w ind : Int) (ea : Bool) :
    renderLines cw v n w ind ea = specLine ⟨cw, v, w, ind, ea⟩ (rootLine n) n :=
  renderLines_eq_spec cw v n w ind ea

/-- …where the specification satisfies exactly this equation (no hidden cases). -/
theorem spec_equation (c : Cfg) (l : Line) (n : Node) :
    specLine c l n =
      if n.isContainer && !n.children.isEmpty && !l.expanded && mustExpand c.cw c.w c.ea l n then
        l.expandHead n :: ((l.expandTail c.v n c.ind).flatMap (specOf c))
      else [l] :=
  specLine_unfold c l n

/-- `__str__` is the one-line form with `", "` between items. -/
theorem str_is_inline (n : Node) : n.str = n.flat [',', ' '] := Node.str_eq_flat n

/-! ## layout_only -/

/-- **layout_only** (repaired code).  For every well-formed tree, at every width / indent /
`expand_all`: erasing the layout — the indentation and line breaks of the rendered lines, and the
blank after the item separators of the lines kept on one line — leaves exactly the one-line form
with the blanks after its separators erased.  No comma, brace, key or leaf is lost, added or moved;
in particular the comma of a one-element tuple survives every expansion. -/
theorem layout_only (n : Node) (hw : n.wf = true) (w ind : Int) (ea : Bool) :
    ((renderLines cw .repaired n w ind ea).map Line.compact).flatten = n.compact := by
  rw [render_is_spec, specLine_compact ⟨cw, .repaired, w, ind, ea⟩ rfl n (rootLine n) hw rfl rfl]
  simp [Line.compact, rootLine]

/-- The tree of the F24 witness: `([1, 2],)`. -/
def tupleOfList : Node :=
  .mk [] [] ['('] [')'] [] true true true
    [.mk [] [] ['['] [']'] [] true false true
      [.mk [] ['1'] [] [] [] false false false [], .mk [] ['2'] [] [] [] true false false []]]

/-- **F24 (rich 9.10.0 as found, before fix 376cec1).**  `([1, 2],)` at width 3: the closing line of the expanded list takes its
suffix from the node (`last` ⇒ none) instead of the `","` its line was given, the rendered text is
`(\n    [\n        1,\n        2\n    ]\n)` and the tuple's comma is gone. -/
theorem old_layout_only_fails :
    ((renderLines (fun _ => 1) .today tupleOfList 3 4 false).map Line.compact).flatten
      ≠ tupleOfList.compact := by
  rw [render_is_spec]; decide +kernel

/-- …and what it prints, character for character. -/
theorem old_render_drops_tuple_comma :
    (specLine ⟨fun _ => 1, .today, 3, 4, false⟩ (rootLine tupleOfList) tupleOfList).map Line.str
      = ["(".toList, "    [".toList, "        1,".toList, "        2".toList, "    ]".toList, ")".toList] := by
  -- literals first: left to the kernel, `"…".toList` is a UTF-8 round trip that grows with the square of the length
  repeat rw [String.toList_ofList]
  decide +kernel

/-- the repaired code keeps it. -/
theorem repaired_render_keeps_tuple_comma :
    (specLine ⟨fun _ => 1, .repaired, 3, 4, false⟩ (rootLine tupleOfList) tupleOfList).map Line.str
      = ["(".toList, "    [".toList, "        1,".toList, "        2".toList, "    ],".toList, ")".toList] := by
  repeat rw [String.toList_ofList]
  decide +kernel

/-! ## one_line_iff_fits, kept_line_fits -/

/-- **one_line_iff_fits.**  The output is a single line — then it is `str(node)`, i.e. the `repr()`-like
one-line form — exactly when the value is a leaf or an empty container, or `expand_all` is off and
the one-line form fits the width; otherwise it is `open`, at least one item line, `close`. -/
theorem one_line_iff_fits (v : Variant) (n : Node) (w ind : Int) (ea : Bool) :
    ((renderLines cw v n w ind ea).length = 1 ↔
        (n.expandable = false ∨ (ea = false ∧ (cellLen cw n.str : Int) ≤ w))) ∧
    ((renderLines cw v n w ind ea).length = 1 → render cw v n w ind ea = n.str) ∧
    ((renderLines cw v n w ind ea).length ≠ 1 → 3 ≤ (renderLines cw v n w ind ea).length) := by
  rw [render, render_is_spec]
  -- the root line is kept exactly when the right-hand side holds
  have hiff : expands ⟨cw, v, w, ind, ea⟩ (rootLine n) n = false ↔
      (n.expandable = false ∨ (ea = false ∧ (cellLen cw n.str : Int) ≤ w)) := by
    have hcells : (rootLine n).cells cw = cellLen cw n.str := by simp [Line.cells, rootLine, cellLen_nil]
    rw [← Bool.not_eq_true, expands_iff _ rfl, hcells]
    cases n.expandable <;> cases ea <;> simp [rootLine]
  refine ⟨specLine_length_eq_one_iff.trans hiff, fun h1 => ?_, fun hne => ?_⟩
  · rw [specLine_of_not_expands (specLine_length_eq_one_iff.mp h1)]
    simp [joinLines, Line.str, rootLine]
  · exact specLine_length_of_expands (Bool.of_not_eq_false (mt specLine_length_eq_one_iff.mpr hne))

/-- **kept_line_fits.**  Whatever the tree, width and variant: a line of the output that still holds a
non-empty container was only kept because `expand_all` is off and it passed `check_length`: its
indentation, text, one-line form and suffix together need at most `max_width` cells. -/
theorem kept_line_fits (v : Variant) (n : Node) (w ind : Int) (ea : Bool) :
    ∀ l ∈ renderLines cw v n w ind ea, ∀ m, l.node = some m → m.expandable = true →
      ea = false ∧ l.whitespace.length + cellLen cw l.text + cellLen cw l.suffix + cellLen cw m.str ≤ w := by
  intro l hl m hm he
  rw [render_is_spec] at hl
  obtain ⟨h1, h2⟩ := specLine_kept_fits ⟨cw, v, w, ind, ea⟩ n (rootLine n) rfl rfl l hl (Line.expandable_iff.mpr ⟨m, hm, he⟩)
  rw [Line.cells, hm] at h2
  exact ⟨h1, h2⟩

/-- **indent_consistent.**  Every line of the output is indented by a whole number of
`indent_size` blanks and by nothing else. -/
theorem indent_consistent (v : Variant) (n : Node) (w ind : Int) (ea : Bool) :
    ∀ l ∈ renderLines cw v n w ind ea, ∃ d, l.whitespace = List.replicate (d * ind.toNat) ' ' := by
  intro l hl
  rw [render_is_spec] at hl
  obtain ⟨d, hd⟩ := specLine_indent ⟨cw, v, w, ind, ea⟩ n (rootLine n) l hl
  exact ⟨d, by simpa [rootLine] using hd⟩

/-- …and the nesting is regular at every level: an expanded line becomes its opening brace at the
*same* indentation, then the renderings of its children's lines — each child line starting **exactly
one** indent deeper, everything inside at least one deeper (whole multiples) — and its closing brace
at the same indentation again. -/
theorem indent_nested (c : Cfg) (l : Line) (n : Node) :
    specLine c l n = [l] ∨
    ∃ mid, specLine c l n = l.expandHead n :: (mid ++ [l.expandClose c.v n]) ∧ mid ≠ [] ∧
      mid = (l.expandKids n c.ind).flatMap (specOf c) ∧
      (∀ k ∈ l.expandKids n c.ind, k.whitespace = l.whitespace ++ List.replicate c.ind.toNat ' ' ∧
        (specOf c k).head?.map (·.whitespace) = some k.whitespace) ∧
      (l.expandHead n).whitespace = l.whitespace ∧ (l.expandClose c.v n).whitespace = l.whitespace ∧
      ∀ m ∈ mid, ∃ d, m.whitespace = l.whitespace ++ List.replicate ((d + 1) * c.ind.toNat) ' ' := by
  cases h : expands c l n with
  | false => exact Or.inl (specLine_of_not_expands h)
  | true =>
    refine Or.inr ⟨_, specLine_of_expands h, specKids_ne_nil h _ _, specKids_eq .., fun k hk => ?_,
      l.expandHead_whitespace n, rfl, fun m hm => ?_⟩
    · obtain ⟨x, _, rfl⟩ := List.mem_map.mp hk
      exact ⟨rfl, specLine_head_whitespace c _ x⟩
    · obtain ⟨d, hd⟩ := specKids_indent c _ _ _ m hm
      exact ⟨d, hd.trans (replicate_indent _ _ d)⟩

/-- In cells: with blanks one cell wide, a kept container line is at most `max_width` cells long. -/
theorem kept_line_fits_cells (hs : cw ' ' = 1) (v : Variant) (n : Node) (w ind : Int) (ea : Bool) :
    ∀ l ∈ renderLines cw v n w ind ea, l.expandable = true → cellLen cw l.str ≤ w := by
  intro l hl he
  obtain ⟨d, hd⟩ := indent_consistent cw v n w ind ea l hl
  rw [render_is_spec] at hl
  rw [Line.cells_eq_str cw hs l _ hd]
  exact (specLine_kept_fits ⟨cw, v, w, ind, ea⟩ n (rootLine n) rfl rfl l hl he).2

/-- With `expand_all`, no non-empty container is left on one line. -/
theorem expand_all_expands_all (v : Variant) (n : Node) (w ind : Int) :
    ∀ l ∈ renderLines cw v n w ind true, l.expandable = false := by
  intro l hl
  rw [render_is_spec] at hl
  exact Bool.eq_false_iff.mpr fun he => nomatch (specLine_kept_fits ⟨cw, v, w, ind, true⟩ n (rootLine n) rfl rfl l hl he).1

/-! ## traverse: totality, cycles, abbreviations -/

/-- **cycle_marker (termination).**  On every heap whose references stay inside it — cyclic or not —
`traverse` returns a tree: the depth budget `|heap| + 1` is never exhausted, because the ids on the
current path are distinct. -/
theorem cycle_marker (cfg : TravCfg) (h : Heap) (hok : HeapOk h) (root : Nat) (hr : root < h.length) :
    ∃ n, traverse cfg h root = some n :=
  Option.isSome_iff_exists.mp
    (traverseObj_isSome cfg h hok _ [] root true hr List.nodup_nil nofun (Nat.le_refl _))

/-- A reference to a container that is on the current path is rendered as the marker `...` … -/
theorem cycle_marker_backedge (cfg : TravCfg) (h : Heap) (fuel : Nat) (visited : List Nat) (id : Nat)
    (root : Bool) (hv : visited.contains id = true)
    (hc : (∃ k aux items, h[id]? = some (.seq k aux items)) ∨ (∃ k aux items, h[id]? = some (.map k aux items))) :
    traverseObj cfg h (fuel + 1) visited id root = some cycleMarker ∧ cycleMarker.str = ['.', '.', '.'] := by
  refine ⟨?_, rfl⟩
  rcases hc with ⟨k, aux, items, hg⟩ | ⟨k, aux, items, hg⟩ <;>
    rw [traverseObj_container cfg h fuel visited id root hg rfl, if_pos hv]

/-- … and only then: a container that is not on the path is traversed into a container node. -/
theorem container_unless_backedge (cfg : TravCfg) (h : Heap) (fuel : Nat) (visited : List Nat) (id : Nat)
    (root : Bool) (n : Node) (hv : visited.contains id = false)
    (hc : (∃ k aux items, h[id]? = some (.seq k aux items)) ∨ (∃ k aux items, h[id]? = some (.map k aux items)))
    (hres : traverseObj cfg h (fuel + 1) visited id root = some n) : n.isContainer = true := by
  obtain ⟨o, hg, ho⟩ : ∃ o, h[id]? = some o ∧ o.isContainer = true := by
    rcases hc with ⟨k, aux, items, hg⟩ | ⟨k, aux, items, hg⟩ <;> exact ⟨_, hg, rfl⟩
  -- off the path the equation leaves the `empty` form or the node of the children: either is a container node
  rw [traverseObj_container cfg h fuel visited id root hg ho, hv, if_neg Bool.false_ne_true] at hres
  split at hres
  · cases hres; rfl
  · obtain ⟨kids, _, rfl⟩ := Option.map_eq_some_iff.mp hres
    rfl

/-- Every tree `traverse` produces is well-formed (so `layout_only` applies to it). -/
theorem traverse_wellformed (cfg : TravCfg) (h : Heap) (root : Nat) (n : Node)
    (ht : traverse cfg h root = some n) : n.wf = true :=
  traverseObj_wf cfg h _ _ _ _ n ht

/-- **abbrev_counts_exact (items).**  For a non-empty list / tuple / set / frozenset / deque / array of
`N` items: the children are the first `min N max_length` items, in order, followed — exactly when
`N > max_length` — by one node `... +(N - max_length)`; shown + reported = `N`. -/
theorem abbrev_counts_exact (cfg : TravCfg) (h : Heap) (fuel : Nat) (visited : List Nat) (id : Nat)
    (root : Bool) (k : SeqKind) (aux : Str) (items : List Nat) (n : Node)
    (hget : h[id]? = some (.seq k aux items)) (hv : visited.contains id = false)
    (hne : items.isEmpty = false) (hres : traverseObj cfg h (fuel + 1) visited id root = some n) :
    ∃ kids,
      optList ((enum 0 (shown cfg.maxLength items)).map fun (p : Nat × Nat) =>
        (traverseObj cfg h fuel (id :: visited) p.2 false).map (·.setLast (p.1 == items.length - 1))) = some kids ∧
      (match cfg.maxLength with
        | none => kids.length = items.length ∧ n.children = kids
        | some m =>
          kids.length = min m items.length ∧
          (items.length ≤ m → n.children = kids) ∧
          (m < items.length →
            n.children = kids ++ [moreMarker (items.length - m)] ∧
            (moreMarker (items.length - m)).valueRepr = "... +".toList ++ natStr (items.length - m) ∧
            kids.length + (items.length - m) = items.length)) := by
  obtain ⟨kids, hk, hlen, rfl⟩ := traverseObj_children cfg h fuel visited id root hget rfl hv (by simpa [HObj.items] using hne) hres
  simp only [HObj.items, shown_map, enum_map, List.map_map, List.length_map, Function.comp_def, childAttrs] at hk
  refine ⟨kids, hk, ?_⟩
  rw [shown_length] at hlen
  simp only [HObj.items, List.length_map] at hlen ⊢
  generalize cfg.maxLength = ml at hlen ⊢
  cases ml with
  | none => exact ⟨hlen, rfl⟩
  | some m =>
    have hlen : kids.length = min m items.length := hlen
    exact ⟨hlen, fun hle => if_neg (Nat.not_lt.mpr hle), fun hlt => ⟨if_pos hlt, rfl, by
      rw [hlen, Nat.min_eq_left (Nat.le_of_lt hlt), Nat.add_sub_cancel' (Nat.le_of_lt hlt)]⟩⟩

/-- The same for the mapping containers (dict, defaultdict, Counter, environ). -/
theorem abbrev_counts_exact_map (cfg : TravCfg) (h : Heap) (fuel : Nat) (visited : List Nat) (id : Nat)
    (root : Bool) (k : MapKind) (aux : Str) (items : List (Leaf × Nat)) (n : Node)
    (hget : h[id]? = some (.map k aux items)) (hv : visited.contains id = false)
    (hne : items.isEmpty = false) (hres : traverseObj cfg h (fuel + 1) visited id root = some n) :
    ∃ kids, kids.length = (match cfg.maxLength with | none => items.length | some m => min m items.length) ∧
      n.children = kids ++ (match cfg.maxLength with
        | some m => if items.length > m then [moreMarker (items.length - m)] else []
        | none => []) := by
  obtain ⟨kids, _, hlen, rfl⟩ := traverseObj_children cfg h fuel visited id root hget rfl hv (by simpa [HObj.items] using hne) hres
  rw [shown_length, HObj.items, List.length_map] at hlen
  refine ⟨kids, hlen, ?_⟩
  rw [Node.children, withMore_eq, HObj.items, List.length_map]; cases cfg.maxLength <;> rfl

/-- **abbrev_counts_exact (characters).**  For `max_string = m ≥ 0`: a `str`/`bytes` of `L > m` characters
is printed as the `repr` of its first `m` characters, `+`, and `L - m`; a shorter one in full.
(For a *negative* `max_string` — outside the documented domain — the code still truncates: it prints
`obj[:m]`, i.e. all but the last `|m|` characters, and reports `L + |m|`; the model does the same, see
`max_string_negative`.) -/
theorem max_string_exact (pyRepr : Bool → Str → Str) (m : Nat) (b : Bool) (cs : Str) :
    (m < cs.length → toRepr pyRepr (some (m : Int)) (.str b cs) = pyRepr b (cs.take m) ++ ['+'] ++ natStr (cs.length - m)
        ∧ (cs.take m).length + (cs.length - m) = cs.length) ∧
    (cs.length ≤ m → toRepr pyRepr (some (m : Int)) (.str b cs) = pyRepr b cs) ∧
    toRepr pyRepr none (.str b cs) = pyRepr b cs := by
  refine ⟨fun h => ⟨?_, by rw [List.length_take, Nat.min_eq_left (Nat.le_of_lt h), Nat.add_sub_cancel' (Nat.le_of_lt h)]⟩,
    fun h => ?_, rfl⟩
  · rw [toRepr, strRepr_some, if_pos (Int.ofNat_lt.mpr h), sliceTo_natCast, Int.toNat_sub]
  · rw [toRepr, strRepr_some, if_neg (Int.not_lt.mpr (Int.ofNat_le.mpr h))]

/-- What the code does with a negative `max_string` (not an abbreviation one can trust: the count it
reports is `L + |m|`, not the number of omitted characters). -/
theorem max_string_negative (pyRepr : Bool → Str → Str) (k : Nat) (b : Bool) (cs : Str) :
    toRepr pyRepr (some (-(k + 1 : Nat) : Int)) (.str b cs) =
      pyRepr b (cs.take (cs.length - (k + 1))) ++ ['+'] ++ natStr (cs.length + (k + 1)) := by
  have h : (cs.length : Int) > (-(k + 1 : Nat) : Int) := Int.lt_of_lt_of_le (Int.negSucc_lt_zero k) (Int.natCast_nonneg _)
  rw [toRepr, strRepr_some, if_pos h, sliceTo_neg, Int.sub_neg, ← Int.natCast_add, Int.toNat_natCast]

/-! ## End to end, and the second defect -/

/-- **pretty_repr, repaired code**: for every heap (cyclic or not), every option set and every width,
`pretty_repr` (repaired variant) returns a text, and the tree `traverse` produces under `cfg` renders (repaired
variant) to its one-line form up to layout.  (The two are the same tree when `cfg.variant` is the repaired one; the
statement does not say so for another variant, where the empty `array` form differs.) -/
theorem pretty_repr_layout_only (cfg : TravCfg) (h : Heap) (hok : HeapOk h) (root : Nat)
    (hr : root < h.length) (w ind : Int) (ea : Bool) :
    ∃ n, traverse cfg h root = some n ∧
      prettyRepr cw { cfg with variant := .repaired } h root w ind ea ≠ none ∧
      ((renderLines cw .repaired n w ind ea).map Line.compact).flatten = n.compact := by
  obtain ⟨n, hn⟩ := cycle_marker cfg h hok root hr
  obtain ⟨n', hn'⟩ := cycle_marker { cfg with variant := .repaired } h hok root hr
  exact ⟨n, hn, by simp [prettyRepr, hn'], layout_only cw n (traverse_wellformed cfg h root n hn) w ind ea⟩

def cfg0 (v : Variant) : TravCfg := { pyRepr := fun _ s => s, variant := v, maxLength := none, maxString := none }

/-- **F12 (rich 9.10.0 as found, before fix e5d1b9a).**  An empty `array('i')` is printed as the literal text
`array({_object.typecode!r})` (the f-string prefix is missing in `_get_braces_for_array`). -/
theorem old_empty_array_literal :
    (traverse (cfg0 .today) [.seq .array "'i'".toList []] 0).map Node.str
      = some "array({_object.typecode!r})".toList := by decide +kernel

/-- The repaired code prints `array('i')`. -/
theorem repaired_empty_array :
    (traverse (cfg0 .repaired) [.seq .array "'i'".toList []] 0).map Node.str = some "array('i')".toList := by
  decide +kernel

/-! ## `Pretty.__rich_measure__` (the Pretty clause of C09) and options outside their domain -/

/-- **pretty_measure_sound** (code that passes `expand_all` to the measurement, i.e. /repo since fix db5535b;
`margin = 0`).
If `__rich_measure__` at an available width `W` reports `Measurement(m, m)`, then rendering the same
object at width `m` yields only lines of at most `m` cells — for every tree, `W`, indent and
`expand_all`.  Hypotheses: blanks are one cell wide, and the only line breaks in the text measured are
the layout's (no leaf `repr` contains a line boundary). -/
theorem pretty_measure_sound (hs : cw ' ' = 1) (v : Variant) (hv : v.measureNoExpandAll = false)
    (n : Node) (W ind : Int) (ea : Bool) (m : Nat)
    (hb : ∀ l ∈ renderLines cw v n W ind ea, noBreak l.str)
    (hm : prettyMeasure cw v n W ind ea = .ok m) :
    ∀ l ∈ renderLines cw v n (m : Int) ind ea, cellLen cw l.str ≤ m := by
  have hW : ∀ l ∈ renderLines cw v n W ind ea, cellLen cw l.str ≤ m := fun l hl =>
    cellLen_le_of_noBreak cw (hb l hl) (prettyMeasure_ge_pieces cw v hv n W ind ea m hm l hl)
  exact renderLines_rebound cw hs v n W ind ea m _ (fun _ h => h) hW fun l hl _ => hW l hl

/-- the tree of `[['a']]`. -/
def nestedList : Node :=
  .mk [] [] ['['] [']'] [] true false true
    [.mk [] [] ['['] [']'] [] true false true [.mk [] "'a'".toList [] [] [] true false false []]]

/-- **F26 (rich 9.10.0 as found, before fix db5535b; `Variant.current` = the first two fixes only).**
`__rich_measure__` calls `pretty_repr` without `expand_all`:
`Pretty([['a']], expand_all=True)` measures 7 (the one-line form) but renders, at width 7, the line
`        'a'` of 11 cells — a container sized from the measurement (Panel.fit, a table column) crops it. -/
theorem old_pretty_measure_unsound :
    prettyMeasure (fun _ => 1) .current nestedList 80 4 true = .ok 7 ∧
    ∃ l ∈ specLine ⟨fun _ => 1, .current, 7, 4, true⟩ (rootLine nestedList) nestedList,
      cellLen (fun _ => 1) l.str = 11 := by
  unfold nestedList
  rw [String.toList_ofList, prettyMeasure_eq_spec]
  decide +kernel

/-- the repaired measurement of the same value is 11. -/
theorem repaired_pretty_measure :
    prettyMeasure (fun _ => 1) .repaired nestedList 80 4 true = .ok 11 := by
  unfold nestedList
  rw [String.toList_ofList, prettyMeasure_eq_spec]
  decide +kernel

/-- The error branch: an object whose `repr()` is empty renders as the empty string, which has no
lines, and `__rich_measure__` raises `ValueError` (`max()` of an empty sequence). -/
theorem measure_of_empty_repr_raises (v : Variant) (W ind : Int) (ea : Bool) :
    prettyMeasure cw v (.mk [] [] [] [] [] true false false []) W ind ea = .error .valueError := by
  unfold prettyMeasure render; rw [render_is_spec]
  simp [specLine, joinLines, List.intercalate, Line.str, rootLine, Node.str, Node.tokens, splitlines, splitLoop, pyMax]

/-- **The root's `last` flag is unobservable** in the code with fix 376cec1 (the closing line carries its
line's suffix): the rendered text does not depend on it.  (Children's `last` flags decide the
separators; in the code as found the root's flag decided the suffix of the root's closing line.) -/
theorem root_last_unobservable (v : Variant) (hv : v.dropSuffix = false) (n : Node) (b : Bool)
    (w ind : Int) (ea : Bool) :
    render cw v (n.setLast b) w ind ea = render cw v n w ind ea := by
  unfold render
  rw [render_is_spec, render_is_spec]
  have := specLine_setLast_str ⟨cw, v, w, ind, ea⟩ hv n { isRoot := true } b
  simp only [rootLine] at this ⊢
  rw [this]

/-- **Domain of `max_length`.**  A negative `max_length` makes `traverse` raise `ValueError` exactly when
the root is a non-empty container, and is otherwise never looked at; a non-negative one is the
natural number the other theorems speak about. -/
theorem max_length_domain (pyRepr : Bool → Str → Str) (v : Variant) (m : Int) (ms : Option Int)
    (h : Heap) (root : Nat) :
    (m < 0 → traverseAny pyRepr v (some m) ms h root =
      if nonEmptyContainer h root then .error .valueError
      else .ok (traverse ⟨pyRepr, v, none, ms⟩ h root)) ∧
    (0 ≤ m → traverseAny pyRepr v (some m) ms h root = .ok (traverse ⟨pyRepr, v, some m.toNat, ms⟩ h root)) := by
  refine ⟨fun hm => by simp [traverseAny, hm], fun hm => ?_⟩
  simp [traverseAny, Int.not_lt.mpr hm]

/-- **Domain of `max_width`**: for a negative (or zero) `max_width`, when the containers kept on one line have a
one-line form of non-zero width (`hpos`), no line of the output holds a non-empty container: every one is expanded, at
every level.  (The proof shows more, the output is the `expand_all` output: `Pretty.specLine_nonpos`.) -/
theorem nonpositive_width_is_expand_all (v : Variant) (n : Node) (w ind : Int) (hneg : w ≤ 0)
    (hpos : ∀ l ∈ renderLines cw v n w ind false, ∀ m, l.node = some m → m.expandable = true → 0 < cellLen cw m.str) :
    ∀ l ∈ renderLines cw v n w ind false, l.expandable = false := by
  have heq : renderLines cw v n w ind false = renderLines cw v n w ind true := by
    rw [render_is_spec] at hpos ⊢
    rw [render_is_spec, specLine_nonpos ⟨cw, v, w, ind, false⟩ hneg n (rootLine n) rfl rfl hpos]
  rw [heq]
  exact expand_all_expands_all cw v n w ind

/-! ## Everything `Pretty.__rich_console__` yields; the measurement with line boundaries inside leaf reprs and with
a margin -/

/-- **console_chars_exact.**  Without indent guides (`indent_guides` off, or an `ascii_only` console) the characters
`Pretty.__rich_console__` yields are exactly those of `pretty_repr` at `options.max_width - margin` with the
`Pretty`'s own `indent_size` / `expand_all` (minus the four control codes `Text.__init__` strips), preceded by one
empty renderable exactly when `insert_line` is set and that text has a line break — for every tree, width, margin and
option set; `justify` / `overflow` are Python's `or`, `no_wrap` is `pick_bool`.  The highlighter does not occur: it is
a span source. -/
theorem console_chars_exact (v : Variant) (n : Node) (p : PrettyOpts) (o : ConsoleOpts)
    (hg : (p.indentGuides && !o.asciiOnly) = false) :
    prettyConsoleFull cw v n p o = .ok
      { parts := (if p.insertLine &&
            (stripControl (render cw v n (o.maxWidth - p.margin) p.indentSize p.expandAll)).contains '\n'
          then [[]] else []) ++ [stripControl (render cw v n (o.maxWidth - p.margin) p.indentSize p.expandAll)],
        justify := strOr p.justify o.justify,
        overflow := strOr p.overflow o.overflow,
        noWrap := pickBool p.noWrap o.noWrap } := by
  simp only [prettyConsoleFull, hg, Bool.false_eq_true, if_false]
  rfl

/-- …and that text is what `pretty_repr(obj, max_width=options.max_width - margin, indent_size=…, max_length=…,
max_string=…, expand_all=…)` returns for the object (any heap, options as Python receives them). -/
theorem console_is_pretty_repr (pyRepr : Bool → Str → Str) (v : Variant) (ml ms : Option Int) (h : Heap)
    (root : Nat) (n : Node) (p : PrettyOpts) (o : ConsoleOpts)
    (ht : traverseAny pyRepr v ml ms h root = .ok (some n))
    (hg : (p.indentGuides && !o.asciiOnly) = false) :
    ∃ s, prettyReprAny cw pyRepr v ml ms h root (o.maxWidth - p.margin) p.indentSize p.expandAll = .ok (some s) ∧
      (prettyConsoleFull cw v n p o).map (·.parts) =
        .ok ((if p.insertLine && (stripControl s).contains '\n' then [[]] else []) ++ [stripControl s]) := by
  refine ⟨render cw v n (o.maxWidth - p.margin) p.indentSize p.expandAll, ?_, ?_⟩
  · simp only [prettyReprAny, ht]; rfl
  · rw [console_chars_exact cw v n p o hg]; rfl

/-- a text without the four stripped control codes goes through `Text.__init__` unchanged. -/
theorem stripControl_id (s : Str)
    (h : ∀ c ∈ s, ¬ (c.toNat = 8 ∨ c.toNat = 11 ∨ c.toNat = 12 ∨ c.toNat = 13)) : stripControl s = s :=
  -- `stripControl` is `Syntax.stripCtl`, modelled once for each of the two properties
  Syntax.stripCtl_eq_self fun c hc => by simpa [Syntax.isStripCtl, and_assoc] using h c hc

/-- **console_guides_chars.**  With indent guides (`indent_guides` on, console not `ascii_only`), a positive
`indent_size` and no blank line in the text: `__rich_console__` yields the same lines, each with the same number of
characters and the same characters after its indentation; the indentation itself — `n` blanks — has become
`new_indent`: `n` characters, each a blank or the guide character, one guide at every whole multiple of
`indent_size`.  The inserted empty renderable is decided on the guided text. -/
theorem console_guides_chars (v : Variant) (n : Node) (p : PrettyOpts) (o : ConsoleOpts)
    (hk : 0 < p.indentSize) (hg : (p.indentGuides && !o.asciiOnly) = true)
    (hnb : noBlankLine (Syntax.textSplitC
      (stripControl (render cw v n (o.maxWidth - p.margin) p.indentSize p.expandAll)) false)) :
    (prettyConsoleFull cw v n p o).map (·.parts) = .ok
      (let t := Syntax.joinNL ((Syntax.textSplitC
          (stripControl (render cw v n (o.maxWidth - p.margin) p.indentSize p.expandAll)) false).map
            (guideLine p.indentSize))
       (if p.insertLine && t.contains '\n' then [[]] else []) ++ [t]) ∧
    ∀ l : Str, (guideLine p.indentSize l).length = l.length ∧
      (guideLine p.indentSize l).drop (Syntax.leadSpaces l) = l.drop (Syntax.leadSpaces l) ∧
      (guideLine p.indentSize l).take (Syntax.leadSpaces l) = Syntax.newIndent p.indentSize.toNat (Syntax.leadSpaces l) ∧
      (Syntax.newIndent p.indentSize.toNat (Syntax.leadSpaces l)).length = Syntax.leadSpaces l ∧
      ∀ c ∈ Syntax.newIndent p.indentSize.toNat (Syntax.leadSpaces l), c = ' ' ∨ c = Syntax.guideChar := by
  refine ⟨?_, fun l => ⟨guideLine_length _ hk l, guideLine_rest _ hk l, guideLine_indent _ hk l,
    newIndent_length _ _ (Int.lt_toNat.mpr hk), newIndent_chars _ _⟩⟩
  simp only [prettyConsoleFull, hg, if_true, withIndentGuides, guideLoopI_noBlank _ (Int.ne_of_gt hk) _ hnb]
  rfl

/-- `indent_size = 0` with guides: `divmod(len(indent), 0)` raises at the first line that is not blank. -/
theorem console_guides_zero_raises (l : Str) (rest : List Str)
    (hl : (l.drop (Syntax.leadSpaces l)).isEmpty = false) :
    guideLoopI 0 0 (l :: rest) = .error .zeroDivision := by
  rw [guideLoopI]; simp [hl]

/-- **pretty_measure_sound_pieces** (extends `pretty_measure_sound` to leaf reprs that contain line boundaries —
rich measures by the longest piece `str.splitlines` finds).  If `__rich_measure__` at an available width `W` reports
`m`, then every piece of every line rendered at width `m` is at most `m` cells — provided the *container lines kept
on one line at `W`* contain no line boundary (a multi-line repr on a line of its own, at any depth, is fine).  The
hypothesis cannot be dropped: `kept_line_break_needed`. -/
theorem pretty_measure_sound_pieces (hs : cw ' ' = 1) (v : Variant) (hv : v.measureNoExpandAll = false)
    (n : Node) (W ind : Int) (ea : Bool) (m : Nat)
    (hb : ∀ l ∈ renderLines cw v n W ind ea, l.expandable = true → noBreak l.str)
    (hm : prettyMeasure cw v n W ind ea = .ok m) :
    ∀ l ∈ renderLines cw v n (m : Int) ind ea, ∀ p ∈ splitlines l.str, cellLen cw p ≤ m := by
  have hW := prettyMeasure_ge_pieces cw v hv n W ind ea m hm
  exact renderLines_rebound cw hs v n W ind ea m _
    (fun l h p hp => Nat.le_trans (splitlines_piece_le cw _ p hp) h) hW
    fun l hl he => cellLen_le_of_noBreak cw (hb l hl he) (hW l hl)

/-- the tree of `[R, 'bbbbbbbb']` where `repr(R)` is `"a\n"`. -/
def breakInList : Node :=
  .mk [] [] ['['] [']'] [] true false true
    [.mk [] ['a', '\n'] [] [] [] false false false [], .mk [] "'bbbbbbbb'".toList [] [] [] true false false []]

/-- The hypothesis of `pretty_measure_sound_pieces` is needed: `check_length` adds up the cells of a whole line,
`__rich_measure__` takes the longest piece.  `[R, 'bbbbbbbb']` with `repr(R) == "a\n"` measures 13 (the piece
`, 'bbbbbbbb']`), does not fit 13 as a whole (15 cells), is expanded at width 13 and then has the line
`    'bbbbbbbb'` of 14 cells.  (Outside C16's statement: only an object with a custom multi-line `__repr__` inside a
container that fits gets there; `repr` of `str` / `bytes` escapes every line boundary.) -/
theorem kept_line_break_needed :
    prettyMeasure (fun _ => 1) .repaired breakInList 80 4 false = .ok 13 ∧
    ∃ l ∈ specLine ⟨fun _ => 1, .repaired, 13, 4, false⟩ (rootLine breakInList) breakInList,
      cellLen (fun _ => 1) l.str = 14 := by
  unfold breakInList
  rw [String.toList_ofList, prettyMeasure_eq_spec]
  decide +kernel

/-- **pretty_measure_sound_margin** (the repaired measurement, `margin ≥ 0`).  `__rich_console__` renders at
`options.max_width - margin`.  If the measurement at available width `W` reports `M`, then what `__rich_console__`
renders when given exactly `M` — `pretty_repr` at `M - margin` — has no piece wider than `M`. -/
theorem pretty_measure_sound_margin (hs : cw ' ' = 1) (v : Variant) (hv : v.measureNoExpandAll = false)
    (n : Node) (W ind : Int) (ea : Bool) (margin : Int) (hmg : 0 ≤ margin) (M : Int)
    (hb : ∀ l ∈ renderLines cw v n (W - margin) ind ea, l.expandable = true → noBreak l.str)
    (hm : prettyMeasureM false cw v n W ind ea margin = .ok M) :
    ∀ l ∈ renderLines cw v n (M - margin) ind ea, ∀ p ∈ splitlines l.str, (cellLen cw p : Int) ≤ M := by
  rw [prettyMeasureM, if_neg Bool.false_ne_true] at hm
  cases h : prettyMeasure cw v n (W - margin) ind ea with
  | error e => rw [h] at hm; cases hm
  | ok m =>
    rw [h] at hm
    cases hm
    rw [Int.add_sub_cancel]
    intro l hl p hp
    exact Int.le_trans (Int.ofNat_le.mpr (pretty_measure_sound_pieces cw hs v hv n (W - margin) ind ea m hb h l hl p hp))
      (Int.le_add_of_nonneg_right hmg)

/-- the tree of `[['aaaa']]`. -/
def nestedList4 : Node :=
  .mk [] [] ['['] [']'] [] true false true
    [.mk [] [] ['['] [']'] [] true false true [.mk [] "'aaaa'".toList [] [] [] true false false []]]

/-- **`__rich_measure__` ignored `margin`** (rich 9.10.0 as found, before fix f3605d0).  `Pretty([['aaaa']], margin=1)`
measures 10 (the one-line form) at available width 80; given exactly 10, `__rich_console__` renders `pretty_repr` at
width 9, where nothing fits on one line any more, and yields the line `        'aaaa'` of 14 cells: `Panel.fit`
crops the value. -/
theorem old_pretty_measure_margin_unsound :
    prettyMeasureM true (fun _ => 1) .repaired nestedList4 80 4 false 1 = .ok 10 ∧
    ∃ l ∈ specLine ⟨fun _ => 1, .repaired, 10 - 1, 4, false⟩ (rootLine nestedList4) nestedList4,
      cellLen (fun _ => 1) l.str = 14 := by
  unfold nestedList4
  rw [String.toList_ofList, prettyMeasureM, if_pos rfl, prettyMeasure_eq_spec]
  decide +kernel

/-- the repaired measurement of the same value is 11: rendered at 11 - 1 the one-line form (10 cells) fits. -/
theorem repaired_pretty_measure_margin :
    prettyMeasureM false (fun _ => 1) .repaired nestedList4 80 4 false 1 = .ok 11 ∧
    (specLine ⟨fun _ => 1, .repaired, 11 - 1, 4, false⟩ (rootLine nestedList4) nestedList4).map Line.str
      = ["[['aaaa']]".toList] := by
  unfold nestedList4
  rw [String.toList_ofList, String.toList_ofList, prettyMeasureM, if_neg Bool.false_ne_true, prettyMeasure_eq_spec]
  decide +kernel

/-! ## Non-vacuity: the hypotheses are met by concrete non-trivial values -/

/-- `a = [1, a]` (a self-referential list): the heap is well-formed, `traverse` ends with the marker. -/
example : HeapOk [.seq .list [] [1, 0], .leaf (.atom ['1']) false] := by
  intro o ho
  simp only [List.mem_cons, List.not_mem_nil, or_false] at ho
  rcases ho with rfl | rfl <;> simp
example : (traverse (cfg0 .today) [.seq .list [] [1, 0], .leaf (.atom ['1']) false] 0).map Node.str
    = some "[1, ...]".toList := by rw [String.toList_ofList]; decide +kernel
/-- the F24 tree is well-formed and expandable; at width 3 it does not fit. -/
example : tupleOfList.wf = true ∧ tupleOfList.expandable = true ∧ ¬ cellLen (fun _ => 1) tupleOfList.str ≤ 3 := by decide +kernel
example : tupleOfList.str = "([1, 2],)".toList ∧ tupleOfList.compact = "([1,2],)".toList := by
  repeat rw [String.toList_ofList]
  decide +kernel
/-- abbreviation: 3 items, `max_length = 1`. -/
example : (traverse { cfg0 .today with maxLength := some 1 }
    [.seq .tuple [] [1, 1, 1], .leaf (.atom ['7']) false] 0).map Node.str = some "(7, ... +2)".toList := by
  rw [String.toList_ofList]; decide +kernel
example : toRepr (fun _ s => ['\''] ++ s ++ ['\'']) (some 2) (.str false "hello".toList) = "'he'+3".toList := by
  repeat rw [String.toList_ofList]
  decide +kernel

/-- a multi-line repr on a line of its own inside an expanded list meets the hypothesis of
`pretty_measure_sound_pieces` (no kept container line at `W = 3`), and is measured by its longest piece. -/
def multiLineInList : Node :=
  .mk [] [] ['['] [']'] [] true false true [.mk [] "ab\ncdefgh".toList [] [] [] true false false []]
example : prettyMeasure (fun _ => 1) .repaired multiLineInList 3 4 false = .ok 6 ∧
    ∀ l ∈ specLine ⟨fun _ => 1, .repaired, 3, 4, false⟩ (rootLine multiLineInList) multiLineInList,
      l.expandable = false := by
  unfold multiLineInList
  rw [String.toList_ofList, prettyMeasure_eq_spec]
  decide +kernel
/-- guides: `    1,` with `indent_size = 4` becomes `│   1,`; the text of the F24 tree at width 3 has no blank line. -/
example : guideLine 4 "    1,".toList = "│   1,".toList := by
  repeat rw [String.toList_ofList]
  decide +kernel
example : noBlankLine (Syntax.textSplitC "(\n    [\n        1,\n    ],\n)".toList false) := by
  rw [String.toList_ofList]; unfold noBlankLine; decide +kernel
example : withIndentGuides 4 "(\n    [\n        1,\n    ],\n)".toList = .ok "(\n│   [\n│   │   1,\n│   ],\n)".toList := by
  repeat rw [String.toList_ofList]
  decide +kernel

end RichModel.C16
