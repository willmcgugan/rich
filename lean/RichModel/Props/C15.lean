import RichModel.Lemmas.Console
import RichModel.Lemmas.ConsoleHtml
import RichModel.Lemmas.ConsoleNest
import RichModel.Lemmas.ConsoleDoc
import RichModel.Lemmas.ConsolePrint
import RichModel.Props.C02
import RichModel.Lemmas.ConsoleFormat
import RichModel.Lemmas.ConsoleLogTime
/-!
# C15 — recording, capture and export agree with what was written

Property theorems only (helper lemmas live in `Lemmas/Console`, `Lemmas/Html`, `Lemmas/ConsoleHtml`, `Lemmas/ConsoleNest`,
`Lemmas/ConsoleDoc`, `Lemmas/ConsolePrint`, `Lemmas/ConsoleFormat`, `Lemmas/ConsoleLogTime`).  What `print` of plain
strings appends to the buffer is derived in `Model/ConsolePrint.lean` (`print_plain_segments`,
`export_text_of_prints`); the default `code_format` is the table
`Gen/ConsoleHtmlFormat.lean`, regenerated from rich/console.py on every run (`export_html_document_default…`).

The model (`Model/Console.lean`) is parameterised by the code variant.  The theorems are proved for the
*repaired* behaviour (`recordInRender = false`: the record is appended to where the file is written,
`mergeCtl = false`: the `Segment.simplify` after fix b97fe77, for the HTML text either `escapeHref = true` or links
free of `>`, and for nested capture blocks `captureMarks = true`); the `old_…` / `nested_capture_steals` witnesses show, by
evaluation, that rich 9.10.0 as found (`Console.Variant.today` — the name dates from before the `fix:` commits
114bbe8, e488480, 1202b8a) violates the statement; /repo now contains `Console.Variant.repaired`.

Vocabulary: `exec v cfg env ops s` is the state after the history `ops`; `s.file` is the list of strings
written to the file, each kept as the pieces it is made of; `fileVisible` is the text of the non-control
pieces — "everything except escape sequences and control codes"; `exportPlain s.record` is what
`export_text(styles=False)` returns in state `s` (`step_exportText_returns`).
-/
namespace RichModel.C15
open RichModel RichModel.Console

variable {σ : Type} [BEq σ]

/-! ## exports return functions of the record; clear / no clear -/

/-- What the two `export_text` flavours return. -/
theorem step_exportText_returns (v : Console.Variant) (cfg : Config) (env : StyleEnv σ) (s : State σ) (clr : Bool)
    (hr : cfg.record = true) :
    (step v cfg env s (.exportText clr false)).2 = .exported (exportPlain s.record) ∧
    (step v cfg env s (.exportText clr true)).2 = .exported (flat (exportStyledPieces env s.record)) := by
  simp [step, hr]

/-- **clear_semantics.**  An export with `clear=True` empties the record, with `clear=False` leaves it unchanged;
either way it returns the same value, and touches neither the file, the buffer nor the capture depth.
On a console that does not record, exports fail (`assert self.record`) and change nothing. -/
theorem clear_semantics (v : Console.Variant) (cfg : Config) (env : StyleEnv σ) (s : State σ) (op : Op σ)
    (hop : (∃ clr st, op = .exportText clr st) ∨ (∃ clr inl o, op = .exportHtml clr inl o)) :
    (cfg.record = true →
      (step v cfg env s op).1.record = (if isClearing op then [] else s.record) ∧
      (∀ op', (op' = match op with
          | .exportText _ st => .exportText false st
          | .exportHtml _ inl o => .exportHtml false inl o
          | o => o) → (step v cfg env s op').2 = (step v cfg env s op).2)) ∧
    (cfg.record = false → (step v cfg env s op).2 = .assertionError ∧ (step v cfg env s op).1.record = s.record) ∧
    (step v cfg env s op).1.file = s.file ∧ (step v cfg env s op).1.buffer = s.buffer ∧
    (step v cfg env s op).1.index = s.index := by
  rcases hop with ⟨clr, st, rfl⟩ | ⟨clr, inl, o, rfl⟩ <;>
  · refine ⟨fun hr => ⟨by cases clr <;> simp [step, hr, isClearing], fun op' h => by subst h; simp [step, hr]⟩,
      fun hr => by simp [step, hr], ?_⟩
    rw [(step_export v cfg env s _ rfl).1]
    exact ⟨rfl, rfl, rfl⟩

/-! ## the record is what reached the file -/

/-- **Core invariant, for every history without a clearing export, from every state** (repaired variant,
recording console): there are buffers `b₁ … bₙ` such that the record grew by exactly `b₁ ++ … ++ bₙ` and the
file by exactly their non-empty renderings, in the same order.  Segments are appended to the record at the
point they are rendered for the file, and nowhere else. -/
theorem record_tracks_file (v : Console.Variant) (cfg : Config) (env : StyleEnv σ) (ops : List (Op σ)) (s : State σ)
    (hv : v.recordInRender = false) (hr : cfg.record = true)
    (hops : ops.all (fun op => !isClearing op) = true) :
    ∃ bufs : List (List (Segment σ)),
      (exec v cfg env ops s).record = s.record ++ bufs.flatten ∧
      (exec v cfg env ops s).file = s.file ++ written cfg env bufs :=
  exec_tracks v cfg env ops s hv hr hops

/-- **export_text_eq_visible (from the start).**  After any history without a clearing export, the exported text
is the visible text written to the file — for every colour system, terminal or not, NO_COLOR or not. -/
theorem export_text_eq_visible_from_start (v : Console.Variant) (cfg : Config) (env : StyleEnv σ) (ops : List (Op σ))
    (hv : v.recordInRender = false) (hr : cfg.record = true)
    (hops : ops.all (fun op => !isClearing op) = true) :
    exportPlain (exec v cfg env ops {}).record = fileVisible (exec v cfg env ops {}).file := by
  obtain ⟨W, hf, he⟩ := (exec_tracks v cfg env ops {} hv hr hops).export_eq_visible rfl
  rw [he, hf]
  rfl

/-- **export_text_eq_visible (general).**  Take any history `pre`, then a clearing export `e`, then any history
`post` without a clearing export, from any state.  What `export_text()` returns afterwards is exactly the
visible text of what `post` wrote to the file (`W`), in the same order. -/
theorem export_text_eq_visible (v : Console.Variant) (cfg : Config) (env : StyleEnv σ)
    (pre post : List (Op σ)) (e : Op σ) (s0 : State σ) (clr : Bool)
    (hv : v.recordInRender = false) (hr : cfg.record = true) (he : isClearing e = true)
    (hpost : post.all (fun op => !isClearing op) = true) :
    ∃ W, (exec v cfg env (pre ++ [e] ++ post) s0).file = (exec v cfg env (pre ++ [e]) s0).file ++ W ∧
      (step v cfg env (exec v cfg env (pre ++ [e] ++ post) s0) (.exportText clr false)).2 = .exported (fileVisible W) := by
  have hclear : (exec v cfg env (pre ++ [e]) s0).record = [] := by
    rw [exec_append, exec_cons, exec_nil]
    exact step_clearing_record v cfg env _ e hr he
  obtain ⟨W, hf, he⟩ := (exec_tracks v cfg env post (exec v cfg env (pre ++ [e]) s0) hv hr hpost).export_eq_visible hclear
  rw [(step_exportText_returns v cfg env _ clr hr).1, exec_append (a := pre ++ [e]), he]
  exact ⟨W, hf, rfl⟩

/-! ## HTML export -/

/-- **unescape ∘ escape = id** at string level, for every string (`escape` is `export_html`'s three
`str.replace` calls; `unescape` decodes `&amp;` `&lt;` `&gt;`). -/
theorem unescape_escape (s : List Char) : unescape (escape s) = s := Console.unescape_escape s

/-- **export_html_text.**  The `{code}` part of the HTML export, *as a string*, with tags removed and entities
decoded, is the exported plain text — for both `inline_styles` modes, every record, every style table whose CSS
rules contain no `>` (and, for the code that writes links verbatim, whose links contain no `>`). -/
theorem export_html_text [LawfulBEq σ] (v : Console.Variant) (env : StyleEnv σ) (inline : Bool) (record : List (Segment σ))
    (hm : v.mergeCtl = false) (hsafe : TagSafe v env) :
    htmlDecode (flatFrags (exportHtmlParts v env inline record).1) = exportPlain record := by
  have h := exportHtmlParts_ok v env inline record hm
  rw [htmlDecode, stripTags_flatFrags _ (h.ok hsafe), h.text, Console.unescape_escape]

/-- With the repaired `href` (escaped like any attribute value) no assumption on links is needed. -/
theorem export_html_text_repaired [LawfulBEq σ] (v : Console.Variant) (env : StyleEnv σ) (inline : Bool)
    (record : List (Segment σ)) (hm : v.mergeCtl = false) (he : v.escapeHref = true)
    (hrule : ∀ s, '>' ∉ env.htmlRule s) :
    htmlDecode (flatFrags (exportHtmlParts v env inline record).1) = exportPlain record :=
  export_html_text v env inline record hm ⟨hrule, fun h => by simp [he] at h⟩

/-- Hence, after any history without a clearing export, the HTML text is the visible text written to the file. -/
theorem export_html_eq_visible_from_start [LawfulBEq σ] (v : Console.Variant) (cfg : Config) (env : StyleEnv σ)
    (ops : List (Op σ)) (inline : Bool)
    (hv : v.recordInRender = false) (hm : v.mergeCtl = false) (hsafe : TagSafe v env) (hr : cfg.record = true)
    (hops : ops.all (fun op => !isClearing op) = true) :
    htmlDecode (flatFrags (exportHtmlParts v env inline (exec v cfg env ops {}).record).1) =
      fileVisible (exec v cfg env ops {}).file := by
  rw [export_html_text v env inline _ hm hsafe, export_text_eq_visible_from_start v cfg env ops hv hr hops]

/-- The segments the HTML export walks carry the record's visible characters in the record's styles
(`Segment.simplify` + `filter_control` lose nothing but control segments). -/
theorem export_html_styles [LawfulBEq σ] (v : Console.Variant) (env : StyleEnv σ) (record : List (Segment σ))
    (hm : v.mergeCtl = false) :
    segStream env (htmlSegments v record) = segStream env record :=
  htmlSegments_segStream v hm env record

/-! ## the whole HTML document -/

/-- **export_html_document.**  For *any* `code_format` that contains the `{code}` placeholder once (`a`, `b`: the
template before and after it), any `{stylesheet}` / `{foreground}` / `{background}` and any record: the document is
`pre ++ code ++ post`, where `code` is exactly the fragments of `export_html_text` — the substitution keeps it
intact — and `pre`, `post` are the rest of the template filled in (they do not depend on the code).  If `pre` ends
outside an HTML tag, the document with its tags removed is the template's text, the escaped exported text, the
template's text; decoding the entities of the middle part gives the exported text (`unescape_escape`). -/
theorem export_html_document [LawfulBEq σ] (v : Console.Variant) (env : StyleEnv σ) (inline : Bool) (o : HtmlOpts)
    (record : List (Segment σ)) (a b : List TItem) (ht : o.template = a ++ [TItem.code] ++ b)
    (ha : TItem.code ∉ a) (hb : TItem.code ∉ b) (hm : v.mergeCtl = false) (hsafe : TagSafe v env) :
    exportHtml v env inline o record =
        formatTemplate { o with template := a } [] (exportHtmlParts v env inline record).2 ++
          flatFrags (exportHtmlParts v env inline record).1 ++
          formatTemplate { o with template := b } [] (exportHtmlParts v env inline record).2 ∧
    (tagState false (formatTemplate { o with template := a } [] (exportHtmlParts v env inline record).2) = false →
      stripTags (exportHtml v env inline o record) =
        stripTags (formatTemplate { o with template := a } [] (exportHtmlParts v env inline record).2) ++
          escape (exportPlain record) ++
          stripTags (formatTemplate { o with template := b } [] (exportHtmlParts v env inline record).2)) := by
  have h1 : exportHtml v env inline o record = _ :=
    formatTemplate_code_once o a b ht ha hb (exportHtmlParts v env inline record).2
      (flatFrags (exportHtmlParts v env inline record).1)
  have h := exportHtmlParts_ok v env inline record hm
  refine ⟨h1, fun hpre => ?_⟩
  rw [h1, stripTags_document _ _ _ (h.ok hsafe) hpre, h.text]

/-- The default `code_format`, as translated from rich/console.py on this run, contains `{code}` exactly once, and the
text before it ends outside a tag whenever the placeholders before it expand to text without `<`
(obligations on the generated table). -/
theorem default_template_code_once :
    defaultTemplate = defaultTemplate.takeWhile (· != TItem.code) ++ [TItem.code] ++
        (defaultTemplate.dropWhile (· != TItem.code)).drop 1 ∧
    TItem.code ∉ defaultTemplate.takeWhile (· != TItem.code) ∧
    TItem.code ∉ (defaultTemplate.dropWhile (· != TItem.code)).drop 1 ∧
    templateScan false (defaultTemplate.takeWhile (· != TItem.code)) = some false := by decide +kernel

/-- **The default document.**  With rich's own template, colours and CSS rules free of `<` and `>`: the whole
document with its tags removed is the template's text around the escaped exported text. -/
theorem export_html_document_default [LawfulBEq σ] (v : Console.Variant) (env : StyleEnv σ) (inline : Bool) (o : HtmlOpts)
    (record : List (Segment σ)) (ht : o.template = defaultTemplate) (hm : v.mergeCtl = false) (hsafe : TagSafe v env)
    (hrule : ∀ s, '<' ∉ env.htmlRule s) (hf : '<' ∉ o.foreground) (hb : '<' ∉ o.background) :
    ∃ pre post, exportHtml v env inline o record = pre ++ flatFrags (exportHtmlParts v env inline record).1 ++ post ∧
      stripTags (exportHtml v env inline o record) = stripTags pre ++ escape (exportPlain record) ++ stripTags post := by
  obtain ⟨h1, h2, h3, h4⟩ := default_template_code_once
  obtain ⟨e1, e2⟩ := export_html_document v env inline o record _ _ (ht ▸ h1) h2 h3 hm hsafe
  exact ⟨_, _, e1, e2 (filled_outside v env inline record o hrule hf hb _ h4)⟩

/-- The literal text of the default template contains no `&` (obligation on the generated table): nothing in the
template can be mistaken for an entity. -/
theorem default_template_no_ampersand :
    litsNoAmp (defaultTemplate.takeWhile (· != TItem.code)) = true ∧
    litsNoAmp ((defaultTemplate.dropWhile (· != TItem.code)).drop 1) = true := by decide +kernel

/-- **The default document, tags removed and entities decoded.**  With rich's own template, colours and CSS rules free
of `<`, `>` and `&`: decoding the *whole document* gives the template's text, then exactly the exported text, then
the template's text — the entity decoding touches nothing but the code. -/
theorem export_html_document_default_decoded [LawfulBEq σ] (v : Console.Variant) (env : StyleEnv σ) (inline : Bool)
    (o : HtmlOpts) (record : List (Segment σ)) (ht : o.template = defaultTemplate) (hm : v.mergeCtl = false)
    (hsafe : TagSafe v env) (hrule : ∀ s, '<' ∉ env.htmlRule s) (hamp : ∀ s, '&' ∉ env.htmlRule s)
    (hf : '<' ∉ o.foreground) (hb : '<' ∉ o.background) (hf' : '&' ∉ o.foreground) (hb' : '&' ∉ o.background) :
    ∃ pre post, exportHtml v env inline o record = pre ++ flatFrags (exportHtmlParts v env inline record).1 ++ post ∧
      htmlDecode (exportHtml v env inline o record) = stripTags pre ++ exportPlain record ++ stripTags post := by
  obtain ⟨h1, h2, h3, h4⟩ := default_template_code_once
  obtain ⟨n1, n2⟩ := default_template_no_ampersand
  obtain ⟨e1, e2⟩ := export_html_document v env inline o record _ _ (ht ▸ h1) h2 h3 hm hsafe
  refine ⟨_, _, e1, ?_⟩
  unfold htmlDecode
  rw [e2 (filled_outside v env inline record o hrule hf hb _ h4)]
  -- neither part of the filled-in template holds a `&`, and removing tags brings in no character
  exact unescape_around _ _ _ (not_mem_stripTags _ _ (filled_no_amp v env inline record o hamp hf' hb' _ n1))
    (not_mem_stripTags _ _ (filled_no_amp v env inline record o hamp hf' hb' _ n2))

/-- **export_html_stylesheet** (`inline_styles=False`), for every record: the `styles` table built by the loop has
exactly one entry per distinct CSS rule of the styled segments, in order of first use, numbered 1, 2, … n (so rules
and class numbers are both pairwise distinct: the numbering is injective); the code the loop produced is what one gets
by looking each segment's own rule up in that final table, so every `class="rN"` names an entry of the table whose
rule is that segment's rule; and the stylesheet is one `.rN {rule}` line per entry, in that order. -/
theorem export_html_stylesheet (v : Console.Variant) (env : StyleEnv σ) (record : List (Segment σ)) :
    let segs := htmlSegments v record
    let keys := firstOcc (classRules env segs)
    (htmlClassLoop v env segs []).2 = numberFrom 1 keys ∧
    keys.Nodup ∧ (∀ k, k ∈ keys → k ∈ classRules env segs) ∧
    (∀ (k : Nat) (hk : k < keys.length),
      (numberFrom 1 keys)[k]'(by rw [numberFrom_length]; exact hk) = (keys[k], 1 + k)) ∧
    (htmlClassLoop v env segs []).1 = segs.flatMap (htmlClassSeg v env (numberFrom 1 keys)) ∧
    exportHtmlParts v env false record =
      (segs.flatMap (htmlClassSeg v env (numberFrom 1 keys)),
       joinWith ['\n'] ((numberFrom 1 keys).map (fun p =>
         ".r".toList ++ (toString p.2).toList ++ " {".toList ++ p.1 ++ ['}']))) := by
  intro segs keys
  have hnum : (htmlClassLoop v env segs []).2 = numberFrom 1 keys := classLoop_numbering v env segs
  have hlook : (htmlClassLoop v env segs []).1 = segs.flatMap (htmlClassSeg v env (numberFrom 1 keys)) := by
    rw [← hnum]; exact classLoop_lookup v env segs []
  refine ⟨hnum, (firstOcc_spec _).1, (firstOcc_spec _).2, fun k hk => numberFrom_getElem 1 keys k hk, hlook, ?_⟩
  rw [exportHtmlParts_class, stylesheet_lines keys (fun k hk => (mem_classRules env segs k ((firstOcc_spec _).2 k hk)).1) 1]

/-! ## `code_format` as a string: `str.format` with its error branch (`Model/ConsoleFormat.lean`) -/

/-- **code_format_ok_iff.**  For *any* format string (any characters: single and doubled braces, unknown, numbered or empty
fields …), `export_html(code_format=fmt)` returns a document exactly when the left-to-right scan of `fmt` reaches its end
(every `{` opens a field that is closed, every other brace is doubled) and every field is one of `code`, `stylesheet`,
`foreground`, `background`; the document is then `exportHtml` of `Model/Console` on the parsed template — so every
theorem of this file about templates (`export_html_document`, `…_decoded`, `export_html_stylesheet`) speaks about format
*strings*.  The substituted values are not scanned again (they are arguments of `formatTemplate`). -/
theorem code_format_ok_iff (v : Console.Variant) (env : StyleEnv σ) (inline : Bool) (fmt fg bg : List Char)
    (record : List (Segment σ)) (s : List Char) :
    ConsoleFormat.exportHtmlStr v env inline fmt fg bg record = .ok s ↔
      (ConsoleFormat.scan .lit fmt).2 = .done ∧ ∃ t, ConsoleFormat.toTemplate (ConsoleFormat.scan .lit fmt).1 = some t ∧
        s = exportHtml v env inline { template := t, foreground := fg, background := bg } record :=
  ConsoleFormat.formatStr_ok_iff _ fmt s

/-- **code_format_error_branch.**  What `export_html(code_format=fmt)` raises.  `KeyError(n)`: `n` is a field of `fmt`
that is neither one of the four keywords nor a number, and every field before it is one of the four (the first
offending field, left to right, decides).  That a format string fails does not depend on the record, the colours or
the styles: no value makes a failing format string succeed. -/
theorem code_format_error_branch (v : Console.Variant) (env : StyleEnv σ) (inline : Bool) (fmt fg bg : List Char)
    (record : List (Segment σ)) :
    (∀ n, ConsoleFormat.exportHtmlStr v env inline fmt fg bg record = .error (.keyError n) →
      ∃ pre post, (ConsoleFormat.scan .lit fmt).1 = pre ++ ConsoleFormat.PItem.field n :: post ∧
        (∃ t, ConsoleFormat.toTemplate pre = some t) ∧ ConsoleFormat.fieldItem n = none ∧
        n.all ConsoleFormat.isAsciiDigit = false) ∧
    (((ConsoleFormat.scan .lit fmt).2 ≠ .done ∨ ConsoleFormat.toTemplate (ConsoleFormat.scan .lit fmt).1 = none) →
      ∀ (vals : ConsoleFormat.Vals) s, ConsoleFormat.formatStr vals fmt ≠ .ok s) :=
  ⟨fun n h => ConsoleFormat.fill_keyError _ n _ _ h, fun h vals s => ConsoleFormat.fill_not_ok vals _ _ h s⟩

/-- **code_format_doubled_braces.**  Doubling the braces of any text `s` gives a `code_format` whose document is
exactly `s`, for every record. -/
theorem code_format_doubled_braces (v : Console.Variant) (env : StyleEnv σ) (inline : Bool) (s fg bg : List Char)
    (record : List (Segment σ)) :
    ConsoleFormat.exportHtmlStr v env inline (ConsoleFormat.doubleBraces s) fg bg record = .ok s :=
  ConsoleFormat.formatStr_doubleBraces _ s

/-- **code_format_step.**  `export_html(clear, inline_styles, code_format=fmt)` as an operation on the console: it never
touches the file, the buffer or the capture depth; on a non-recording console it fails with `assert self.record`; it
clears the record only if `clear` is set *and the format succeeded* — when the format raises (`ValueError`,
`KeyError`, `IndexError`) the record is exactly what it was, `clear=True` or not; a successful call returns the same
document with and without `clear`. -/
theorem code_format_step (v : Console.Variant) (cfg : Config) (env : StyleEnv σ) (st : State σ) (clr inline : Bool)
    (fmt fg bg : List Char) :
    let r := ConsoleFormat.stepHtmlStr v cfg env st clr inline fmt fg bg
    r.1.file = st.file ∧ r.1.buffer = st.buffer ∧ r.1.index = st.index ∧ r.1.marks = st.marks ∧
    (cfg.record = false → r.2 = .assertionError ∧ r.1.record = st.record) ∧
    (cfg.record = true →
      (∀ s, ConsoleFormat.exportHtmlStr v env inline fmt fg bg st.record = .ok s →
        r.2 = .exported s ∧ r.1.record = (if clr then [] else st.record)) ∧
      (∀ e, ConsoleFormat.exportHtmlStr v env inline fmt fg bg st.record = .error e →
        r.2 = .raised e ∧ r.1.record = st.record) ∧
      (ConsoleFormat.exportHtmlStr v env inline fmt fg bg st.record = .unmodelled →
        r.2 = .unmodelled ∧ r.1.record = st.record)) := by
  intro r
  cases hr : cfg.record
  · simp [r, ConsoleFormat.stepHtmlStr, hr]
  · cases hx : ConsoleFormat.exportHtmlStr v env inline fmt fg bg st.record <;>
      simp [r, ConsoleFormat.stepHtmlStr, hr, hx]

/-- **export_html_document_decoded — any template.**  For *any* `code_format` containing `{code}` once (`a`, `b`: the
template before and after it), with the part before the code ending outside a tag: the whole document with tags removed
*and entities decoded* is — exactly — the text before the code decoded in the context of what follows, i.e.
`(stripTags pre).foldr unescStep (exported text ++ decoded text after)`; and when the text before the code contains no
`&`, it is the text before, then exactly the exported text, then the text after the code decoded on its own — whatever
entities, `&` or tags the template has after the code.  (`old_amp_before_code_joins`: a template text ending in `&`
does join with the code.) -/
theorem export_html_document_decoded [LawfulBEq σ] (v : Console.Variant) (env : StyleEnv σ) (inline : Bool) (o : HtmlOpts)
    (record : List (Segment σ)) (a b : List TItem) (ht : o.template = a ++ [TItem.code] ++ b)
    (ha : TItem.code ∉ a) (hb : TItem.code ∉ b) (hm : v.mergeCtl = false) (hsafe : TagSafe v env)
    (hpre : tagState false (formatTemplate { o with template := a } [] (exportHtmlParts v env inline record).2) = false) :
    let pre := formatTemplate { o with template := a } [] (exportHtmlParts v env inline record).2
    let post := formatTemplate { o with template := b } [] (exportHtmlParts v env inline record).2
    htmlDecode (exportHtml v env inline o record) =
        (stripTags pre).foldr unescStep (exportPlain record ++ unescape (stripTags post)) ∧
    ('&' ∉ stripTags pre →
      htmlDecode (exportHtml v env inline o record) = stripTags pre ++ exportPlain record ++ unescape (stripTags post)) := by
  intro pre post
  obtain ⟨_, e2⟩ := export_html_document v env inline o record a b ht ha hb hm hsafe
  have e := e2 hpre
  unfold htmlDecode
  rw [e]
  exact ⟨unescape_document_exact _ _ _, fun hamp => unescape_document _ _ _ hamp⟩

/-- **export_html_document_format — the document theorem for format strings.**  Let `fmt` be any format string whose scan
reaches the end with the items `a ++ [{code}] ++ b`, every field of `a` and `b` being `stylesheet`, `foreground` or
`background` (`ta`, `tb`: the templates they denote, free of `{code}`).  Then `export_html(code_format=fmt)` returns
`pre ++ code ++ post` with `code` exactly the fragments of `export_html_text`, and — the text before the code ending
outside a tag and containing no `&` — the whole returned string, tags removed and entities decoded, is the text before
the code, the exported text, the decoded text after the code. -/
theorem export_html_document_format [LawfulBEq σ] (v : Console.Variant) (env : StyleEnv σ) (inline : Bool)
    (fmt fg bg : List Char) (record : List (Segment σ)) (a b : List ConsoleFormat.PItem) (ta tb : List TItem)
    (hs : ConsoleFormat.scan .lit fmt = (a ++ [ConsoleFormat.PItem.field "code".toList] ++ b, .done))
    (hta : ConsoleFormat.toTemplate a = some ta) (htb : ConsoleFormat.toTemplate b = some tb)
    (ha : TItem.code ∉ ta) (hb : TItem.code ∉ tb) (hm : v.mergeCtl = false) (hsafe : TagSafe v env) :
    let o : HtmlOpts := { template := ta ++ [TItem.code] ++ tb, foreground := fg, background := bg }
    let pre := formatTemplate { o with template := ta } [] (exportHtmlParts v env inline record).2
    let post := formatTemplate { o with template := tb } [] (exportHtmlParts v env inline record).2
    ConsoleFormat.exportHtmlStr v env inline fmt fg bg record =
        .ok (pre ++ flatFrags (exportHtmlParts v env inline record).1 ++ post) ∧
    (tagState false pre = false → '&' ∉ stripTags pre →
      htmlDecode (pre ++ flatFrags (exportHtmlParts v env inline record).1 ++ post) =
        stripTags pre ++ exportPlain record ++ unescape (stripTags post)) := by
  intro o pre post
  have htt : ConsoleFormat.toTemplate (a ++ [ConsoleFormat.PItem.field "code".toList] ++ b) = some (ta ++ [TItem.code] ++ tb) :=
    ConsoleFormat.toTemplate_append _ _ _ _ (ConsoleFormat.toTemplate_append _ _ _ _ hta rfl) htb
  have hok : ConsoleFormat.exportHtmlStr v env inline fmt fg bg record = .ok (exportHtml v env inline o record) :=
    (code_format_ok_iff v env inline fmt fg bg record _).2 ⟨by rw [hs], _, by rw [hs]; exact htt, rfl⟩
  obtain ⟨e1, _⟩ := export_html_document v env inline o record ta tb rfl ha hb hm hsafe
  refine ⟨by rw [hok, e1], fun hpre hamp => ?_⟩
  rw [← e1]
  exact (export_html_document_decoded v env inline o record ta tb rfl ha hb hm hsafe hpre).2 hamp

/-! ## the time column of `log` -/

/-- **log_time_cells** (`LogRender.__call__`, any number of `log` calls, any displays).  On a console with the time
column the time cell of a call is blank — as many spaces as the display is long — exactly when its `strftime` display
equals the display of the *previous* call, and is the display itself otherwise (`prev`: `_last_time` before the first
call, `none` on a fresh console); without the time column there is no cell. -/
theorem log_time_cells (prev : Option (List Char)) (ds : List (List Char)) :
    ConsoleLogTime.logTimeCells true { lastTime := prev } ds =
      (List.zip (prev :: ds.map some) ds).map (fun p =>
        if p.1 = some p.2 then some (List.replicate p.2.length ' ') else some p.2) ∧
    ConsoleLogTime.logTimeCells false { lastTime := prev } ds = ds.map (fun _ => none) :=
  ⟨ConsoleLogTime.logTimeCells_spec prev ds, ConsoleLogTime.logTimeCells_off _ ds⟩

/-! ## styled export -/

/-- **export_styled_decodes.**  Cut at the escape-code wrappers, the styled export has the record's visible
characters, each inside the wrapper of its own segment's style (null styles and `None` show as no style);
its visible text is the plain export. -/
theorem export_styled_decodes (env : StyleEnv σ) (record : List (Segment σ)) :
    pieceStream (exportStyledPieces env record) = segStream env record ∧
    visiblePieces (exportStyledPieces env record) = exportPlain record :=
  ⟨exportStyledPieces_stream env record, exportStyledPieces_visible env record⟩

/-- …and after any history without a clearing export, on a console that writes colour, the file and the styled
export decode to the same (character, style) stream. -/
theorem export_styled_eq_file_from_start (v : Console.Variant) (cfg : Config) (env : StyleEnv σ) (ops : List (Op σ))
    (hv : v.recordInRender = false) (hr : cfg.record = true) (hc : cfg.colorNone = false) (hn : cfg.noColor = false)
    (hops : ops.all (fun op => !isClearing op) = true) :
    pieceStream (exportStyledPieces env (exec v cfg env ops {}).record) =
      pieceStream (exec v cfg env ops {}).file.flatten := by
  rw [exportStyledPieces_stream, exec_file_stream v cfg env ops hv hr hops]
  simp [hc, hn]

/-- **What the styled export means on a console that does not write colour.**  `export_text(styles=True)` renders the
record with `Style.render`'s *default* colour system (TRUECOLOR), whatever the console's own configuration — it is a
function of the record alone (`export_styled_decodes`).  After any history without a clearing export:
* `color_system=None`: the file carries the same visible characters as the styled export, *all without style* (the
  export keeps the styles the file never showed);
* NO_COLOR with a colour system: the file carries the same characters, each in the colourless version
  (`Style.without_color`, via `Segment.remove_color`) of the style the export shows — the record is appended to
  *before* colour is removed. -/
theorem export_styled_vs_file_without_colour (v : Console.Variant) (cfg : Config) (env : StyleEnv σ) (ops : List (Op σ))
    (hv : v.recordInRender = false) (hr : cfg.record = true)
    (hops : ops.all (fun op => !isClearing op) = true) :
    pieceStream (exportStyledPieces env (exec v cfg env ops {}).record) = segStream env (exec v cfg env ops {}).record ∧
    (cfg.colorNone = true →
      pieceStream (exec v cfg env ops {}).file.flatten =
        (pieceStream (exportStyledPieces env (exec v cfg env ops {}).record)).map (fun p => (p.1, none))) ∧
    (cfg.colorNone = false → cfg.noColor = true →
      pieceStream (exec v cfg env ops {}).file.flatten = segStream env (Console.removeColor env (exec v cfg env ops {}).record)) := by
  rw [exec_file_stream v cfg env ops hv hr hops, exportStyledPieces_stream]
  exact ⟨rfl, fun hc => by simp [hc], fun hc hn => by simp [hc, hn]⟩

/-! ## capture -/

/-- **capture withholds.**  While the capture depth is and stays at least one, no operation whatsoever — print,
control codes, exports, nested begin/end — writes to the file.  (The `end_capture` that brings the depth back to
zero is covered by `capture_returns_and_withholds`.) -/
theorem capture_withholds (v : Console.Variant) (cfg : Config) (env : StyleEnv σ) (s : State σ) (op : Op σ)
    (hi : 1 ≤ s.index) (hi' : 1 ≤ (step v cfg env s op).1.index) : (step v cfg env s op).1.file = s.file :=
  step_file_nonzero v cfg env s op (by omega)

/-- **capture_returns_and_withholds.**  Start outside any capture with an empty buffer (`s`; every reachable
outside-capture state is like that, `reachable_outside_empty`).  Let `inner` be any operations other than the
four bracket operations (begin / end capture, entering / leaving `with console:`).  Run them inside a capture block: what `end_capture` returns is, character for character, the
concatenation of what the same operations write to the file when run outside a capture (`W`); meanwhile the file
is unchanged, and afterwards the console is again outside any capture with an empty buffer.  Holds for every
variant of the code. -/
theorem capture_returns_and_withholds (v : Console.Variant) (cfg : Config) (env : StyleEnv σ) (s : State σ)
    (inner : List (Op σ)) (hi : s.index = 0) (hb : s.buffer = [])
    (hinner : inner.all (fun op => !isCapture op) = true) :
    ∃ W, (exec v cfg env inner s).file = s.file ++ W ∧
      (step v cfg env (exec v cfg env (.beginCapture :: inner) s) .endCapture).2 = .captured (flat W.flatten) ∧
      (exec v cfg env (.beginCapture :: inner) s).file = s.file ∧
      (step v cfg env (exec v cfg env (.beginCapture :: inner) s) .endCapture).1.file = s.file ∧
      (step v cfg env (exec v cfg env (.beginCapture :: inner) s) .endCapture).1.index = 0 ∧
      (step v cfg env (exec v cfg env (.beginCapture :: inner) s) .endCapture).1.buffer = [] := by
  obtain ⟨_, e0, _⟩ := exec_outside v cfg env inner s hi hb hinner
  rw [capture_block_own v cfg env s inner (by omega) hinner (.inr hb), checkBuffer_idle v cfg env _ (fun _ => by exact hb),
    (capture_block v cfg env s inner (by omega) hinner).1, e0]
  exact ⟨written cfg env (inner.map (appended cfg)), rfl, by simp [flat_written, List.flatMap_def], rfl, rfl, hi, hb⟩

/-- **Nested blocks (repaired `captureMarks` variant).**  A capture block opened at *any* depth, in *any* state,
returns exactly the rendering of what the operations directly inside it appended — the same string they would
write outside a capture — and, when it sits inside another block, leaves the enclosing block's pending buffer,
its marks, the depth and the file exactly as they were.  So blocks compose: an inner block is invisible to the
enclosing one.  (rich 9.10.0 as found, before fix 1202b8a: `nested_capture_steals`.) -/
theorem capture_block_transparent (v : Console.Variant) (cfg : Config) (env : StyleEnv σ) (s : State σ)
    (inner : List (Op σ)) (hm : v.captureMarks = true) (hi : 0 ≤ s.index)
    (hinner : inner.all (fun op => !isCapture op) = true) :
    (step v cfg env (exec v cfg env (.beginCapture :: inner) s) .endCapture).2 =
        .captured (flat (renderPieces cfg env (inner.flatMap (appended cfg)))) ∧
      flat (renderPieces cfg env (inner.flatMap (appended cfg))) =
        flat (written cfg env (inner.map (appended cfg))).flatten ∧
      (step v cfg env (exec v cfg env (.beginCapture :: inner) s) .endCapture).1.marks = s.marks ∧
      (step v cfg env (exec v cfg env (.beginCapture :: inner) s) .endCapture).1.index = s.index ∧
      (1 ≤ s.index →
        (step v cfg env (exec v cfg env (.beginCapture :: inner) s) .endCapture).1.buffer = s.buffer ∧
        (step v cfg env (exec v cfg env (.beginCapture :: inner) s) .endCapture).1.file = s.file) := by
  rw [capture_block_own v cfg env s inner (by omega) hinner (.inl hm)]
  refine ⟨rfl, by rw [flat_written]; simp [List.flatMap_def], checkBuffer_marks v cfg env _,
    checkBuffer_index v cfg env _, fun h1 => ?_⟩
  rw [checkBuffer_inside v cfg env _ (by simp only; omega)]
  exact ⟨rfl, rfl⟩

/-- **capture_nesting — capture blocks and `with console:` blocks, nested and interleaved in any way, as one
statement** (repaired variant).

(A) *Well-bracketed histories.*  Let `ops` be any history in which `end_capture` never outnumbers `begin_capture` and
leaving `with console:` never outnumbers entering it (`wellBracketed`; blocks of both kinds may nest and interleave
arbitrarily and may be left open), started in any state `s` that represents a specification state `sp` (`Rel`; the
fresh console represents the empty specification state, `Rel.init`).  Then the console returns, operation by operation,
exactly what the specification machine `specRun` returns, and ends in a state that represents the specification's.
The specification (`specStep`, `Lemmas/ConsoleNest.lean`) keeps one frame per open capture block, the number of open
`with console:` blocks and the segments those hold back: an operation inside a capture block appends what it renders to
the innermost frame *and to nothing else — neither the file nor the record*; `end_capture` returns the rendering of
the innermost frame *only* and leaves every enclosing frame and the held-back segments untouched; outside every capture
block an operation's output is held back while a `with console:` block is open and is written to the file and recorded —
in order, as one write — the moment no block of either kind is open.  So every capture block returns exactly its own
output, whatever the nesting, and `with console:` only delays.

(B) *Arbitrary sequences, balanced or not.*  Nothing can raise except an export on a non-recording console
(`assert self.record`); the depth after any sequence is the initial depth plus begins and enters minus ends and exits
(it may go negative); a step that starts and ends at a non-zero depth — of either sign — writes nothing to the file (so
after a surplus `end_capture` output is withheld until the depth is back at zero); and an `end_capture` that finds no
open block returns the rendering of the whole pending buffer and empties it. -/
theorem capture_nesting (v : Console.Variant) (cfg : Config) (env : StyleEnv σ)
    (hm : v.captureMarks = true) (hv : v.recordInRender = false) :
    (∀ (ops : List (Op σ)) (s : State σ) (sp : Spec σ), Rel s sp → wellBracketed sp.frames.length sp.ctx ops = true →
      (run v cfg env ops s).2 = (specRun v cfg env ops sp).2 ∧
      Rel (run v cfg env ops s).1 (specRun v cfg env ops sp).1) ∧
    ((∀ (s : State σ) (op : Op σ), (step v cfg env s op).2 = .assertionError → isExport op = true ∧ cfg.record = false) ∧
     (∀ (ops : List (Op σ)) (s : State σ), (exec v cfg env ops s).index = s.index + depthDelta ops) ∧
     (∀ (s : State σ) (op : Op σ), s.index ≠ 0 → (step v cfg env s op).1.index ≠ 0 →
        (step v cfg env s op).1.file = s.file) ∧
     (∀ (s : State σ), s.marks = [] →
        (step v cfg env s .endCapture).2 = .captured (flat (renderPieces cfg env s.buffer)) ∧
        (step v cfg env s .endCapture).1.index = s.index - 1 ∧
        (step v cfg env s .endCapture).1.buffer = [] ∧ (step v cfg env s .endCapture).1.marks = [])) :=
  ⟨run_refines v cfg env hm hv,
   fun s op h => step_total v cfg env s op h,
   fun ops s => exec_index v cfg env ops s,
   fun s op _ h => step_file_nonzero v cfg env s op h,
   fun s h => step_end_unbalanced v cfg env s h⟩

/-- The starting condition of `capture_returns_and_withholds` holds in every state reached from a fresh console by a
history whose capture blocks are well nested: the depth is never negative, and at depth zero the buffer is empty. -/
theorem reachable_outside_empty (v : Console.Variant) (cfg : Config) (env : StyleEnv σ) (ops : List (Op σ))
    (hw : wellNested 0 ops = true) :
    0 ≤ (exec v cfg env ops {}).index ∧ ((exec v cfg env ops {}).index = 0 → (exec v cfg env ops {}).buffer = []) := by
  have h := exec_outsideEmpty v cfg env ops {} ⟨Int.le_refl _, fun _ => rfl⟩
    (wellBracketed_depth 0 0 ops (wellBracketed_of_wellNested 0 ops hw))
  exact ⟨h.nonneg, h.empty⟩

/-- In the repaired variant a capture block records nothing: after it the record is what it was
(for `inner` without clearing exports). -/
theorem capture_not_recorded (v : Console.Variant) (cfg : Config) (env : StyleEnv σ) (s : State σ)
    (inner : List (Op σ)) (hv : v.recordInRender = false) (hr : cfg.record = true) (hi : s.index = 0)
    (hb : s.buffer = []) (hinner : inner.all (fun op => !isCapture op) = true)
    (hnoexp : inner.all (fun op => !isClearing op) = true) :
    (exec v cfg env (.beginCapture :: inner ++ [.endCapture]) s).record = s.record := by
  have hcl : inner.any isClearing = false := by simpa using hnoexp
  rw [exec_append, exec_cons, exec_nil, capture_block_record v cfg env s inner hv ⟨by omega, fun _ => hb⟩ hinner, hcl]
  rfl

/-! ## several consoles -/

/-- **consoles_do_not_interfere.**  Any number of consoles alive together — each with its own configuration (colour
system, terminal or not, recording or not, …) and style table — and any interleaving of operations addressed to them:
every console ends in exactly the state (record, file, buffer, capture depth), and receives exactly the answers
(exports, captures), of its own operations run alone.  So every theorem above holds per console in the presence of the
others: a clear on one console cannot empty another's record, a print on one cannot change another's export. -/
theorem consoles_do_not_interfere (v : Console.Variant) (cfgs : Nat → Config) (envs : Nat → StyleEnv σ)
    (sched : List (Nat × Op σ)) (sts : Nat → State σ) (k : Nat) :
    (multiRun v cfgs envs sched sts).1 k = (run v (cfgs k) (envs k) (projOps k sched) (sts k)).1 ∧
    projOuts k (multiRun v cfgs envs sched sts).2 = (run v (cfgs k) (envs k) (projOps k sched) (sts k)).2 := by
  induction sched generalizing sts with
  | nil => exact ⟨rfl, rfl⟩
  | cons jo rest ih =>
    obtain ⟨j, op⟩ := jo
    obtain ⟨h1, h2⟩ := ih (multiStep v cfgs envs sts j op).1
    by_cases hjk : j = k
    · subst hjk
      simp only [multiRun, projOps, projOuts, List.filter_cons, beq_self_eq_true, if_true, List.map_cons, run]
      simp only [projOps, projOuts] at h1 h2
      rw [h1, h2]
      simp [multiStep]
    · have hb : (j == k) = false := by simpa using hjk
      simp only [multiRun, projOps, projOuts, List.filter_cons, hb, Bool.false_eq_true, if_false]
      simp only [projOps, projOuts] at h1 h2
      rw [h1, h2, show (multiStep v cfgs envs sts j op).1 k = sts k from if_neg (Ne.symm hjk)]
      exact ⟨rfl, rfl⟩

/-! ## the strings printed -/

/-- **print_plain_segments** (rich's cell widths, console width ≥ 2, tab size ≥ 1).  For
`print(*strs, sep=…, end=…, style=…)` of plain strings — markup / emoji / highlight off, every other option at its
default, `end` being `"\n"` or `""` — the segments the derivation `ConsolePrint.printSegs` appends (the ones the
correspondence compares with rich) carry, character for character, the C02 wrap of `Text(sep).join(Text(s) for s in
strs)` at the console width: the wrapped lines joined by line feeds, followed by `end`.  The wrap succeeds, every
line fits the width (C02 `wrap_lines_fit`), the lines keep the non-whitespace characters of the text in order (C02
`wrap_fold_keeps_nonspace`), `Text.render` emits exactly the joined lines and `end` (C05 `render_view`), and the final
`split_and_crop_lines` removes nothing because every line fits (C13 `split_and_crop_refines`).  Composition of C05,
C02, C13 and the line/piece bridge of C01. -/
theorem print_plain_segments (env : ConsolePrint.Env) (a : ConsolePrint.PrintArgs) (hw : 2 ≤ env.width)
    (hts : env.tabSize ≠ 0) (hd : ConsolePrint.PlainDefault env a) :
    ∃ lines : List ConsolePrint.TT,
      Wrap.wrap Wrap.WVariant.repaired C13.cw ConsolePrint.alg (ConsolePrint.printText a) env.width
        (some Justify.default) (some Overflow.fold) (some env.tabSize) (some false) = .ok lines ∧
      (∀ l ∈ lines, cellLen C13.cw l.plain ≤ env.width) ∧
      (lines.flatMap (·.plain)).filter (fun c => !pyIsSpace c) =
        (ConsolePrint.printText a).plain.filter (fun c => !pyIsSpace c) ∧
      ConsolePrint.wrappedText C13.cw env.tabSize env.width a =
        ConsolePrint.joinNl (lines.map (·.plain)) ++ a.endStr ∧
      ∃ r, ConsolePrint.printSegs Wrap.WVariant.repaired C13.cw env a = .ok r ∧
        ∀ segs, r = some segs →
          ConsolePrint.allText segs = ConsolePrint.joinNl (lines.map (·.plain)) ++ a.endStr ∧
          ∀ s ∈ segs, s.control = false :=
  ConsolePrint.print_plain_segments C13.cw C02.rich_widths_admissible.1 C02.rich_widths_admissible.2.1
    C02.rich_widths_admissible.2.2 env a (by omega) (C02.statement_range C13.cw C02.rich_widths_admissible.2.1 _ hw) hts hd

/-- **export_text_of_prints.**  A recording console (repaired variant) of width ≥ 2 on which only
`print(*strs, sep, end, style)` of plain strings is called (`calls`: the arguments of each call with the segments it
appended, which are the derived ones — what the correspondence checks against rich).  Then `export_text()` returns
the concatenation, call after call, of the C02 wrap of that call's text at the console width — lines joined by line
feeds, followed by the call's `end`: "exported text = visible text" as a statement about the strings printed. -/
theorem export_text_of_prints (env : ConsolePrint.Env) (hw : 2 ≤ env.width) (hts : env.tabSize ≠ 0)
    (v : Console.Variant) (cfg : Config) (senv : StyleEnv Nat) (hv : v.recordInRender = false) (hr : cfg.record = true)
    (calls : List (ConsolePrint.PrintArgs × List (Segment Nat)))
    (hcalls : ∀ c ∈ calls, ConsolePrint.PlainDefault env c.1 ∧
      ConsolePrint.printSegs Wrap.WVariant.repaired C13.cw env c.1 = .ok (some c.2)) :
    (step v cfg senv (exec v cfg senv (calls.map (fun c => Op.print c.2)) {}) (.exportText false false)).2 =
      .exported (calls.flatMap (fun c => ConsolePrint.wrappedText C13.cw env.tabSize env.width c.1)) ∧
    fileVisible (exec v cfg senv (calls.map (fun c => Op.print c.2)) {}).file =
      calls.flatMap (fun c => ConsolePrint.wrappedText C13.cw env.tabSize env.width c.1) := by
  have h := ConsolePrint.export_text_of_prints C13.cw C02.rich_widths_admissible.1 C02.rich_widths_admissible.2.1
    C02.rich_widths_admissible.2.2 env (by omega) (C02.statement_range C13.cw C02.rich_widths_admissible.2.1 _ hw) hts
    v cfg senv hv hr calls hcalls
  refine ⟨by rw [(step_exportText_returns v cfg senv _ false hr).1, h], ?_⟩
  rw [← export_text_eq_visible_from_start v cfg senv _ hv hr (by simp [isClearing]), h]

/-! ## Witnesses

The defects found in rich 9.10.0, all repaired in /repo since: machine-checked negations for the variants selected by the
flags of `Console.Variant`; and the nested-capture behaviour. -/

/-- A style table for the witnesses: style 1 is bold (SGR 1), style 2 carries the link `a">b`. -/
def wEnv : StyleEnv Nat :=
  { truthy := fun _ => true
    pre := fun _ => "\x1b[1m".toList, post := fun _ => "\x1b[0m".toList
    preT := fun _ => "\x1b[1m".toList, postT := fun _ => "\x1b[0m".toList
    withoutColor := id
    htmlRule := fun i => if i == 1 then "font-weight: bold".toList else []
    link := fun i => if i == 2 then some "a\">b".toList else none }

def wCfg : Config :=
  { record := true, colorNone := false, isTerminal := true, termDumb := false, noColor := false, legacyWindows := false }

/-- F17 (rich 9.10.0 as found, before fix 114bbe8; `recordInRender = true`): text printed inside a capture block is exported although it never
reached the file. -/
theorem old_capture_is_recorded :
    let s := exec Console.Variant.today wCfg wEnv [.beginCapture, .print [{ text := ['x'], style := none }], .endCapture] {}
    exportPlain s.record = ['x'] ∧ fileVisible s.file = [] := by decide +kernel

/-- The same history in the repaired variant: nothing recorded, nothing written. -/
example :
    let s := exec Console.Variant.repaired wCfg wEnv [.beginCapture, .print [{ text := ['x'], style := none }], .endCapture] {}
    exportPlain s.record = [] ∧ fileVisible s.file = [] := by decide +kernel

/-- Nested capture blocks (`captureMarks = false`, with or without the other repairs): the inner `end_capture` returns what was printed in the *outer* block
before the inner one began, and the outer capture returns nothing — `capture_returns_and_withholds` cannot be
extended to nested blocks on this code (rich 9.10.0 as found; repaired by fix 1202b8a). -/
theorem nested_capture_steals (v : Console.Variant) (hv : v = Console.Variant.today ∨ v = { Console.Variant.repaired with captureMarks := false }) :
    (run v wCfg wEnv [.beginCapture, .print [{ text := ['x'], style := none }], .beginCapture, .endCapture, .endCapture] {}).2
      = [.none, .none, .none, .captured ['x'], .captured []] := by
  rcases hv with rfl | rfl <;> decide +kernel

/-- The same history with `captureMarks = true`: each block returns what was printed directly inside it. -/
example :
    (run Console.Variant.repaired wCfg wEnv [.beginCapture, .print [{ text := ['x'], style := none }], .beginCapture, .endCapture, .endCapture] {}).2
      = [.none, .none, .none, .captured [], .captured ['x']] := by decide +kernel

/-- The `href` of rich 9.10.0 as found, before fix e488480 (`escapeHref = false`): a link containing `">` ends the tag early, and its tail shows up as text. -/
theorem old_href_breaks_html :
    htmlDecode (flatFrags (exportHtmlParts Console.Variant.today wEnv true [{ text := ['x'], style := some 2 }]).1)
      ≠ exportPlain ([{ text := ['x'], style := some 2 }] : List (Segment Nat)) := by decide +kernel

/-- F18 regression witness (`mergeCtl = true`, the code before commit b97fe77): `bell(); line()` put `\x07` into the HTML. -/
theorem old_simplify_bell_in_html :
    htmlDecode (flatFrags (exportHtmlParts { Console.Variant.repaired with mergeCtl := true } wEnv true
      [{ text := ['\x07'], style := none, control := true }, { text := ['\n'], style := none }]).1)
      ≠ exportPlain ([{ text := ['\x07'], style := none, control := true }, { text := ['\n'], style := none }] : List (Segment Nat)) := by
  decide +kernel

/-- Why `export_html_document_decoded` asks something of the text before `{code}`: with the format string `&{code}` and
the recorded text `lt;` the document is `&lt;`, which decodes to `<` — not to `&` followed by the exported text. -/
theorem old_amp_before_code_joins :
    let rec1 : List (Segment Nat) := [{ text := "lt;".toList, style := none }]
    ConsoleFormat.exportHtmlStr Console.Variant.repaired wEnv true "&{code}".toList [] [] rec1 = .ok "&lt;".toList ∧
    htmlDecode "&lt;".toList = ['<'] ∧ exportPlain rec1 = "lt;".toList := by
  -- `String.toList_ofList` hands over the characters of a literal at once; the kernel on its own decodes it byte by byte
  repeat rw [String.toList_ofList]
  decide +kernel

/-! ## Non-vacuity: the hypotheses are met by concrete non-trivial values, and the conclusions say something. -/

/-- `TagSafe` holds for the witness table in the repaired variant … -/
example : TagSafe Console.Variant.repaired wEnv :=
  ⟨fun s => by unfold wEnv; simp only; split <;> decide +kernel, fun h => by simp [Console.Variant.repaired] at h⟩

/-- … and the repaired HTML of the offending link decodes to the text. -/
example :
    htmlDecode (flatFrags (exportHtmlParts Console.Variant.repaired wEnv true [{ text := ['x', '<'], style := some 2 }]).1)
      = ['x', '<'] := by decide +kernel

/-- a history without clearing export, with styled text, a control code and a capture -/
example :
    let ops : List (Op Nat) := [.print [{ text := ['a', '&'], style := some 1 }], .bell, .beginCapture, .line 1, .endCapture, .line 2]
    ops.all (fun op => !isClearing op) = true ∧
    fileVisible (exec Console.Variant.repaired wCfg wEnv ops {}).file = ['a', '&', '\n', '\n'] ∧
    exportPlain (exec Console.Variant.repaired wCfg wEnv ops {}).record = ['a', '&', '\n', '\n'] := by decide +kernel

/-- the specification on a doubly nested history: each block returns its own prints, the file gets only what was
printed outside -/
example :
    let ops : List (Op Nat) := [.print [{ text := ['o'], style := none }], .beginCapture, .print [{ text := ['a'], style := none }],
      .beginCapture, .print [{ text := ['b'], style := none }], .beginCapture, .endCapture, .endCapture,
      .print [{ text := ['c'], style := none }], .endCapture]
    wellBracketed 0 0 ops = true ∧
    (specRun Console.Variant.repaired wCfg wEnv ops {}).2 =
      [.none, .none, .none, .none, .none, .none, .captured [], .captured ['b'], .none, .captured ['a', 'c']] ∧
    (run Console.Variant.repaired wCfg wEnv ops {}).2 = (specRun Console.Variant.repaired wCfg wEnv ops {}).2 ∧
    fileVisible (run Console.Variant.repaired wCfg wEnv ops {}).1.file = ['o'] := by decide +kernel
/-- class numbering on a record with the rules A, B, A: two entries, the third segment reuses r1 -/
example :
    let env : StyleEnv Nat := { wEnv with htmlRule := fun i => if i == 2 then "B".toList else "A".toList }
    let rec3 : List (Segment Nat) := [{ text := ['x'], style := some 1 }, { text := ['y'], style := some 2 }, { text := ['z'], style := some 3 }]
    (exportHtmlParts Console.Variant.repaired env false rec3).2 = ".r1 {A}\n.r2 {B}".toList ∧
    firstOcc (classRules env (htmlSegments Console.Variant.repaired rec3)) = ["A".toList, "B".toList] := by
  repeat rw [String.toList_ofList]
  decide +kernel
/-- `with console:` interleaved with a capture block (enter, print o, begin, exit, print a, end): the capture returns
`a`; `o` is held back and written when the depth is back at zero -/
example :
    let ops : List (Op Nat) := [.enterBuffer, .print [{ text := ['o'], style := none }], .beginCapture, .exitBuffer,
      .print [{ text := ['a'], style := none }], .endCapture]
    wellBracketed 0 0 ops = true ∧
    (specRun Console.Variant.repaired wCfg wEnv ops {}).2 = [.none, .none, .none, .none, .none, .captured ['a']] ∧
    (run Console.Variant.repaired wCfg wEnv ops {}).2 = (specRun Console.Variant.repaired wCfg wEnv ops {}).2 ∧
    fileVisible (run Console.Variant.repaired wCfg wEnv ops {}).1.file = ['o'] ∧
    exportPlain (run Console.Variant.repaired wCfg wEnv ops {}).1.record = ['o'] := by decide +kernel
example : wellNested (σ := Nat) 0 [.beginCapture, .bell, .beginCapture, .endCapture, .endCapture, .line 1] = true := rfl
/-- the derivation on a concrete call: `print("ab cd", "e")` at width 3 wraps to three lines (a word keeps its
trailing blank when the line still fits) -/
example :
    (match ConsolePrint.printSegs Wrap.WVariant.repaired C13.cw { width := 3, nullId := 1, styleId := id }
        { strs := ["ab cd".toList, "e".toList] } with
      | .ok (some segs) => ConsolePrint.allText segs
      | _ => []) = "ab \ncd \ne\n".toList ∧
    ConsolePrint.wrappedText C13.cw 8 3 { strs := ["ab cd".toList, "e".toList] } = "ab \ncd \ne\n".toList := by
  repeat rw [String.toList_ofList]
  decide +kernel
/-- two consoles: a clearing export on console 1 leaves console 0's record alone -/
example :
    let sched : List (Nat × Op Nat) := [(0, .print [{ text := ['a'], style := none }]), (1, .print [{ text := ['b'], style := none }]),
      (1, .exportText true false), (0, .exportText false false)]
    projOuts 0 (multiRun Console.Variant.repaired (fun _ => wCfg) (fun _ => wEnv) sched (fun _ => {})).2 = [.none, .exported ['a']] ∧
    projOuts 1 (multiRun Console.Variant.repaired (fun _ => wCfg) (fun _ => wEnv) sched (fun _ => {})).2 = [.none, .exported ['b']] := by
  decide +kernel
example : isClearing (σ := Nat) (.exportText true false) = true := rfl
example : ({} : State Nat).index = 0 ∧ ({} : State Nat).buffer = [] := ⟨rfl, rfl⟩
example : unescape "&amp;lt;&lt;&gt;&".toList = "&lt;<>&".toList := by
  repeat rw [String.toList_ofList]
  decide +kernel

/-- format strings: a custom format with doubled braces and three fields; an unknown field; a numbered field; a single
brace; a failing format keeps the record although `clear=True` -/
example :
    let rec1 : List (Segment Nat) := [{ text := ['x', '<'], style := some 1 }]
    ConsoleFormat.exportHtmlStr Console.Variant.repaired wEnv true "{{{foreground}}}<pre>{code}</pre>".toList "#f".toList [] rec1 =
      .ok "{#f}<pre><span style=\"font-weight: bold\">x&lt;</span></pre>".toList ∧
    ConsoleFormat.exportHtmlStr Console.Variant.repaired wEnv true "{code}{colour}".toList [] [] rec1 = .error (.keyError "colour".toList) ∧
    ConsoleFormat.exportHtmlStr Console.Variant.repaired wEnv true "{code}{0}".toList [] [] rec1 = .error .indexError ∧
    ConsoleFormat.exportHtmlStr Console.Variant.repaired wEnv true "{code}}".toList [] [] rec1 = .error .valueError ∧
    (ConsoleFormat.stepHtmlStr Console.Variant.repaired wCfg wEnv { record := rec1 } true true "{code".toList [] []).1.record = rec1 ∧
    (ConsoleFormat.stepHtmlStr Console.Variant.repaired wCfg wEnv { record := rec1 } true true "{code}".toList [] []).1.record = [] := by
  repeat rw [String.toList_ofList]
  decide +kernel
/-- the hypotheses of `export_html_document_format` on `<i>{foreground}</i>{code}&amp;{{` -/
example :
    ConsoleFormat.scan .lit "<i>{foreground}</i>{code}&amp;{{".toList =
      (("<i>".toList.map ConsoleFormat.PItem.lit ++ [.field "foreground".toList] ++ "</i>".toList.map ConsoleFormat.PItem.lit) ++
        [ConsoleFormat.PItem.field "code".toList] ++ "&amp;{".toList.map ConsoleFormat.PItem.lit, .done) ∧
    (ConsoleFormat.toTemplate ("<i>".toList.map ConsoleFormat.PItem.lit ++ [.field "foreground".toList] ++
      "</i>".toList.map ConsoleFormat.PItem.lit)).isSome = true := by
  repeat rw [String.toList_ofList]
  decide +kernel
example : ConsoleLogTime.logTimeCells true {} ["[1]".toList, "[1]".toList, "[2]".toList, "[1]".toList] =
    [some "[1]".toList, some "   ".toList, some "[2]".toList, some "[1]".toList] := by
  repeat rw [String.toList_ofList]
  decide +kernel

end RichModel.C15
