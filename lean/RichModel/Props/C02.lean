import RichModel.Lemmas.WrapInkPrefix
import RichModel.Lemmas.WrapWhole
import RichModel.Lemmas.WrapStyleAlg
import RichModel.Lemmas.Except
import RichModel.Props.C13
/-!
# C02 — word wrapping keeps every character, in order, with its own style

Property theorems only, 41 of them (helper lemmas: `Lemmas/Wrap*.lean`, `Lemmas/TextDivide.lean`).  Model: `Model/Wrap.lean` (`_wrap.py`, `Text.wrap`,
`Lines.justify`) on top of `Model/Text.lean` (C05) and `Model/Cells.lean` (C13); `Model/Style.lean` (C06) is used
read-only by the three theorems about rich's real `Style` algebra.  All statements quantify over an arbitrary cell-width function `cw` under hypotheses among
`cw ' ' = 1`, `cw '…' = 1`, `∀ c, cw c ≤ 2`, and `∀ c, cw c ≤ w` "every character fits a line" or just `1 ≤ w` (see
"the boundary of the property" near the end: the stated range, widths ≥ 2 with characters of at most 2 cells, is one
instance, `statement_range`; the proofs of the fold theorems that state `∀ c, cw c ≤ 2` do not use it, that of
`wrapLine_style_preserved` none of its hypotheses on `cw` and `w`, that of `wrapLine_style_preserved_full` only `cw ' ' = 1`) — instantiated at the table generated from `rich/_cell_widths.py` at the end — and over an
arbitrary type `σ` of opaque style names (`wrap_fold_keeps_real_styles` interprets them in rich's real `Style`
algebra).  No theorem bounds the length of the text, the number of spans or the width.

Reference semantics (C05): `Text.view t : List (Char × List σ)` — every character with the list of style names that
apply to it, base style first, then the covering spans in span order ("later spans win" is the order of that
list).  `nsv v` is the sub-list of the non-whitespace characters (Python's `str.isspace` class, generated).

Variants.  `WVariant.fixed chars` = rich 9.10.0 with the two repairs this property's machinery asked for
(`fix:` commits aad03fe "Text.divide keeps the order of equal spans" — found by C05, reproduced through `wrap` here —
and 90b2e96 "Lines.justify does not pad by a negative amount" — found by C02), with `Text.rstrip_end` in either form:
`chars = true` compares the *character* count of a line with the cell width (rich 9.10.0 as found, before fix f5f2be9),
`chars = false` the cell length (fix f5f2be9 "Text.rstrip_end compares cell widths", found by C08).  The code in /repo
now is `WVariant.fixed false` = `WVariant.repaired`.  **Every theorem below that mentions `chars` holds for both values**
(`rstrip_end` removes nothing but trailing whitespace either way); what the C08 repair adds is stated separately
(`fold_lines_fit_before_crop`, repaired form only) with the witness `old_wrap_ellipsis_drops_fitting_char` for the
as-found form.  `WVariant.repaired = WVariant.fixed false`; `WVariant.released` = rich 9.10.0 as released.  The `old_…` theorems
exhibit, by evaluation, a concrete input on which the older code violates the statement proved for the repaired code;
the harness passes the flags that match the code it runs against, so a regression of any repair shows up as a
correspondence mismatch and a direct-evaluation failure.

Justify "full" rebuilds every line but the last as `Text("").join(tokens)`, which puts the null style `""` of
`Text("")` in front of every effective style; statements that include "full" therefore compare styled strings after
erasing the null style (`dropNull`: `""` is the identity of rich's style algebra), the statements for the other four
modes are exact.

Tab expansion (`Text.expand_tabs`) re-applies the base style to every character; the headline theorem
`wrap_fold_keeps_nonspace` therefore compares styles in the normal form `normView` (null style erased, adjacent
repetitions merged); the sharper comparisons hold under the stated extra hypotheses.  The normal form is not an
assumption about styles: `normal_form_sound` proves it sound in every algebra whose `+` is associative, has an identity
and is idempotent, `real_styles_idempotent` proves that rich's real `Style` algebra (C06 model, empty link stored as
`None`: fix c566893) is one, and `wrap_fold_keeps_real_styles` restates the headline theorem there: the fields
`Style.__eq__` compares, of the `Style` every non-whitespace character is rendered with, are the same before and after.

`wrapLine_style_preserved` (every overflow mode) covers the four justify modes that treat lines separately and
`wrapLine_style_preserved_full` justify "full"; both speak about the paragraph after tab expansion (which
`expandTabs_exact` relates to the paragraph before it).  No open obligation remains for the statement of C02.
-/
namespace RichModel.C02
open RichModel RichModel.Text RichModel.Wrap

variable {σ : Type}
variable {chars : Bool}

/-! ## `divide_line` -/

/-- The break offsets computed on the plain string are strictly increasing and strictly inside the string, for every
string, every width into which every character fits, folding or not. -/
theorem divideLine_offsets (cw : Char → Nat) (text : List Char) (w : Nat) (fold : Bool) (hwc : ∀ c, cw c ≤ w) :
    (divideLine cw text w fold).Pairwise (· < ·) ∧ ∀ o ∈ divideLine cw text w fold, 0 < o ∧ o < text.length :=
  Wrap.divideLine_offsets cw text w fold hwc

/-- With folding, every piece between two consecutive offsets fits the width once its trailing whitespace is
removed — the reason why wrapping never has to cut a non-whitespace character. -/
theorem divideLine_pieces_fit (cw : Char → Nat) (text : List Char) (w : Nat) (hwc : ∀ c, cw c ≤ w) :
    ∀ p ∈ pieces (divideLine cw text w true) text, cellLen cw (pyRstrip p) ≤ w :=
  Wrap.divideLine_pieces_fit cw text w hwc

/-- **A word is broken only when it is too wide.**  An offset between two non-whitespace characters lies strictly
inside a match `word` of `\s*\S+\s*`, folding is on, and that word without its trailing whitespace — i.e. the run of
non-whitespace together with the indentation before it when it starts the paragraph — is wider than the width. -/
theorem break_only_when_too_wide (cw : Char → Nat) (text : List Char) (w : Nat) (fold : Bool)
    (hwc : ∀ c, cw c ≤ w) (o : Nat) (ho : o ∈ divideLine cw text w fold)
    (hl : ∃ c, text[o - 1]? = some c ∧ pyIsSpace c = false) (hr : ∃ c, text[o]? = some c ∧ pyIsSpace c = false) :
    fold = true ∧ ∃ a b word, (a, b, word) ∈ words text ∧ a < o ∧ o < b ∧ word = (text.drop a).take (b - a) ∧
      w < cellLen cw (pyRstrip word) :=
  Wrap.break_only_when_too_wide cw text w fold hwc o ho hl hr

/-- what a match of `\s*\S+\s*` is: indentation (only at the very beginning), one run of non-whitespace, trailing
whitespace; a later match is preceded by whitespace -/
theorem words_shape (text : List Char) (a b : Nat) (word : List Char) (h : (a, b, word) ∈ words text) :
    b = a + word.length ∧ b ≤ text.length ∧ word = (text.drop a).take (b - a) ∧
    (∃ lead body trail, word = lead ++ body ++ trail ∧ (∀ c ∈ lead, pyIsSpace c = true) ∧
      (∀ c ∈ trail, pyIsSpace c = true) ∧ body ≠ [] ∧ (∀ c ∈ body, pyIsSpace c = false) ∧ (lead ≠ [] → a = 0)) ∧
    (a ≠ 0 → ∃ c, text[a - 1]? = some c ∧ pyIsSpace c = true) := by
  have hw := words_mem h
  obtain ⟨lead, body, trail, ⟨w1, w2, w3, w4, w5⟩, m3⟩ := hw.word
  exact ⟨hw.stop, hw.stop_le, hw.eq_take, ⟨lead, body, trail, w1, w2, w3, w4, w5, m3⟩, hw.before⟩

/-! ## every produced line fits -/

/-- **Every line `Text.wrap` produces fits the width**, unless the effective overflow is "ignore" — for every text,
span set, justify mode (including "full"), tab size, `no_wrap`, and for the released as well as the repaired code. -/
theorem wrap_lines_fit [BEq σ] (wv : WVariant) (cw : Char → Nat) (hsp : cw ' ' = 1) (h2 : ∀ c, cw c ≤ 2) (hel : cw '…' = 1)
    (A : StyleAlg σ) (t : Text σ) (w : Nat) (hw : 1 ≤ w) (justify : Option Justify) (overflow : Option Overflow)
    (tabSize : Option Nat) (noWrap : Option Bool) (out : List (Text σ))
    (h : wrap wv cw A t w justify overflow tabSize noWrap = .ok out)
    (hov : wrapOverflowOf t overflow ≠ Overflow.ignore) : ∀ l ∈ out, cellLen cw l.plain ≤ w :=
  Wrap.wrap_lines_fit wv cw hsp h2 hel A t w hw justify overflow tabSize noWrap out h hov

/-- `Text.truncate(w, overflow, pad)` on its own — the crop / ellipsis / pad step that `Lines.justify("left")` and the
end of `wrap` apply to every line: for every text, every span set, overflow "fold", "crop" or "ellipsis", padding on or
off, width ≥ 1, the result fits the width. -/
theorem truncate_line_fits (cw : Char → Nat) (hsp : cw ' ' = 1) (h2 : ∀ c, cw c ≤ 2) (hel : cw '…' = 1)
    (t : Text σ) (w : Nat) (hw : 1 ≤ w) (ov : Overflow) (hov : ov ≠ Overflow.ignore) (pad : Bool) :
    cellLen cw (t.truncate cw (w : Int) (some ov) pad).plain ≤ w :=
  truncate_fits cw hsp h2 hel t w hw ov hov pad

example : ((Text.new Variant.repaired ['a', 'b', 'c', 'd', 'e'] (0 : Nat)).truncate (fun _ => 1) 4 (some .ellipsis) true).plain
    = ['a', 'b', 'c', '…'] := by decide +kernel

/-- `divide_line` with `fold=False` (overflow "crop" / "ellipsis": a word wider than the line is not cut) and at ANY
width, also below the boundary: the offsets ascend and stay inside the text (weakly: `narrow_offset_zero` shows why not
strictly) — what `Text.divide` needs to cut the styled string (`divide_effStyle`). -/
theorem divideLine_offsets_any_width (cw : Char → Nat) (text : List Char) (w : Nat) (fold : Bool) :
    AscFrom 0 (divideLine cw text w fold) ∧ ∀ o ∈ divideLine cw text w fold, o ≤ text.length :=
  divideLine_weak cw text w fold

/-! ## the heart: `divide` cuts the styled string -/

/-- `Text.divide` at ascending offsets (repeats allowed) cuts the *styled string*: line `i` shows the characters
between offsets `i` and `i+1`, each with exactly the effective style it had — base style, then all covering spans in
their original order, whatever the spans are (overlapping, nested, duplicated, empty). -/
theorem divide_effStyle [BEq σ] (t : Text σ) (offs : List Nat) (h : Inv t) (hs : AscFrom 0 offs)
    (hb : ∀ o ∈ offs, o ≤ t.plain.length) :
    ∃ lines, t.divide Variant.repaired offs = .ok lines ∧ lines.map Text.view = pieces offs t.view ∧
      lines.map (·.plain) = pieces offs t.plain ∧
      (∀ l ∈ lines, Inv l ∧ l.style = t.style ∧ l.justify = t.justify ∧ l.overflow = t.overflow) :=
  Text.divide_view t offs h hs hb

/-- the released `divide` keys its `order` dict by span *value*: when the remainder of a span split at a line end equals
a later span, the styles of the next line are re-ordered.  `"a b"` with spans 1:(0,3) 2:(2,3) 1:(2,3) wrapped at width 2:
`b` is `0,1,2,1` (style 1 wins) but the second line shows `0,1,1,2` (style 2 wins). -/
theorem old_wrap_reorders_styles :
    (wrap WVariant.released (fun _ => 1) (⟨0, List.sum, (· == ·)⟩ : StyleAlg Nat)
        (Text.new Variant.released ['a', ' ', 'b'] 0 [⟨0, 3, 1⟩, ⟨2, 3, 2⟩, ⟨2, 3, 1⟩]) 2).map (fun ls => ls.map Text.view)
      = .ok [[('a', [0, 1]), (' ', [0, 1])], [('b', [0, 1, 1, 2])]] ∧
    (Text.new Variant.released ['a', ' ', 'b'] (0 : Nat) [⟨0, 3, 1⟩, ⟨2, 3, 2⟩, ⟨2, 3, 1⟩]).effStyle 2 = [0, 1, 2, 1] :=
  ⟨eq_ok_of_toOption (by decide +kernel), by decide +kernel⟩

example :
    (wrap WVariant.repaired (fun _ => 1) (⟨0, List.sum, (· == ·)⟩ : StyleAlg Nat)
        (Text.new Variant.repaired ['a', ' ', 'b'] 0 [⟨0, 3, 1⟩, ⟨2, 3, 2⟩, ⟨2, 3, 1⟩]) 2).map (fun ls => ls.map Text.view)
      = .ok [[('a', [0, 1]), (' ', [0, 1])], [('b', [0, 1, 2, 1])]] := eq_ok_of_toOption (by decide +kernel)

/-! ## folding keeps every non-whitespace character, in order, with its style -/

/-- One paragraph (no newline; tabs already expanded), overflow "fold", justify "default", "left", "center" or
"right": the non-whitespace characters of the produced lines, concatenated, **with their effective styles**, are
exactly those of the paragraph — nothing dropped, duplicated, reordered or restyled. -/
theorem wrapLine_fold_keeps [BEq σ] (cw : Char → Nat) (hsp : cw ' ' = 1) (h2 : ∀ c, cw c ≤ 2) (A : StyleAlg σ) (w : Nat)
    (hwc : ∀ c, cw c ≤ w) (j : Justify) (hj : j ≠ Justify.full) (P : Text σ) (hP : Inv P) :
    ∃ out, wrapLine (WVariant.fixed chars) cw A P w j Overflow.fold false = .ok out ∧
      nsv (out.flatMap Text.view) = nsv P.view ∧ ∀ l ∈ out, Inv l := by
  obtain ⟨out, h1, h3, h4⟩ := wrapLine_fold_ink (chars := chars) cw hsp A w hwc j P hP
  exact ⟨out, h1, h3.trans (paraInk_of_ne_full cw A w hj P), h4⟩

/-- the characters alone -/
theorem wrapLine_fold_keeps_chars [BEq σ] (cw : Char → Nat) (hsp : cw ' ' = 1) (h2 : ∀ c, cw c ≤ 2) (A : StyleAlg σ)
    (w : Nat) (hwc : ∀ c, cw c ≤ w) (j : Justify) (hj : j ≠ Justify.full) (P : Text σ) (hP : Inv P) :
    ∃ out, wrapLine (WVariant.fixed chars) cw A P w j Overflow.fold false = .ok out ∧
      (out.flatMap (·.plain)).filter (fun c => !pyIsSpace c) = P.plain.filter (fun c => !pyIsSpace c) := by
  obtain ⟨out, h1, h3, _⟩ := wrapLine_fold_keeps cw hsp h2 A w hwc j hj P hP
  exact ⟨out, h1, plain_of_ink id (fun _ => rfl) out P h3⟩

/-- The same for justify **"full"**: every line but the last of the paragraph is rebuilt from its words with the
blanks spread out; the non-whitespace characters of the produced lines and their effective styles are those of the
paragraph (up to the null style `""` that `Text("").join` puts in front). -/
theorem wrapLine_fold_keeps_full [BEq σ] [LawfulBEq σ] (cw : Char → Nat) (hsp : cw ' ' = 1)
    (A : StyleAlg σ) (w : Nat) (hwc : ∀ c, cw c ≤ w) (P : Text σ) (hP : Inv P) :
    ∃ out, wrapLine (WVariant.fixed chars) cw A P w Justify.full Overflow.fold false = .ok out ∧
      dropNull A (nsv (out.flatMap Text.view)) = dropNull A (nsv P.view) ∧ ∀ l ∈ out, Inv l := by
  obtain ⟨out, h1, h3, h4⟩ := wrapLine_fold_ink (chars := chars) cw hsp A w hwc Justify.full P hP
  exact ⟨out, h1, by rw [h3, paraInk_dropNull], h4⟩

/-- **Every justify mode** ("default", "left", "center", "right", "full"): with overflow "fold" the non-whitespace
characters of the produced lines, concatenated, are exactly those of the paragraph — none dropped, duplicated or
reordered — and each carries the effective style it had (compared modulo the null style, see the header). -/
theorem wrapLine_fold_keeps_every_justify [BEq σ] [LawfulBEq σ] (cw : Char → Nat) (hsp : cw ' ' = 1) (h2 : ∀ c, cw c ≤ 2)
    (A : StyleAlg σ) (w : Nat) (hwc : ∀ c, cw c ≤ w) (j : Justify) (P : Text σ) (hP : Inv P) :
    ∃ out, wrapLine (WVariant.fixed chars) cw A P w j Overflow.fold false = .ok out ∧
      dropNull A (nsv (out.flatMap Text.view)) = dropNull A (nsv P.view) ∧ (∀ l ∈ out, Inv l) ∧
      (out.flatMap (·.plain)).filter (fun c => !pyIsSpace c) = P.plain.filter (fun c => !pyIsSpace c) := by
  obtain ⟨out, h1, h3, h4⟩ := wrapLine_fold_ink (chars := chars) cw hsp A w hwc j P hP
  have h3' : dropNull A (nsv (out.flatMap Text.view)) = dropNull A (nsv P.view) := by rw [h3, paraInk_dropNull]
  exact ⟨out, h1, h3', h4, plain_of_ink (dropNull A) (dropNull_map_fst A) out P h3'⟩

/-- **Word wrapping keeps every character, in order, with its own style** — the whole of `Text.wrap` (split on
newlines, tab expansion with any tab size ≥ 1, division at the computed offsets, `rstrip_end`, justification, final
crop), **every justify mode**, effective overflow "fold", wrapping enabled, any width into which every character fits
(every width ≥ 2: `statement_range`; width 1 with single-cell characters: `width_one_single_cells`), any text, any span set:
the call succeeds, and the non-whitespace characters of all produced lines, concatenated, are exactly those of the
text — none dropped, duplicated or reordered — each with the effective style it had before wrapping.  Styles are
compared in the normal form `normView` (null style erased, adjacent repetitions merged), i.e. up to the two laws of
rich's style algebra that `wrap` itself relies on when `expand_tabs` re-applies the base style and `Text("").join`
puts the null style in front; for texts without tabs and justify other than "full" the comparison is exact
(`wrap_fold_keeps_styles_exact`). -/
theorem wrap_fold_keeps_nonspace [BEq σ] [LawfulBEq σ] (cw : Char → Nat) (hsp : cw ' ' = 1) (h2 : ∀ c, cw c ≤ 2)
    (A : StyleAlg σ) (t : Text σ) (ht : Inv t) (w : Nat) (hwc : ∀ c, cw c ≤ w) (justify : Option Justify)
    (overflow : Option Overflow) (ts : Nat) (hts : 0 < ts) (noWrap : Option Bool)
    (hov : wrapOverflowOf t overflow = Overflow.fold) (hnw : noWrapOf t overflow noWrap = false) :
    ∃ out, wrap (WVariant.fixed chars) cw A t w justify overflow (some ts) noWrap = .ok out ∧
      normView A (nsv (out.flatMap Text.view)) = normView A (nsv t.view) ∧
      (out.flatMap (·.plain)).filter (fun c => !pyIsSpace c) = t.plain.filter (fun c => !pyIsSpace c) :=
  Wrap.wrap_fold_keeps_nonspace cw hsp h2 A t ht w hwc justify overflow ts hts noWrap hov hnw

/-- for a text without tab characters the null style is the only thing to erase, in every justify mode -/
theorem wrap_fold_keeps_nonspace_notabs [BEq σ] [LawfulBEq σ] (cw : Char → Nat) (hsp : cw ' ' = 1) (h2 : ∀ c, cw c ≤ 2)
    (A : StyleAlg σ) (t : Text σ) (ht : Inv t) (w : Nat) (hwc : ∀ c, cw c ≤ w) (justify : Option Justify)
    (overflow : Option Overflow) (tabSize : Option Nat) (noWrap : Option Bool)
    (hov : wrapOverflowOf t overflow = Overflow.fold) (hnw : noWrapOf t overflow noWrap = false)
    (htab : '\t' ∉ t.plain) :
    ∃ out, wrap (WVariant.fixed chars) cw A t w justify overflow tabSize noWrap = .ok out ∧
      dropNull A (nsv (out.flatMap Text.view)) = dropNull A (nsv t.view) :=
  wrap_fold_ink_upto cw hsp A t ht w hwc justify overflow tabSize noWrap (fun h => absurd h htab) hov hnw (dropNull A)
    (dropNull_append A) (paraInk_dropNull cw A w _) fun _ hPc => congrArg _ (tabMark_of_no_tab htab hPc)

/-- … and for the four justify modes that treat lines separately the styles are compared **exactly** -/
theorem wrap_fold_keeps_styles_exact [BEq σ] (cw : Char → Nat) (hsp : cw ' ' = 1) (h2 : ∀ c, cw c ≤ 2)
    (A : StyleAlg σ) (t : Text σ) (ht : Inv t) (w : Nat) (hwc : ∀ c, cw c ≤ w) (justify : Option Justify)
    (overflow : Option Overflow) (tabSize : Option Nat) (noWrap : Option Bool)
    (hov : wrapOverflowOf t overflow = Overflow.fold) (hnw : noWrapOf t overflow noWrap = false)
    (hj : wrapJustifyOf t justify ≠ Justify.full) (htab : '\t' ∉ t.plain) :
    ∃ out, wrap (WVariant.fixed chars) cw A t w justify overflow tabSize noWrap = .ok out ∧
      nsv (out.flatMap Text.view) = nsv t.view :=
  wrap_fold_ink_upto cw hsp A t ht w hwc justify overflow tabSize noWrap (fun h => absurd h htab) hov hnw id
    (fun _ _ => rfl) (paraInk_of_ne_full cw A w hj) fun _ hPc => tabMark_of_no_tab htab hPc

/-! ## the exact form where `wrap` itself adds style names: tabs and justify "full"

`wrap_fold_keeps_styles_exact` compares name lists exactly for tab-free texts and justify other than "full".  The two
remaining cases are not weaker in kind — `wrap` adds a style name **in front** of the effective style, and exactly
there: `Text.expand_tabs` rebuilds a paragraph that contains a tab through `Text.append(part)` (span of the part's
base style first, then the part's spans), so every character of such a paragraph carries the base style once more in
front (`tabMark`); `Lines.justify(…, "full")` rebuilds every line of a paragraph but the last as
`Text("").join(tokens)`, so every character of such a line carries the null style `""` in front (`fullMark`).  The
theorems below state this as equalities of name lists; `tabs_exact_form_fails` / `full_exact_form_fails` are the
machine-checked reasons why the unmarked equality cannot hold there. -/

/-- `expand_tabs` exactly: a paragraph with a tab shows its non-whitespace characters, in order, each with the base
style followed by the effective style it had (base style, then the covering spans in span order) — the order of the
part's base-style span and the part's own spans in `Text.append` is what this pins down. -/
theorem expandTabs_exact [BEq σ] (P : Text σ) (h : Inv P) (ts : Nat) (hts : 0 < ts) :
    ∃ Q, (if P.plain.contains '\t' then P.expandTabs Variant.repaired (some ts) else .ok P) = .ok Q ∧ Inv Q ∧
      Q.style = P.style ∧ nsv Q.view = tabMark P :=
  expandTabs_tabMark P h (some ts) fun _ => ⟨ts, rfl, hts⟩

/-- **Exact styles for texts with tabs** (justify "default", "left", "center", "right"; any tab size ≥ 1): the
non-whitespace characters of the produced lines, with their style lists, are those of the paragraphs of the text
(`split` on newlines: same characters, same styles), where exactly the characters of a paragraph that contains a tab
carry the base style once more in front. -/
theorem wrap_fold_keeps_styles_exact_tabs [BEq σ] (cw : Char → Nat) (hsp : cw ' ' = 1) (h2 : ∀ c, cw c ≤ 2)
    (A : StyleAlg σ) (t : Text σ) (ht : Inv t) (w : Nat) (hwc : ∀ c, cw c ≤ w) (justify : Option Justify)
    (overflow : Option Overflow) (ts : Nat) (hts : 0 < ts) (noWrap : Option Bool)
    (hov : wrapOverflowOf t overflow = Overflow.fold) (hnw : noWrapOf t overflow noWrap = false)
    (hj : wrapJustifyOf t justify ≠ Justify.full) :
    ∃ out ps, wrap (WVariant.fixed chars) cw A t w justify overflow (some ts) noWrap = .ok out ∧
      t.split Variant.repaired ['\n'] false true = .ok ps ∧ nsv (ps.flatMap Text.view) = nsv t.view ∧
      (∀ P ∈ ps, Inv P ∧ P.style = t.style ∧ '\n' ∉ P.plain) ∧
      nsv (out.flatMap Text.view) = ps.flatMap tabMark := by
  obtain ⟨out, ps, h1, hs, hink, hps, h5, hsub⟩ := wrap_fold_ink (chars := chars) cw hsp A t ht w hwc justify overflow (some ts)
    noWrap (fun _ => ⟨ts, rfl, hts⟩) hov hnw
  refine ⟨out, ps, h1, hs, hink, hps, ?_⟩
  rw [h5]
  exact flatMap_congr_of_hom id (fun _ _ => rfl) _ _ ps fun P hP =>
    wrapInk_upto cw A w _ (some ts) id (paraInk_of_ne_full cw A w hj) P (hps P hP).1 fun _ => ⟨ts, rfl, hts⟩

/-- **Exact styles for justify "full"**, one paragraph (tabs expanded): cut the paragraph's styled string at the
offsets of `divide_line`; the non-whitespace characters of the produced lines are those of the pieces, in order, the
characters of every piece but the last with the null style `""` in front of their style list, those of the last piece
with exactly their style list. -/
theorem wrapLine_fold_keeps_full_exact [BEq σ] (cw : Char → Nat) (hsp : cw ' ' = 1) (A : StyleAlg σ) (w : Nat)
    (hwc : ∀ c, cw c ≤ w) (P : Text σ) (hP : Inv P) :
    ∃ out, wrapLine (WVariant.fixed chars) cw A P w Justify.full Overflow.fold false = .ok out ∧
      nsv (out.flatMap Text.view) =
        fullMark A.null ((pieces (divideLine cw P.plain w true) P.view).map nsv) := by
  obtain ⟨out, h1, h3, _⟩ := wrapLine_fold_ink (chars := chars) cw hsp A w hwc Justify.full P hP
  exact ⟨out, h1, h3.trans (paraInk_full cw A w P)⟩

/-- what `fullMark` is: the characters of the lines, in order; each style list is kept or gets the null style in
front — nothing else -/
theorem fullMark_chars (null : σ) (ls : List (List (Char × List σ))) :
    (fullMark null ls).length = ls.flatten.length ∧
      ∀ p ∈ (fullMark null ls).zip ls.flatten, p.1.1 = p.2.1 ∧ (p.1.2 = p.2.2 ∨ p.1.2 = null :: p.2.2) := by
  rcases List.eq_nil_or_concat ls with rfl | ⟨init, last, rfl⟩
  · exact ⟨rfl, fun _ hp => nomatch hp⟩
  · rw [List.concat_eq_append, fullMark_concat, List.flatten_append, List.flatten_cons, List.flatten_nil, List.append_nil]
    refine ⟨by rw [List.length_append, List.length_append, List.length_map],
      zip_map_append _ _ (fun x => ⟨rfl, Or.inr rfl⟩) _ _ _ fun p hp => ?_⟩
    -- the last line is zipped with itself
    obtain ⟨i, _, h⟩ := List.mem_iff_getElem.mp hp
    rw [← h, List.getElem_zip]
    exact ⟨rfl, Or.inl rfl⟩

/-- **The whole of `Text.wrap`, every justify mode, tabs, exactly**: the non-whitespace characters of the produced
lines with their style lists are, paragraph by paragraph, `wrapInk`: expand the tabs (`expandTabs_exact`: base style
once more in front when there is a tab), then — for "full" only — the null style in front on every line of the
paragraph but the last (`fullMark` over the pieces cut at `divide_line`'s offsets).  No normal form. -/
theorem wrap_fold_keeps_exact [BEq σ] (cw : Char → Nat) (hsp : cw ' ' = 1) (h2 : ∀ c, cw c ≤ 2)
    (A : StyleAlg σ) (t : Text σ) (ht : Inv t) (w : Nat) (hwc : ∀ c, cw c ≤ w) (justify : Option Justify)
    (overflow : Option Overflow) (ts : Nat) (hts : 0 < ts) (noWrap : Option Bool)
    (hov : wrapOverflowOf t overflow = Overflow.fold) (hnw : noWrapOf t overflow noWrap = false) :
    ∃ out ps, wrap (WVariant.fixed chars) cw A t w justify overflow (some ts) noWrap = .ok out ∧
      t.split Variant.repaired ['\n'] false true = .ok ps ∧ nsv (ps.flatMap Text.view) = nsv t.view ∧
      (∀ P ∈ ps, Inv P ∧ P.style = t.style ∧ '\n' ∉ P.plain) ∧
      nsv (out.flatMap Text.view) = ps.flatMap (wrapInk cw A w (wrapJustifyOf t justify) (some ts)) := by
  obtain ⟨out, ps, h1, hs, hink, hps, h5, _⟩ := wrap_fold_ink (chars := chars) cw hsp A t ht w hwc justify overflow (some ts)
    noWrap (fun _ => ⟨ts, rfl, hts⟩) hov hnw
  exact ⟨out, ps, h1, hs, hink, hps, h5⟩

/-- **The blanks full justification inserts**: the complete styled string of a rebuilt line — not only its
non-whitespace characters — is that of its tokens one after the other, every character with the null style in front;
the tokens are the words of `line.split(" ")` and between two words `spaces[i]` blanks (`fullTokens`), and such a blank
token shows each blank with exactly ONE style (`full_blank_style`): the `Style` `get_style_at_offset` computes at the
last character of the word when it is `==` the one at the first character of the next word, otherwise the line's base
style.  So an inserted blank renders with `null + that style`: it continues a style its two neighbours share
(underline, background) and never picks up the style of only one of them. -/
theorem justify_full_line_exact [BEq σ] (cw : Char → Nat) (A : StyleAlg σ) (line : Text σ) (h : Inv line) (w : Nat) :
    ∃ (ws : List (Text σ)) (out : Text σ), line.split Variant.repaired [' '] = .ok ws ∧
      justifyFullLine Variant.repaired cw A line w = .ok out ∧
      out.view = (fullTokens Variant.repaired A line.style ws
          (fullSpaces (ws.map (fun x => cellLen cw x.plain)).sum ws.length w)).flatMap
        (fun x => x.view.map (fun p => (p.1, A.null :: p.2))) := by
  obtain ⟨ws, out, _, h1, h2, h3, _⟩ := justifyFullLine_spec cw A line h w
  exact ⟨ws, out, h1, h2, h3.view⟩

/-- the blank token `Text(" " * n, style=space_style)`: `n` blanks, each with `space_style` and nothing else -/
theorem full_blank_style (n : Nat) (st : σ) :
    (Text.new Variant.repaired (List.replicate n ' ') st).view = List.replicate n (' ', [st]) :=
  (blank_shows n st).view

/-- `"ab cd "` with style 7 on `b c`, width 8 (`exLine`): the four blanks between the words carry the null style 100 and
`comb [0, 7] = 7` — the style both neighbours `b` and `c` have — not the bare base style -/
example : (justifyFullLine Variant.repaired (fun _ => 1) exAlg exLine 8).map Text.view =
    .ok [('a', [100, 0]), ('b', [100, 0, 7]), (' ', [100, 7]), (' ', [100, 7]), (' ', [100, 7]), (' ', [100, 7]),
      ('c', [100, 0, 7]), ('d', [100, 0])] := eq_ok_of_toOption (by decide +kernel)

/-- why the unmarked equality fails with a tab: `"a\tb"` with base style 0 and style 1 on `b`, tab size 2, width 4 —
after wrapping `a` carries `[0, 0]` and `b` carries `[0, 0, 1]` (base style in front once more, *before* the span),
not `[0]` and `[0, 1]` -/
theorem tabs_exact_form_fails :
    (wrap WVariant.repaired (fun _ => 1) (⟨9, List.sum, (· == ·)⟩ : StyleAlg Nat)
        (Text.new Variant.repaired ['a', '\t', 'b'] 0 [⟨2, 3, 1⟩]) 4 none none (some 2)).map
        (fun ls => nsv (ls.flatMap Text.view)) = .ok [('a', [0, 0]), ('b', [0, 0, 1])] ∧
    nsv (Text.new Variant.repaired ['a', '\t', 'b'] (0 : Nat) [⟨2, 3, 1⟩]).view = [('a', [0]), ('b', [0, 1])] :=
  ⟨eq_ok_of_toOption (by decide +kernel), by decide +kernel⟩

/-- why the unmarked equality fails for "full": `"a b c"` at width 3 — the first line is rebuilt (`a`, `b` carry the
null style 9 in front), the last line is not -/
theorem full_exact_form_fails :
    (wrap WVariant.repaired (fun _ => 1) (⟨9, List.sum, (· == ·)⟩ : StyleAlg Nat)
        (Text.new Variant.repaired ['a', ' ', 'b', ' ', 'c'] 0 [⟨2, 5, 1⟩]) 3 (some .full)).map
        (fun ls => nsv (ls.flatMap Text.view)) = .ok [('a', [9, 0]), ('b', [9, 0, 1]), ('c', [0, 1])] :=
  eq_ok_of_toOption (by decide +kernel)

/-- a text with a tab paragraph and a tab-free one meets the hypotheses of the exact theorems -/
example : Inv (Text.new Variant.repaired ['a', '\t', 'b', '\n', 'c'] (0 : Nat) [⟨2, 5, 1⟩]) :=
  inv_new _ _ _ _ _ _ _ _ (by
    intro sp hsp
    simp only [List.mem_cons, List.mem_nil_iff, or_false] at hsp
    subst hsp; decide)

example :
    (wrap WVariant.repaired (fun _ => 1) (⟨9, List.sum, (· == ·)⟩ : StyleAlg Nat)
        (Text.new Variant.repaired ['a', '\t', 'b', '\n', 'c'] 0 [⟨2, 5, 1⟩]) 4 none none (some 2)).map
        (fun ls => nsv (ls.flatMap Text.view)) = .ok [('a', [0, 0]), ('b', [0, 0, 1]), ('c', [0, 1])] :=
  eq_ok_of_toOption (by decide +kernel)

/-! ## every overflow mode: each character that is output carries the style it had -/

/-- One paragraph, **every overflow mode** ("fold", "crop", "ellipsis", "ignore"), wrapping on or off (`no_wrap`),
justify "default", "left", "center" or "right": the paragraph's styled string is cut into consecutive pieces
(`lines`), and each produced line is: blanks, then a prefix of its piece — *every character with exactly the effective
style it had before wrapping* — then blanks / the ellipsis character.  No character of the output comes from anywhere
else, none changes its style, and their order is the paragraph's. -/
theorem wrapLine_style_preserved [BEq σ] (cw : Char → Nat) (hsp : cw ' ' = 1) (h2 : ∀ c, cw c ≤ 2) (A : StyleAlg σ) (w : Nat)
    (hw : 1 ≤ w) (j : Justify) (hj : j ≠ Justify.full) (o : Overflow) (nw : Bool) (P : Text σ) (hP : Inv P) :
    ∃ lines : List (Text σ), (lines.map Text.view).flatten = P.view ∧
      wrapLine (WVariant.fixed chars) cw A P w j o nw = .ok (lines.map (finishLine (WVariant.fixed chars) cw w j o)) ∧
      ∀ l ∈ lines, Kept l (finishLine (WVariant.fixed chars) cw w j o l) := by
  obtain ⟨lines, hl, hflat, hinv⟩ := paragraph_lines cw P hP w o nw
  exact ⟨lines, hflat, wrapLine_finish cw A P w j hj o nw lines hl,
    fun l h => (finishLine_stage cw w j o l (hinv l h)).kept⟩

/-- The same for justify **"full"**, every overflow mode, wrapping on or off: the paragraph's styled string is cut
into consecutive pieces, there is one produced line per piece, and the non-whitespace characters a produced line shows
are a prefix of those of its piece — in order, each with the effective style it had (modulo the null style that
`Text("").join` puts in front of a rebuilt line) — possibly between ellipsis characters.  (The blanks between the words
of a rebuilt line are new characters; nothing is claimed about them.) -/
theorem wrapLine_style_preserved_full [BEq σ] [LawfulBEq σ] (cw : Char → Nat) (hsp : cw ' ' = 1) (h2 : ∀ c, cw c ≤ 2)
    (A : StyleAlg σ) (w : Nat) (hw : 1 ≤ w) (o : Overflow) (nw : Bool) (P : Text σ) (hP : Inv P) :
    ∃ (lines out : List (Text σ)), (lines.map Text.view).flatten = P.view ∧
      wrapLine (WVariant.fixed chars) cw A P w Justify.full o nw = .ok out ∧ out.length = lines.length ∧
      ∀ p ∈ lines.zip out, InkPrefix A p.1 p.2 := by
  obtain ⟨lines, hl, hflat, hinv⟩ := paragraph_lines cw P hP w o nw
  obtain ⟨outs, hwl, hrel⟩ := wrapLine_full (chars := chars) cw hsp A P w o nw lines hl hinv
  exact ⟨lines, _, hflat, hwl, by rw [List.length_map, FullRel.length cw A w _ outs hrel, List.length_map],
    fullRel_inkPrefix (chars := chars) cw A w o lines outs hinv hrel⟩

/-- released `Lines.justify`: "right" (and "center") hand `pad_left` a *negative* count when the line stays wider than the
width (overflow "ignore"): the characters stay, every span moves left — `"abc"` with style 1 on `bc`, width 2:
the released code shows style 1 on `ab`. -/
theorem old_justify_negative_pad :
    (wrap WVariant.released (fun _ => 1) (⟨0, List.sum, (· == ·)⟩ : StyleAlg Nat)
        (Text.new Variant.released ['a', 'b', 'c'] 0 [⟨1, 3, 1⟩]) 2 (some .right) (some .ignore)).map (fun ls => ls.map Text.view)
      = .ok [[('a', [0, 1]), ('b', [0, 1]), ('c', [0])]] := eq_ok_of_toOption (by decide +kernel)

example :
    (wrap WVariant.repaired (fun _ => 1) (⟨0, List.sum, (· == ·)⟩ : StyleAlg Nat)
        (Text.new Variant.repaired ['a', 'b', 'c'] 0 [⟨1, 3, 1⟩]) 2 (some .right) (some .ignore)).map (fun ls => ls.map Text.view)
      = .ok [[('a', [0]), ('b', [0, 1]), ('c', [0, 1])]] := eq_ok_of_toOption (by decide +kernel)

/-- a width function with a 2-cell and a 0-cell character that meets the hypotheses -/
def exCw (c : Char) : Nat := if c = 'あ' then 2 else if c = '̀' then 0 else 1

/-! ## `rstrip_end` counting cells (C08 repair): lines fit before the final crop -/

/-- With the repaired `rstrip_end` (`chars = false`) every line of a fold-wrapped paragraph already fits the width
when it leaves `rstrip_end` — the final `truncate` has nothing to cut — provided no whitespace character is zero cells
wide.  (Line by line, for any line whose text fits once stripped, hence under "crop" / "ellipsis" too:
`Wrap.rstripEnd_cells_fits`.) -/
theorem fold_lines_fit_before_crop [BEq σ] (cw : Char → Nat)
    (hws : ∀ c, pyIsSpace c = true → 1 ≤ cw c) (w : Nat) (hwc : ∀ c, cw c ≤ w) (P : Text σ) (hP : Inv P) :
    ∃ lines, P.divide Variant.repaired (divideLine cw P.plain w true) = .ok lines ∧
      ∀ l ∈ lines, cellLen cw (Text.rstripEndW false cw Variant.repaired l (w : Int)).plain ≤ w := by
  obtain ⟨lines, hdiv, _, _, hall⟩ := divide_fold cw w hwc P hP
  exact ⟨lines, hdiv, fun l hl => rstripEnd_cells_fits cw hws l w (hall l hl).2⟩

example : ∀ c, pyIsSpace c = true → 1 ≤ exCw c := by
  intro c h
  unfold exCw
  split
  · omega
  · split
    · rename_i hc; subst hc; exact absurd h (by decide)
    · omega

/-- the `rstrip_end` of rich 9.10.0 as found (before fix f5f2be9) compares characters with cells: `"ああ b"` at width 4 leaves the first line as `"ああ "`
(3 characters ≤ 4, but 5 cells), so with overflow "ellipsis" the final crop turns it into `"あ …"` and a character
that fits is lost; the repaired form strips the blank and keeps `"ああ"`. -/
theorem old_wrap_ellipsis_drops_fitting_char :
    (wrap (WVariant.fixed true) exCw (⟨0, List.sum, (· == ·)⟩ : StyleAlg Nat)
        (Text.new Variant.repaired ['あ', 'あ', ' ', 'b'] 0) 4 none (some .ellipsis)).map (fun ls => ls.map (·.plain))
      = .ok [['あ', ' ', '…'], ['b']] ∧
    (wrap (WVariant.fixed false) exCw (⟨0, List.sum, (· == ·)⟩ : StyleAlg Nat)
        (Text.new Variant.repaired ['あ', 'あ', ' ', 'b'] 0) 4 none (some .ellipsis)).map (fun ls => ls.map (·.plain))
      = .ok [['あ', 'あ'], ['b']] :=
  ⟨eq_ok_of_toOption (by decide +kernel), eq_ok_of_toOption (by decide +kernel)⟩

/-! ## the normal form is sound for rich's real `Style` algebra -/

/-- In every style algebra where `+` is associative, has a two-sided identity and is idempotent (up to an
equivalence that `+` respects), a style list and its normal form (null style erased, adjacent repetitions merged)
combine to equivalent styles.  No commutativity is used: the order of the remaining styles — "later styles win" — is
kept. -/
theorem normal_form_sound [BEq σ] [LawfulBEq σ] {S : Type} (M : StyleLaws S) (A : StyleAlg σ) (interp : σ → S)
    (hnull : M.eqv (interp A.null) M.one) (l : List σ) :
    M.eqv (M.combine interp (normStyle A l)) (M.combine interp l) :=
  M.normStyle_sound A interp hnull l

/-- rich's real styles (C06 model: every constructible `Style`, `Style.__add__`, `Style.__eq__`; empty link stored
as `None`, C06's repair) form such an algebra: `(a+b)+c = a+(b+c)`, `a + NULL_STYLE = a`, `NULL_STYLE + a == a`,
and **`a + a == a`** — also for styles with links (`__eq__` compares `_link`, not the random `_link_id`). -/
theorem real_styles_idempotent (v : StyleVariant) (hv : v.emptyLink = false) (a : Style) (ha : Style.Reachable v a) :
    Style.eq (Style.add v a a) a = true ∧ Style.eq (Style.add v Style.null a) a = true ∧
      Style.add v a Style.null = a :=
  ⟨Style.add_self_eq v hv ha, Style.null_add_eq v ha.inv (ha.linkOk hv), Style.add_null_right v a⟩

/-- **The headline theorem at rich's real `Style` algebra.**  Interpret every style name of the text as a
constructible `Style` (the name `""` as a style equal to `NULL_STYLE`); then for the whole of `Text.wrap` (as in
`wrap_fold_keeps_nonspace`: every justify mode, tabs, overflow "fold") the non-whitespace characters of the produced
lines are those of the text, in order, and the `Style` each one is rendered with — `Style.combine` of its effective
style list — has the same compared fields (colour, background, attributes, link: what `Style.__eq__` compares) as before
wrapping. -/
theorem wrap_fold_keeps_real_styles [BEq σ] [LawfulBEq σ] (cw : Char → Nat) (hsp : cw ' ' = 1) (h2 : ∀ c, cw c ≤ 2)
    (A : StyleAlg σ) (t : Text σ) (ht : Inv t) (w : Nat) (hwc : ∀ c, cw c ≤ w) (justify : Option Justify)
    (overflow : Option Overflow) (ts : Nat) (hts : 0 < ts) (noWrap : Option Bool)
    (hov : wrapOverflowOf t overflow = Overflow.fold) (hnw : noWrapOf t overflow noWrap = false)
    (v : StyleVariant) (hv : v.emptyLink = false) (interp : σ → RStyle v)
    (hnull : Style.eq (interp A.null).1 Style.null = true) :
    ∃ out, wrap (WVariant.fixed chars) cw A t w justify overflow (some ts) noWrap = .ok out ∧
      (nsv (out.flatMap Text.view)).map (fun p => (p.1, realKey v hv interp p.2)) =
        (nsv t.view).map (fun p => (p.1, realKey v hv interp p.2)) := by
  obtain ⟨out, ho, h3, _⟩ := wrap_fold_keeps_nonspace (chars := chars) cw hsp h2 A t ht w hwc justify overflow ts hts
    noWrap hov hnw
  exact ⟨out, ho, normView_sound A _ (realKey_normStyle v hv A interp hnull) _ _ h3⟩

/-! ## the boundary of the property: which widths, which characters

The theorems above are stated under the hypotheses they really need:
* the `divide_line` facts and everything that *keeps every character* (`divideLine_offsets`, `divideLine_pieces_fit`,
  `break_only_when_too_wide`, `wrapLine_fold_keeps…`, `wrap_fold_keeps_nonspace…`, `fold_lines_fit_before_crop`) need
  **every character to fit a line**: `∀ c, cw c ≤ w`;
* `wrap_lines_fit`, `wrapLine_style_preserved` and `wrapLine_style_preserved_full` need only `1 ≤ w` (through
  `divideLine_weak`: ascending offsets at any width);
* `divide_effStyle` and `wrap_history_pure` need nothing about widths.
The property's stated range — widths ≥ 2, characters of at most 2 cells — is one instance (`statement_range`); width 1
with single-cell characters is another (`width_one_single_cells`).  Below that boundary the statements are false, and
the `narrow_…` theorems show it by evaluation. -/

/-- the range the property is stated for (widths 2..200, characters of 0, 1 or 2 cells) meets the hypothesis -/
theorem statement_range (cw : Char → Nat) (h2 : ∀ c, cw c ≤ 2) (w : Nat) (hw : 2 ≤ w) : ∀ c, cw c ≤ w :=
  fun c => Nat.le_trans (h2 c) hw

/-- **Width 1 with single-cell (and zero-cell) characters is inside the boundary**: the whole of `Text.wrap` with
folding, every justify mode, keeps every non-whitespace character in order with its style (normal form as in
`wrap_fold_keeps_nonspace`), every line fits one cell, and every offset `divide_line` computes is strictly
increasing and strictly inside the paragraph. -/
theorem width_one_single_cells [BEq σ] [LawfulBEq σ] (cw : Char → Nat) (hsp : cw ' ' = 1) (h1 : ∀ c, cw c ≤ 1)
    (hel : cw '…' = 1) (A : StyleAlg σ) (t : Text σ) (ht : Inv t) (justify : Option Justify) (overflow : Option Overflow)
    (ts : Nat) (hts : 0 < ts) (noWrap : Option Bool)
    (hov : wrapOverflowOf t overflow = Overflow.fold) (hnw : noWrapOf t overflow noWrap = false) :
    (∃ out, wrap (WVariant.fixed chars) cw A t 1 justify overflow (some ts) noWrap = .ok out ∧
      normView A (nsv (out.flatMap Text.view)) = normView A (nsv t.view) ∧
      (out.flatMap (·.plain)).filter (fun c => !pyIsSpace c) = t.plain.filter (fun c => !pyIsSpace c) ∧
      ∀ l ∈ out, cellLen cw l.plain ≤ 1) ∧
    ∀ (text : List Char) (fold : Bool), (divideLine cw text 1 fold).Pairwise (· < ·) ∧
      ∀ o ∈ divideLine cw text 1 fold, 0 < o ∧ o < text.length := by
  have h2 : ∀ c, cw c ≤ 2 := fun c => Nat.le_trans (h1 c) (by omega)
  refine ⟨?_, fun text fold => divideLine_offsets cw text 1 fold h1⟩
  obtain ⟨out, ho, h3, h4⟩ := wrap_fold_keeps_nonspace (chars := chars) cw hsp h2 A t ht 1 h1 justify overflow ts hts
    noWrap hov hnw
  exact ⟨out, ho, h3, h4, wrap_lines_fit _ cw hsp h2 hel A t 1 (Nat.le_refl 1) justify overflow (some ts) noWrap out ho
    (by rw [hov]; decide)⟩

/-- outside: a double-width character at width 1.  `divide_line` still cuts around it, but the piece does not fit
(`divideLine_pieces_fit` fails), and the final crop replaces it by a blank: the character is **lost**
(`wrap_fold_keeps_nonspace` fails) — while every line still fits and no style moves (`wrap_lines_fit`,
`wrapLine_style_preserved` hold at every width ≥ 1). -/
theorem narrow_wide_character_lost :
    divideLine exCw ['a', 'あ', 'b'] 1 true = [1, 2] ∧
    pieces (divideLine exCw ['a', 'あ', 'b'] 1 true) ['a', 'あ', 'b'] = [['a'], ['あ'], ['b']] ∧
    cellLen exCw (pyRstrip ['あ']) = 2 ∧
    (wrap WVariant.repaired exCw (⟨0, List.sum, (· == ·)⟩ : StyleAlg Nat) (Text.new Variant.repaired ['a', 'あ', 'b'] 0) 1).map
        (fun ls => ls.map (·.plain)) = .ok [['a'], [' '], ['b']] :=
  ⟨by decide +kernel, by decide +kernel, by decide +kernel, eq_ok_of_toOption (by decide +kernel)⟩

/-- **Below the boundary, as a theorem rather than a hypothesis**: the only character that can be wider than a line
of width ≥ 1 is a 2-cell character at width 1.  Whatever line starts with such a character (at width 1 with folding
every 2-cell character starts a piece of its own: `narrow_wide_character_lost`, and the width-1 cases of the harness),
the final crop of `Text.wrap` — `truncate(1, overflow)` — turns it into **exactly one blank** ("fold", "crop":
`set_cell_size` pops the wide character too, the excess becomes -1 and a blank is appended) or **exactly the ellipsis**
("ellipsis"), for every width function, every text after the character, every span set: the character is not kept, not
split, not replaced by anything wider; the line fits (`wrap_lines_fit`) and what remains carries its own style
(`wrapLine_style_preserved`, both at every width ≥ 1). -/
theorem narrow_wide_first_cropped (cw : Char → Nat) (t : Text σ) (c : Char) (rest : List Char) (hp : t.plain = c :: rest)
    (hc : cw c = 2) (ov : Overflow) (hov : ov ≠ Overflow.ignore) :
    (t.truncate cw 1 (some ov)).plain = if ov = Overflow.ellipsis then ['…'] else [' '] := by
  have hlen : cellLen cw t.plain = 2 + cellLen cw rest := by simp [hp, cellLen, hc]
  rcases truncate_cases cw t 1 ov hov false with ⟨_, he⟩ | ⟨_, hpad, _⟩ | ⟨hle, _⟩
  · have he' : t.truncate cw 1 (some ov) = _ := he
    rw [he', setPlain_plain, show ((1 : Nat) : Int) - 1 = ((0 : Nat) : Int) from rfl, setCellSizeI_nat, hp,
      setCellSize_wide_first cw c rest hc 0 (Nat.zero_le 1), setCellSize_wide_first cw c rest hc 1 (Nat.le_refl 1)]
    rfl
  · cases hpad
  · omega

example : exCw 'あ' = 2 ∧ (Text.new Variant.repaired ['あ', 'a', 'b'] (0 : Nat) [⟨0, 2, 1⟩]).plain = 'あ' :: ['a', 'b'] :=
  ⟨by decide, rfl⟩

/-- outside: when the paragraph *starts* with a character wider than the width, `chop_cells` yields an empty first
chunk and the first offset is 0 — not inside `(0, len)` (`divideLine_offsets` fails; the weak form of C14 holds) -/
theorem narrow_offset_zero : divideLine exCw ['あ', 'a'] 1 true = [0, 1] := by decide +kernel

/-- outside: width 0.  With overflow "ellipsis" the line is the ellipsis alone, one cell wide: `wrap_lines_fit`
fails below width 1. -/
theorem narrow_width_zero_ellipsis :
    (wrap WVariant.repaired exCw (⟨0, List.sum, (· == ·)⟩ : StyleAlg Nat) (Text.new Variant.repaired ['a', 'b'] 0) 0
        none (some .ellipsis)).map (fun ls => ls.map (·.plain)) = .ok [['…']] := eq_ok_of_toOption (by decide +kernel)

/-! ## `wrap` does not touch its receiver -/

/-- **Wrapping is a pure function of the text.**  However often and with whatever arguments `wrap` is called on one
`Text` object, the object is afterwards what it was, and every call answers exactly what the same call on a fresh copy
of the original text answers — so all the theorems above apply to every call of a history, not only to the first.
(In the model this is by construction — `wrap` has no access to mutable state; that the real code refines the pure
model, i.e. that `copy()` / `divide()` share no span list with the receiver and the returned lines share nothing with
each other, is what the harness checks by re-observing the receiver and all earlier results after every call and after
editing returned lines.) -/
theorem wrap_history_pure [BEq σ] (wv : WVariant) (cw : Char → Nat) (A : StyleAlg σ) (t : Text σ) (calls : List WrapArgs) :
    (wrapHistory wv cw A t calls).1 = t ∧
    (wrapHistory wv cw A t calls).2 =
      calls.map (fun c => wrap wv cw A t c.width c.justify c.overflow c.tabSize c.noWrap) := by
  induction calls with
  | nil => exact ⟨rfl, rfl⟩
  | cons c cs ih => exact ⟨ih.1, by simp only [wrapHistory, wrapCall, List.map_cons, ih.2]⟩

/-! ## the hypotheses are satisfiable; the theorems at rich's own width table -/

/-- rich's width function (table generated from `rich/_cell_widths.py` on this run) meets the three hypotheses about
single characters that the theorems above share (`cw ' ' = 1`, `cw c ≤ 2`, `cw '…' = 1`).  Not the extra hypothesis of
`fold_lines_fit_before_crop`: rich's table has whitespace characters of width 0 (U+001C-001F, U+0085, U+2028, U+2029). -/
theorem rich_widths_admissible : C13.cw ' ' = 1 ∧ (∀ c, C13.cw c ≤ 2) ∧ C13.cw '…' = 1 :=
  ⟨C13.charWidth_space, C13.charWidth_le_two, by decide +kernel⟩

/-- a consistent styled text with overlapping, duplicated and empty spans, a double-width and a zero-width character -/
def exText : Text Nat :=
  Text.new Variant.repaired ['a', 'あ', ' ', 'b', '̀', 'c', 'd', ' ', ' ', 'e'] 0
    [⟨0, 10, 1⟩, ⟨3, 7, 2⟩, ⟨3, 7, 2⟩, ⟨4, 4, 3⟩, ⟨1, 6, 1⟩]

example : Inv exText := inv_new _ _ _ _ _ _ _ _ (by
  intro sp hsp
  simp only [List.mem_cons, List.mem_nil_iff, or_false] at hsp
  rcases hsp with rfl | rfl | rfl | rfl | rfl <;> decide)

example : exCw ' ' = 1 ∧ (∀ c, exCw c ≤ 2) ∧ exCw '…' = 1 :=
  ⟨by decide, fun c => by unfold exCw; split <;> (try split) <;> omega, by decide⟩

/-- at width 2 the word `b̀cd` (4 characters, 3 cells) is folded; offsets and lines as rich computes them -/
example : divideLine exCw exText.plain 2 true = [1, 2, 5, 7, 9] := by decide +kernel

example :
    (wrap WVariant.repaired exCw (⟨0, List.sum, (· == ·)⟩ : StyleAlg Nat) exText 2).map (fun ls => ls.map (·.plain))
      = .ok [['a'], ['あ'], [' ', 'b', '̀'], ['c', 'd'], [' ', ' '], ['e']] := eq_ok_of_toOption (by decide +kernel)

/-- centred: the styles stay on their characters, the padding carries the bare base style -/
example :
    (wrap WVariant.repaired exCw (⟨0, List.sum, (· == ·)⟩ : StyleAlg Nat) exText 2 (some .center)).map
        (fun ls => ls.map Text.view)
      = .ok [[('a', [0, 1]), (' ', [0])], [('あ', [0, 1, 1])],
          [(' ', [0, 1, 1]), ('b', [0, 1, 2, 2, 1]), ('̀', [0, 1, 2, 2, 1])],
          [('c', [0, 1, 2, 2, 1]), ('d', [0, 1, 2, 2])], [(' ', [0]), (' ', [0])], [('e', [0, 1]), (' ', [0])]] :=
  eq_ok_of_toOption (by decide +kernel)

end RichModel.C02
