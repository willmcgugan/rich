import RichModel.Lemmas.Cells
import RichModel.Lemmas.Segment
import RichModel.Lemmas.CellsChop
import RichModel.Lemmas.Lru
import RichModel.Lemmas.SegmentExtra
import RichModel.Gen.CellWidths
/-!
# C13 — cell-width arithmetic and line shaping are exact and history-independent

`cw` is Rich's `get_character_cell_size` over the table translated from `rich/_cell_widths.py` on this run.
-/
namespace RichModel.C13
open RichModel

/-- `get_character_cell_size` at the generated table. -/
def cw : Char → Nat := charWidthT Gen.cellWidths

/-- Side condition on the *generated* table: rows are `start ≤ end`, sorted and disjoint. -/
theorem cellWidths_sortedDisjoint : adjSorted Gen.cellWidths.toList = true := cellWidths_adjSorted

/-- Side condition on the *generated* table: every width is one of -1, 0, 1, 2. -/
theorem cellWidths_small : widthsSmall Gen.cellWidths.toList = true := cellWidths_widthsSmall

/-- The binary search agrees with a linear scan of the table on **every** code point
(all 1,114,112 and beyond), so the width of a character is what the table says. -/
theorem bsearch_eq_linear (cp : Nat) :
    codepointWidth Gen.cellWidths cp = linearScan Gen.cellWidths.toList cp :=
  codepointWidth_eq_linear _ cellWidths_sortedDisjoint cp

/-- Every character is 0, 1 or 2 cells wide. -/
theorem charWidth_le_two (c : Char) : cw c ≤ 2 := charWidthT_cellWidths_le_two c

theorem charWidth_space : cw ' ' = 1 := by decide

/-- The width of a string is the sum of its characters' widths (definitionally), whatever was
measured before: for every cache capacity and every history of calls — including histories that
evict — the results are those of the uncached function. -/
theorem cache_transparent (cap : Nat) (calls : List (List Char)) :
    cellLenHistory cw { cap := cap, items := [] } calls = calls.map (cellLen cw) :=
  cellLenHistory_eq cw calls _ (by intro p hp; simp at hp)

/-- …and from any reachable cache state, not only the empty one. -/
theorem cache_transparent_from (c : Cache) (h : c.Inv cw) (calls : List (List Char)) :
    cellLenHistory cw c calls = calls.map (cellLen cw) :=
  cellLenHistory_eq cw calls c h

/-- `set_cell_size` yields exactly `n` cells, made of a prefix of the original followed by spaces. -/
theorem set_cell_size_exact (s : List Char) (n : Nat) :
    cellLen cw (setCellSize cw s n) = n ∧ ∃ k m, setCellSize cw s n = s.take k ++ List.replicate m ' ' :=
  setCellSize_exact cw charWidth_space charWidth_le_two s n

/-- `chop_cells`: the pieces concatenate to the original (any width, any start position). -/
theorem chop_cells_concat (s : List Char) (m p : Nat) : (chopCells cw s m p).flatten = s :=
  chop_concat cw s m p

/-- `chop_cells` to a width of at least two: every piece fits. -/
theorem chop_cells_fit (s : List Char) (m p : Nat) (hm : 2 ≤ m) (hp : p ≤ m) :
    ∀ q ∈ chopCells cw s m p, cellLen cw q ≤ m :=
  chop_fits cw s m p (fun c => Nat.le_trans (charWidth_le_two c) hm) hp

/-! ## `chop_cells` from ANY starting position and for ANY width

`rich/_wrap.py::divide_line` calls `chop_cells(word, width, position=line_position)` where `line_position` is the
cell length of the previous word *with* its trailing spaces, which may exceed `width`; so no `p ≤ m` is assumed. -/

/-- The exact first-piece bound and the bound on every later piece, with no hypothesis on `m` or `p`:
the result is never empty; its first piece is empty or fits in what is left of the line (`p` + its width ≤ `m`);
every later piece is non-empty and fits the width, unless it is one single character wider than the whole width;
and the split is greedy (`ChopMax`: the first character of each next piece did not fit behind the piece before it). -/
theorem chop_cells_first_piece (s : List Char) (m p : Nat) :
    ∃ q0 tl, chopCells cw s m p = q0 :: tl ∧ (q0 = [] ∨ p + cellLen cw q0 ≤ m) ∧
      (∀ q ∈ tl, PieceOK cw m q) ∧ ChopMax cw m p (q0 :: tl) :=
  chop_first cw s m p

/-- **Exactness of `chop_cells`**: concatenation, the fit clauses and greediness determine the pieces — any piece
list `L` that concatenates to `s`, whose first piece is empty or fits behind `p`, whose later pieces are `PieceOK`
and which is greedy, IS `chop_cells(s, m, position=p)`.  With `chop_cells_concat` and `chop_cells_first_piece`
(the converse) this is a complete specification, for every `s`, `m`, `p`. -/
theorem chop_cells_unique (s : List Char) (m p : Nat) (L : List (List Char))
    (hfl : L.flatten = s) (hfit : ChopFit cw m p L) (hmax : ChopMax cw m p L) : L = chopCells cw s m p :=
  chop_unique cw s m p L hfl hfit hmax

/-- `chop_cells_fit` without `p ≤ m`: at width ≥ 2 every piece fits, wherever the line started. -/
theorem chop_cells_fit_any_position (s : List Char) (m p : Nat) (hm : 2 ≤ m) :
    ∀ q ∈ chopCells cw s m p, cellLen cw q ≤ m :=
  chop_fits_any cw s m p (fun c => Nat.le_trans (charWidth_le_two c) hm)

/-! ## `LRUCache` (rich/_lru_cache.py) as a state machine, refined to a plain map that never evicts -/

section Lru
variable {K V : Type} [DecidableEq K]

/-- For every capacity ≥ 1 and EVERY history of `__setitem__` / `__getitem__` / `get` / `in` / `len`, from any state whose
content is the view of some plain map `A` with distinct keys: the outputs are those of the abstract machine `amRun`, whose
state is a plain association list that never drops anything; the cache content is exactly that list restricted to its
`cap` most recent keys; its keys stay distinct; and read as a function it is the plain finite map of the history
(`plainRun`: `Function.update` at each `__setitem__`, nothing else). -/
theorem lru_refines_plain_map_from (cap : Nat) (hcap : 0 < cap) (A : List (K × V)) (hA : KeysNodup A)
    (ops : List (LruOp K V)) :
    Lru.run { cap := cap, items := viewL cap A } ops =
      ((amRun cap A ops).1, { cap := cap, items := viewL cap (amRun cap A ops).2 }) ∧
    KeysNodup (amRun cap A ops).2 ∧
    ∀ k, lookupL (amRun cap A ops).2 k = plainRun (lookupL A) ops k :=
  ⟨(amRun_sim cap hcap ops A hA).1, (amRun_sim cap hcap ops A hA).2, amRun_lookup cap hcap ops A hA⟩

/-- …in particular from the empty cache, where `A` is empty and the plain map is that of the history alone. -/
theorem lru_refines_plain_map (cap : Nat) (hcap : 0 < cap) (ops : List (LruOp K V)) :
    Lru.run { cap := cap, items := ([] : List (K × V)) } ops =
      ((amRun cap [] ops).1, { cap := cap, items := viewL cap (amRun cap [] ops).2 }) ∧
    KeysNodup (amRun cap ([] : List (K × V)) ops).2 ∧
    ∀ k, lookupL (amRun cap ([] : List (K × V)) ops).2 k = plainRun (fun _ => none) ops k := by
  have h := lru_refines_plain_map_from cap hcap ([] : List (K × V)) keysNodup_nil ops
  rwa [viewL_nil, show lookupL ([] : List (K × V)) = fun _ => none from rfl] at h

/-- `len(cache) ≤ cache_size` and the keys are distinct, after every history. -/
theorem lru_bounded (cap : Nat) (hcap : 0 < cap) (ops : List (LruOp K V)) :
    (Lru.run { cap := cap, items := ([] : List (K × V)) } ops).2.items.length ≤ cap ∧
    KeysNodup (Lru.run { cap := cap, items := ([] : List (K × V)) } ops).2.items := by
  have h := Lru.run_bounded cap hcap ([] : List (K × V)) keysNodup_nil ops
  rwa [viewL_nil] at h

/-- A hit is never stale: whatever the cache holds for `k` after a history is what a plain `dict` would hold. -/
theorem lru_hit_sound (cap : Nat) (hcap : 0 < cap) (ops : List (LruOp K V)) (k : K) (v : V)
    (h : lookupL (Lru.run { cap := cap, items := ([] : List (K × V)) } ops).2.items k = some v) :
    plainRun (fun _ => none) ops k = some v :=
  Lru.run_hit_sound cap hcap ([] : List (K × V)) keysNodup_nil ops k v (by rwa [viewL_nil])

/-- Capacity 0 (or negative): `__setitem__` on the empty cache raises `KeyError` (from `popitem`) and stores nothing. -/
theorem lru_cap_zero (op : LruOp K V) :
    ((Lru.step { cap := 0, items := ([] : List (K × V)) } op).2.items = []) ∧
    (∀ k v, op = .setitem k v → (Lru.step { cap := 0, items := ([] : List (K × V)) } op).1 = .keyError) := by
  cases op <;> simp [Lru.step, hasKey, lookupL]

end Lru

/-- The cache model used by `cell_len` (`Cache.get` / `Cache.set`) is this machine's `get` / `__setitem__`
(for a capacity ≥ 1, or a non-empty cache; at capacity 0 `Cache.set` stores where Python raises `KeyError`). -/
theorem cell_len_cache_is_lru (c : Cache) (k : List Char) (v : Nat) (h : 0 < c.cap ∨ c.items ≠ []) :
    c.get k = lookupL c.items k ∧
    Lru.step { cap := c.cap, items := c.items } (.setitem k v) =
      (.unit, { cap := (c.set k v).cap, items := (c.set k v).items }) :=
  ⟨Cache.get_eq_lookupL c k, Cache.set_eq_step c k v h⟩

/-! ## The remaining small pieces: `set_cell_size` for any integer total, `make_control`,
`Segment.line` -/

/-- `set_cell_size(text, total)` for EVERY Python int `total`: exactly `total` cells made of a prefix of the text and
spaces when `total ≥ 0`; the empty string when `total < 0`. -/
theorem set_cell_size_any_total (s : List Char) (t : Int) :
    (0 ≤ t → cellLen cw (setCellSizeI cw s t) = t.toNat ∧
      ∃ k m, setCellSizeI cw s t = s.take k ++ List.replicate m ' ') ∧
    (t < 0 → setCellSizeI cw s t = []) := by
  refine ⟨fun h => ?_, setCellSizeI_neg cw s t⟩
  obtain ⟨n, rfl⟩ := Int.eq_ofNat_of_zero_le h
  rw [setCellSizeI_nonneg]
  simpa using set_cell_size_exact s n

theorem charWidth_newline : cw '\n' = 0 := by decide +kernel

/-- `Segment.make_control`: every segment becomes a control segment with its text and style, so the line measures 0
cells; `Segment.line()` (a `"\n"` text segment or control segment) measures 0 cells too. -/
theorem make_control_spec {σ : Type} (segs : List (Segment σ)) (b : Bool) :
    (∀ s ∈ makeControl segs, s.control = true) ∧
    (makeControl segs).map (fun s => (s.text, s.style)) = segs.map (fun s => (s.text, s.style)) ∧
    lineLength cw (makeControl segs) = 0 ∧
    lineLength cw [(Segment.newLine b : Segment σ)] = 0 := by
  obtain ⟨h1, h2, h3⟩ := makeControl_spec cw segs
  exact ⟨h1, h2, h3, lineLength_newLine cw charWidth_newline b⟩

variable {σ : Type}

/-- `adjust_line_length` yields exactly the requested cell length (when padding, or when the line
was long enough to be cropped). -/
theorem adjust_line_length_exact (line : List (Segment σ)) (n : Nat) (st : Option σ) (pad : Bool)
    (h : pad = true ∨ n ≤ lineLength cw line) :
    lineLength cw (adjustLineLength cw line n st pad) = n :=
  adjust_exact cw charWidth_space charWidth_le_two line n st pad h

/-- Padding keeps every (character, style, control) of the line and adds spaces in the requested style. -/
theorem adjust_line_length_pad (line : List (Segment σ)) (n : Nat) (st : Option σ)
    (h : lineLength cw line ≤ n) :
    stream (adjustLineLength cw line n st true) =
      stream line ++ List.replicate (n - lineLength cw line) (' ', st, false) :=
  adjust_pad_stream cw line n st h

/-- Cropping keeps a prefix of the (character, style, control) stream, plus blanks of one style (they stand
in for the cut half of a double-width character). -/
theorem adjust_line_length_crop (line : List (Segment σ)) (n : Nat) (st : Option σ) (pad : Bool)
    (h : n < lineLength cw line) :
    ∃ k m sty, stream (adjustLineLength cw line n st pad) =
      (stream line).take k ++ List.replicate m (' ', sty, false) := by
  rw [adjust_of_gt cw line n st pad h]
  exact cropLoop_stream cw n line 0 (Nat.zero_le _)

/-- `split_lines` loses nothing but the line feeds it splits at. -/
theorem split_lines_stream (segs : List (Segment σ)) :
    ((splitLines segs).map stream).flatten = (stream segs).filter keepChar :=
  splitLines_stream segs

/-- `split_and_crop_lines` = `split_lines`, then `adjust_line_length` on each line **with the
requested padding style**, then the newline segment where a line feed was consumed. -/
theorem split_and_crop_refines (segs : List (Segment σ)) (n : Nat) (style : Option σ) (pad inclNL : Bool) :
    splitAndCropLines cw segs n style pad inclNL false =
      (splitLinesTagged segs).map (fun p =>
        adjustLineLength cw p.1 n style pad ++
          (if p.2 && inclNL then [{ text := ['\n'], style := none, control := false }] else [])) :=
  splitAndCrop_eq_tagged cw segs n style pad inclNL

/-- Hence every padded, cropped line has exactly the requested length. -/
theorem split_and_crop_exact (segs : List (Segment σ)) (n : Nat) (style : Option σ) :
    ∀ l ∈ splitAndCropLines cw segs n style true false false, lineLength cw l = n :=
  splitAndCrop_exact cw charWidth_space charWidth_le_two segs n style

/-- `set_shape`: every line has exactly `width` cells, and there are `max(len(lines), height)` lines. -/
theorem set_shape_rect (lines : List (List (Segment σ))) (w : Nat) (h : Option Nat) (st : Option σ) :
    (∀ l ∈ setShape cw lines w h st, lineLength cw l = w) ∧
    (setShape cw lines w h st).length = max lines.length (h.getD lines.length) :=
  ⟨setShape_rect cw charWidth_space charWidth_le_two lines w h st, setShape_length cw lines w h st⟩

/-- `simplify` (repaired code) leaves the (character, style, control) stream unchanged. -/
theorem simplify_preserves [BEq σ] [LawfulBEq σ] (segs : List (Segment σ)) :
    stream (simplify segs false) = stream segs := by
  cases segs with
  | nil => rfl
  | cons s rest => exact simplifyLoop_stream rest s

/-! ## Style-level helpers keep characters, control flags and cell lengths -/

/-- `Segment.apply_style` changes styles only: texts and control flags are untouched, in order. -/
theorem apply_style_keeps_text (add : σ → σ → σ) (truthy : σ → Bool) (segs : List (Segment σ)) (st ps : Option σ) :
    (applyStyle add truthy segs st ps).map textCtl = segs.map textCtl ∧
    lineLength cw (applyStyle add truthy segs st ps) = lineLength cw segs :=
  ⟨applyStyle_textCtl add truthy segs st ps,
   lineLength_of_textCtl cw _ _ (applyStyle_textCtl add truthy segs st ps)⟩

/-- …and control segments never acquire a style through it. -/
theorem apply_style_control_unstyled (add : σ → σ → σ) (truthy : σ → Bool) (segs : List (Segment σ)) (st ps : Option σ)
    (h : st.isSome ∨ ps.isSome) :
    ∀ s ∈ applyStyle add truthy segs st ps, s.control = true → s.style = none :=
  applyStyle_control_unstyled add truthy segs st ps h

/-- `strip_styles`, `strip_links`, `remove_color` keep every text and control flag (so a control segment
stays one, whatever its style). -/
theorem strip_and_remove_keep_text (truthy : σ → Bool) (f : σ → σ) (segs : List (Segment σ)) :
    (stripStyles segs).map textCtl = segs.map textCtl ∧
    (stripLinks truthy f segs).map textCtl = segs.map textCtl ∧
    (removeColor truthy f segs).map textCtl = segs.map textCtl :=
  ⟨stripStyles_textCtl segs, stripLinks_textCtl truthy f segs, removeColor_textCtl truthy f segs⟩

/-- `filter_control` splits the segments by their flag, in order, losing none, and dropping control
segments does not change the cell length of a line. -/
theorem filter_control_spec (segs : List (Segment σ)) (b : Bool) :
    (∀ s ∈ filterControl segs b, s.control = b) ∧ (filterControl segs b).Sublist segs ∧
    (filterControl segs true).length + (filterControl segs false).length = segs.length ∧
    lineLength cw (filterControl segs false) = lineLength cw segs :=
  ⟨filterControl_flag segs b, filterControl_sublist segs b, filterControl_count segs,
   filterControl_lineLength cw segs⟩

/-- `get_shape` is an enclosing rectangle: as many rows as lines, at least as wide as every line. -/
theorem get_shape_encloses (lines : List (List (Segment σ))) :
    (getShape cw lines).2 = lines.length ∧ ∀ l ∈ lines, lineLength cw l ≤ (getShape cw lines).1 :=
  getShape_spec cw lines

/-! ## Witnesses: the two defects found in the code as it stood (kept as machine-checked negations
for the *old* behaviour, selected by the `rebind` / `mergeCtl` flags of the model). -/

/-- With `style` rebound by `text, style, _ = segment`, padding takes the segment's style (1)
instead of the requested one (2). -/
theorem old_split_and_crop_pad_style_wrong :
    stream (σ := Nat) ((splitAndCropLines cw [{ text := ['a', '\n', 'b'], style := some 1 }] 3 (some 2) true false true).getD 0 [])
      ≠ [('a', some 1, false), (' ', some 2, false), (' ', some 2, false)] := by decide +kernel

/-- Merging into a control segment turned control codes into printable text. -/
theorem old_simplify_loses_control :
    stream (σ := Nat) (simplify [{ text := ['\x07'], style := none, control := true }, { text := ['x'], style := none }] true)
      ≠ stream (σ := Nat) [{ text := ['\x07'], style := none, control := true }, { text := ['x'], style := none }] := by decide +kernel

/-! ## Non-vacuity: the hypotheses are met by concrete non-trivial values. -/

/-- The one table lookup the examples below need (a wide character); the ASCII letters take the shortcut. -/
theorem cw_hiragana_a : cw 'あ' = 2 := by decide +kernel
theorem cw_ascii_abc : cw 'a' = 1 ∧ cw 'b' = 1 ∧ cw 'c' = 1 := by decide

example : 2 ≤ 3 ∧ (1:Nat) ≤ 3 := by omega
example : cellLen cw ['あ', 'a'] = 3 := by simp [cellLen, cw_hiragana_a, cw_ascii_abc]
example : setCellSize cw ['あ', 'a'] 1 = [' '] := by
  rw [setCellSize, cellLen, List.map, List.map, List.map, cw_hiragana_a, cw_ascii_abc.1]
  decide
example : chopCells cw ['あ', 'a', 'b'] 2 0 = [['あ'], ['a', 'b']] := by
  simp [chopCells, chopLoop, cw_hiragana_a, cw_ascii_abc]
example : lineLength cw ([{ text := ['あ'], style := some 1 }] : List (Segment Nat)) ≤ 4 := by
  simp [lineLength, Segment.cellLength, cellLen, cw_hiragana_a]
example : chopCells cw ['a', 'あ', 'b', 'c'] 3 5 = [[], ['a', 'あ'], ['b', 'c']] := by
  simp [chopCells, chopLoop, cw_hiragana_a, cw_ascii_abc]
example : chopCells cw ['あ', 'a'] 1 0 = [[], ['あ'], ['a']] := by
  simp [chopCells, chopLoop, cw_hiragana_a, cw_ascii_abc]
example : (Lru.run { cap := 2, items := ([] : List (Nat × Nat)) }
    [.setitem 1 10, .setitem 2 20, .getitem 1, .setitem 3 30, .get 2, .get 1, .getitem 2, .len]).1 =
    [.unit, .unit, .val 10, .unit, .unit, .val 10, .keyError, .nat 2] := by decide +kernel
example : KeysNodup [(1, 10), (2, 20)] ∧ viewL 1 [(1, 10), (2, 20)] = [(2, 20)] := by
  unfold KeysNodup; decide +kernel
example : setCellSizeI cw ['あ', 'a'] (-3) = [] ∧ setCellSizeI cw ['あ', 'a'] 1 = [' '] := by
  rw [setCellSizeI, setCellSizeI, cellLen, List.map, List.map, List.map, cw_hiragana_a, cw_ascii_abc.1]
  decide
example : splitLines ([{ text := ['a'], style := none }, Segment.newLine, { text := ['b'], style := some 1 }] : List (Segment Nat)) =
    [[{ text := ['a'], style := none }], [{ text := ['b'], style := some 1 }]] := by decide +kernel
example : ChopFit cw 3 5 [[], ['a', 'あ'], ['b', 'c']] ∧ ChopMax cw 3 5 [[], ['a', 'あ'], ['b', 'c']] := by
  simp [ChopFit, ChopMax, PieceOK, cellLen, cw_hiragana_a, cw_ascii_abc]

end RichModel.C13
