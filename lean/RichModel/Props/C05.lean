import RichModel.Lemmas.TextHistory
import RichModel.Lemmas.TextRender
import RichModel.Lemmas.TextFrag
import RichModel.Gen.CellWidths
/-!
# C05 — Text editing operations keep characters and styles attached

All statements are about the model `Model/Text.lean` in its **repaired** variant (`Variant.repaired`), which is what
/repo contains now (`fix:` commits 0149e10, ba4c9a6, 3a84457, b5c0e99, aad03fe, 9ca68f6); for each of the six defects
of rich 9.10.0 as found the `old_…` theorems show the released variant violating the statement at a concrete
input, next to an `example` that the repaired variant meets it there.  A seventh defect (the last-line rule of
`split`, `fix:` commit b61fef8, also in /repo now) is not a field of `Variant` but the first argument of
`Text.splitW`: `splitW false` is the repaired rule, which `split_view` is about; `splitW true` is rich 9.10.0 as
found, with the witness `old_split_overlapping_separator` and the equality `split_released_eq_repaired`.

Reference semantics: `Text.view t : List (Char × List σ)` — every character with the list of style
names applied to it, base style first, then the covering spans in span order (free monoid of style
names: any re-ordering, loss or gain of a style is visible; interpret in rich's `Style` algebra
afterwards).  No theorem bounds the length of the strings, the number of spans or of operations.

`divide_view` is proved in `Lemmas/TextDivide.lean` (the word-wrap property C02 needs it too) and stated here as well
because it is an obligation of C05.  `split` is also read at string level (`split_str_view` over the executable
`strSplit` of `Model/TextStr.lean`); the `_text` fragment list that `Model/Text.lean` abstracts to `plain` is made
explicit in `Model/TextFrag.lean` (`frag_refines_step`, `frag_refines_history`, `plain_normalisation_unobservable`).
-/
namespace RichModel.C05
open RichModel RichModel.Text

variable {σ : Type}

/-! ## generated table -/

/-- the control codes stripped on the way in are the four documented ones (re-checked against
`rich/control.py` on every run) -/
theorem strip_codes_documented : Gen.stripControlCodes = [8, 11, 12, 13] := by decide +kernel

/-! ## the invariant over histories -/

/-- `Text(text, style, spans=…)`: `len()` is the length of the (control-stripped) string, for every
string — including those made only of stripped characters — and every span set inside the text. -/
theorem inv_init (text : List Char) (style : σ) (spans : List (Span σ)) (j : Option Justify) (o : Option Overflow)
    (nw : Option Bool) (e : List Char) (ts : Option Nat)
    (hs : SpansIn spans ((stripControl text).length : Int)) :
    Inv (Text.new Variant.repaired text style spans j o nw e ts) :=
  inv_new text style spans j o nw e ts hs

/-- On the released constructor `Text("a\rb")` has `len() = 3` for the two characters `"ab"`. -/
theorem old_inv_init_fails :
    ¬ Inv (Text.new Variant.released ['a', '\r', 'b'] (0 : Nat)) := by
  intro h
  have := h.1
  revert this
  decide +kernel

example : Inv (Text.new Variant.repaired ['a', '\r', 'b'] (0 : Nat)) :=
  inv_init _ _ _ _ _ _ _ _ (SpansIn.nil _)

/-- every operation keeps `len() = len(plain)`, the spans inside the text and not inverted -/
theorem inv_step (null : σ) (t t' : Text σ) (op : Op σ) (h : Inv t) (hp : op.Pre t)
    (hs : step null t op = .ok t') : Inv t' :=
  Text.inv_step null t t' op h hp hs

/-- …hence so does every history of operations, of any length -/
theorem inv_history (null : σ) (ops : List (Op σ)) (t t' : Text σ) (h : Inv t) (hp : HistPre null t ops)
    (hr : run null t ops = .ok t') : Inv t' :=
  inv_run null ops t t' h hp hr

/-- inside its domain no operation raises -/
theorem step_total (null : σ) (t : Text σ) (op : Op σ) (h : Inv t) (hp : op.Pre t) :
    ∃ t', step null t op = .ok t' :=
  step_ok null t op h hp

/-- `len()` is the number of characters the text shows -/
theorem len_eq_view_length (t : Text σ) (h : Inv t) : t.length = (t.view.length : Int) := by
  rw [view_length]; exact h.1

/-- a concrete history inside the domain (hypotheses of `inv_history` are satisfiable) -/
example : HistPre (0 : Nat) (Text.new Variant.repaired ['a', '\r', 'b'] 5)
    [.appendStr ['x', '\x08'] (some 1), .stylize 2 (-7) none, .padLeft 2 ' ', .rightCrop 0, .setLength 9, .index 3] := by
  refine ⟨trivial, fun _ _ => ⟨trivial, fun _ _ => ⟨noCtl_space, fun _ _ => ⟨trivial, fun _ _ => ⟨trivial, fun t' ht' => ⟨?_, fun _ _ => trivial⟩⟩⟩⟩⟩⟩
  rename_i t1 h1 t2 h2 t3 h3 t4 h4
  cases h1; cases h2; cases h3; cases h4; cases ht'
  show (3 : Nat) < _
  decide +kernel

/-- every operation of the full set — the above plus `rstrip`, `truncate`, `align`, `join` (as separator
and as element), `assemble`, `divide`, slices, single-character `split`, `expand_tabs`, `remove_suffix`, `+` — keeps the invariant -/
theorem inv_step_all [BEq σ] (cw : Char → Nat) (null : σ) (t t' : Text σ) (op : OpX σ) (h : Inv t) (hp : op.Pre t)
    (hs : stepX cw null t op = .ok t') : Inv t' :=
  inv_stepX cw null t t' op h hp hs

/-- …and so does every history over the full operation set, of any length, for any cell-width function -/
theorem inv_history_all [BEq σ] (cw : Char → Nat) (null : σ) (ops : List (OpX σ)) (t t' : Text σ) (h : Inv t)
    (hp : HistPreX cw null t ops) (hr : runX cw null t ops = .ok t') : Inv t' :=
  inv_of_run (Pre := fun t op => op.Pre t) (fun _ => rfl) (fun _ _ _ _ h => by simp only [runX, h])
    (fun _ _ _ _ h => by simp only [runX, h]) (fun _ _ _ h => h) (inv_stepX cw null) ops t t' h hp hr

example : HistPreX (fun _ => 1) (0 : Nat) (Text.new Variant.repaired ['a', 'b', 'c', 'd', ' '] 5 [⟨0, 3, 1⟩])
    [.rstrip, .truncate 3 (some .ellipsis) false, .align .center 7 '*', .slice (some (-4)) none] := by
  exact ⟨trivial, fun _ _ => ⟨trivial, fun _ _ => ⟨(by show isStripCode '*' = false; decide), fun _ _ => ⟨trivial, fun _ _ => trivial⟩⟩⟩⟩

/-! ## what `render()` shows is the reference semantics -/

/-- **`render` = `view`.**  For every consistent text — any length, any number of spans, nested,
overlapping, duplicated or empty — `Text.render` (event sort + style-id stack, as written) raises
nothing, and the characters it emits, each with the style names combined for it in combination order,
are exactly `view t`: every character once, in order, under the base style and then the spans covering
it in span order ("later spans win").  So every `…_view` theorem below is a statement about the
Segment stream a console receives. -/
theorem render_view (t : Text σ) (h : Inv t) :
    ∃ segs, t.render [] = .ok segs ∧ segStream segs = t.view :=
  let ⟨segs, hr, hs⟩ := render_spec t h []
  ⟨segs, hr.trans (congrArg _ (List.append_nil segs)), hs⟩

example : (Text.render (Text.new Variant.repaired ['a', 'b', 'c'] (9 : Nat) [⟨0, 2, 1⟩, ⟨1, 3, 2⟩, ⟨0, 2, 1⟩])).map segStream
    = .ok [('a', [9, 1, 1]), ('b', [9, 1, 2, 1]), ('c', [9, 2])] := by
  exact eq_ok_of_toOption (by decide +kernel)

/-! ## per-operation refinement: characters, order, effective style of every survivor -/

/-- construction: the stripped characters, each under the base style and the spans covering it -/
theorem new_view (v : Variant) (text : List Char) (style : σ) (spans : List (Span σ)) :
    (Text.new v text style spans).view = annot (stripControl text) (fun i => style :: spanIds spans i) 0 :=
  view_new v text style spans _ _ _ _ _

/-- `copy()` is an exact copy -/
theorem copy_view (t : Text σ) (h : Inv t) : t.copy Variant.repaired = t := copy_eq_self t h

/-- `append(str, style)` -/
theorem append_str_view (t : Text σ) (s : List Char) (st : Option σ) (h : Inv t) :
    (t.appendStr s st).view = t.view ++ (stripControl s).map (fun c => (c, t.style :: st.toList)) :=
  view_appendStr t s st h

/-- `append(Text)` / `append_text`: the operand's characters keep their effective styles, placed under
this text's base style; nothing already present moves -/
theorem append_text_view (t u : Text σ) (h : Inv t) (hu : Inv u) :
    (t.appendText u).view = t.view ++ u.view.map (fun p => (p.1, t.style :: p.2)) ∧
    (t.appendT u).view = t.view ++ u.view.map (fun p => (p.1, t.style :: p.2)) :=
  ⟨view_appendText t u h hu, view_appendT t u h hu⟩

/-- `sep.join(lines)` keeps the invariant -/
theorem inv_join (sep : Text σ) (lines : List (Text σ)) (hsep : Inv sep) (hl : ∀ x ∈ lines, Inv x) :
    Inv (sep.join Variant.repaired lines) :=
  Text.inv_join sep lines hsep hl

/-- `sep.join(lines)`: the elements in order (with `sep` between them when it is non-empty), every
character keeping its effective style, placed under `sep`'s base style -/
theorem join_view (sep : Text σ) (lines : List (Text σ)) (hsep : Inv sep) (hl : ∀ x ∈ lines, Inv x) :
    (sep.join Variant.repaired lines).view =
      (joinSeq sep lines).flatMap (fun x => x.view.map (fun p => (p.1, sep.style :: p.2))) :=
  view_join sep lines hsep hl

/-- `Text.assemble(*parts)` keeps the invariant -/
theorem inv_assemble (parts : List (Part σ)) (style : σ) (j : Option Justify) (o : Option Overflow)
    (nw : Option Bool) (e : List Char) (ts : Option Nat)
    (hp : ∀ p ∈ parts, match p with | .txt u => Inv u | _ => True) :
    Inv (assemble Variant.repaired parts style j o nw e ts) :=
  Text.inv_assemble parts style j o nw e ts hp

example : (Text.join Variant.repaired (Text.new Variant.repaired [','] (7 : Nat))
    [Text.new Variant.repaired ['a'] 1 [⟨0, 1, 2⟩], Text.new Variant.repaired ['b'] 3]).view
    = [('a', [7, 1, 2]), (',', [7, 7]), ('b', [7, 3])] := by
  decide +kernel

/-- `Text.assemble(*parts, style=b)`: the parts in order; strings under the base style (and their own
style, if given), texts with every character's effective style placed under the base style -/
theorem assemble_view (parts : List (Part σ)) (style : σ) (j : Option Justify) (o : Option Overflow)
    (nw : Option Bool) (e : List Char) (ts : Option Nat) (hp : ∀ p ∈ parts, p.Ok) :
    (assemble Variant.repaired parts style j o nw e ts).view = parts.flatMap (partView style) :=
  (Shows.assemble parts style j o nw e ts hp).view

/-- **`divide` cuts the styled string** (repaired code: the span order is carried by index, not by the
value-keyed `order` dict).  Ascending offsets inside a consistent text give one consistent line per piece,
with the piece's characters and, on every character, exactly the effective style it had. -/
theorem divide_view [BEq σ] (t : Text σ) (offs : List Nat) (h : Inv t)
    (hs : AscFrom 0 offs) (hb : ∀ o ∈ offs, o ≤ t.plain.length) :
    ∃ lines, t.divide Variant.repaired offs = .ok lines ∧
      lines.map Text.view = pieces offs t.view ∧
      lines.map (·.plain) = pieces offs t.plain ∧
      (∀ l ∈ lines, Inv l ∧ l.style = t.style ∧ l.justify = t.justify ∧ l.overflow = t.overflow) :=
  Text.divide_view t offs h hs hb

/-- **`text[a:b]` is the slice of the styled string**, for every pair of bounds — `None`, negative, beyond either
end, and bounds that normalise to `stop < start` (empty result) — exactly as for `str`
(`(s, e) = slice(a, b).indices(len)`, result `view[s:e]`). -/
theorem get_slice_view [BEq σ] (t : Text σ) (a b : Option Int) (h : Inv t) :
    ∃ u, t.getSlice Variant.repaired a b = .ok u ∧ Inv u ∧ u.style = t.style ∧
      u.view = (t.view.drop (Py.sliceIndices t.plain.length a b).1).take
        ((Py.sliceIndices t.plain.length a b).2 - (Py.sliceIndices t.plain.length a b).1) :=
  getSlice_view_all t a b h

/-- `text[a:b:step]`: step 0 raises `ValueError` (from `slice.indices`), every step other than `None`/1 is refused
with `TypeError` (documented: not supported), `None`/1 is the slice above -/
theorem get_slice_step [BEq σ] (t : Text σ) (a b step : Option Int) :
    t.getSliceStep Variant.repaired a b step =
      (if step = some 0 then .error .valueError
       else if step = none ∨ step = some 1 then t.getSlice Variant.repaired a b
       else .error .typeError) :=
  getSliceStep_spec t a b step

/-- the cut points of `split` are the leftmost non-overlapping occurrences of the separator: each match is an
occurrence, starts at or after the end of the previous one, and the stretch skipped before it (and what follows
the last one) is not the separator itself -/
theorem split_cuts_at_occurrences (sep plain : List Char) (hsep : 0 < sep.length) :
    GoodMs sep plain 0 (findAll sep plain) :=
  findAll_good sep plain hsep

/-- **`split` at piece level** (repaired code), for EVERY non-empty separator — also one that overlaps itself —,
`include_separator` and `allow_blank` both ways: no occurrence → the text itself; otherwise the pieces ending after
each occurrence, or the stretches between the occurrences (what `str.split` returns), every character with the
effective style it had, in consistent texts under the same base style; a blank last piece is dropped unless
`allow_blank`.  The same equation holds for the plain strings. -/
theorem split_view [BEq σ] (t : Text σ) (sep : List Char) (incl blank : Bool) (h : Inv t) (hsep : sep ≠ []) :
    ∃ parts, Text.splitW false Variant.repaired t sep incl blank = .ok parts ∧
      parts.map view =
        (if (findAll sep t.plain).isEmpty then [t.view]
         else dropBlank blank (if incl then pieces ((findAll sep t.plain).map (·.2)) t.view
                               else betweenFrom 0 (findAll sep t.plain) t.view)) ∧
      parts.map (·.plain) =
        (if (findAll sep t.plain).isEmpty then [t.plain]
         else dropBlank blank (if incl then pieces ((findAll sep t.plain).map (·.2)) t.plain
                               else betweenFrom 0 (findAll sep t.plain) t.plain)) ∧
      ∀ l ∈ parts, Inv l ∧ l.style = t.style :=
  split_view_all t sep incl blank h hsep

/-- **The `split` of rich 9.10.0 as found (before fix b61fef8: last line dropped when `text.endswith(separator)`)
is the repaired `split`** for every separator that does not overlap itself — no proper non-empty suffix of it is a
prefix: every single character, `"ab"`, `", "`, … —, so `split_view` describes rich as released for all of them. -/
theorem split_released_eq_repaired [BEq σ] (t : Text σ) (sep : List Char) (incl blank : Bool) (h : Inv t)
    (hub : Unbordered sep) :
    Text.splitW true Variant.repaired t sep incl blank = Text.splitW false Variant.repaired t sep incl blank :=
  splitW_released_eq t sep incl blank h hub

example (c : Char) : Unbordered [c] := by
  intro k h0 h1; simp at h1; omega

example : Unbordered ['a', 'b'] := by
  intro k h0 h1
  have : k = 1 := by simp at h1; omega
  subst this; decide +kernel

/-- an empty separator is refused (`assert separator`) -/
theorem split_empty_separator [BEq σ] (endsw : Bool) (v : Variant) (t : Text σ) (incl blank : Bool) :
    Text.splitW endsw v t [] incl blank = .error .assertionError := rfl

/-- released `split` drops the last line whenever the text ends with the separator: `Text("aaa").split("aa")`
is `[""]` — the final `"a"` is lost (`"aaa".split("aa")` is `['', 'a']`) -/
theorem old_split_overlapping_separator :
    (Text.splitW true Variant.repaired (Text.new Variant.repaired ['a', 'a', 'a'] (0 : Nat)) ['a', 'a'] false false).map
      (fun ps => ps.map (·.plain)) = .ok [[]] := by
  exact eq_ok_of_toOption (by decide +kernel)

example :
    (Text.splitW false Variant.repaired (Text.new Variant.repaired ['a', 'a', 'a'] (0 : Nat)) ['a', 'a'] false false).map
      (fun ps => ps.map (·.plain)) = .ok [[], ['a']] := by
  exact eq_ok_of_toOption (by decide +kernel)

/-- **`expand_tabs` at full strength.**  With effective tab size `ts ≥ 1` (the argument, else the text's own
`tab_size`): without a tab the text is returned untouched; otherwise the call succeeds, the result is consistent,
keeps the base style, and its styled string is `expRef ts base (view t) 0` — every tab becomes `ts - col % ts`
blanks (1 … `ts`, up to the next multiple of `ts`, `col` counted from the last newline: multi-line texts
included), the first blank in the tab's style and the others in the base style, every other character in order
with its effective style (under one more application of the base style: the text is rebuilt with `append`). -/
theorem expand_tabs_view [BEq σ] (t : Text σ) (h : Inv t) (tabSize : Option Nat) (ts : Nat) (hts : 0 < ts)
    (heff : tabSize.orElse (fun _ => t.tabSize) = some ts) :
    ∃ q, t.expandTabs Variant.repaired tabSize = .ok q ∧ Inv q ∧ q.style = t.style ∧
      (t.plain.contains '\t' = false → q = t) ∧
      (t.plain.contains '\t' = true → q.view = expRef ts t.style t.view 0) :=
  expandTabs_view t h tabSize ts hts heff

example : (Text.expandTabs Variant.repaired (Text.new Variant.repaired ['a', '\t', 'b', '\n', '\t', 'c'] (5 : Nat) [⟨1, 2, 1⟩])
    (some 4)).map Text.view = .ok [('a', [5, 5]), (' ', [5, 5, 1]), (' ', [5, 5]), (' ', [5, 5]), ('b', [5, 5]), ('\n', [5, 5]),
      (' ', [5, 5]), (' ', [5, 5]), (' ', [5, 5]), (' ', [5, 5]), ('c', [5, 5])] := by
  exact eq_ok_of_toOption (by decide +kernel)

example : expRef 4 (5 : Nat) (Text.new Variant.repaired ['a', '\t', 'b', '\n', '\t', 'c'] (5 : Nat) [⟨1, 2, 1⟩]).view 0 =
    [('a', [5, 5]), (' ', [5, 5, 1]), (' ', [5, 5]), (' ', [5, 5]), ('b', [5, 5]), ('\n', [5, 5]),
      (' ', [5, 5]), (' ', [5, 5]), (' ', [5, 5]), (' ', [5, 5]), ('c', [5, 5])] := by
  decide +kernel

/-- `rstrip()`: the text without its trailing whitespace, every remaining character as it was -/
theorem rstrip_view (t : Text σ) (h : Inv t) :
    Inv t.rstrip ∧ t.rstrip.view = t.view.take (pyRstrip t.plain).length :=
  ⟨inv_rstrip t h, view_rstrip t h⟩

/-- `truncate(max_width, overflow, pad)`: the string is what `truncate` makes of an ordinary string
(`truncStr`: `set_cell_size`, the ellipsis, the padding), and every position keeps the style attached to it -/
theorem truncate_view (cw : Char → Nat) (t : Text σ) (w : Int) (ov : Option Overflow) (pad : Bool) (h : Inv t) :
    Inv (t.truncate cw w ov pad) ∧
    (t.truncate cw w ov pad).plain = truncStr cw t.plain w ((ov.orElse (fun _ => t.overflow)).getD Overflow.fold) pad ∧
    (t.truncate cw w ov pad).style = t.style ∧
    (t.truncate cw w ov pad).view = annot (t.truncate cw w ov pad).plain t.effStyle 0 :=
  truncate_spec cw t w ov pad h

/-- `align(method, width, ch)` (repaired: pads only by a positive excess): `truncate(width)`, then base-styled
padding on the right / both sides / the left; no character of the truncated text moves or changes style -/
theorem align_view (cw : Char → Nat) (t : Text σ) (m : AlignMethod) (w : Int) (ch : Char) (h : Inv t)
    (hch : isStripCode ch = false) :
    Inv (t.align Variant.repaired cw m w ch) ∧
    (t.align Variant.repaired cw m w ch).view =
      (let t1 := t.truncate cw w
       let excess := (w - (cellLen cw t1.plain : Int)).toNat
       match m with
       | .left => t1.view ++ List.replicate excess (ch, [t.style])
       | .center => List.replicate (excess / 2) (ch, [t.style]) ++ t1.view ++ List.replicate (excess - excess / 2) (ch, [t.style])
       | .right => List.replicate excess (ch, [t.style]) ++ t1.view) :=
  let hs := h.shows.align cw m w ch hch
  ⟨hs.inv, hs.view⟩

/-- the `plain` setter (and with it `truncate`, `rstrip`, `pad*`): position `i` shows the new
character with what was attached to position `i` -/
theorem set_plain_view (t : Text σ) (s : List Char) (h : Inv t) :
    (t.setPlain s).view = annot s t.effStyle 0 :=
  view_setPlain t s h

theorem pad_right_view (t : Text σ) (n : Nat) (ch : Char) (h : Inv t) :
    (t.padRight (n : Int) ch).view = t.view ++ List.replicate n (ch, [t.style]) :=
  view_padRight t n ch h

theorem pad_left_view (t : Text σ) (n : Nat) (ch : Char) (h : Inv t) :
    (t.padLeft (n : Int) ch).view = List.replicate n (ch, [t.style]) ++ t.view :=
  view_padLeft t n ch h

/-- `right_crop(a)` for **every** `a ≥ 0`: `a = 0` changes nothing, `a ≥ len` leaves the empty text -/
theorem right_crop_view (t : Text σ) (a : Nat) :
    (t.rightCrop Variant.repaired (a : Int)).view = t.view.take (t.plain.length - a) :=
  view_rightCrop t a

/-- `right_crop(0)` erases the released text and leaves `len()` at 3. -/
theorem old_right_crop_zero :
    (Text.rightCrop Variant.released (Text.new Variant.released ['a', 'b', 'c'] (0 : Nat)) 0).plain = [] ∧
    (Text.rightCrop Variant.released (Text.new Variant.released ['a', 'b', 'c'] (0 : Nat)) 0).length = 3 := by
  decide +kernel

/-- `right_crop(5)` of a two-character text leaves `_length = -3` (`len()` raises). -/
theorem old_right_crop_beyond :
    (Text.rightCrop Variant.released (Text.new Variant.released ['a', 'b'] (0 : Nat)) 5).length = -3 := by decide +kernel

example : (Text.rightCrop Variant.repaired (Text.new Variant.repaired ['a', 'b', 'c'] (0 : Nat)) 0).plain = ['a', 'b', 'c'] := by
  decide +kernel

theorem set_length_view (t : Text σ) (n : Nat) (h : Inv t) :
    (t.setLength Variant.repaired (n : Int)).view =
      t.view.take n ++ List.replicate (n - t.plain.length) (' ', [t.style]) :=
  (h.shows.setLength n).view

/-- `text[i]` for `0 ≤ i < len`: that character with the effective style it had (base style included) -/
theorem get_item_view (null : σ) (t : Text σ) (i : Nat) (hi : i < t.plain.length) (h : Inv t) :
    ∃ u, t.getItem Variant.repaired null (i : Int) = .ok u ∧ Inv u ∧ u.view = [(t.plain.getD i ' ', t.effStyle i)] :=
  view_getItem null t i i hi (Or.inl rfl) h

/-- released `text[0]` of `Text("a", style=5)` has lost the base style -/
theorem old_get_item_drops_base :
    (Text.getItem Variant.released (0 : Nat) (Text.new Variant.released ['a'] 5) 0).map Text.view = .ok [('a', [0])] := by
  exact eq_ok_of_toOption (by decide +kernel)

/-- released `text[-1]` loses every span -/
theorem old_get_item_negative_drops_spans :
    (Text.getItem Variant.released (0 : Nat) (Text.new Variant.released ['a', 'b'] 0 [⟨0, 2, 1⟩]) (-1)).map Text.view
      = .ok [('b', [0])] := by
  exact eq_ok_of_toOption (by decide +kernel)

example : (Text.getItem Variant.repaired (0 : Nat) (Text.new Variant.repaired ['a', 'b'] 5 [⟨0, 2, 1⟩]) (-1)).map Text.view
    = .ok [('b', [5, 1])] := by
  exact eq_ok_of_toOption (by decide +kernel)

/-! ## styling-only operations never change the characters -/

/-- `stylize` (any variant, any arguments): same characters, same `len()`, same base style -/
theorem stylize_keeps_chars (v : Variant) (t : Text σ) (st : σ) (a : Int) (b : Option Int) :
    (t.stylize v st a b).plain = t.plain ∧ (t.stylize v st a b).length = t.length ∧ (t.stylize v st a b).style = t.style :=
  stylize_plain v t st a b

/-- `copy_styles`, `highlight_regex`, `highlight_words` -/
theorem add_spans_keeps_chars (t u : Text σ) (spans : List (Span σ)) :
    (t.addSpans spans).plain = t.plain ∧ (t.addSpans spans).length = t.length ∧
    (t.copyStyles u).plain = t.plain ∧ (t.copyStyles u).length = t.length :=
  ⟨rfl, rfl, rfl, rfl⟩

/-- `stylize(style, start, end)` adds `style` (last, so it wins) on exactly the characters Python's
slice conventions name — negative offsets count from the end and clamp at the beginning — and
leaves every other character's style alone -/
theorem stylize_view (t : Text σ) (st : σ) (a : Int) (b : Option Int) (h : Inv t) :
    (t.stylize Variant.repaired st a b).view =
      annot t.plain (fun i => t.effStyle i ++
        (if stylizeStart Variant.repaired t.length a ≤ (i : Int) ∧ (i : Int) < stylizeStop t.length b then [st] else [])) 0 :=
  view_stylize t st a b h

theorem add_spans_view (t : Text σ) (spans : List (Span σ)) :
    (t.addSpans spans).view = annot t.plain (fun i => t.effStyle i ++ spanIds spans i) 0 :=
  view_addSpans t spans

/-- released `stylize(s, -2, -1)` on the empty text stores `Span(-2, -1)`; `render()` then raises -/
theorem old_stylize_negative_render_raises :
    Text.render (Text.stylize Variant.released (Text.new Variant.released [] (0 : Nat)) 4 (-2) (some (-1))) = .error .runtimeError := by
  rfl

/-- released: two `stylize` calls starting before the beginning make `render()` repeat characters -/
theorem old_stylize_negative_render_repeats :
    (Text.render (Text.stylize Variant.released (Text.stylize Variant.released
        (Text.new Variant.released ['a', 'b', 'c', 'd', 'e', 'f', 'g', 'h'] (0 : Nat)) 1 (-13) none) 2 (-10) none)).map
      (fun segs => (Text.segStream segs).map (·.1)) = .ok ['d', 'e', 'f', 'a', 'b', 'c', 'd', 'e', 'f', 'g', 'h'] := by
  exact eq_ok_of_toOption (by decide +kernel)

example :
    (Text.render (Text.stylize Variant.repaired (Text.stylize Variant.repaired
        (Text.new Variant.repaired ['a', 'b', 'c'] (0 : Nat)) 1 (-13) none) 2 (-10) none)).map Text.segStream
      = .ok [('a', [0, 1, 2]), ('b', [0, 1, 2]), ('c', [0, 1, 2])] := by
  exact eq_ok_of_toOption (by decide +kernel)

/-! ## witnesses for the two remaining defects (`divide` order, fix aad03fe; `align` negative excess, fix 9ca68f6);
the full theorems `divide_view` and `align_view` are proved above for the repaired variant -/

/-- released `divide`: with spans red(0,10), blue(5,10), red(5,10) — character 7 is `red, blue, red`
(red wins) — the second line comes out as `red, red, blue` (blue wins): the remainder of the first
span, `Span(5,10,red)`, is *equal* to the third span and overwrites its place in the `order` dict. -/
theorem old_divide_reorders_styles :
    (Text.divide Variant.released
      (Text.new Variant.released (List.replicate 10 'a') (0 : Nat) [⟨0, 10, 1⟩, ⟨5, 10, 2⟩, ⟨5, 10, 1⟩]) [5]).map
        (fun ls => ls.map (fun l => l.effStyle 2)) = .ok [[0, 1], [0, 1, 1, 2]] := by
  exact eq_ok_of_toOption (by decide +kernel)

example :
    (Text.divide Variant.repaired
      (Text.new Variant.repaired (List.replicate 10 'a') (0 : Nat) [⟨0, 10, 1⟩, ⟨5, 10, 2⟩, ⟨5, 10, 1⟩]) [5]).map
        (fun ls => ls.map (fun l => l.effStyle 2)) = .ok [[0, 1], [0, 1, 2, 1]] := by
  exact eq_ok_of_toOption (by decide +kernel)

/-- released `align("right", 1)` on a text that stays 3 cells wide (`overflow="ignore"`): `pad_left(-2)`
leaves the characters and moves `Span(1,3)` to `Span(-1,1)`. -/
theorem old_align_negative_excess :
    (Text.align Variant.released (fun _ => 1)
      (Text.new Variant.released ['a', 'b', 'c'] (0 : Nat) [⟨1, 3, 1⟩] none (some .ignore)) .right 1).spans = [⟨-1, 1, 1⟩] := by
  decide +kernel

example :
    (Text.align Variant.repaired (fun _ => 1)
      (Text.new Variant.repaired ['a', 'b', 'c'] (0 : Nat) [⟨1, 3, 1⟩] none (some .ignore)) .right 1).spans = [⟨1, 3, 1⟩] := by
  decide +kernel


/-! ## `split` at string level, the remaining operations, and the history theorem over the complete operation set -/

/-- **`split` is the string-level split of the styled string** (repaired code; EVERY non-empty separator, also one that
overlaps itself; `include_separator` and `allow_blank` both ways).  `strSplit sep incl blank chars v` (`Model/TextStr`,
executable, compared with `str.split` / `re.split` of the running Python on every run) cuts ANY list `v` where the
separator occurs in its characters `chars`; the pieces' styled strings are `strSplit` of `view t` read through its own
characters, their plain strings are `strSplit` of the plain string, every piece is consistent under the same base
style. -/
theorem split_str_view [BEq σ] (t : Text σ) (sep : List Char) (incl blank : Bool) (h : Inv t) (hsep : sep ≠ []) :
    ∃ parts, Text.splitW false Variant.repaired t sep incl blank = .ok parts ∧
      parts.map view = strSplit sep incl blank (t.view.map (·.1)) t.view ∧
      parts.map (·.plain) = strSplit sep incl blank t.plain t.plain ∧
      ∀ l ∈ parts, Inv l ∧ l.style = t.style :=
  Text.split_str_view t sep incl blank h hsep

/-- `split(sep, include_separator=True)` loses and moves nothing: the pieces' styled strings concatenate to the
text's, whatever `allow_blank` -/
theorem split_incl_concat [BEq σ] (t : Text σ) (sep : List Char) (blank : Bool) (h : Inv t) (hsep : sep ≠ []) :
    ∃ parts, Text.splitW false Variant.repaired t sep true blank = .ok parts ∧ parts.flatMap view = t.view := by
  obtain ⟨parts, h1, h2, _, _⟩ := Text.split_str_view t sep true blank h hsep
  refine ⟨parts, h1, ?_⟩
  rw [List.flatMap_def, h2]
  exact strSplit_incl_flatten sep blank _ t.view hsep

/-- `sep.join(text.split(sep, allow_blank=True))` is the text (as for `str.split`): what `split` removes are exactly
the separators -/
theorem split_join_inverse [BEq σ] (t : Text σ) (sep : List Char) (h : Inv t) (hsep : sep ≠ []) :
    ∃ parts, Text.splitW false Variant.repaired t sep false true = .ok parts ∧
      List.intercalate sep (parts.map (·.plain)) = t.plain := by
  obtain ⟨parts, h1, _, h3, _⟩ := Text.split_str_view t sep false true h hsep
  exact ⟨parts, h1, by rw [h3]; exact strSplit_intercalate sep t.plain hsep⟩

example : strSplit ['a', 'a'] false true ['a', 'a', 'a', 'b', 'a', 'a'] ['a', 'a', 'a', 'b', 'a', 'a']
    = [[], ['a', 'b'], []] := by decide +kernel

example : strSplit ['a', 'a'] true false ['a', 'a', 'a', 'b', 'a', 'a'] [1, 2, 3, 4, 5, 6] = [[1, 2], [3, 4, 5, 6]] := by
  decide +kernel

/-- `pad(n, ch)`: `n` base-styled characters on either side, the text in between as it was -/
theorem pad_view (t : Text σ) (n : Nat) (ch : Char) (h : Inv t) (hch : isStripCode ch = false) :
    Inv (t.pad (n : Int) ch) ∧
    (t.pad (n : Int) ch).view = List.replicate n (ch, [t.style]) ++ t.view ++ List.replicate n (ch, [t.style]) :=
  let hs := h.shows.pad n ch hch
  ⟨hs.inv, hs.view⟩

example : (Text.pad (Text.new Variant.repaired ['a', 'b'] (5 : Nat) [⟨1, 2, 1⟩]) 2 '-').view
    = [('-', [5]), ('-', [5]), ('a', [5]), ('b', [5, 1]), ('-', [5]), ('-', [5])] := by decide +kernel

/-- `remove_suffix(s)`: when the string ends with `s` exactly those characters go, otherwise nothing changes -/
theorem remove_suffix_view (t : Text σ) (suffix : List Char) (h : Inv t) :
    Inv (t.removeSuffix Variant.repaired suffix) ∧
    (t.removeSuffix Variant.repaired suffix).view =
      (if suffix.isSuffixOf t.plain then t.view.take (t.plain.length - suffix.length) else t.view) :=
  let hs := h.shows.removeSuffix suffix
  ⟨hs.inv, hs.view⟩

/-- `text + str` and `text + Text`: as `append` on a copy -/
theorem add_view (t u : Text σ) (s : List Char) (h : Inv t) (hu : Inv u) :
    (t.addStr Variant.repaired s).view = t.view ++ (stripControl s).map (fun c => (c, [t.style])) ∧
    (t.addText Variant.repaired u).view = t.view ++ u.view.map (fun p => (p.1, t.style :: p.2)) :=
  ⟨(h.shows.addStr s).view, (h.shows.addText hu.shows).view⟩

/-- `append_tokens(tokens)` (tokens without strip-control characters: rich does not strip there): the old characters
keep their styles, then every token's characters in order under the base style and the token's own style -/
theorem append_tokens_view (tokens : List (List Char × Option σ)) (t : Text σ) (h : Inv t)
    (hc : ∀ tok ∈ tokens, NoCtl tok.1) :
    Inv (t.appendTokens tokens) ∧
    (t.appendTokens tokens).view =
      t.view ++ tokens.flatMap (fun tok => tok.1.map (fun c => (c, t.style :: tok.2.toList))) :=
  let hs := h.shows.appendTokens tokens hc
  ⟨hs.inv, hs.view⟩

example : (Text.appendTokens (Text.new Variant.repaired ['a'] (5 : Nat) [⟨0, 1, 1⟩]) [(['x', 'y'], some 2), ([], some 3), (['z'], none)]).view
    = [('a', [5, 1]), ('x', [5, 2]), ('y', [5, 2]), ('z', [5])] := by decide +kernel

/-- **`rstrip_end(size)` removes trailing whitespace only, and exactly `rstripEndAmount` of it** (repaired code,
cell width compared with `size`): the result is the first `len - k` characters, each with the style it had, where
`k = min(trailing whitespace, cell width - size)` when the text is wider than `size` and 0 otherwise; every removed
character is whitespace. -/
theorem rstrip_end_view (cw : Char → Nat) (t : Text σ) (size : Int) (h : Inv t) :
    Inv (rstripEndW false cw Variant.repaired t size) ∧
    (rstripEndW false cw Variant.repaired t size).view = t.view.take (t.plain.length - rstripEndAmount cw t.plain size) ∧
    (∀ i, t.plain.length - rstripEndAmount cw t.plain size ≤ i → i < t.plain.length → pyIsSpace (t.plain.getD i ' ') = true) :=
  ⟨(h.shows.rstripEndW cw size).inv, (h.shows.rstripEndW cw size).view,
   fun i h1 h2 => trailing_are_space t.plain i (by have := rstripEndAmount_le cw t.plain size; omega) h2⟩

example : (rstripEndW false (fun _ => 1) Variant.repaired (Text.new Variant.repaired ['a', ' ', ' ', ' '] (5 : Nat) [⟨0, 4, 1⟩]) 2).view
    = [('a', [5, 1]), (' ', [5, 1])] := by decide +kernel

/-- **`fit(w)`**: the lines of the text (string-level split at newlines, a blank last line dropped), each cut or
padded with base-styled spaces to exactly `w` characters; characters kept keep their styles -/
theorem fit_view [BEq σ] (t : Text σ) (w : Nat) (h : Inv t) :
    ∃ lines, t.fit Variant.repaired (w : Int) = .ok lines ∧
      lines.map view = (strSplit ['\n'] false false t.plain t.view).map (fitLine w t.style) ∧
      (∀ l ∈ lines, Inv l ∧ l.style = t.style ∧ l.plain.length = w) :=
  fit_spec t w h

example : (Text.fit Variant.repaired (Text.new Variant.repaired ['a', 'b', 'c', '\n', 'd', '\n'] (5 : Nat) [⟨1, 5, 1⟩]) 2).map
    (fun ls => ls.map view) = .ok [[('a', [5]), ('b', [5, 1])], [('d', [5, 1]), (' ', [5])]] := by
  exact eq_ok_of_toOption (by decide +kernel)

/-- **`detect_indentation()` is the gcd of the even space-indentations of the lines** (at least 1; 1 when there is
none or all are 0), a function of the characters alone -/
theorem detect_indentation_spec (t : Text σ) :
    1 ≤ t.detectIndentation ∧
    (∀ n ∈ evenIndents t.plain, t.detectIndentation ∣ n) ∧
    ((∃ n ∈ evenIndents t.plain, n ≠ 0) → ∀ d, (∀ n ∈ evenIndents t.plain, d ∣ n) → d ∣ t.detectIndentation) ∧
    ((∀ n ∈ evenIndents t.plain, n = 0) → t.detectIndentation = 1) := by
  rw [detectIndentation_eq]
  have hg : ∀ d, d ∣ (evenIndents t.plain).foldl Nat.gcd 0 ↔ ∀ n ∈ evenIndents t.plain, d ∣ n := fun d => by
    simp [dvd_foldl_gcd_iff]
  split
  · -- the gcd is 0: every even indentation is 0
    rename_i h0
    have hz : ∀ n ∈ evenIndents t.plain, n = 0 := fun n hn => Nat.eq_zero_of_zero_dvd ((hg 0).1 (h0.symm ▸ Nat.dvd_refl 0) n hn)
    exact ⟨Nat.le_refl 1, fun n _ => Nat.one_dvd n, fun ⟨n, hn, hne⟩ => absurd (hz n hn) hne, fun _ => rfl⟩
  · rename_i h0
    exact ⟨Nat.pos_of_ne_zero h0, (hg _).1 (Nat.dvd_refl _), fun _ d hd => (hg d).2 hd,
      fun hz => absurd (Nat.eq_zero_of_zero_dvd ((hg 0).2 fun n hn => hz n hn ▸ Nat.dvd_refl 0)) h0⟩

example : (Text.new Variant.repaired ("    a\n      b\n c".toList) (0 : Nat)).detectIndentation = 2 := by
  rw [String.toList_ofList]
  decide +kernel

/-- **`with_indent_guides` at full strength.**  With `text` the tab-expanded copy (what `expand_tabs_view` describes), a
guide string without strip-control characters and an indent size ≥ 1 (the argument, else `detect_indentation()`, which
is ≥ 1 by `detect_indentation_spec`): the call succeeds, the result is consistent, and its styled string is `guideLines`
of the lines of `text` (string-level split at newlines, a blank last line dropped) joined by newlines in the null style:
a non-blank line with `k` leading spaces shows the guide every `size` columns then `k % size` spaces in place of its
first characters, every position keeping the styles it had with the guide style on top of the new indentation
(`restyle`); a blank line comes out as the indentation of the NEXT non-blank line in the bare guide style, trailing blank
lines come out empty; everything sits under the null base style of the joining `Text("\n")`. -/
theorem with_indent_guides_view [BEq σ] (null : σ) (t text : Text σ) (indentSize : Option Nat) (character : List Char)
    (style : σ) (h : Inv t) (hch : NoCtl character) (hsize : 0 < indentSize.getD t.detectIndentation)
    (hexp : t.expandTabs Variant.repaired none = .ok text) :
    ∃ r, t.withIndentGuides Variant.repaired null indentSize character style = .ok r ∧ Inv r ∧
      r.view = List.intercalate [('\n', [null, null])]
        ((guideLines t.style (indentSize.getD t.detectIndentation)
            (character ++ List.replicate (indentSize.getD t.detectIndentation - 1) ' ') style
            (strSplit ['\n'] false false text.plain text.view) 0).map
          (fun l => l.map (fun p => (p.1, null :: p.2)))) := by
  have hp := withIndentGuides_post null t indentSize character style h hch rfl
  cases hr : t.withIndentGuides Variant.repaired null indentSize character style with
  | error e => exact ((hp.of_error hr).elim (fun he => nomatch hexp.symm.trans he) (Nat.ne_of_gt hsize)).elim
  | ok r =>
    obtain ⟨text', he, hs⟩ := hp.of_ok hr
    cases hexp.symm.trans he
    exact ⟨r, rfl, hs.inv, hs.view⟩

example : (Text.withIndentGuides Variant.repaired (0 : Nat)
      (Text.new Variant.repaired "  a\n\n    b\n ".toList 5 [⟨0, 3, 1⟩]) none ['|'] 3).map view
    = .ok [('|', [0, 5, 1, 3]), (' ', [0, 5, 1, 3]), ('a', [0, 5, 1]), ('\n', [0, 0]),
           ('|', [0, 3]), (' ', [0, 3]), ('|', [0, 3]), (' ', [0, 3]), ('\n', [0, 0]),
           ('|', [0, 5, 3]), (' ', [0, 5, 3]), ('|', [0, 5, 3]), (' ', [0, 5, 3]), ('b', [0, 5]), ('\n', [0, 0])] := by
  rw [String.toList_ofList]
  exact eq_ok_of_toOption (by decide +kernel)

example : List.intercalate [('\n', [(0 : Nat), 0])]
      ((guideLines (5 : Nat) 2 ['|', ' '] 3
          (strSplit ['\n'] false false "  a\n\n    b\n ".toList (Text.new Variant.repaired "  a\n\n    b\n ".toList 5 [⟨0, 3, 1⟩]).view) 0).map
        (fun l => l.map (fun p => (p.1, 0 :: p.2))))
    = [('|', [0, 5, 1, 3]), (' ', [0, 5, 1, 3]), ('a', [0, 5, 1]), ('\n', [0, 0]),
       ('|', [0, 3]), (' ', [0, 3]), ('|', [0, 3]), (' ', [0, 3]), ('\n', [0, 0]),
       ('|', [0, 5, 3]), (' ', [0, 5, 3]), ('|', [0, 5, 3]), (' ', [0, 5, 3]), ('b', [0, 5]), ('\n', [0, 0])] := by
  rw [String.toList_ofList]
  decide +kernel

/-! ## the `_text` fragment list (`Model/TextFrag.lean`): what `Model/Text.lean` abstracts to `plain` -/

/-- **the fragment list refines the concatenation model**: for every operation that touches `_text` (`plain` getter
and setter, `append(str)`, `append(Text)`, `append_text`, `append_tokens`, `right_crop`, `copy`, `join`), updating the
fragment list as the code does and then joining the fragments is the abstract model's operation on the joined
string -/
theorem frag_refines_step (ft : FText σ) (op : FText.FOp σ) : (ft.step op).abs = FText.absStep ft.abs op :=
  FText.abs_step ft op

/-- …and so for every history of such operations, of any length -/
theorem frag_refines_history (ops : List (FText.FOp σ)) (ft : FText σ) :
    (ft.run ops).abs = ops.foldl FText.absStep ft.abs :=
  FText.abs_run ops ft

/-- **`plain`'s normalisation (join the fragments, reset `_text` to one fragment) is unobservable**: normalising
first, or reading `plain` before a history, leads to the same abstract text as not doing so — for every history -/
theorem plain_normalisation_unobservable (ops : List (FText.FOp σ)) (ft : FText σ) :
    ft.normalise.abs = ft.abs ∧ (ft.normalise.run ops).abs = (ft.run ops).abs ∧
    (ft.run (.getPlain :: ops)).abs = (ft.run ops).abs :=
  ⟨FText.abs_normalise ft, (FText.normalise_unobservable ops ft).1, (FText.normalise_unobservable ops ft).2⟩

example : ((FText.new Variant.repaired ['a', '\r'] (5 : Nat)).run
      [.appendStr ['b', '\x08'] (some 1), .appendTokens [(['c'], none), ([], some 2)], .getPlain, .appendText (FText.ofFrags Variant.repaired [['d'], ['e']] 3)]).frags
    = [['a', 'b', 'c'], ['d', 'e']] := by decide +kernel

/-- every operation of the complete set — `OpX` plus `split` with any non-empty separator and both flags, `fit`, `pad`,
`append_tokens`, `rstrip_end`, `with_indent_guides` — keeps the invariant -/
theorem inv_step_full [BEq σ] (cw : Char → Nat) (null : σ) (t t' : Text σ) (op : OpAll σ) (h : Inv t) (hp : op.Pre t)
    (hs : stepAll cw null t op = .ok t') : Inv t' :=
  inv_stepAll cw null t t' op h hp hs

/-- …and so does every history over the complete operation set, of any length, for any cell-width function -/
theorem inv_history_full [BEq σ] (cw : Char → Nat) (null : σ) (ops : List (OpAll σ)) (t t' : Text σ) (h : Inv t)
    (hp : HistPreAll cw null t ops) (hr : runAll cw null t ops = .ok t') : Inv t' :=
  inv_of_run (Pre := fun t op => op.Pre t) (fun _ => rfl) (fun _ _ _ _ h => by simp only [runAll, h])
    (fun _ _ _ _ h => by simp only [runAll, h]) (fun _ _ _ h => h) (inv_stepAll cw null) ops t t' h hp hr

/-- **after any history, what `render()` emits is the reference semantics**: for a text built by the constructor and
edited by any sequence of operations of the complete set inside the domain, `render` raises nothing and its
(character, style names) stream is `view` of the result -/
theorem history_render_full [BEq σ] (cw : Char → Nat) (null : σ) (ops : List (OpAll σ)) (t t' : Text σ) (h : Inv t)
    (hp : HistPreAll cw null t ops) (hr : runAll cw null t ops = .ok t') :
    ∃ segs, t'.render [] = .ok segs ∧ segStream segs = t'.view ∧ t'.length = (t'.view.length : Int) :=
  let hi := inv_history_full cw null ops t t' h hp hr
  let ⟨segs, h1, h2⟩ := render_view t' hi
  ⟨segs, h1, h2, len_eq_view_length t' hi⟩

example : HistPreAll (fun _ => 1) (0 : Nat) (Text.new Variant.repaired ['a', 'a', 'a', '\n', ' ', ' ', 'b', ' '] 5 [⟨0, 3, 1⟩])
    [.splitAny ['a', 'a'] false true 1, .pad 1 '*', .appendTokens [(['x'], some 2)], .rstripEnd 3, .fit 4 0,
     .indentGuides none ['|'] 3] := by
  refine ⟨(by show (['a', 'a'] : List Char) ≠ []; simp), fun _ _ => ⟨(by show isStripCode '*' = false; decide), fun _ _ => ⟨?_, fun _ _ => ⟨trivial, fun _ _ => ⟨trivial, fun _ _ => ⟨?_, fun _ _ => trivial⟩⟩⟩⟩⟩⟩
  · intro tok htok c hc
    simp only [List.mem_singleton] at htok
    subst htok
    simp only [List.mem_singleton] at hc
    subst hc; decide +kernel
  · intro c hc
    simp only [List.mem_singleton] at hc
    subst hc; decide +kernel

end RichModel.C05
