import RichModel.Lemmas.Ratio
import RichModel.Lemmas.TableRender
import RichModel.Lemmas.TableWidths
import RichModel.Lemmas.Collapse
import RichModel.Lemmas.TableTotal
import RichModel.Lemmas.TableText
import RichModel.Props.C02
import RichModel.Lemmas.TableStable
import RichModel.Lemmas.TableGeneral
import RichModel.Lemmas.TableRows
import RichModel.Lemmas.LayoutDeps
import RichModel.Gen.CellWidths
import RichModel.Gen.TableBoxes
/-!
# C07 — tables are rectangles that show every cell in its own column

First the arithmetic core ("ratio_distribute / ratio_reduce split integers so that the parts sum to the
total", `_collapse_widths`), then the table itself (`Model/Table.lean`, cells as oracles — see
`Model/TABLE_API.md`): rectangle, exact expansion, fitting the available width, row order, every cell inside
its column's span; then the same sentence on rendered CHARACTERS (`cell_characters_in_column`, for text cells through
C02's model of `Text.wrap`), the width bound for ARBITRARY columns (`width_bound_general`) and totality
(`calc_widths_total`, what C14 needs).  `Flags.today` (the name dates from before the `fix:` commits) is rich 9.10.0 as
found; the full-strength theorems are proved for the repaired variants and `old_…` witnesses show the as-found code
violating them at a concrete table.  `Flags.repaired` repairs the first three defects (fixes dd342b5, c798468, b5d172f);
`Flags.allRepaired` repairs all seven flags (also 1d61bac, ab98098, f955c6c, and 75c2776 = `flexClampZero`, the
`max(0, width)` clamp that came in with ab98098 and is read only when `flexNegative = false`) and is what /repo contains now.
-/
namespace RichModel.C07
open RichModel

/-- `ratio_distribute(total, ratios)` without minimums — the call that pads an expanding table — yields
one part per column, none negative, summing to **exactly** `total`, for every list of non-negative
ratios with a positive sum.  (This is what makes an expanded table exactly as wide as asked.) -/
theorem ratio_distribute_sums_to_total (total : Int) (ratios : List Int) (hpos : ∀ r ∈ ratios, 0 ≤ r)
    (hsum : 0 < ratios.sum) (ht : 0 ≤ total) :
    ∃ l, ratioDistribute total ratios none = some l ∧ l.sum = total ∧ l.length = ratios.length ∧ ∀ d ∈ l, 0 ≤ d :=
  ratioDistribute_none total ratios hpos hsum ht

/-- With minimums the parts sum to at least `total` (a binding minimum can only add). -/
theorem ratio_distribute_loop_at_least (items : List (Int × Int)) (total tr : Int)
    (hpos : ∀ it ∈ items, 0 ≤ it.1) (htr : tr = (items.map (·.1)).sum) (h0 : 0 < tr) :
    total ≤ (ratioDistributeLoop items total tr).sum :=
  ratioDistributeLoop_sum_ge items total tr hpos htr (by rintro rfl; simp at htr; omega)

/-- `ratio_reduce` never takes more than `total` in all, never a negative amount, never more than a
slot's maximum, and leaves zero-ratio slots alone. -/
theorem ratio_reduce_bounds (items : List (Int × Int × Int)) (total tr : Int)
    (hpos : ∀ it ∈ items, 0 ≤ it.1 ∧ 0 ≤ it.2.1) (htr : tr = (rrRatios items).sum) (h0 : 0 ≤ total) :
    (ratioReduceLoop items total tr).length = items.length ∧
    (rrValues items).sum - total ≤ (ratioReduceLoop items total tr).sum ∧
    (ratioReduceLoop items total tr).sum ≤ (rrValues items).sum ∧
    (∀ p ∈ items.zip (ratioReduceLoop items total tr), p.1.2.2 - p.1.2.1 ≤ p.2 ∧ p.2 ≤ p.1.2.2) ∧
    (∀ p ∈ items.zip (ratioReduceLoop items total tr), p.1.1 = 0 → p.2 = p.1.2.2) :=
  let ⟨a, b, c, d⟩ := ratioReduceLoop_bounds items total tr hpos htr h0
  ⟨a, b, c, d, ratioReduceLoop_zero_ratio items total tr⟩

/-- When no maximum binds, `ratio_reduce` takes exactly `total` (the docstring's guarantee). -/
theorem ratio_reduce_exact_when_uncapped (items : List (Int × Int × Int)) (total tr : Int)
    (hpos : ∀ it ∈ items, 0 ≤ it.1 ∧ total ≤ it.2.1) (htr : tr = (rrRatios items).sum) (h0 : 0 < tr)
    (ht : 0 ≤ total) : (ratioReduceLoop items total tr).sum = (rrValues items).sum - total := by
  have hpos' : ∀ it ∈ items, 0 ≤ it.1 ∧ 0 ≤ it.2.1 := fun it hit => ⟨(hpos it hit).1, Int.le_trans ht (hpos it hit).2⟩
  have hle := ratioReduceLoop_takes items total tr total hpos' (fun it hit _ => (hpos it hit).2) htr h0 ht (Int.le_refl _)
  have hge := (ratioReduceLoop_bounds items total tr hpos' htr ht).2.1
  omega

/-- `Table._collapse_widths` (run on the fuel the model gives it) keeps one width per
column, never produces a negative width or grows the table, never shrinks below `max_width`, and ends
with the widths fitting `max_width` unless every wrappable column is already 0. -/
theorem collapse_widths_post (widths : List Int) (wrapable : List Bool) (maxWidth : Int)
    (hlen : widths.length = wrapable.length) (hnn : ∀ w ∈ widths, 0 ≤ w) :
    let r := collapseWidths widths wrapable maxWidth
    r.length = widths.length ∧ (∀ w ∈ r, 0 ≤ w) ∧ r.sum ≤ widths.sum ∧
    (wrapable.any id = true → (r.sum ≤ maxWidth ∨ wrapZero r wrapable)) ∧
    (maxWidth ≤ widths.sum → maxWidth ≤ r.sum) :=
  let ⟨a, b, c, d, e⟩ := collapseWidths_post widths wrapable maxWidth hlen hnn
  ⟨a, b, c, fun _ => d, e⟩

/-- Tables whose columns are all free to wrap: the collapsed widths fit any non-negative budget. -/
theorem collapse_widths_fit_when_all_wrappable (widths : List Int) (wrapable : List Bool) (maxWidth : Int)
    (hlen : widths.length = wrapable.length) (hnn : ∀ w ∈ widths, 0 ≤ w) (hall : ∀ b ∈ wrapable, b = true)
    (hne : widths ≠ []) (hmw : 0 ≤ maxWidth) : (collapseWidths widths wrapable maxWidth).sum ≤ maxWidth :=
  have _ := hne
  collapseWidths_all_wrappable widths wrapable maxWidth hlen hnn hall hmw

/-! Non-vacuity and the order-dependence the docstring hides (a cap binding early loses cells). -/
example : ratioDistribute 10 [1, 2, 0] none = some [4, 6, 0] := by decide +kernel
example : ratioReduce 50 [1, 1] [100, 1] [100, 1] = [75, 0] := by decide +kernel   -- only 26 of 50 taken
example : collapseWidths [10, 20, 5] [true, true, false] 20 = [8, 7, 5] := by decide +kernel

/-! ## The table -/

/-- `get_character_cell_size` at the table translated from `rich/_cell_widths.py` on this run. -/
def cw : Char → Nat := charWidthT Gen.cellWidths

theorem cellWidths_sortedDisjoint : adjSorted Gen.cellWidths.toList = true := C13.cellWidths_sortedDisjoint
theorem cellWidths_small : widthsSmall Gen.cellWidths.toList = true := C13.cellWidths_small

theorem charWidth_le_two (c : Char) : cw c ≤ 2 := C13.charWidth_le_two c

theorem charWidth_space : cw ' ' = 1 := Layout.cwD_space

/-- Executable form of "every box literal of rich/box.py is 8 lines of 4 characters, each one cell wide". -/
def boxesOk : Bool :=
  Gen.tableBoxes.all (fun e => match Box.ofLines? e.2.2 with
    | some b => decide (b.wf cw)
    | none => false)

/-- Side condition on the *generated* box table (re-proved on every run against rich/box.py as it is now): it is the
`boxesOk` conjunct of `Layout.Dep.tables_ok` of `Lemmas/LayoutDeps.lean`, shared with the layout layer, whose `cwD` is by definition
this file's `cw`. -/
theorem boxes_wellformed : boxesOk = true := Layout.Dep.boxes_wellformed

/-- …so every box constant of rich/box.py parses (`Box.__init__` does not raise) into a box all of whose
characters occupy exactly one cell. -/
theorem boxes_all_wf : ∀ e ∈ Gen.tableBoxes, ∃ b, Box.ofLines? e.2.2 = some b ∧ b.wf cw := Layout.Dep.boxes_all_wf

/-- With at least one column the rectangle's width is `_extra_width` plus the column widths. -/
theorem bodyWidth_eq (t : Table) (widths : List Nat) (hlen : widths.length = t.columns.length) (hne : t.columns ≠ []) :
    (t.bodyWidth widths : Int) = t.extraWidth + (widths.sum : Int) :=
  RichModel.bodyWidth_eq t widths hlen hne

/-- **table_rect.**  Every line of the rendered table body — top and bottom edge, head/foot/row/blank
separators, every line of every row — has the same cell width: the edge characters, one divider between
neighbouring columns and the column widths, i.e. `_extra_width + Σ widths`.  For every table (any number of
columns and rows, every option), every box whose characters are one cell wide, every width vector with one
entry per column and arbitrary cell oracles.  (`leading` repaired to one separator line per unit; see
`old_table_rect_fails`.) -/
theorem table_rect (fl : Flags) (hfl : fl.leadingRepeat = false) (t : Table) (hwf : ∀ b, t.box = some b → b.wf cw)
    (widths : List Nat) (hlen : widths.length = t.columns.length) :
    ∀ l ∈ t.renderBody fl cw widths, cellLen cw l.text = t.bodyWidth widths :=
  fun l hl => (renderBody_onceWide cw charWidth_space charWidth_le_two fl hfl t hwf widths hlen l hl).text_width

/-- The same through `Table.__rich_console__`: whatever widths `_calculate_column_widths` returned (one per
column, none negative), every body line is `_extra_width + Σ widths` cells wide. -/
theorem table_render_rect (fl : Flags) (hfl : fl.leadingRepeat = false) (t : Table) (hwf : ∀ b, t.box = some b → b.wf cw)
    (hne : t.columns ≠ []) (avail : Int) (r : Rendered) (hr : t.render fl cw avail = some r)
    (hlen : r.widths.length = t.columns.length) (hnn : ∀ w ∈ r.widths, 0 ≤ w) :
    ∀ l ∈ r.body, (cellLen cw l.text : Int) = t.extraWidth + r.widths.sum := by
  intro l hl
  rw [(render_some hr).2] at hl
  have hl' : (r.widths.map Int.toNat).length = t.columns.length := by simpa using hlen
  rw [table_rect fl hfl t hwf _ hl' l hl, bodyWidth_eq t _ hl' hne, sum_toNat _ hnn]

/-! Witness for F16 (`leading ≥ 2` with a box; before fix dd342b5): the as-found `_render` emits `get_row(widths, "mid") * leading`
as ONE line, `leading` times too wide. -/

def wBox : Box :=
  { top := ⟨'+', '-', '+', '+'⟩, head := ⟨'|', ' ', '|', '|'⟩, headRow := ⟨'+', '=', '+', '+'⟩, mid := ⟨'|', ' ', '|', '|'⟩,
    row := ⟨'+', '-', '+', '+'⟩, footRow := ⟨'+', '-', '+', '+'⟩, foot := ⟨'|', ' ', '|', '|'⟩, bottom := ⟨'+', '-', '+', '+'⟩ }

/-- A text-like cell oracle: natural width `|s|`, one line padded (or cut) to the width offered. -/
def wCell (s : List Char) : Cell :=
  { measure := fun w => ⟨min s.length w, min s.length w⟩, renderLines := fun w => [(s ++ List.replicate (w - s.length) ' ').take w] }

def wTable : Table :=
  { columns := [{ header := wCell ['a'], footer := wCell [], cells := [wCell ['1'], wCell ['2']] },
                { header := wCell ['b', 'b'], footer := wCell [], cells := [wCell ['3'], wCell ['4', '5', '6']] }],
    rowEndSection := [false, false], box := some wBox, leading := 2, padding := (0, 0, 0, 0) }

/-- rich 9.10.0 as found: the separator between the two rows is 14 cells wide in a 7-cell table. -/
theorem old_table_rect_fails :
    ∃ l ∈ wTable.renderBody Flags.today (fun _ => 1) [1, 3], cellLen (fun _ => 1) l.text ≠ wTable.bodyWidth [1, 3] := by decide +kernel

/-- The repaired code on the same table: every line 7 cells wide, two separate blank separator lines. -/
example : (wTable.renderBody Flags.repaired (fun _ => 1) [1, 3]).map (fun l => String.ofList l.text) =
    ["+-+---+", "|a|bb |", "+=+===+", "|1|3  |", "| |   |", "| |   |", "|2|456|", "+-+---+"] := by decide +kernel

/-! ### rows and columns -/

/-- **rows_in_order.**  Reading the body top to bottom and keeping only the lines that carry cells gives:
all lines `0 … h₀-1` of row 0, then all lines of row 1, … — the rows in the order `zip(*columns)` yields them,
each on lines of its own (a line belongs to exactly one row or is a separator), each row at least one line
high.  For every table, every option, every width vector, as-found code and repaired alike. -/
theorem rows_in_order (fl : Flags) (t : Table) (widths : List Nat) :
    (t.renderBody fl cw widths).filterMap BodyLine.cellTag
      = t.rows.zipIdx.flatMap (fun ri => (List.range (shapeRow cw widths ri.1).1).map (fun k => (ri.2, k)))
    ∧ ∀ row, 1 ≤ (shapeRow cw widths row).1 :=
  ⟨renderBody_tags fl cw t widths, fun _ => (rowHeight_ge _).1⟩

/-- …and those rows are: the header (if shown), the rows in INSERTION order, the footer (if shown) — for every
table whose columns hold the same number of cells (any table built with `add_row`). -/
theorem rows_header_cells_footer (t : Table) (m : Nat) (hne : t.columns ≠ []) (hrect : ∀ c ∈ t.columns, c.cells.length = m) :
    t.rows = (if t.showHeader then [t.columns.map (·.header)] else [])
      ++ (List.range m).map (fun r => t.columns.map (fun c => c.cells.getD r default))
      ++ (if t.showFooter then [t.columns.map (·.footer)] else []) := by
  unfold Table.rows
  rw [zipRows_uniform _ ((if t.showHeader then 1 else 0) + m + (if t.showFooter then 1 else 0)) (by simpa using hne)
    (by intro l hl; obtain ⟨c, hc, rfl⟩ := List.mem_map.mp hl; rw [getCells_length, hrect c hc])]
  simp only [List.map_map, Function.comp_def, Table.getCells]
  have hh : ∀ c ∈ t.columns, (if t.showHeader then [c.header] else []).length = (if t.showHeader then 1 else 0) :=
    fun c _ => by cases t.showHeader <;> rfl
  -- each column is header ++ cells ++ footer, so the rows are the header row, the cell rows, the footer row
  rw [rows_append default t.columns (fun c => (if t.showHeader then [c.header] else []) ++ c.cells) _ _ _
      (fun c hc => by rw [List.length_append, hh c hc, hrect c hc]),
    rows_append default t.columns _ (fun c => c.cells) _ _ hh]
  cases t.showHeader <;> cases t.showFooter <;> rfl

/-- Part `j` of line `k` of a row is line `k` of that cell's shaped rendering. -/
theorem cellLine_part (t : Table) (widths : List Nat) (first last : Bool) (i : Nat) (row : List Cell)
    (hrl : row.length = widths.length) (k j : Nat) (hj : j < widths.length) :
    (t.cellLine cw widths first last i row k).parts.getD j []
      = (shapeCell cw widths[j] (shapeRow cw widths row).1 ((row[j]'(by omega)).renderLines widths[j])).getD k [] := by
  have hparts : (t.cellLine cw widths first last i row k).parts = (shapeRow cw widths row).2.map (fun c => c.getD k []) := by
    unfold Table.cellLine; cases t.box <;> rfl
  have hg := shapeRow_getElem cw widths row hrl j hj
  rw [hparts, List.getD_eq_getElem?_getD, List.getElem?_map, hg]
  rfl

/-- **fold_cells_in_column.**  Take any body line that carries cells, say line `k` of row `i`, and any column
`j`.  The line splits as `pre ++ part ++ post` where `pre` is exactly `colOffset j` cells wide (left edge,
the earlier columns, one divider each), `part` is exactly `widths[j]` cells wide, and `part` IS line `k` of
what cell `(i, j)` rendered at the column's width — verbatim, every character in order — or blank padding
when that cell has fewer than `k+1` lines.  So the characters of a cell appear inside its column's span of
cells and nowhere else on the line.  (The oracle hypothesis `hexact` is what `render_lines` guarantees; C13.) -/
theorem fold_cells_in_column (fl : Flags) (t : Table) (hwf : ∀ b, t.box = some b → b.wf cw) (widths : List Nat)
    (hlen : widths.length = t.columns.length) (l : BodyLine) (i k : Nat)
    (hl : l ∈ t.renderBody fl cw widths) (htag : l.cellTag = some (i, k)) (j : Nat) (hj : j < widths.length) :
    ∃ (row : List Cell) (hrow : j < row.length), t.rows[i]? = some row ∧ k < (shapeRow cw widths row).1 ∧
      ∃ pre part post, l.text = pre ++ part ++ post ∧ cellLen cw pre = t.colOffset widths j ∧ cellLen cw part = widths[j] ∧
        ((∀ x ∈ row[j].renderLines widths[j], cellLen cw x = widths[j]) →
          part = if h : k < (row[j].renderLines widths[j]).length then (row[j].renderLines widths[j])[k]
                 else List.replicate widths[j] ' ') := by
  obtain ⟨row, hrow, hk, rfl⟩ := renderBody_cell_line fl cw t widths l i k hl htag
  have hrl := rows_row_length t widths hlen i row hrow
  obtain ⟨pre, post, h1, h2, h3⟩ :=
    cellLine_column cw charWidth_space charWidth_le_two t hwf widths (i == 0) (i + 1 == t.rows.length) i row hrl k hk j hj
  refine ⟨row, by omega, hrow, hk, pre, _, post, h1, h2, h3, fun hexact => ?_⟩
  rw [cellLine_part t widths _ _ i row hrl k j hj]
  exact shapeCell_getD cw widths[j] _ _ hexact k hk

/-- Every rendered line of every cell is shown: line `k` of cell `(i, j)` is on body line `(i, k)`. -/
theorem every_cell_line_shown (fl : Flags) (t : Table) (widths : List Nat) (hlen : widths.length = t.columns.length)
    (i : Nat) (row : List Cell) (hrow : t.rows[i]? = some row) (j : Nat) (hj : j < widths.length) (hjr : j < row.length)
    (k : Nat) (hk : k < (row[j].renderLines widths[j]).length) :
    (i, k) ∈ (t.renderBody fl cw widths).filterMap BodyLine.cellTag := by
  have hk' : k < (shapeRow cw widths row).1 :=
    Nat.lt_of_lt_of_le hk (cell_height_le cw widths row (rows_row_length t widths hlen i row hrow) j hj)
  exact List.mem_filterMap.mpr ⟨_, cellLine_mem_body fl cw t widths i row hrow k hk', cellLine_tag cw t widths _ _ i row k⟩

/-- **The property's sentence, on rendered characters.**  Take any cell — row `i`, column `j` — whose rendering at the
column's width consists of lines of exactly that width (what `render_lines` guarantees) and keeps the non-whitespace
characters of its source text `src` in order (for a text cell in a fold column: C02's `wrap_fold_keeps_nonspace`).  Then
* every line `k < h` of row `i` is a line of the rendered body, and it reads `pre ++ part ++ post` where `pre` is exactly
  `colOffset j` cells wide (the left edge, the earlier columns, one divider each) and `part` exactly `widths[j]` cells;
* reading those parts top to bottom and dropping whitespace gives EXACTLY the non-whitespace characters of `src`, in order —
  every one of them, none twice, inside column `j`'s span of cells; the rest of each line (`pre`, `post`) belongs to the
  edges, the dividers and the other columns. -/
theorem cell_characters_in_column (fl : Flags) (t : Table) (hwf : ∀ b, t.box = some b → b.wf cw) (widths : List Nat)
    (hlen : widths.length = t.columns.length) (isSp : Char → Bool) (hsp : isSp ' ' = true)
    (i : Nat) (row : List Cell) (hrow : t.rows[i]? = some row) (j : Nat) (hj : j < widths.length) (hjr : j < row.length)
    (src : List Char) (hexact : ∀ x ∈ row[j].renderLines widths[j], cellLen cw x = widths[j])
    (hkeep : ((row[j].renderLines widths[j]).flatten).filter (fun c => !isSp c) = src.filter (fun c => !isSp c)) :
    (∀ k, k < (shapeRow cw widths row).1 →
      t.cellLine cw widths (i == 0) (i + 1 == t.rows.length) i row k ∈ t.renderBody fl cw widths ∧
      ∃ pre post, (t.cellLine cw widths (i == 0) (i + 1 == t.rows.length) i row k).text
          = pre ++ (t.cellLine cw widths (i == 0) (i + 1 == t.rows.length) i row k).parts.getD j [] ++ post ∧
        cellLen cw pre = t.colOffset widths j ∧
        cellLen cw ((t.cellLine cw widths (i == 0) (i + 1 == t.rows.length) i row k).parts.getD j []) = widths[j]) ∧
    ((List.range (shapeRow cw widths row).1).flatMap
        (fun k => (t.cellLine cw widths (i == 0) (i + 1 == t.rows.length) i row k).parts.getD j [])).filter (fun c => !isSp c)
      = src.filter (fun c => !isSp c) := by
  have hrl := rows_row_length t widths hlen i row hrow
  refine ⟨fun k hk => ⟨cellLine_mem_body fl cw t widths i row hrow k hk,
    cellLine_column cw charWidth_space charWidth_le_two t hwf widths _ _ i row hrl k hk j hj⟩, ?_⟩
  · -- the parts are the lines of the shaped cell
    simp only [cellLine_part t widths _ _ i row hrl _ j hj]
    rw [shaped_lines_nonspace cw isSp hsp widths[j] _ _ hexact (cell_height_le cw widths row hrl j hj)]
    exact hkeep

/-- …and when no character of the line is zero cells wide, the part IS what slicing the rendered line at the column's cell
offset for the column's width returns: `cellSpan line (colOffset j) widths[j]`. -/
theorem cell_span_is_part (t : Table) (hwf : ∀ b, t.box = some b → b.wf cw) (widths : List Nat) (first last : Bool) (i : Nat)
    (row : List Cell) (hrl : row.length = widths.length) (k : Nat) (hk : k < (shapeRow cw widths row).1) (j : Nat) (hj : j < widths.length)
    (hpos : ∀ c ∈ (t.cellLine cw widths first last i row k).text, 1 ≤ cw c) :
    cellSpan cw (t.cellLine cw widths first last i row k).text (t.colOffset widths j) widths[j]
      = (t.cellLine cw widths first last i row k).parts.getD j [] := by
  obtain ⟨pre, post, h1, h2, h3⟩ :=
    cellLine_column cw charWidth_space charWidth_le_two t hwf widths first last i row hrl k hk j hj
  rw [h1] at hpos ⊢
  rw [← h2, ← h3]
  exact cellSpan_eq cw pre _ post (fun c hc => hpos c (List.mem_append_left _ (List.mem_append_left _ hc)))
    (fun c hc => hpos c (List.mem_append_left _ (List.mem_append_right _ hc)))

/-- **…literally, for text cells.**  Let cell `(i, j)` be a text cell — `Padding(text, (pt, pr, pb, pl))` rendered at the
column's width with overflow "fold", wrapping on, any justify; its lines are C02's model of `Text.wrap` at the content
width (`wrapCell`) — in a column at least 2 cells wider than its padding.  Then on the rendered table every
non-whitespace character of the text appears, in order, exactly once, inside column `j`'s span of cells on the lines of
row `i` (and the rest of those lines is edges, dividers and the other columns).  Uses `C02.wrap_fold_keeps_nonspace` and
`C02.wrap_lines_fit` for the cell, `cell_characters_in_column` for the table. -/
theorem text_cell_characters_in_column {σ : Type} [BEq σ] [LawfulBEq σ] (chars : Bool) (A : Wrap.StyleAlg σ) (txt : RichModel.Text σ)
    (htxt : Text.Inv txt) (pt pr pb pl : Nat) (justify : Option RichModel.Justify) (meas : Nat → Measurement)
    (fl : Flags) (t : Table) (hwf : ∀ b, t.box = some b → b.wf cw) (widths : List Nat)
    (hlen : widths.length = t.columns.length)
    (i : Nat) (row : List Cell) (hrow : t.rows[i]? = some row) (j : Nat) (hj : j < widths.length) (hjr : j < row.length)
    (hcell : row[j] = wrapCell chars cw A txt pt pr pb pl justify meas)
    (hw : 2 ≤ widths[j] - pl - pr) (hfit : pl + pr ≤ widths[j]) :
    (∀ k, k < (shapeRow cw widths row).1 →
      t.cellLine cw widths (i == 0) (i + 1 == t.rows.length) i row k ∈ t.renderBody fl cw widths ∧
      ∃ pre post, (t.cellLine cw widths (i == 0) (i + 1 == t.rows.length) i row k).text
          = pre ++ (t.cellLine cw widths (i == 0) (i + 1 == t.rows.length) i row k).parts.getD j [] ++ post ∧
        cellLen cw pre = t.colOffset widths j ∧
        cellLen cw ((t.cellLine cw widths (i == 0) (i + 1 == t.rows.length) i row k).parts.getD j []) = widths[j]) ∧
    ((List.range (shapeRow cw widths row).1).flatMap
        (fun k => (t.cellLine cw widths (i == 0) (i + 1 == t.rows.length) i row k).parts.getD j [])).filter (fun c => !RichModel.pyIsSpace c)
      = txt.plain.filter (fun c => !RichModel.pyIsSpace c) := by
  have hc := wrapCell_contract chars cw charWidth_space charWidth_le_two C02.rich_widths_admissible.2.2 A txt htxt pt pr pb pl justify widths[j] hw hfit
  apply cell_characters_in_column fl t hwf widths hlen RichModel.pyIsSpace Text.space_isSpace i row hrow j hj hjr txt.plain
  · rw [hcell]; exact hc.1
  · rw [hcell]; exact hc.2

/-! ### column widths -/

/-- **table_expand_exact.**  An expanding table (`expand=True` or an explicit `width`) whose columns fit the
width on offer at their natural widths is padded to EXACTLY that width: `Σ widths = max_width`, one width
per column, no column narrower than its natural width.  Any columns (fixed, capped, ratio), any cells.
(With the pad target repaired, or without a table `min_width`; see `old_expand_exact_fails`.) -/
theorem table_expand_exact (fl : Flags) (t : Table) (maxWidth : Int) (ws0 : List Int) (hexp : t.expand = true)
    (hfl : fl.minWidthCapsExpand = false ∨ t.minWidth = none)
    (hcols : t.columns ≠ [])
    (h0 : t.firstWidths fl maxWidth = some ws0) (hne : ws0 ≠ []) (hpos : ∀ w ∈ ws0, 1 ≤ w) (hfit : ws0.sum ≤ maxWidth) :
    ∃ ws, t.calcWidths fl maxWidth = some ws ∧ ws.sum = maxWidth ∧ ws.length = ws0.length ∧ ∀ p ∈ ws0.zip ws, p.1 ≤ p.2 := by
  obtain ⟨ws, h1, _, h2, _, h3, h6⟩ := calcWidths_fitting fl t maxWidth hcols ws0 h0 hne hpos hfit
  exact ⟨ws, h1, h6 hexp hfl, h2, h3⟩

/-- The same from hypotheses about the cells only: no active ratio column, every column free (no `width`, no
`min_width`, cells measuring ≥ 0 as `Measurement.get` guarantees).  If the natural widths fit, the
expanding table is exactly as wide as asked. -/
theorem table_expand_exact_free (fl : Flags) (t : Table) (maxWidth : Int) (hexp : t.expand = true)
    (hfl : fl.minWidthCapsExpand = false ∨ t.minWidth = none) (hnr : t.NoRatio) (hfree : t.AllFree) (hne : t.columns ≠ [])
    (hfit : (t.indexed.map (fun ci => orOne (t.measureColumn ci.2 ci.1 maxWidth).maximum)).sum ≤ maxWidth) :
    ∃ ws, t.calcWidths fl maxWidth = some ws ∧ ws.sum = maxWidth ∧ ws.length = t.columns.length := by
  obtain ⟨h0, hl, hp⟩ := firstPassAt_noRatio fl t hnr hfree.measures maxWidth
  obtain ⟨ws, h1, h2, h3, _⟩ := table_expand_exact fl t maxWidth _ hexp hfl hne h0 (ne_nil_of_length_eq hl hne) hp hfit
  exact ⟨ws, h1, h2, by omega⟩

/-- Witness: in rich 9.10.0 as found (before fix c798468) `Table(expand=True, min_width=…)` with a small `min_width` does NOT expand — the pad target
is `min(min_width - extra, max_width)`, below the natural width, so nothing is handed out. -/
def wTableMin : Table :=
  { columns := [{ header := wCell ['a', 'b', 'c'], footer := wCell [], cells := [wCell ['1']] }],
    rowEndSection := [false], box := none, expandFlag := true, minWidth := some 2, padding := (0, 0, 0, 0) }

theorem old_expand_exact_fails : wTableMin.calcWidths Flags.today 10 = some [3] := by decide +kernel
example : wTableMin.calcWidths Flags.repaired 10 = some [10] := by decide +kernel

/-- Witness: in rich 9.10.0 as found (before fix b5d172f) an expanding table with a ratio column next to a column that measures 0 (`Table.grid(expand=True)`,
`add_column(ratio=1)`, `add_column()`, `add_row("abc", "")`) is NOT expanded: 0 cells are reserved for the empty
column, it gets 1 (`maximum or 1`), the table is one cell over, the collapse takes the cell back from the ratio
column and the re-measure then shrinks that column to its content. -/
def wTableRatio : Table :=
  { columns := [{ header := wCell [], footer := wCell [], cells := [wCell ['a', 'b', 'c']], ratio := some 1 },
                { header := wCell [], footer := wCell [], cells := [wCell []] }],
    rowEndSection := [false], box := none, showHeader := false, expandFlag := true, padding := (0, 0, 0, 0) }

theorem old_expand_ratio_fails : wTableRatio.calcWidths Flags.today 30 = some [3, 1] := by decide +kernel
example : wTableRatio.calcWidths Flags.repaired 30 = some [29, 1] := by decide +kernel

/-- **table_exact_collapsed.**  When the natural widths do NOT fit and every column may
wrap, the collapsed widths sum to exactly `max_width`; if re-measuring the columns at those widths gives the
same widths back (true of text cells: a cell that was cut to `w` measures `w` at `w`), the table — expanding
or not, as-found code or repaired — is exactly `max_width` wide. -/
theorem table_exact_collapsed (fl : Flags) (t : Table) (maxWidth : Int) (hnr : t.NoRatio) (hfree : t.AllFree)
    (hne : t.columns ≠ []) (hnw : ∀ c ∈ t.columns, c.noWrap = false) (hmw : 0 ≤ maxWidth)
    (hover : maxWidth < (t.indexed.map (fun ci => orOne (t.measureColumn ci.2 ci.1 maxWidth).maximum)).sum)
    (hstable : ∀ ws0, t.firstWidths fl maxWidth = some ws0 →
      t.remeasure (collapseWidths ws0 t.wrapable maxWidth) = collapseWidths ws0 t.wrapable maxWidth) :
    ∃ ws, t.calcWidths fl maxWidth = some ws ∧ ws.sum = maxWidth ∧ ws.length = t.columns.length := by
  obtain ⟨h0, hl, hp⟩ := firstPassAt_noRatio fl t hnr hfree.measures maxWidth
  have hnn : ∀ w ∈ t.indexed.map (fun ci => orOne (t.measureColumn ci.2 ci.1 maxWidth).maximum), 0 ≤ w :=
    fun w hw => by have := hp w hw; omega
  have hfit := collapseWidths_all_wrappable _ t.wrapable maxWidth (hl.trans (wrapable_length t).symm) hnn
    (wrapable_all t (allFree_wrap t hfree hnw)) hmw
  obtain ⟨ws, h1, h5, h2, _, h4, _, hsum⟩ := calcWidths_collapsed fl t maxWidth hfree.measures hne _ h0 hl hnn hover hfit
  rw [hstable _ h0] at h4 h5
  exact ⟨ws, h1, by omega, h2⟩

/-- `_collapse_widths` never widens a column: pointwise, every collapsed width is at most what it started from. -/
theorem collapse_widths_le (widths : List Int) (wrapable : List Bool) (maxWidth : Int)
    (hlen : widths.length = wrapable.length) (hnn : ∀ w ∈ widths, 0 ≤ w) :
    ListLe (collapseWidths widths wrapable maxWidth) widths :=
  (collapseWidths_induct wrapable maxWidth (ListLe · widths)
    (fun ws w' hl hn hP hs => (collapseStep_le ws wrapable maxWidth hl hn w' hs).trans hP) widths hlen hnn (ListLe.refl _)).1

/-- **The stability hypothesis of `table_exact_collapsed`, derived from the oracle contract of text cells.**  If every cell
measures like a text — `maximum = min(natural width, width on offer)`, which is what `Measurement.get` returns for `Text`
and for `Padding(Text)` — then the columns collapsed to `r` measure exactly `r` again.  So a table of free columns whose
natural widths do not fit is EXACTLY `max_width` wide (expanding or not, whatever the flags), at every `max_width` of at
least one cell per column. -/
theorem table_exact_collapsed_textlike (fl : Flags) (t : Table) (maxWidth : Int) (hnr : t.NoRatio) (hfree : t.AllFree)
    (htl : ∀ c ∈ t.columns, ∀ cell ∈ t.getCells c, cell.TextLike)
    (hne : t.columns ≠ []) (hnw : ∀ c ∈ t.columns, c.noWrap = false) (hmw : (t.columns.length : Int) ≤ maxWidth)
    (hover : maxWidth < (t.indexed.map (fun ci => orOne (t.measureColumn ci.2 ci.1 maxWidth).maximum)).sum) :
    ∃ ws, t.calcWidths fl maxWidth = some ws ∧ ws.sum = maxWidth ∧ ws.length = t.columns.length := by
  have hn1 : t.columns.length ≠ 0 := fun h => hne (List.eq_nil_of_length_eq_zero h)
  apply table_exact_collapsed fl t maxWidth hnr hfree hne hnw (by omega) hover
  intro ws0 h0
  obtain ⟨h0', hl, hp⟩ := firstPassAt_noRatio fl t hnr hfree.measures maxWidth
  cases h0.symm.trans h0'
  have hwl := hl.trans (wrapable_length t).symm
  exact remeasure_stable_textlike t hfree htl maxWidth (by omega) _
    (collapse_widths_le _ t.wrapable maxWidth hwl (fun w hw => by have := hp w hw; omega))
    (collapseWidths_keep _ t.wrapable maxWidth hwl (wrapable_all t (allFree_wrap t hfree hnw)) hp (by omega))

/-- Witness that the stability hypothesis is NOT automatic: a cell that measures 6 when offered at least 6 cells but only
2 when offered less (a renderable with a fixed-size layout and a compact fallback) — the non-expanding table is collapsed
to 9 cells, re-measured, and ends up 7 cells wide in 9 (still a rectangle, still fitting, not "exactly `max_width`"). -/
def wShrinkCell : Cell :=
  { measure := fun w => if 6 ≤ w then ⟨6, 6⟩ else ⟨2, 2⟩, renderLines := fun w => [List.replicate w ' '] }

theorem remeasure_can_shrink :
    ({ columns := [{ header := wShrinkCell, footer := wCell [], cells := [] },
                   { header := wCell ['a', 'b', 'c', 'd', 'e', 'f', 'g', 'h'], footer := wCell [], cells := [] }],
       padding := (0, 0, 0, 0) } : Table).calcWidths Flags.allRepaired 9 = some [2, 5] := by decide +kernel

/-- `_collapse_widths` never starves a column: every column free to wrap, every width at least 1, a budget of
at least one cell per column ⇒ every collapsed width is at least 1 (so the `maximum or 1` of the re-measure
never *adds* a cell).  The even split with banker's rounding is the delicate case. -/
theorem collapse_widths_keep (widths : List Int) (wrapable : List Bool) (maxWidth : Int)
    (hlen : widths.length = wrapable.length) (hall : ∀ b ∈ wrapable, b = true) (h1 : ∀ w ∈ widths, 1 ≤ w)
    (hmw : (widths.length : Int) ≤ maxWidth) : ∀ w ∈ collapseWidths widths wrapable maxWidth, 1 ≤ w :=
  collapseWidths_keep widths wrapable maxWidth hlen hall h1 hmw

/-- `width_fits` with the "collapse keeps one cell per column" fact as a hypothesis. -/
theorem width_fits_of_keep (fl : Flags) (t : Table) (maxWidth : Int)
    (hfirst : ∃ ws0, t.firstWidths fl maxWidth = some ws0 ∧ ws0.length = t.columns.length ∧ ∀ w ∈ ws0, 1 ≤ w) (hfree : t.AllFree)
    (hne : t.columns ≠ []) (hnw : ∀ c ∈ t.columns, c.noWrap = false) (hmw : (t.columns.length : Int) ≤ maxWidth)
    (hkeep : ∀ ws0, t.firstWidths fl maxWidth = some ws0 → ∀ w ∈ collapseWidths ws0 t.wrapable maxWidth, 1 ≤ w) :
    ∃ ws, t.calcWidths fl maxWidth = some ws ∧ ws.sum ≤ maxWidth ∧ ws.length = t.columns.length ∧ ∀ w ∈ ws, 1 ≤ w :=
  have _ := hkeep
  calcWidths_free_fits fl t maxWidth hfirst hfree hne hnw hmw

/-- `width_fits` from any first pass that gives every column at least one cell. -/
theorem width_fits_core (fl : Flags) (t : Table) (maxWidth : Int)
    (hfirst : ∃ ws0, t.firstWidths fl maxWidth = some ws0 ∧ ws0.length = t.columns.length ∧ ∀ w ∈ ws0, 1 ≤ w) (hfree : t.AllFree)
    (hne : t.columns ≠ []) (hnw : ∀ c ∈ t.columns, c.noWrap = false) (hmw : (t.columns.length : Int) ≤ maxWidth) :
    ∃ ws, t.calcWidths fl maxWidth = some ws ∧ ws.sum ≤ maxWidth ∧ ws.length = t.columns.length ∧ ∀ w ∈ ws, 1 ≤ w :=
  calcWidths_free_fits fl t maxWidth hfirst hfree hne hnw hmw

/-- **width_fits.**  Every column free to wrap (no `width`, `min_width`, `no_wrap`; no active ratio), cells
measuring `0 ≤ maximum` (what `Measurement.get` guarantees), and an available width of at least the structural
minimum — one cell per column: `_calculate_column_widths` succeeds, gives every column at least one cell, and
the table is NEVER wider than the width on offer.  Natural widths that fit are kept (padded at most up to
`max_width`); wider ones are collapsed to exactly `max_width`, no column below one cell
(`collapse_widths_keep`), and the re-measure (`maximum or 1`) can then only shrink a column. -/
theorem width_fits (fl : Flags) (t : Table) (maxWidth : Int) (hnr : t.NoRatio) (hfree : t.AllFree)
    (hne : t.columns ≠ []) (hnw : ∀ c ∈ t.columns, c.noWrap = false) (hmw : (t.columns.length : Int) ≤ maxWidth) :
    ∃ ws, t.calcWidths fl maxWidth = some ws ∧ ws.sum ≤ maxWidth ∧ ws.length = t.columns.length ∧ ∀ w ∈ ws, 1 ≤ w :=
  width_fits_core fl t maxWidth (firstWidths_free fl t hnr hfree maxWidth) hfree hne hnw hmw

/-- The first pass of a table of free columns with ANY non-negative ratios (zero included), flexible widths kept at
their minimums (`flexNegative`, `flexClampZero` repaired), padding not negative: every column at least one cell. -/
theorem first_widths_any_ratio (fl : Flags) (h2 : fl.flexNegative = false) (h3 : fl.flexClampZero = false) (t : Table)
    (maxWidth : Int) (hfree : t.AllFree) (hpad : ∀ i, 0 ≤ t.paddingWidth i) (hrat : ∀ c ∈ t.columns, 0 ≤ c.ratio.getD 0) :
    ∃ ws0, t.firstWidths fl maxWidth = some ws0 ∧ ws0.length = t.columns.length ∧ ∀ w ∈ ws0, 1 ≤ w := by
  refine firstWidths_ge_one fl h2 h3 t maxWidth
    (fun ci hci => hfree.measures ci hci maxWidth) hpad (fun c hc => ?_) hrat
  rw [hfree.width c hc]
  exact Int.le_refl 0

/-- **width_fits with ratio columns, zero ratios included** (the `NoRatio` exclusion is gone once a zero-ratio column
keeps its flex minimum): free columns, any non-negative ratios, expanding or not — never wider than the width on offer,
every column at least one cell.  (`width_fits_ratio` of Lemmas/TableGeneral needs every ratio ≥ 1, but no flag repaired.) -/
theorem width_fits_any_ratio (fl : Flags) (h2 : fl.flexNegative = false) (h3 : fl.flexClampZero = false) (t : Table)
    (maxWidth : Int) (hfree : t.AllFree) (hpad : ∀ i, 0 ≤ t.paddingWidth i) (hrat : ∀ c ∈ t.columns, 0 ≤ c.ratio.getD 0)
    (hne : t.columns ≠ []) (hnw : ∀ c ∈ t.columns, c.noWrap = false) (hmw : (t.columns.length : Int) ≤ maxWidth) :
    ∃ ws, t.calcWidths fl maxWidth = some ws ∧ ws.sum ≤ maxWidth ∧ ws.length = t.columns.length ∧ ∀ w ∈ ws, 1 ≤ w :=
  width_fits_core fl t maxWidth (first_widths_any_ratio fl h2 h3 t maxWidth hfree hpad hrat) hfree hne hnw hmw

/-- Non-vacuity: a two-column text table that does not fit 9 cells is collapsed to exactly 9. -/
example : ({ columns := [{ header := wCell ['a', 'b', 'c', 'd', 'e', 'f'], footer := wCell [], cells := [wCell ['1']] },
                          { header := wCell ['g', 'h', 'i', 'j', 'k', 'l', 'm', 'n'], footer := wCell [], cells := [] }],
             padding := (0, 0, 0, 0) } : Table).calcWidths Flags.today 9 = some [4, 5] := by decide +kernel

/-- **table_expand_exact, unconditionally for free columns.**  With `table_width` recomputed after the re-measure
(`staleTableWidth` repaired) an expanding table of free columns (no `width` / `min_width` / `no_wrap`, no active ratio;
cells measuring `0 ≤ maximum`) is EXACTLY as wide as asked at every available width of at least one cell per column —
whether its natural widths fit or had to be collapsed, and whatever the re-measure did to the collapsed widths. -/
theorem table_expand_exact_core (fl : Flags) (hst : fl.staleTableWidth = false) (t : Table) (maxWidth : Int)
    (hexp : t.expand = true) (hfl : fl.minWidthCapsExpand = false ∨ t.minWidth = none)
    (hfirst : ∃ ws0, t.firstWidths fl maxWidth = some ws0 ∧ ws0.length = t.columns.length ∧ ∀ w ∈ ws0, 1 ≤ w)
    (hfree : t.AllFree) (hne : t.columns ≠ []) (hnw : ∀ c ∈ t.columns, c.noWrap = false)
    (hmw : (t.columns.length : Int) ≤ maxWidth) :
    ∃ ws, t.calcWidths fl maxWidth = some ws ∧ ws.sum = maxWidth ∧ ws.length = t.columns.length := by
  obtain ⟨ws0, h0, hl, hp⟩ := hfirst
  have hb := hfree.budget hnw ws0 hl
  obtain ⟨ws, h1, _, h2, _, h5⟩ := calcWidths_budget fl t maxWidth hfree.measures hne ws0 ⟨h0, hl, hp⟩ (by omega)
  exact ⟨ws, h1, h5 hst hexp hfl (fun _ hF => by have := hfree.floorSum; omega), h2⟩

/-- …in particular for tables without active ratio columns. -/
theorem table_expand_exact_all (fl : Flags) (hst : fl.staleTableWidth = false) (t : Table) (maxWidth : Int)
    (hexp : t.expand = true) (hfl : fl.minWidthCapsExpand = false ∨ t.minWidth = none)
    (hnr : t.NoRatio) (hfree : t.AllFree) (hne : t.columns ≠ []) (hnw : ∀ c ∈ t.columns, c.noWrap = false)
    (hmw : (t.columns.length : Int) ≤ maxWidth) :
    ∃ ws, t.calcWidths fl maxWidth = some ws ∧ ws.sum = maxWidth ∧ ws.length = t.columns.length :=
  table_expand_exact_core fl hst t maxWidth hexp hfl (firstWidths_free fl t hnr hfree maxWidth) hfree hne hnw hmw

/-- **table_expand_exact with ratio columns, zero ratios included**: with all repairs an expanding table of free columns
with any non-negative ratios is EXACTLY as wide as asked at every available width of at least one cell per column. -/
theorem table_expand_exact_any_ratio (fl : Flags) (hst : fl.staleTableWidth = false) (h2 : fl.flexNegative = false)
    (h3 : fl.flexClampZero = false) (t : Table) (maxWidth : Int)
    (hexp : t.expand = true) (hfl : fl.minWidthCapsExpand = false ∨ t.minWidth = none)
    (hfree : t.AllFree) (hpad : ∀ i, 0 ≤ t.paddingWidth i) (hrat : ∀ c ∈ t.columns, 0 ≤ c.ratio.getD 0)
    (hne : t.columns ≠ []) (hnw : ∀ c ∈ t.columns, c.noWrap = false) (hmw : (t.columns.length : Int) ≤ maxWidth) :
    ∃ ws, t.calcWidths fl maxWidth = some ws ∧ ws.sum = maxWidth ∧ ws.length = t.columns.length :=
  table_expand_exact_core fl hst t maxWidth hexp hfl (first_widths_any_ratio fl h2 h3 t maxWidth hfree hpad hrat) hfree hne hnw hmw

/-- Witness (before fix 75c2776, `flexClampZero = true` with every other flag repaired): with
`max(0, width)` a zero-ratio column that finds no room is handed 0 cells
and gets one back from the `maximum or 1` re-measure after the collapse — the expanding table is ONE CELL TOO WIDE
(7 for 6 here) at every width where the wide ordinary column wraps.  With `max(minimum, width)` (fix 75c2776,
`Flags.allRepaired`) it is exact. -/
def wTableRatioZero : Table :=
  { columns := [{ header := wCell [], footer := wCell [], cells := [], ratio := some 1 },
                { header := wCell [], footer := wCell [], cells := [], ratio := some 0 },
                { header := wCell ['w', 'i', 'd', 'e', ' ', 'c', 'o', 'l', 'u', 'm'], footer := wCell [], cells := [] }],
    box := none, expandFlag := true, padding := (0, 0, 0, 0) }

theorem old_ratio_zero_column_too_wide :
    wTableRatioZero.calcWidths { Flags.allRepaired with flexClampZero := true } 6 = some [1, 1, 5] := by decide +kernel
example : wTableRatioZero.calcWidths Flags.allRepaired 6 = some [1, 1, 4] := by decide +kernel

/-- Witness: before fix f955c6c (`Flags.repaired` leaves `staleTableWidth` on) an expanding table whose ratio column was handed its flex minimum (1 + padding) and then collapsed is
re-measured down to its content and never padded again — 4 cells instead of 6. -/
def wTableStale : Table :=
  { columns := [{ header := wCell ['a', 'a', 'a', 'a'], footer := wCell [], cells := [] },
                { header := wCell ['b'], footer := wCell [], cells := [], ratio := some 1 }],
    box := none, expandFlag := true, padding := (0, 2, 0, 0) }

theorem old_expand_stale_width_fails : wTableStale.calcWidths Flags.repaired 6 = some [3, 1] := by decide +kernel
example : wTableStale.calcWidths Flags.allRepaired 6 = some [5, 1] := by decide +kernel

/-! ### every kind of column: fixed `width`, `min_width`, `max_width`, `no_wrap` -/

theorem floorSum_nonneg (t : Table) : 0 ≤ t.floorSum := RichModel.floorSum_nonneg t

/-- **The structural minimum, and the exact bound, for ARBITRARY columns.**  Let `ws0` be the first-pass widths (every
column at least one cell).  The table's structural minimum is `Σ ws0 over the columns that may not shrink` (fixed `width`,
`no_wrap`) `+ 1 per column that may` (`nonWrapSum + wrapCount`).  If `max_width` is at least that:
`_calculate_column_widths` succeeds, gives every column at least one cell, never needs the last-resort `ratio_reduce`, and
the table is at most `max_width + floorSum` wide, where `floorSum` adds up the `min_width + padding` floors of the columns
that have a `min_width` — the ONLY way the result exceeds the offer (the collapse ignores `min_width`, the re-measure puts
it back).  Any sane table, any flags. -/
theorem width_bound_general (fl : Flags) (t : Table) (maxWidth : Int) (hsane : t.Sane) (hne : t.columns ≠ [])
    (ws0 : List Int) (h0 : t.firstWidths fl maxWidth = some ws0) (hl : ws0.length = t.columns.length) (hp : ∀ w ∈ ws0, 1 ≤ w)
    (hbudget : nonWrapSum (ws0.zip t.wrapable) + wrapCount (ws0.zip t.wrapable) ≤ maxWidth) :
    ∃ ws, t.calcWidths fl maxWidth = some ws ∧ ws.sum ≤ maxWidth + t.floorSum ∧ ws.length = t.columns.length ∧ ∀ w ∈ ws, 1 ≤ w :=
  let ⟨ws, h1, h2, h3, h4, _⟩ := calcWidths_budget fl t maxWidth hsane.measures hne ws0 ⟨h0, hl, hp⟩ hbudget
  ⟨ws, h1, h2, h3, h4⟩

/-- **width_fits for arbitrary columns without a binding `min_width`**: fixed-width, capped and `no_wrap` columns allowed,
no active ratio; at or above the structural minimum the table is never wider than the width on offer. -/
theorem width_fits_general (fl : Flags) (t : Table) (maxWidth : Int) (hsane : t.Sane) (hnr : t.NoRatio) (hne : t.columns ≠ [])
    (hnomin : ∀ c ∈ t.columns, c.minWidth = none ∨ c.width.isSome = true)
    (hbudget : nonWrapSum ((t.indexed.map (fun ci => orOne (t.measureColumn ci.2 ci.1 maxWidth).maximum)).zip t.wrapable)
      + wrapCount ((t.indexed.map (fun ci => orOne (t.measureColumn ci.2 ci.1 maxWidth).maximum)).zip t.wrapable) ≤ maxWidth) :
    ∃ ws, t.calcWidths fl maxWidth = some ws ∧ ws.sum ≤ maxWidth ∧ ws.length = t.columns.length ∧ ∀ w ∈ ws, 1 ≤ w := by
  have hF := floorSum_zero t hnomin
  obtain ⟨h0, hl, hp⟩ := firstPassAt_noRatio fl t hnr hsane.measures maxWidth
  obtain ⟨ws, h1, h2, h3, h4⟩ := width_bound_general fl t maxWidth hsane hne _ h0 hl hp hbudget
  exact ⟨ws, h1, by omega, h3, h4⟩

/-- BELOW the structural minimum the table can be wider than the offer, by an amount the order-dependent caps of the
last-resort `ratio_reduce` decide: two `no_wrap` columns measuring 6 and 1 when offered 6 cells (structural minimum 7) get
`[6, 1]` — 7 cells, 1 too many (`ratio_reduce(1, [1,1], [6,1], [6,1]) = [6, 0]`: banker's rounding gives the first column
`round(1/2) = 0` to give up, the second all of its single cell; then `0 or 1`). -/
theorem below_structural_minimum_overflows :
    ({ columns := [{ header := wCell ['a', 'a', 'a', 'a', 'a', 'a', 'a', 'a', 'a', 'a'], footer := wCell [], cells := [], noWrap := true },
                   { header := wCell ['b'], footer := wCell [], cells := [], noWrap := true }],
       padding := (0, 0, 0, 0) } : Table).calcWidths Flags.allRepaired 6 = some [6, 1] := by decide +kernel

/-- …and with a `min_width` the bound `max_width + floorSum` is attained: columns of natural width 12 with `min_width` 10
and 12 without, offered 16 (structural minimum 2): collapsed evenly to `[8, 8]`, re-measured to `[10, 8]` — 18 in 16. -/
theorem min_width_overflows :
    ({ columns := [{ header := wCell ['a', 'a', 'a', 'a', 'a', 'a', 'a', 'a', 'a', 'a', 'a', 'a'], footer := wCell [], cells := [], minWidth := some 10 },
                   { header := wCell ['b', 'b', 'b', 'b', 'b', 'b', 'b', 'b', 'b', 'b', 'b', 'b'], footer := wCell [], cells := [] }],
       padding := (0, 0, 0, 0) } : Table).calcWidths Flags.allRepaired 16 = some [10, 8] := by decide +kernel

/-! ### exact expansion for EVERY kind of column: `min_width`, `no_wrap`, fixed `width`, `max_width` -/

/-- **table_expand_exact for arbitrary columns.**  With `table_width` refreshed after the re-measure (`staleTableWidth` repaired, as
in /repo now) an expanding table of ARBITRARY sane columns — `min_width`, `no_wrap`, fixed `width`, `max_width`, ratio columns through
the first-pass widths `ws0` — offered at least its structural minimum (`Σ ws0` over the columns that may not shrink + one cell per column
that may) is EXACTLY as wide as asked, every column at least one cell, PROVIDED the re-measure after the collapse does not push the
columns over the offer again.  (Natural widths that fit: no proviso at all.) -/
theorem table_expand_exact_general (fl : Flags) (hst : fl.staleTableWidth = false) (t : Table) (maxWidth : Int)
    (hexp : t.expand = true) (hfl : fl.minWidthCapsExpand = false ∨ t.minWidth = none)
    (hsane : t.Sane) (hne : t.columns ≠ [])
    (ws0 : List Int) (h0 : t.firstWidths fl maxWidth = some ws0) (hl : ws0.length = t.columns.length) (hp : ∀ w ∈ ws0, 1 ≤ w)
    (hbudget : nonWrapSum (ws0.zip t.wrapable) + wrapCount (ws0.zip t.wrapable) ≤ maxWidth)
    (hrem : maxWidth < ws0.sum → (t.remeasure (collapseWidths ws0 t.wrapable maxWidth)).sum ≤ maxWidth) :
    ∃ ws, t.calcWidths fl maxWidth = some ws ∧ ws.sum = maxWidth ∧ ws.length = t.columns.length ∧ ∀ w ∈ ws, 1 ≤ w :=
  let ⟨ws, h1, _, h2, h3, h5⟩ := calcWidths_budget fl t maxWidth hsane.measures hne ws0 ⟨h0, hl, hp⟩ hbudget
  ⟨ws, h1, h5 hst hexp hfl (fun h _ => hrem h), h2, h3⟩

/-- **…with `min_width` columns**: the proviso holds whenever `_collapse_widths` (which knows nothing of `min_width`) leaves every
column at or above its `min_width + padding` floor (`Table.floors`; 0 for a column without `min_width`).  Then the re-measure cannot
widen any column and the expanding table is exactly as wide as asked.  `expand_min_width_column_overflows` shows the condition is
needed: below a floor the code as it stands is too wide. -/
theorem table_expand_exact_above_floors (fl : Flags) (hst : fl.staleTableWidth = false) (t : Table) (maxWidth : Int)
    (hexp : t.expand = true) (hfl : fl.minWidthCapsExpand = false ∨ t.minWidth = none)
    (hsane : t.Sane) (hne : t.columns ≠ [])
    (ws0 : List Int) (h0 : t.firstWidths fl maxWidth = some ws0) (hl : ws0.length = t.columns.length) (hp : ∀ w ∈ ws0, 1 ≤ w)
    (hbudget : nonWrapSum (ws0.zip t.wrapable) + wrapCount (ws0.zip t.wrapable) ≤ maxWidth)
    (hfloor : maxWidth < ws0.sum → ∀ p ∈ (collapseWidths ws0 t.wrapable maxWidth).zip t.floors, p.2 ≤ p.1) :
    ∃ ws, t.calcWidths fl maxWidth = some ws ∧ ws.sum = maxWidth ∧ ws.length = t.columns.length ∧ ∀ w ∈ ws, 1 ≤ w := by
  apply table_expand_exact_general fl hst t maxWidth hexp hfl hsane hne ws0 h0 hl hp hbudget
  intro hover
  obtain ⟨hrs, hrl, hr1⟩ := collapseWidths_budget ws0 t.wrapable maxWidth (hl.trans (wrapable_length t).symm) hp hover hbudget
  have := remeasure_le_of_floor t hsane.measures _ (hrl.trans hl) hr1 (hfloor hover)
  omega

/-- **…with `no_wrap` columns (and fixed-width / capped ones), no `min_width` that is read, no active ratio**: NO proviso.  At every
available width from the structural minimum up — the natural widths of the columns that may not shrink plus one cell for each that
may — the expanding table is exactly as wide as asked. -/
theorem table_expand_exact_no_wrap (fl : Flags) (hst : fl.staleTableWidth = false) (t : Table) (maxWidth : Int)
    (hexp : t.expand = true) (hfl : fl.minWidthCapsExpand = false ∨ t.minWidth = none)
    (hsane : t.Sane) (hnr : t.NoRatio) (hne : t.columns ≠ [])
    (hnomin : ∀ c ∈ t.columns, c.minWidth = none ∨ c.width.isSome = true)
    (hbudget : nonWrapSum ((t.indexed.map (fun ci => orOne (t.measureColumn ci.2 ci.1 maxWidth).maximum)).zip t.wrapable)
      + wrapCount ((t.indexed.map (fun ci => orOne (t.measureColumn ci.2 ci.1 maxWidth).maximum)).zip t.wrapable) ≤ maxWidth) :
    ∃ ws, t.calcWidths fl maxWidth = some ws ∧ ws.sum = maxWidth ∧ ws.length = t.columns.length ∧ ∀ w ∈ ws, 1 ≤ w := by
  obtain ⟨ws, h1, _, h2, h3, h5⟩ :=
    calcWidths_budget fl t maxWidth hsane.measures hne _ (firstPassAt_noRatio fl t hnr hsane.measures maxWidth) hbudget
  have hF := floorSum_zero t hnomin
  exact ⟨ws, h1, h5 hst hexp hfl (fun _ h => by omega), h2, h3⟩

/-- Non-vacuity: a `no_wrap` column beside a wrapping `min_width` column whose floor (3) the collapse stays above — offered 12 cells
for natural widths 6 + 12, the expanding table is exactly 12 wide; and a `no_wrap` column alone with a free one. -/
example : ({ columns := [{ header := wCell ['a', 'a', 'a', 'a', 'a', 'a'], footer := wCell [], cells := [], noWrap := true },
                          { header := wCell ['b', 'b', 'b', 'b', 'b', 'b', 'b', 'b', 'b', 'b', 'b', 'b'], footer := wCell [], cells := [], minWidth := some 3 }],
             expandFlag := true, padding := (0, 0, 0, 0) } : Table).calcWidths Flags.allRepaired 12 = some [6, 6] := by decide +kernel
example : ({ columns := [{ header := wCell ['a', 'a', 'a', 'a', 'a', 'a'], footer := wCell [], cells := [], noWrap := true },
                          { header := wCell ['b', 'b', 'b', 'b', 'b', 'b', 'b', 'b', 'b', 'b', 'b', 'b'], footer := wCell [], cells := [] }],
             expandFlag := true, padding := (0, 0, 0, 0) } : Table).floors = [0, 0] := by decide +kernel

/-- **Finding (the code as it stands, `Flags.allRepaired` = /repo now): an expanding table with a `min_width` column is WIDER than
asked although it could fit.**  Columns of natural width 12, the first with `min_width=10`, `expand=True`, 16 cells on offer (structural
minimum 10 + 1 = 11): `_collapse_widths` ignores `min_width` and shrinks both columns to 8, the re-measure puts the first back to 10 —
`[10, 8]`, 18 cells in 16 (`[10, 6]` would fit and keep the floor).  `table_expand_exact_above_floors` is exactly the part of the
statement that holds. -/
def wTableMinCol : Table :=
  { columns := [{ header := wCell ['a', 'a', 'a', 'a', 'a', 'a', 'a', 'a', 'a', 'a', 'a', 'a'], footer := wCell [], cells := [], minWidth := some 10 },
                { header := wCell ['b', 'b', 'b', 'b', 'b', 'b', 'b', 'b', 'b', 'b', 'b', 'b'], footer := wCell [], cells := [] }],
    expandFlag := true, padding := (0, 0, 0, 0) }

theorem expand_min_width_column_overflows :
    wTableMinCol.calcWidths Flags.allRepaired 16 = some [10, 8] ∧ wTableMinCol.expand = true ∧
    nonWrapSum (([12, 12] : List Int).zip wTableMinCol.wrapable) + wrapCount (([12, 12] : List Int).zip wTableMinCol.wrapable) + wTableMinCol.floorSum ≤ 16 := by
  decide

/-! ### `add_row`: the row bookkeeping (`Model/TableRows.lean`) -/

section AddRow
open TableRows

/-- `add_row` raises `NotRenderableError` exactly when one of its arguments is not renderable (`None` is fine). -/
theorem add_row_raises_iff {α : Type} (blank blankText : α) (b : Builder α) (args : List (Arg α)) (m : RowMeta) :
    (b.addRow blank blankText args m).2 = true ↔ ∀ a ∈ args, a ≠ Arg.bad :=
  addRow_flag blank blankText b args m

/-- **One accepted `add_row`** on a table whose columns each hold one cell per row: it still does, `rows` got exactly this `Row` at
the end, there are `max(columns, arguments)` columns, no earlier cell moved, a column the call created holds `Text("")` in every
earlier row, and the new row holds the arguments in order (`""` for `None` and for the columns the call did not reach). -/
theorem add_row_spec {α : Type} (blank blankText : α) (b : Builder α) (hr : b.Rect) (args : List (Arg α)) (m : RowMeta)
    (hok : (b.addRow blank blankText args m).2 = true) :
    (b.addRow blank blankText args m).1.Rect ∧ (b.addRow blank blankText args m).1.rows = b.rows ++ [m] ∧
    (b.addRow blank blankText args m).1.cols.length = max b.cols.length args.length ∧
    (∀ j k, j < b.cols.length → k < b.rows.length → (b.addRow blank blankText args m).1.cellAt blank j k = b.cellAt blank j k) ∧
    (∀ j k, b.cols.length ≤ j → j < (b.addRow blank blankText args m).1.cols.length → k < b.rows.length →
      (b.addRow blank blankText args m).1.cellAt blank j k = blankText) ∧
    (∀ j, j < (b.addRow blank blankText args m).1.cols.length →
      (b.addRow blank blankText args m).1.cellAt blank j b.rows.length = (args.getD j Arg.none).val blank) := by
  obtain ⟨h1, h4, h5, h6⟩ := hr.extend blank blankText (max b.cols.length args.length) (Nat.le_max_left _ _)
    (fun j => [(args.getD j Arg.none).val blank]) [m] (fun _ => rfl) _ rfl
  rw [addRow_ok blank blankText b args m hok]
  exact ⟨h1, rfl, by simp, h4, fun j k hj hj2 => h5 j k hj (by simpa using hj2), fun j hj => h6 j 0 (by simpa using hj)⟩

/-- **Rows are kept in insertion order, for every sequence of accepted `add_row` calls** (any number of calls, any number of
arguments each, on any rectangular table — in particular the empty one with `n` declared columns): the table stays rectangular, `rows`
is the old rows followed by one `Row` per call in call order (so `end_section` / the row style sit at the call's own index), and row
`b.rows.length + i` holds the arguments of call `i` — `""` for `None` or a missing argument, `Text("")` in the columns later calls
created. -/
theorem add_rows_in_insertion_order {α : Type} (blank blankText : α) (calls : List (List (Arg α) × RowMeta)) (b : Builder α)
    (hr : b.Rect) (hok : (b.addRows blank blankText calls).2 = true) :
    (b.addRows blank blankText calls).1.Rect ∧ (b.addRows blank blankText calls).1.rows = b.rows ++ calls.map (·.2) ∧
    b.cols.length ≤ (b.addRows blank blankText calls).1.cols.length ∧
    (∀ j k, j < b.cols.length → k < b.rows.length → (b.addRows blank blankText calls).1.cellAt blank j k = b.cellAt blank j k) ∧
    (∀ j k, b.cols.length ≤ j → j < (b.addRows blank blankText calls).1.cols.length → k < b.rows.length →
      (b.addRows blank blankText calls).1.cellAt blank j k = blankText) ∧
    (∀ i, i < calls.length → ∀ j, j < (b.addRows blank blankText calls).1.cols.length →
      (b.addRows blank blankText calls).1.cellAt blank j (b.rows.length + i) =
        if j < ncolsAfter b.cols.length calls i then ((calls.getD i ([], {})).1.getD j Arg.none).val blank else blankText) := by
  have hn := le_foldl_max (fun c : List (Arg α) × RowMeta => c.1.length) calls b.cols.length
  obtain ⟨h1, h4, h5, h6⟩ := hr.extend blank blankText _ hn
    (fun j => (List.range calls.length).map (fun i => if j < ncolsAfter b.cols.length calls i
      then ((calls.getD i ([], {})).1.getD j Arg.none).val blank else blankText)) (calls.map (·.2)) (fun _ => by simp) _ rfl
  rw [addRows_ok blank blankText calls b hok]
  refine ⟨h1, rfl, by simpa using hn, h4, fun j k hj hj2 => h5 j k hj (by simpa using hj2), fun i hi j hj => ?_⟩
  rw [h6 j i (by simpa using hj)]
  simp only [List.getD_eq_getElem?_getD, List.getElem?_map, List.getElem?_range hi, Option.map_some, Option.getD_some]

/-- **A call that raises leaves the table half-updated** (the code as it stands; `Row` is not appended): the columns left of the
offending argument already hold their new cell, the column AT it exists (created and back-filled if it was missing) without one,
the columns to its right are untouched — the table is no longer rectangular. -/
theorem add_row_error_state {α : Type} (blank blankText : α) (b : Builder α) (pre post : List (Arg α)) (m : RowMeta)
    (hpre : ∀ a ∈ pre, a ≠ Arg.bad) :
    b.addRow blank blankText (pre ++ Arg.bad :: post) m =
      ({ cols := (List.range pre.length).map (fun j => b.cols.getD j (List.replicate b.rows.length blankText) ++ [(pre.getD j Arg.none).val blank])
            ++ b.cols.getD pre.length (List.replicate b.rows.length blankText) :: b.cols.drop (pre.length + 1),
         rows := b.rows }, false) := by
  unfold Builder.addRow
  simp only [padArgs_append, addCells_bad blank blankText b.rows.length pre _ b.cols hpre, Bool.false_eq_true, if_false]

/-- Non-vacuity: two declared columns; `add_row("a")`, then `add_row("b", None, "c", end_section=True)` creates a third column and
back-fills row 0; a third call with a non-renderable second argument raises and leaves column 0 one cell longer. -/
example : (({ cols := [[], []], rows := [] } : Builder Nat).addRows 0 99
      [([Arg.ok 1], {}), ([Arg.ok 2, Arg.none, Arg.ok 3], { endSection := true })]).1.cols = [[1, 2], [0, 0], [99, 3]] := by decide +kernel
example : (({ cols := [[1, 2], [0, 0], [99, 3]], rows := [{}, {}] } : Builder Nat).addRow 0 99 [Arg.ok 4, Arg.bad] {}) =
    ({ cols := [[1, 2, 4], [0, 0], [99, 3]], rows := [{}, {}] }, false) := by decide +kernel

/-- **…and so the rendered table shows header, the `add_row` calls in call order, footer**: for a table whose columns' `_cells` are
what a sequence of accepted `add_row` calls built (from a rectangular start), the rows `_render` zips are the header (if shown), one
row per `Row` in insertion order, the footer (if shown) — `rows_in_order` then puts each on lines of its own, top to bottom. -/
theorem built_table_rows (blank blankText : Cell) (b0 : Builder Cell) (calls : List (List (Arg Cell) × RowMeta)) (t : Table)
    (hne : t.columns ≠ []) (hb0 : b0.Rect) (hok : (b0.addRows blank blankText calls).2 = true)
    (hcols : t.columns.map (·.cells) = (b0.addRows blank blankText calls).1.cols) :
    t.rows = (if t.showHeader then [t.columns.map (·.header)] else [])
      ++ (List.range (b0.rows.length + calls.length)).map (fun r => t.columns.map (fun c => c.cells.getD r default))
      ++ (if t.showFooter then [t.columns.map (·.footer)] else []) := by
  obtain ⟨h1, h2, _⟩ := add_rows_in_insertion_order blank blankText calls b0 hb0 hok
  apply rows_header_cells_footer t _ hne
  intro c hc
  have : c.cells ∈ (b0.addRows blank blankText calls).1.cols := by rw [← hcols]; exact List.mem_map_of_mem hc
  rw [h1 _ this, h2]
  simp

end AddRow

/-! ### which style every character carries (`Model/TableRows.lean`, styles as the list of their sources) -/

section Styles
open TableRows

/-- `row_styles` cycle: data row `r` starts with `row_styles[r % n]` (an index inside the list), rows `r` and `r + n` get the same
entry, and the row's own style — if it has one — comes after it (so it wins). -/
theorem row_styles_cycle (n : Nat) (hn : 0 < n) (rows : List RowMeta) (r : Nat) :
    getRowStyle n rows r = Src.rowStyles (r % n) :: (match (rows.getD r {}).style with | some s => [Src.row s] | none => []) ∧
    r % n < n ∧ (r + n) % n = r % n := by
  refine ⟨?_, Nat.mod_lt _ hn, by simp⟩
  unfold getRowStyle
  simp only [Nat.pos_iff_ne_zero.mp hn, if_false, List.singleton_append]
  rfl

/-- Without `row_styles` a row carries only its own style (or none). -/
theorem row_style_without_row_styles (rows : List RowMeta) (r : Nat) :
    getRowStyle 0 rows r = (match (rows.getD r {}).style with | some s => [Src.row s] | none => []) := by
  unfold getRowStyle
  simp only [if_true, List.nil_append]
  rfl

/-- **Which style a cell's characters carry**, in a table whose columns each hold `nrows` cells (so the zipped row's kind and the
column entry's kind agree; `n` = number of zipped rows): the header row carries `table.style + table.header_style +
column.header_style` and NO row style; the footer row `table.style + table.footer_style + column.footer_style`; data row `r`
`table.style + row_styles[r % k] + rows[r].style + table.style + column.style` — to which the cell's own rendering adds its styles
on the right. -/
theorem cell_style_spec (showHeader showFooter : Bool) (k : Nat) (rows : List RowMeta) (n index j : Nat) :
    cellStyle showHeader showFooter k rows n index j n =
      match rowKind showHeader showFooter n index with
      | .header => [Src.table, Src.tableHeader, Src.colHeader j]
      | .footer => [Src.table, Src.tableFooter, Src.colFooter j]
      | .data r => [Src.table] ++ getRowStyle k rows r ++ [Src.table, Src.colStyle j] := by
  unfold cellStyle cellOwnStyle rowKind
  by_cases h1 : (index == 0 && showHeader) = true
  · simp [h1, rowStyle]
  · by_cases h2 : (index + 1 == n && showFooter) = true
    · simp [h1, h2, rowStyle]
    · simp [h1, h2, rowStyle]

/-- The zipped row at `index` is the header exactly at index 0 of a table that shows it, the footer exactly at the last index of one
that shows it, and otherwise data row `index - (1 if show_header)` — which is a valid index into `table.rows`. -/
theorem row_kind_spec (showHeader showFooter : Bool) (nrows n index : Nat)
    (hn : n = (if showHeader then 1 else 0) + nrows + (if showFooter then 1 else 0)) (hidx : index < n) :
    (rowKind showHeader showFooter n index = .header ↔ (index = 0 ∧ showHeader = true)) ∧
    (rowKind showHeader showFooter n index = .footer → (index + 1 = n ∧ showFooter = true)) ∧
    (∀ r, rowKind showHeader showFooter n index = .data r → r < nrows ∧ index = r + (if showHeader then 1 else 0)) := by
  unfold rowKind
  by_cases h1 : (index == 0 && showHeader) = true
  · rw [if_pos h1]
    simp only [Bool.and_eq_true, beq_iff_eq] at h1
    exact ⟨⟨fun _ => h1, fun _ => rfl⟩, nofun, nofun⟩
  · rw [if_neg h1]
    by_cases h2 : (index + 1 == n && showFooter) = true
    · rw [if_pos h2]
      simp only [Bool.and_eq_true, beq_iff_eq] at h1 h2
      exact ⟨⟨nofun, fun h => absurd h h1⟩, fun _ => h2, nofun⟩
    · rw [if_neg h2]
      simp only [Bool.and_eq_true, beq_iff_eq] at h1 h2
      refine ⟨⟨nofun, fun h => absurd h h1⟩, nofun, fun r hr => ?_⟩
      cases hr
      -- not the header, not the footer: the index lies strictly between them
      cases showHeader <;> cases showFooter <;> simp at h1 h2 hn ⊢ <;> omega

/-- Borders, edges and separators never depend on the row: always `table.style + border_style`; a divider does only when its
character is whitespace, and then only through the row's BACKGROUND. -/
theorem divider_style_spec (sp showHeader showFooter : Bool) (k : Nat) (rows : List RowMeta) (n index : Nat) :
    dividerStyle sp showHeader showFooter k rows n index =
      if sp then [Src.bgOf (rowStyle k rows (rowKind showHeader showFooter n index)), Src.table, Src.border] else [Src.table, Src.border] := by
  unfold dividerStyle borderStyle
  split <;> simp

/-- The blank lines that fill a shorter cell up to the row height carry the table and row style only (no column style). -/
theorem fill_is_cell_prefix (showHeader showFooter : Bool) (k : Nat) (rows : List RowMeta) (n index j m : Nat) :
    cellStyle showHeader showFooter k rows n index j m =
      fillStyle showHeader showFooter k rows n index ++ cellOwnStyle showHeader showFooter j m index := rfl

end Styles

/-! ### totality (what C14 needs): `_calculate_column_widths` never trips `assert total_ratio > 0` -/

/-- **calc_widths_total.**  With the two assertion defects repaired (`noColumnsAsserts`, `flexNegative` = false; the
other flags either way), `_calculate_column_widths` returns widths for EVERY table whose options are not negative
and whose cells measure `0 ≤ maximum` (`Table.Sane`): any number of columns INCLUDING ZERO, any mix of fixed /
capped / ratio (also ratio 0) columns, expanding or not, any `width` / `min_width`, at every `max_width`
(negative, 0, tiny, huge). -/
theorem calc_widths_total (fl : Flags) (h1 : fl.noColumnsAsserts = false) (h2 : fl.flexNegative = false)
    (t : Table) (h : t.Sane) (maxWidth : Int) : ∃ ws, t.calcWidths fl maxWidth = some ws :=
  calcWidths_total fl h1 h2 t h maxWidth

/-- …hence `Table.__rich_console__` and `Table.__rich_measure__` never raise that assertion either. -/
theorem table_render_total (fl : Flags) (h1 : fl.noColumnsAsserts = false) (h2 : fl.flexNegative = false)
    (t : Table) (h : t.Sane) (avail : Int) : ∃ r, t.render fl cw avail = some r := by
  obtain ⟨ws, hws⟩ := calcWidths_total fl h1 h2 t h (t.width.getD avail - t.extraWidth)
  unfold Table.render
  simp only [hws]
  exact ⟨_, rfl⟩

theorem rich_measure_total (fl : Flags) (h1 : fl.noColumnsAsserts = false) (h2 : fl.flexNegative = false)
    (t : Table) (h : t.Sane) (maxWidth : Int) : ∃ m, t.richMeasure fl maxWidth = some m :=
  richMeasure_some fl t maxWidth (calcWidths_total fl h1 h2 t h _)

/-- Witnesses (`Flags.repaired` leaves these two defects as they were in rich 9.10.0 as found;
repaired in /repo by fixes 1d61bac and ab98098, `Flags.allRepaired`): a table
without columns that expands / has a `width` / a `min_width` asserts … -/
theorem old_no_columns_asserts :
    ({ columns := [], expandFlag := true } : Table).calcWidths Flags.repaired 20 = none ∧
    ({ columns := [], width := some 10 } : Table).calcWidths Flags.repaired 10 = none ∧
    ({ columns := [], minWidth := some 10 } : Table).calcWidths Flags.repaired 20 = none := calcWidths_noColumns_asserts

example : ({ columns := [], expandFlag := true } : Table).calcWidths Flags.allRepaired 20 = some [] := by decide +kernel

/-- … and so does `Table(expand=True, min_width=5, padding=0)` with a `ratio=1` and a `ratio=0` column when no room is
left: `ratio_distribute(0, [1, 0], [1, 1]) = [1, -1]`, the widths sum to 0. -/
def wTableNarrow : Table :=
  { columns := [{ header := wCell [], footer := wCell [], cells := [], ratio := some 1 },
                { header := wCell [], footer := wCell [], cells := [], ratio := some 0 }],
    expandFlag := true, minWidth := some 5, padding := (0, 0, 0, 0) }

theorem old_flex_negative_asserts : wTableNarrow.calcWidths Flags.repaired 0 = none := by decide +kernel
example : wTableNarrow.calcWidths Flags.allRepaired 0 = some [1, 1] := by decide +kernel

/-- `Table.Sane` is satisfiable by a non-trivial table. -/
example : wTableNarrow.Sane :=
  ⟨by decide, by decide, by decide, by decide, by decide, by
    intro c hc cell hcell w
    simp only [wTableNarrow, List.mem_cons, List.not_mem_nil, or_false] at hc
    rcases hc with rfl | rfl <;>
      · simp only [Table.getCells, wTableNarrow, wCell, List.mem_cons, List.not_mem_nil, or_false, List.append_nil,
          if_true, if_false, List.nil_append, Bool.false_eq_true] at hcell
        subst hcell
        show (0 : Int) ≤ min 0 (w : Int)
        omega⟩

/-! ### ratio columns of at least 1 (`width_fits_ratio`, `Lemmas/TableGeneral.lean`) -/

/-- Non-vacuity: an expanding table with an active ratio column satisfies `RatiosPos` (and takes the ratio branch of the
first pass: the ratio column is handed everything the other column leaves). -/
example : Layout.Dep.wTableRatio.expand = true ∧ Layout.Dep.wTableRatio.RatiosPos ∧
    Layout.Dep.wTableRatio.firstWidths Flags.allRepaired 30 = some [29, 1] := by
  refine ⟨rfl, ?_, by decide⟩
  intro c hc r hr
  simp only [Layout.Dep.wTableRatio, List.mem_cons, List.not_mem_nil, or_false] at hc
  rcases hc with rfl | rfl
  · simp only [Option.some.injEq] at hr; omega
  · cases hr

/-- Why `ratio=0` next to an active ratio is excluded: the zero-ratio column is handed what is left — nothing. -/
example : ({ columns := [{ header := Layout.Dep.wCell ['a'], footer := Layout.Dep.wCell [], cells := [], ratio := some 1 },
                          { header := Layout.Dep.wCell ['b'], footer := Layout.Dep.wCell [], cells := [], ratio := some 0 }],
             expandFlag := true, padding := (0, 0, 0, 0) } : Table).firstWidths { Flags.allRepaired with flexClampZero := true } 1 = some [1, 0] := by decide

end RichModel.C07
