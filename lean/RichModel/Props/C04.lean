import RichModel.Lemmas.MarkupError
import RichModel.Lemmas.MarkupDoc
import RichModel.Lemmas.MarkupEmoji
import RichModel.Model.MarkupHL
import RichModel.Lemmas.StrLit
/-!
# C04 — markup styles exactly the tagged regions, and `escape()` neutralises any text

Property theorems only; the model is `Model/Markup.lean`, helper lemmas are `Lemmas/Markup*.lean`.

Parameters of every theorem (`cfg : Cfg`): `norm` (= `Style.normalize`, arbitrary function),
`isSpace` (arbitrary), `emoji` and the code variant flag `sortSpans`.  `emoji = none` is
`render(..., emoji=False)`.  `sortSpans = true` is the `text.spans = sorted(spans)` of rich 9.10.0 as found (before fix 623ba68),
`sortSpans = false` the repaired code that /repo contains now (fix 623ba68,
pending_fixes/C04-markup-span-order.diff).

No bound on the length of any string, the number of tags or the nesting depth anywhere.

Two levels of reference semantics (Model/Markup.lean): `semC` over the *chunks* `_parse` yields
(every chunk goes through `_emoji_replace` + `strip_control_codes` on its own; offsets are those of
the replaced text) — valid for any emoji setting and any emoji table; and `sem` over single
characters, which is what `semC` amounts to when emoji is off (`semC_is_sem`).

Console glue: `renderStr` / `printStrs` (no highlighter) and `renderStrH` / `printStrsH`
(Model/MarkupHL.lean) with a highlighter as an arbitrary span source.
-/
namespace RichModel.C04
open RichModel.Markup

/-! ## the tokenizer -/

/-- **scan_partition**: the items `RE_TAGS.finditer` reports, with the text between them,
re-flatten to the input. -/
theorem scan_partition (s : List Char) : flatten (lex s) = s := flatten_lex s

/-- **scan_bump** (key lemma): `escape` turns a tag with `k` backslashes in front into one with
`2k+1`, and scanning the escaped text finds exactly those items — nothing appears, nothing
disappears, nothing merges. -/
theorem scan_bump (s : List Char) : lex (escape s) = (lex s).map Lx.bump := lex_escape s

/-- hence the escaped text means: the characters of `s`, and no tag. -/
theorem escape_no_tags (s : List Char) : events (escape s) = s.map Ev.chr := events_escape s

/-- the statement's side condition, in its own words: the text does not end in a backslash and
every `[` in it is followed, later in it, by a `]`. -/
theorem selfContained_iff (s : List Char) :
    SelfContained s ↔ (s.getLast? ≠ some '\\' ∧ ∀ pre post, s = pre ++ '[' :: post → ']' ∈ post) :=
  and_congr Iff.rfl (okTail_iff s)

/-- a self-contained text is tokenized independently of whatever follows it -/
theorem scan_append (a x : List Char) (ha : SelfContained a) : lex (a ++ x) = lex a ++ lex x :=
  lex_append x ha

/-! ## `escape` neutralises any text -/

/-- **render_escape**, for EVERY string `s`, both span orders, any `normalize`: rendering
`escape(s)` with emoji off gives back `s` (minus the four control codes `Text` always strips:
BS, VT, FF, CR) and no span.  It never raises. -/
theorem render_escape (cfg : Cfg) (hE : cfg.emoji = none) (s : List Char) :
    render cfg (escape s) = .ok (stripControl s, []) :=
  render_escape_noEmoji cfg s (fun _ hl => by rw [hE] at hl; cases hl)

/-- …verbatim when `s` has none of those four control characters (true of the property's alphabet). -/
theorem render_escape_verbatim (cfg : Cfg) (hE : cfg.emoji = none) (s : List Char)
    (hs : ∀ c ∈ s, isStripped c = false) : render cfg (escape s) = .ok (s, []) := by
  rw [render_escape cfg hE s, stripControl, List.filter_eq_self.mpr (fun c hc => by rw [hs c hc]; rfl)]

/-- the tokenizer reads `A ++ escape(s) ++ B` as: what it reads in `A`, the characters of `s`, what
it reads in `B` — under the statement's side condition on `s` (and the same on `A`). -/
theorem escape_embedded_events (A s B : List Char) (hA : SelfContained A) (hs : SelfContained s) :
    events (A ++ escape s ++ B) = events A ++ s.map Ev.chr ++ events B := by
  rw [List.append_assoc, events_append _ hA, events_append _ (selfContained_escape hs), events_escape,
    List.append_assoc]

/-- in the reference semantics a run of plain characters comes out verbatim (minus stripped
controls), each styled by exactly the tags open at that point, and changes nothing else -/
theorem sem_chars (cfg : Cfg) (op : List OTag) (s : List Char) (r : List Ev) :
    sem cfg op (s.map Ev.chr ++ r) =
      (sem cfg op r).map (fun a => (stripControl s).map (fun c => (c, op.reverse.map (·.style))) ++ a) :=
  Markup.sem_chars cfg op s r

/-! ## tags style exactly what they enclose -/

/-- **tags_style_exactly** for EVERY markup string (not only well-formed documents), repaired span
order, emoji off: `render` fails exactly when the reference semantics does; otherwise the plain
text is the input without its tags and, at every character, the spans covering it — in list order,
which is the order `Text.render` applies them, later winning — are exactly the tags open at that
point, in the order they were opened.

Emoji-off corollary in terms of single characters; the statement for any emoji setting is
`tags_style_exactly` below. -/
theorem tags_style_exactly_emoji_off (cfg : Cfg) (hE : cfg.emoji = none) (hS : cfg.sortSpans = false)
    (m : List Char) :
    match sem cfg [] (events m) with
    | some ann => ∃ spans, render cfg m = .ok (ann.map Prod.fst, spans) ∧
        ∀ p (h : p < ann.length), effStyles spans p = (ann[p]).2
    | none => ∃ e, render cfg m = .error e := by
  have := render_refinesC cfg hS m
  rwa [semC_eq_sem cfg hE, chunks_evs] at this

/-- documents from the tag grammar (escaped text leaves, opening tags with or without parameters,
closing tags by name, `[/]`, in any order — nested or overlapping) are read as written… -/
theorem doc_events (d : List Piece) (h : ∀ p ∈ d, p.ok) :
    events (d.flatMap Piece.markup) = d.flatMap Piece.evs := by
  rw [events, lex_doc d h, List.flatMap_assoc, List.flatMap_def, List.flatMap_def,
    List.map_congr_left fun p hp => p.evs_lx (h p hp)]

/-- …hence rendered as the reference semantics of their pieces. -/
theorem tags_style_exactly_doc_emoji_off (cfg : Cfg) (hE : cfg.emoji = none) (hS : cfg.sortSpans = false)
    (d : List Piece) (h : ∀ p ∈ d, p.ok) :
    match sem cfg [] (d.flatMap Piece.evs) with
    | some ann => ∃ spans, render cfg (d.flatMap Piece.markup) = .ok (ann.map Prod.fst, spans) ∧
        ∀ p (h : p < ann.length), effStyles spans p = (ann[p]).2
    | none => ∃ e, render cfg (d.flatMap Piece.markup) = .error e := by
  have := tags_style_exactly_emoji_off cfg hE hS (d.flatMap Piece.markup)
  rwa [doc_events d h] at this

/-- **render_escape_embedded**: `A ++ escape(s) ++ B` renders as the reference semantics of
(`A`'s events, the characters of `s`, `B`'s events); by `sem_chars` the characters of `s` come out
verbatim, styled by the tags `A` left open and by nothing of their own. -/
theorem render_escape_embedded_emoji_off (cfg : Cfg) (hE : cfg.emoji = none) (hS : cfg.sortSpans = false)
    (A s B : List Char) (hA : SelfContained A) (hs : SelfContained s) :
    match sem cfg [] (events A ++ s.map Ev.chr ++ events B) with
    | some ann => ∃ spans, render cfg (A ++ escape s ++ B) = .ok (ann.map Prod.fst, spans) ∧
        ∀ p (h : p < ann.length), effStyles spans p = (ann[p]).2
    | none => ∃ e, render cfg (A ++ escape s ++ B) = .error e := by
  have := tags_style_exactly_emoji_off cfg hE hS (A ++ escape s ++ B)
  rwa [escape_embedded_events A s B hA hs] at this

/-! ## full strength: emoji on or off, any emoji table -/

/-- `_parse`'s tuples without their positions are the chunks; forgetting the chunk boundaries gives
the events (so tags, and the characters before replacement, are the same at both levels). -/
theorem chunks_are_parse (m : List Char) : (parse m).map PEv.toC = chunks m := parse_toC m

theorem chunks_flatten (m : List Char) : (chunks m).flatMap CEv.evs = events m := chunks_evs m

theorem semC_is_sem (cfg : Cfg) (hE : cfg.emoji = none) (m : List Char) :
    semC cfg [] (chunks m) = sem cfg [] (events m) := by
  rw [semC_eq_sem cfg hE, chunks_evs]

/-- **tags_style_exactly**, full strength: EVERY markup string, emoji on or off, any emoji table,
any `normalize` (repaired span order).  `render` fails exactly when the chunk-level reference
semantics does; otherwise the plain text is the concatenation of the replaced, stripped chunks and
at every character of it the covering spans, in list order, are exactly the tags open there, in
the order they were opened. -/
theorem tags_style_exactly (cfg : Cfg) (hS : cfg.sortSpans = false) (m : List Char) :
    match semC cfg [] (chunks m) with
    | some ann => ∃ spans, render cfg m = .ok (ann.map Prod.fst, spans) ∧
        ∀ p (h : p < ann.length), effStyles spans p = (ann[p]).2
    | none => ∃ e, render cfg m = .error e :=
  render_refinesC cfg hS m

/-- the tokenizer reads a document of the tag grammar piece by piece (escaped leaves become their
bumped items, every tag one item)… -/
theorem doc_lex (d : List Piece) (h : ∀ p ∈ d, p.ok) :
    lex (d.flatMap Piece.markup) = d.flatMap Piece.lx := lex_doc d h

/-- …hence it is rendered as the chunk-level semantics of its pieces, whatever the emoji setting. -/
theorem tags_style_exactly_doc (cfg : Cfg) (hS : cfg.sortSpans = false) (d : List Piece) (h : ∀ p ∈ d, p.ok) :
    match semC cfg [] (chunkGo [] (d.flatMap Piece.lx)) with
    | some ann => ∃ spans, render cfg (d.flatMap Piece.markup) = .ok (ann.map Prod.fst, spans) ∧
        ∀ p (h : p < ann.length), effStyles spans p = (ann[p]).2
    | none => ∃ e, render cfg (d.flatMap Piece.markup) = .error e := by
  have := render_refinesC cfg hS (d.flatMap Piece.markup)
  rwa [chunks, lex_doc d h] at this

/-- **render_escape_embedded**, full strength.  `A ++ escape(s) ++ B` is rendered as: the chunks `A`
completes; then chunks that are ALL TEXT (no tag ever arises from `s`) and that spell `A`'s
pending plain text followed by `s`, up to a pending rest `a`; then the chunks of `B` with `a` in
front of `B`'s first chunk.  (With emoji off chunk boundaries do not matter and this is
`render_escape_embedded_emoji_off`; with emoji on the theorem says exactly where the boundaries
fall: at every escaped bracket and run of backslashes.) -/
theorem render_escape_embedded (cfg : Cfg) (hS : cfg.sortSpans = false)
    (A s B : List Char) (hA : SelfContained A) (hs : SelfContained s) :
    let pA := chunkSt [] (lex A)
    let pS := chunkSt pA.2 ((lex s).map Lx.bump)
    (∀ c ∈ pS.1, c.isTxt = true) ∧ pS.1.flatMap CEv.text ++ pS.2 = pA.2 ++ s ∧
    match semC cfg [] (pA.1 ++ pS.1 ++ chunkGo pS.2 (lex B)) with
    | some ann => ∃ spans, render cfg (A ++ escape s ++ B) = .ok (ann.map Prod.fst, spans) ∧
        ∀ p (h : p < ann.length), effStyles spans p = (ann[p]).2
    | none => ∃ e, render cfg (A ++ escape s ++ B) = .error e := by
  intro pA pS
  have hb := chunkSt_bump (lex s) pA.2
  rw [flatten_lex] at hb
  have := render_refinesC cfg hS (A ++ escape s ++ B)
  rw [chunks_embedded A s B hA hs] at this
  exact ⟨hb.1, hb.2, this⟩

/-- **render_escape with emoji on, exactly**: for EVERY `s`, any emoji table, either span order,
`render(escape(s))` never fails and never has a span; its chunks are all text, spell `s`, and the
result is their replaced, stripped concatenation. -/
theorem render_escape_emoji_exact (cfg : Cfg) (s : List Char) :
    (∀ c ∈ chunks (escape s), c.isTxt = true) ∧
    (chunks (escape s)).flatMap CEv.text = s ∧
    render cfg (escape s) = .ok ((chunks (escape s)).flatMap (fun c => chunkText cfg c.text), []) :=
  render_escape_chunks cfg s

/-- …so `s` comes back verbatim (minus BS/VT/FF/CR) with emoji on whenever `s` has no `:name:`
with `name` in the emoji table. -/
theorem render_escape_emoji (cfg : Cfg) (s : List Char)
    (h : ∀ lookup, cfg.emoji = some lookup → NoEmojiCode lookup s) :
    render cfg (escape s) = .ok (stripControl s, []) :=
  render_escape_noEmoji cfg s h

/-- a configuration with emoji on and a one-entry table (`a` ↦ 🅰) -/
def cfgEmoji : Cfg :=
  { norm := id, isSpace := pyIsSpace, sortSpans := false,
    emoji := some (fun n => if n = ['a'] then some ['🅰'] else none) }

/-- witness: the hypothesis of `render_escape_emoji` cannot be dropped — `escape` does not protect
emoji codes: `render(escape(":a:"))` is `🅰`, not `:a:`. -/
theorem render_escape_emoji_witness :
    render cfgEmoji (escape ":a:".toList) = .ok (['🅰'], []) ∧ ¬ NoEmojiCode (fun n => if n = ['a'] then some ['🅰'] else none) ":a:".toList := by
  refine ⟨by simp only [toList_lit rfl]; decide +kernel, ?_⟩
  intro h
  have := h [] ['a'] [] (toList_lit rfl)
  simp at this

/-- witness: chunk boundaries matter with emoji on.  In the escaped text the codes on both sides of
the literal `[a]` are replaced one chunk at a time; and `[b]:[/b]a:` renders to the text `:a:`
unreplaced, because `:` and `a:` are separate chunks. -/
theorem render_escape_emoji_chunks_witness :
    render cfgEmoji (escape ":a:[a]:a:".toList) = .ok ("🅰[a]🅰".toList, []) ∧
    render cfgEmoji "[b]:[/b]a:".toList = .ok (":a:".toList, [⟨0, 1, "b".toList⟩]) := by
  simp only [toList_lit rfl]
  decide +kernel

/-! ## glue: `Console.render_str` / `Console.print` of strings (highlighting off) -/

/-- with markup disabled (argument `markup=False`, or `None` on a `Console(markup=False)`) the text
is never interpreted: no span, no error, for every string; with emoji disabled too it is verbatim. -/
theorem render_str_markup_off (cfg : Cfg) (con : ConsoleFlags) (emoji markup : Option Bool) (text : List Char)
    (hm : triFlag markup con.markup = false) :
    ∃ plain, renderStr cfg con emoji markup text = .ok (plain, []) ∧
      (triFlag emoji con.emoji = false → plain = stripControl text) := by
  refine ⟨chunkText { cfg with emoji := if triFlag emoji con.emoji then cfg.emoji else none } text,
    by simp [renderStr, hm], ?_⟩
  intro he
  simp [chunkText, he]

/-- with markup enabled `render_str` is `markup.render` with the emoji flag resolved the same way -/
theorem render_str_markup_on (cfg : Cfg) (con : ConsoleFlags) (emoji markup : Option Bool) (text : List Char)
    (hm : triFlag markup con.markup = true) :
    renderStr cfg con emoji markup text =
      render { cfg with emoji := if triFlag emoji con.emoji then cfg.emoji else none } text := by
  simp [renderStr, hm]

/-- an explicit argument always wins over the console default; `None` defers to it -/
theorem triFlag_spec (dflt : Bool) :
    triFlag (some true) dflt = true ∧ triFlag (some false) dflt = false ∧ triFlag none dflt = dflt :=
  ⟨rfl, rfl, rfl⟩

/-- `console.print(escape(s), markup=True)`, whatever the emoji flag and the console's defaults: `s` is
shown verbatim, styled by nothing but the empty style `join` puts over every piece — provided `s` has
no emoji code of the table. -/
theorem print_escape (cfg : Cfg) (con : ConsoleFlags) (emoji : Option Bool) (sep s : List Char)
    (h : ∀ lookup, cfg.emoji = some lookup → NoEmojiCode lookup s) :
    printStrs cfg con emoji (some true) sep [escape s] =
      .ok (stripControl s, [⟨0, (stripControl s).length, []⟩]) := by
  simp [printStrs, List.mapM_cons, renderStr_escape cfg con emoji (some true) s rfl h, joinRendered, pure,
    Except.pure, bind, Except.bind]

/-! ## glue with a highlighter: `Console.render_str(..., highlight=, highlighter=)`, `Console.print(..., highlight=)`

A highlighter is a span source (`Highlighter = plain text → spans`, arbitrary: `ReprHighlighter`, a user's
`RegexHighlighter`, …).  `render_str` builds `Text(str(rich_text))`, lets the highlighter append its spans, then
`copy_styles(rich_text)` EXTENDS the span list with the spans of the markup. -/

/-- **render_str_highlight**: for every text, flags and highlighter, `render_str` with highlighting fails exactly
when it fails without, returns the same plain text (the extra `Text(str(...))` strips nothing: the text is already
free of BS/VT/FF/CR), and its spans are the highlighter's spans — computed on that final plain text, i.e. AFTER tags
were removed and emoji codes replaced — followed by the spans of the markup. -/
theorem render_str_highlight (cfg : Cfg) (con : ConsoleH) (emoji markup highlight : Option Bool)
    (hl : Option Highlighter) (text : List Char) :
    renderStrH cfg con emoji markup highlight hl text =
      match renderStr cfg con.flags emoji markup text with
      | .error e => .error e
      | .ok (plain, spans) =>
        .ok (plain, (if triFlag highlight con.highlight then (hl.getD con.highlighter) plain else []) ++ spans) :=
  renderStrH_eq cfg con emoji markup highlight hl text

/-- **markup_wins_over_highlight** (which wins: the markup).  EVERY markup string, any highlighter, any emoji
setting and table: with markup and highlighting enabled `render_str` fails exactly when the chunk-level
reference semantics does; otherwise at every character the covering spans in list order — the order `Text.render`
combines them, later winning — are the highlighter's styles there FIRST and then exactly the tags open at that
character in opening order.  So a tag always overrides what the highlighter set, and highlighting never changes
which tags apply. -/
theorem markup_wins_over_highlight (cfg : Cfg) (hS : cfg.sortSpans = false) (con : ConsoleH)
    (emoji markup highlight : Option Bool) (hl : Option Highlighter) (text : List Char)
    (hm : triFlag markup con.markup = true) (hh : triFlag highlight con.highlight = true) :
    let cfg' : Cfg := { cfg with emoji := if triFlag emoji con.emoji then cfg.emoji else none }
    match semC cfg' [] (chunks text) with
    | some ann => ∃ spans, renderStrH cfg con emoji markup highlight hl text = .ok (ann.map Prod.fst, spans) ∧
        ∀ p (h : p < ann.length),
          effStyles spans p = effStyles ((hl.getD con.highlighter) (ann.map Prod.fst)) p ++ (ann[p]).2
    | none => ∃ e, renderStrH cfg con emoji markup highlight hl text = .error e := by
  intro cfg'
  have hr : renderStr cfg con.flags emoji markup text = render cfg' text :=
    render_str_markup_on cfg con.flags emoji markup text hm
  rw [render_str_highlight, hr]
  cases hs : semC cfg' [] (chunks text) with
  | none =>
    obtain ⟨e, he⟩ := render_of_semC_none cfg' hs
    exact ⟨e, by rw [he]⟩
  | some ann =>
    obtain ⟨spans, he, hp⟩ := render_spans cfg' hS hs
    refine ⟨_, by rw [he], ?_⟩
    intro p h
    simp only [hh, if_true]
    rw [effStyles_append, hp p h]

/-- with highlighting disabled, or under the null highlighter, nothing changes -/
theorem render_str_highlight_off (cfg : Cfg) (con : ConsoleH) (emoji markup highlight : Option Bool)
    (hl : Option Highlighter) (text : List Char)
    (h : triFlag highlight con.highlight = false ∨ hl = some nullHighlighter) :
    renderStrH cfg con emoji markup highlight hl text = renderStr cfg con.flags emoji markup text := by
  rw [render_str_highlight]
  cases hr : renderStr cfg con.flags emoji markup text with
  | error e => rfl
  | ok r =>
    obtain ⟨plain, spans⟩ := r
    rcases h with h | h
    · simp [h]
    · subst h
      simp [nullHighlighter]

/-- **print_highlight_decision**: `Console.print(*strings, highlight=h)` highlights its strings only on a console
whose own default is `highlight=True`, and then unless `h` is `False`.  (`_collect_renderables` turns `h` into a
highlighter but does not pass the flag on to `render_str`, which consults the console default alone: on a
`Console(highlight=False)`, `print("1", highlight=True)` does NOT highlight a string — the code as it is in 9.10.0
and since; outside the statement of C04.)  Otherwise the
`Text` built is the one built without any highlighter. -/
theorem print_highlight_decision (cfg : Cfg) (con : ConsoleH) (emoji markup highlight : Option Bool)
    (sep : List Char) (objs : List (List Char)) (h : con.highlight = false ∨ highlight = some false) :
    printStrsH cfg con emoji markup highlight sep objs = printStrs cfg con.flags emoji markup sep objs := by
  have hf : (con.highlight && highlight != some false) = false := by
    rcases h with h | h <;> simp [h]
  rw [printStrsH_eq, hf, printStrs,
    funext fun text => render_str_highlight_off cfg con emoji markup (some false) none text (.inl rfl)]
  rfl

/-- …and when it does highlight, every string is `render_str` with the console's highlighter. -/
theorem print_highlight_on (cfg : Cfg) (con : ConsoleH) (emoji markup highlight : Option Bool)
    (sep : List Char) (objs : List (List Char)) (hc : con.highlight = true) (hh : highlight ≠ some false) :
    printStrsH cfg con emoji markup highlight sep objs =
      match objs.mapM (renderStrH cfg con emoji markup (some true) none) with
      | .ok ts => .ok (joinRendered sep 0 true ts)
      | .error e => .error e := by
  rw [printStrsH_eq, hc, Bool.true_and, bne_iff_ne.2 hh]
  rfl

/-! ## MarkupError -/

/-- **error_iff_nothing_to_close**, both span orders: `render` raises `MarkupError` exactly when
some closing tag, at the moment it is reached, has nothing to close (`[/name]` with no open tag of
that normalized name, `[/]` with no open tag at all).  Any emoji setting, any emoji table: whether
`render` fails depends on the tags only. -/
theorem error_iff_nothing_to_close (cfg : Cfg) (m : List Char) :
    (∃ e, render cfg m = .error e) ↔ NothingToClose cfg [] (events m) := by
  rw [render_error_iff_semC, semC_none_iff, chunks_evs, sem_none_iff]

/-! ## rich 9.10.0 as found (before fix 623ba68): `sorted(spans)` breaks the precedence (pre-finding F8) -/

/-- a configuration for concrete witnesses: identity `normalize`, emoji off -/
def cfgId (sortSpans : Bool) : Cfg :=
  { norm := id, emoji := none, isSpace := pyIsSpace, sortSpans := sortSpans }

/-- With the as-found `text.spans = sorted(spans)`, `[b][a]x` renders `x` under spans ordered
`a, b`: the tag opened FIRST wins, against `tags_style_exactly`. -/
theorem old_tags_style_exactly :
    render (cfgId true) "[b][a]x".toList = .ok ("x".toList, [⟨0, 1, "a".toList⟩, ⟨0, 1, "b".toList⟩]) ∧
    sem (cfgId true) [] (events "[b][a]x".toList) = some [('x', ["b".toList, "a".toList])] ∧
    effStyles [⟨0, 1, "a".toList⟩, ⟨0, 1, "b".toList⟩] 0 ≠ ["b".toList, "a".toList] := by
  simp only [toList_lit rfl]
  decide +kernel

/-- the nested form of the same defect: the inner tag closes first, gets the smaller `end`, sorts
first, and loses to the outer tag. -/
theorem old_tags_style_exactly_nested :
    render (cfgId true) "[b][a]x[/a]y[/b]".toList =
      .ok ("xy".toList, [⟨0, 1, "a".toList⟩, ⟨0, 2, "b".toList⟩]) := by
  simp only [toList_lit rfl]
  decide +kernel

/-! ## non-vacuity -/

example : render (cfgId false) "[b][a]x[/a]y[/b]".toList =
    .ok ("xy".toList, [⟨0, 2, "b".toList⟩, ⟨0, 1, "a".toList⟩]) := by
  simp only [toList_lit rfl]
  decide +kernel

example : SelfContained "a[b]\\[c] [".toList = False := by
  simp only [toList_lit rfl]
  decide +kernel
example : SelfContained "[b] x\\y [1]".toList := by
  simp only [toList_lit rfl]
  decide +kernel
example : escape "\\[b] [1] \\\\[/]".toList = "\\\\\\[b] [1] \\\\\\\\\\[/]".toList := by
  simp only [toList_lit rfl]
  decide +kernel
example : render (cfgId true) (escape "\\[b] [1] \\\\[/]".toList) = .ok ("\\[b] [1] \\\\[/]".toList, []) := by
  simp only [toList_lit rfl]
  decide +kernel
example : (∀ p ∈ [Piece.opening "b".toList none, .text "x[a]".toList, .opening "a".toList (some "1".toList),
    .closing "b".toList, .text "y".toList, .closeTop], p.ok) := by
  simp only [toList_lit rfl]
  intro p hp
  simp only [List.mem_cons, List.not_mem_nil, or_false] at hp
  rcases hp with rfl | rfl | rfl | rfl | rfl | rfl
  · exact ⟨⟨'b', [], rfl, by decide, by decide⟩, by decide, by intro q h; cases h⟩
  · show SelfContained _; decide +kernel
  · exact ⟨⟨'a', [], rfl, by decide, by decide⟩, by decide, by intro q h; cases h; decide⟩
  · show cleanName _; decide
  · show SelfContained _; decide
  · trivial
example : ∃ e, render (cfgId false) "[a]x[/b]".toList = .error e := ⟨.noMatch 4 "[/b]".toList, by simp only [toList_lit rfl]; decide +kernel⟩
example : NothingToClose (cfgId false) [] (events "[a]x[/b]".toList) :=
  ⟨[Ev.tag ⟨"a".toList, none⟩, Ev.chr 'x'], ⟨"/b".toList, none⟩, [],
    by simp only [toList_lit rfl]; decide +kernel, by simp only [toList_lit rfl]; decide +kernel⟩

/-! ### non-vacuity of the highlighter theorems -/

/-- a highlighter for the examples: every `1` gets the style `n` (as `repr.number` would) -/
def hlOnes : Highlighter := fun s =>
  (s.zipIdx.filter (fun p => p.1 = '1')).map (fun p => { start := p.2, stop := p.2 + 1, style := "n".toList })

def conH (hi : Bool) : ConsoleH := { emoji := true, markup := true, highlight := hi, highlighter := hlOnes }

/-- non-vacuity: `[b]1[/b]1` — the first `1` is under the highlighter's `n` and then the tag's `b` (the tag wins),
the second under `n` alone; the highlighter saw the text without the tags. -/
example : renderStrH (cfgId false) (conH true) none none none none "[b]1[/b]1".toList =
    .ok ("11".toList, [⟨0, 1, "n".toList⟩, ⟨1, 2, "n".toList⟩, ⟨0, 1, "b".toList⟩]) := by
  simp only [toList_lit rfl]
  decide +kernel
example : effStyles [⟨0, 1, "n".toList⟩, ⟨1, 2, "n".toList⟩, ⟨0, 1, "b".toList⟩] 0 = ["n".toList, "b".toList] := by
  simp only [toList_lit rfl]
  decide +kernel
/-- the quirk stated by `print_highlight_decision`, on a concrete call: `highlight=True` given to `print` on a
console with `highlight=False` leaves the `1` unhighlighted; on a `highlight=True` console it is highlighted. -/
example : printStrsH (cfgId false) (conH false) none none (some true) [' '] ["1".toList] =
    .ok ("1".toList, [⟨0, 1, []⟩]) := by
  simp only [toList_lit rfl]
  decide +kernel
example : printStrsH (cfgId false) (conH true) none none none [' '] ["1".toList] =
    .ok ("1".toList, [⟨0, 1, []⟩, ⟨0, 1, "n".toList⟩]) := by
  simp only [toList_lit rfl]
  decide +kernel

end RichModel.C04
