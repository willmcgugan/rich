import RichModel.Lemmas.ProgressInv
import RichModel.Lemmas.ProgressConc
import RichModel.Lemmas.ProgressTrack
import RichModel.Lemmas.ProgressElapsed
import RichModel.Lemmas.ProgressRat
import RichModel.Lemmas.ProgressFmt
/-!
# C12 — progress accounting is exact for any history and any interleaving

Property theorems only (model: `Model/Progress.lean`, lemmas: `Lemmas/Progress*.lean`).
No bound on the number of operations, tasks, threads or on the schedule; amounts and clock readings
are arbitrary integers (units of 1/A step and 1/tps second).  `WF st` says ids are below
`_task_index` — true of the empty `Progress` and kept by every operation (`run_WF`).

Defect found (F21) in rich 9.10.0 as found: `advance` read the clock *before* taking the lock, so two threads can commit
samples in the opposite order of their timestamps; `speed` then divides by a negative span.
`Cfg.clockOutside = true` is that as-found code (witnesses `old_…` below), `false` the repair (fix b790bf0, what /repo
contains now), for which every schedule is a sequential history on the same clock (`fixed_schedules_are_sequential`).
-/
namespace RichModel.C12
open RichModel.Progress

/-! ## completed = last explicitly set value + advances since -/

/-- For every history (any operations on any tasks, failing ones included) and every task that
is still there at the end: its `completed` is the last explicitly set value (`update(completed=)`,
`reset(completed=)`, initially what it was) plus the sum of all advances (`advance`,
`update(advance=)`) since. -/
theorem completed_exact (cfg : Cfg) (clock : Clock) (ops : List Op) (st : State) (hwf : WF st)
    (id : Nat) (t t' : Task) (h : lookup st.tasks id = some t)
    (h' : lookup (run cfg clock ops st).tasks id = some t') :
    t'.completed = lastSet id t.completed ops + advSince id 0 ops :=
  completed_eq_lastSet_add_advSince cfg clock id ops st (hwf.lt_nextId h) t t' h h' t.completed 0 (Int.add_zero _).symm

/-- …and a task created by `add_task(completed=c)` starts from `c`. -/
theorem completed_exact_fresh (cfg : Cfg) (clock : Clock) (ops : List Op) (st : State) (hwf : WF st)
    (a : AddArgs) (t' : Task)
    (h' : lookup (run cfg clock (.addTask a :: ops) st).tasks st.nextId = some t') :
    t'.completed = lastSet st.nextId a.completed ops + advSince st.nextId 0 ops := by
  exact completed_exact cfg clock ops _ (step_WF cfg clock _ st hwf) st.nextId _ t'
    (step_addTask_lookup cfg clock st hwf a) h'

example : lastSet 0 5 [.advance 0 2, .update 0 ⟨none, some 7, some 9, none, false, none, []⟩, .advance 1 4, .advance 0 3]
    + advSince 0 0 [.advance 0 2, .update 0 ⟨none, some 7, some 9, none, false, none, []⟩, .advance 1 4, .advance 0 3] = 10 := by
  decide +kernel

/-! ## percentage = completed / total clamped to 0..100, 0 when the total is 0 -/

/-- `percentage` as the exact fraction `n/d`: it lies in `[0, 100]`; it is `0` for a zero total;
it is literally `100·completed / total` when that lies in `[0, 100]` (either sign of the total),
`0` when the quotient is negative and `100` when it exceeds 1. -/
theorem percentage_spec (t : Task) :
    0 < t.percentage.2 ∧ 0 ≤ t.percentage.1 ∧ t.percentage.1 ≤ 100 * t.percentage.2 ∧
    (t.total = 0 → t.percentage = (0, 1)) ∧
    (0 < t.total → 0 ≤ t.completed → t.completed ≤ t.total → t.percentage = (100 * t.completed, t.total)) ∧
    (0 < t.total → t.completed < 0 → t.percentage = (0, 1)) ∧
    (0 < t.total → t.total < t.completed → t.percentage = (100, 1)) ∧
    (t.total < 0 → t.total ≤ t.completed → t.completed ≤ 0 → t.percentage = (-(100 * t.completed), -t.total)) ∧
    (t.total < 0 → 0 < t.completed → t.percentage = (0, 1)) ∧
    (t.total < 0 → t.completed < t.total → t.percentage = (100, 1)) := by
  have r := percentage_range t
  exact ⟨r.1, r.2.1, r.2.2,
   fun h => by unfold Task.percentage; rw [if_pos h],
   fun h h1 h2 => by rw [percentage_of_pos h, if_neg (by omega), if_neg (by omega)],
   fun h h1 => by rw [percentage_of_pos h, if_pos h1],
   fun h h1 => by rw [percentage_of_pos h, if_neg (by omega), if_pos h1],
   fun h h1 h2 => by rw [percentage_of_neg h, if_neg (by omega), if_neg (by omega)],
   fun h h1 => by rw [percentage_of_neg h, if_pos h1],
   fun h h1 => by rw [percentage_of_neg h, if_neg (by omega), if_pos h1]⟩

example : (Task.percentage ⟨0, 0, 8, 3, none, true, [], none, none, []⟩) = (300, 8) := by decide +kernel
example : (Task.percentage ⟨0, 0, -4, 3, none, true, [], none, none, []⟩) = (0, 1) := by decide +kernel

/-- The same over ℚ: `percentage = min 100 (max 0 (completed / total · 100))`, `0` for a zero total. -/
theorem percentage_spec_rat (t : Task) :
    ((t.percentage.1 : ℚ) / (t.percentage.2 : ℚ)) =
      if t.total = 0 then 0 else min 100 (max 0 ((t.completed : ℚ) / (t.total : ℚ) * 100)) := by
  rw [percentage_eq]
  split
  · rw [Int.cast_zero, zero_div]
  · rw [clampPair_eq_min_max (by split <;> omega)]
    congr 2
    split
    · rw [Int.cast_neg, Int.cast_neg, neg_div_neg_eq, Int.cast_mul, Int.cast_ofNat, mul_div_assoc, mul_comm]
    · rw [Int.cast_mul, Int.cast_ofNat, mul_div_assoc, mul_comm]

/-- `speed` over ℚ (amount units per tick): sum of all samples but the first over the time between
the first and the last sample; `None` if unstarted, without samples, or over a zero span. -/
theorem speed_spec_rat (t : Task) :
    t.speed.map (fun p => (p.1 : ℚ) / (p.2 : ℚ)) =
      match t.startTime, t.samples with
      | none, _ => none
      | some _, [] => none
      | some _, s0 :: rest =>
        if (rest.getLast?.getD s0).ts - s0.ts = 0 then none
        else some ((sumAmt rest : ℚ) / (((rest.getLast?.getD s0).ts - s0.ts : Int) : ℚ)) := by
  unfold Task.speed
  cases t.startTime with
  | none => rfl
  | some s =>
    cases t.samples with
    | nil => rfl
    | cons s0 rest => simp only; split <;> simp

/-- `time_remaining` over ℚ with the exact ceiling: `0` if finished, `None` without a (non-zero)
speed, else `⌈remaining / (speed per second)⌉`. -/
theorem time_remaining_spec_rat (cfg : Cfg) (htps : 0 < cfg.tps) (t : Task) :
    t.timeRemaining cfg =
      if t.finishedTime.isSome then some 0
      else match t.speed.map (fun p => (p.1 : ℚ) / (p.2 : ℚ)) with
        | none => none
        | some v => if v = 0 then none else some ⌈(t.remaining : ℚ) / (v * (cfg.tps : ℚ))⌉ :=
  timeRemaining_eq_ceil cfg (Int.ne_of_gt htps) t

example : (Task.timeRemaining ⟨30, 1000, 4, false, 0⟩
    ⟨0, 0, 10, 3, none, true, [], some 0, none, [⟨0, 1⟩, ⟨8, 2⟩]⟩) = some 7 := by decide +kernel

/-! ## a started task is finished after an advance/update that leaves completed ≥ total -/

theorem finished_after_reaching_total (cfg : Cfg) (clock : Clock) (st : State) (hwf : WF st)
    (id : Nat) (t : Task) (op : Op) (h : lookup st.tasks id = some t) (hs : t.started = true)
    (hop : op.progresses = some id) :
    ∃ t', lookup (step cfg clock op st).st.tasks id = some t' ∧ (step cfg clock op st).err = none ∧
      t'.started = true ∧ (t'.total ≤ t'.completed → t'.finished = true) := by
  have htg := target_of_progresses hop
  rcases step_lookup cfg clock op st id t h with ⟨hrm, _⟩ | ⟨_, hl, he⟩ | ⟨hne, _⟩
  · subst hrm; cases hop
  · obtain ⟨hst, hfin⟩ := taskEffect_progresses hop cfg clock (visCount (st.tasks.filter (fun x => x.id != id))) t st.clk hs rfl
    exact ⟨_, hl, he, (congrArg Option.isSome hst).trans hs, fun hle => hfin.mpr (Or.inr hle)⟩
  · exact absurd htg hne

/-! ## the recorded finish time stays fixed until the total changes or the task is reset -/

theorem finish_time_stable (cfg : Cfg) (clock : Clock) (ops : List Op) (st : State) (hwf : WF st)
    (id : Nat) (t t' : Task) (v : Int) (h : lookup st.tasks id = some t) (hf : t.finishedTime = some v)
    (hno : ∀ op ∈ ops, clearsFinish id op = false)
    (h' : lookup (run cfg clock ops st).tasks id = some t') : t'.finishedTime = some v := by
  refine run_lookup_induction cfg clock id
    (P := fun ops t t' => (∀ op ∈ ops, clearsFinish id op = false) → t.finishedTime = some v → t'.finishedTime = some v)
    (fun _ _ hf => hf) ?_ ?_ ops st (hwf.lt_nextId h) t t' h h' hno hf
  · intro op ops o k t t' htg ih hno hf
    refine ih (fun o ho => hno o (List.mem_cons_of_mem _ ho)) ?_
    -- the assignments keep `v`, so the finish check finds a finish time and leaves it
    obtain ⟨kf, _, h⟩ := taskEffect_finishedTime cfg clock op o t k id htg rfl
    have hk : keptFinish id op t = some v := by rw [keptFinish, hno op List.mem_cons_self]; exact hf
    rw [h, hk, if_neg (fun h => nomatch h.2.2)]
  · intro op ops t t' _ ih hno hf
    exact ih (fun o ho => hno o (List.mem_cons_of_mem _ ho)) hf

example : clearsFinish 0 (.update 0 ⟨none, some 3, some 1, some false, true, some 4, [(1, 2)]⟩) = false ∧
    clearsFinish 0 (.reset 1 ⟨true, none, 0, none, none, []⟩) = false ∧ clearsFinish 0 (.update 0 ⟨some 5, none, none, none, false, none, []⟩) = true := by
  decide +kernel

/-! ## speed and time remaining on a monotone clock (sequential histories) -/

/-- With non-negative `advance` amounts and a monotone clock, after any history (from the empty
`Progress`) every speed estimate is a non-negative amount over a *positive* time span. -/
theorem speed_nonneg (cfg : Cfg) (clock : Clock) (hm : Mono clock) (ops : List Op) (hnn : NonnegAdvances ops) :
    ∀ t ∈ (run cfg clock ops State.empty).tasks, ∀ n d, t.speed = some (n, d) → 0 ≤ n ∧ 0 < d := by
  intro t ht
  exact speed_of_samplesNonneg (run_samplesNonneg cfg clock hm ops hnn State.empty (forall_empty _) t ht)

/-- If moreover every advance/update finds its task started ("running whenever it advances"),
the time-remaining estimate is never negative. -/
theorem remaining_nonneg_when_running (cfg : Cfg) (clock : Clock) (hm : Mono clock) (htps : 0 < cfg.tps)
    (ops : List Op) (hnn : NonnegAdvances ops) (hrun : StartedWhenAdvanced cfg clock ops State.empty) :
    ∀ t ∈ (run cfg clock ops State.empty).tasks, ∀ r, t.timeRemaining cfg = some r → 0 ≤ r := by
  intro t ht r hr
  exact timeRemaining_nonneg cfg htps (run_samplesNonneg cfg clock hm ops hnn State.empty (forall_empty _) t ht)
    (run_belowTotalWhileSampled cfg clock ops State.empty hrun (forall_empty _) t ht) r hr

/-- the hypotheses are met by a real history, with a speed and a remaining time to speak of -/
example :
    let cfg : Cfg := ⟨30, 1000, 1, true, 0⟩
    let ops : List Op := [.addTask ⟨true, 10, 0, true, 0, []⟩, .advance 0 2, .advance 0 3]
    NonnegAdvances ops ∧ StartedWhenAdvanced cfg (fun k => (k : Int)) ops State.empty ∧
    (run cfg (fun k => (k : Int)) ops State.empty).tasks.map (fun t => (t.speed, t.timeRemaining cfg)) =
      [(some (3, 1), some 2)] := by
  refine ⟨?_, ?_, ?_⟩
  · intro op h; simp only [List.mem_cons, List.mem_nil_iff, or_false] at h; rcases h with rfl | rfl | rfl <;> simp [Op.nonneg]
  · exact startedWhenAdvanced_of_check _ _ _ _ (by decide +kernel)
  · decide +kernel

/-- why the hypothesis "running whenever it advances" is there: a task advanced before it was started -/
theorem remaining_negative_if_advanced_unstarted :
    (run ⟨30, 1000, 1, true, 0⟩ (fun k => 10 * (k : Int)) [.addTask ⟨false, 10, 0, true, 0, []⟩, .advance 0 5, .advance 0 20, .startTask 0]
      State.empty).tasks.map (fun t => t.timeRemaining ⟨30, 1000, 1, true, 0⟩) = [some (-7)] := by decide +kernel

/-! ## elapsed time and the value of the recorded finish time (outside the statement of C12) -/

/-- On a monotone clock, in every history that never resets a *stopped* task, every elapsed time
(read at any later moment) and every recorded finish time is non-negative. -/
theorem elapsed_nonneg (cfg : Cfg) (clock : Clock) (hm : Mono clock) (ops : List Op)
    (hno : NoResetWhileStopped cfg clock ops State.empty) :
    ∀ t ∈ (run cfg clock ops State.empty).tasks,
      (∀ f, t.finishedTime = some f → 0 ≤ f) ∧
      (∀ k e, (run cfg clock ops State.empty).clk ≤ k → (t.elapsedC clock k).1 = some e → 0 ≤ e) := by
  intro t ht
  have h := run_timesAndFinishOK cfg clock hm ops State.empty hno (forall_empty _) t ht
  exact ⟨h.finish_nonneg, fun k e hk he => elapsedC_nonneg hm h.times hk e he⟩

/-- The excluded case on the code as it is: stop at 3, reset at 5 (`stop_time` stays 3), two advances
reach the total: the task is started *and* stopped, `elapsed = 3 - 5 = -2`, and `-2` is recorded as the
finish time — while every clause of C12 holds of it (finished, finish time fixed by the later update,
speed `7/3 ≥ 0`, remaining time `0`). -/
theorem reset_after_stop_negative_elapsed :
    (run ⟨30, 1000, 1, false, 0⟩ (fun k => (k : Int))
      [.addTask ⟨true, 10, 0, true, 0, []⟩, .advance 0 0, .advance 0 0, .stopTask 0, .advance 0 0,
       .reset 0 ⟨true, none, 0, none, none, []⟩, .advance 0 4, .advance 0 0, .advance 0 6,
       .update 0 ⟨none, none, some 1, none, false, none, []⟩]
      State.empty).tasks.map
      (fun t => ([t.startTime, t.stopTime, t.finishedTime, t.timeRemaining ⟨30, 1000, 1, false, 0⟩], t.finished, t.speed)) =
    [([some 5, some 3, some (-2), some 0], true, some (7, 3))] := by decide +kernel

example : NoResetWhileStopped ⟨30, 1000, 1, false, 0⟩ (fun k => (k : Int))
    [.addTask ⟨true, 10, 0, true, 0, []⟩, .reset 0 ⟨true, none, 0, none, none, []⟩, .stopTask 0] State.empty :=
  noResetWhileStopped_of_check _ _ _ _ (by decide +kernel)

/-! ## task ids -/

/-- Ids in the task table are strictly increasing in insertion order (so pairwise distinct), after
any history. -/
theorem task_ids_distinct (cfg : Cfg) (clock : Clock) (ops : List Op) :
    List.Pairwise (fun a b : Task => a.id < b.id) (run cfg clock ops State.empty).tasks :=
  run_idsSorted cfg clock ops State.empty WF_empty List.Pairwise.nil

/-- **Ids are never reused**: `add_task` hands out `_task_index`, which is above every id ever handed
out; an id that is free and below `_task_index` (a removed task's) stays free for ever, whatever
operations follow — in particular a later `add_task` never returns it. -/
theorem task_ids_never_reused (cfg : Cfg) (clock : Clock) (ops : List Op) (st : State) (hwf : WF st)
    (id : Nat) (hlt : id < st.nextId) (h : lookup st.tasks id = none) :
    lookup (run cfg clock ops st).tasks id = none ∧ id < (run cfg clock ops st).nextId :=
  run_lookup_none cfg clock ops st id hlt h

/-- `add_task` creates its task under an id no existing task has, and `remove_task` frees exactly it. -/
theorem add_task_id_fresh (cfg : Cfg) (clock : Clock) (st : State) (hwf : WF st) (a : AddArgs) :
    (∀ t ∈ st.tasks, t.id < st.nextId) ∧
    (∃ t, lookup (step cfg clock (.addTask a) st).st.tasks st.nextId = some t) ∧
    (step cfg clock (.addTask a) st).st.nextId = st.nextId + 1 := by
  refine ⟨hwf, ⟨_, step_addTask_lookup cfg clock st hwf a⟩, ?_⟩
  rw [step_eq_body_none]; rfl

example : (run ⟨30, 1000, 1, false, 0⟩ (fun k => (k : Int))
    [.addTask ⟨true, 1, 0, true, 0, []⟩, .addTask ⟨true, 1, 0, true, 0, []⟩, .removeTask 1, .removeTask 0,
     .addTask ⟨true, 1, 0, true, 7, [(1, 2)]⟩] State.empty).tasks.map (fun t => t.id) = [2] := by decide +kernel

/-! ## any number of threads, any interleaving -/

/-- **No lost update.** For every schedule of every set of thread programs (clock reads outside the
lock interleaved at will), the counters of all tasks at the end — ids, totals, completed counts,
visibility — are those of the *sequential* history of the same operations in lock-acquisition
order, run on any clock with either code variant. -/
theorem accounting_linearizable (cfg cfg' : Cfg) (clock clock' : Clock) (sched : List Nat) (c : Conf) :
    absState (runSched cfg clock sched c).1.st =
      absState (run cfg' clock' ((commits (runSched cfg clock sched c).2).map Prod.fst) c.st) := by
  rw [abs_runSched, abs_run]

/-- Hence under every interleaving `completed` is the last explicitly set value plus the advances
since, *in lock-acquisition order*. -/
theorem completed_exact_all_schedules (cfg : Cfg) (clock : Clock) (sched : List Nat) (c : Conf)
    (hwf : WF c.st) (id : Nat) (t t' : Task) (h : lookup c.st.tasks id = some t)
    (h' : lookup (runSched cfg clock sched c).1.st.tasks id = some t') :
    t'.completed = lastSet id t.completed ((commits (runSched cfg clock sched c).2).map Prod.fst) +
      advSince id 0 ((commits (runSched cfg clock sched c).2).map Prod.fst) := by
  obtain ⟨t'', hs, hc⟩ := lookup_runSched_abs cfg cfg clock clock sched c id h'
  rw [← show t''.completed = t'.completed from congrArg ATask.completed hc]
  exact completed_exact cfg clock _ c.st hwf id t t'' h hs

/-- **The live display never touches the accounting.** For every schedule of any thread programs —
among them any number of `_RefreshThread`s (`refreshThreadProg k`: `k` wake-ups, each a `refresh()`),
`Progress.start()` and `Progress.stop()` — the task table and `_task_index` at the end are those of the
sequential history in lock-acquisition order *with every refresh / start / stop dropped*. -/
theorem refresh_threads_harmless (cfg cfg' : Cfg) (clock clock' : Clock) (sched : List Nat) (c : Conf) :
    (absState (runSched cfg clock sched c).1.st).core =
      (absState (run cfg' clock'
        (((commits (runSched cfg clock sched c).2).map Prod.fst).filter (fun o => !o.isDisplay)) c.st)).core := by
  rw [abs_runSched, abs_run]
  exact aRun_drop_display _ _ _ rfl

example : refreshThreadProg 3 = [.refresh, .refresh, .refresh] := by decide +kernel

/-- **Repaired variant** (clock read under the lock): every schedule leaves exactly — timestamps,
samples and clock included — the state of the sequential history in lock-acquisition order. -/
theorem fixed_schedules_are_sequential (cfg : Cfg) (clock : Clock) (hfix : cfg.clockOutside = false)
    (sched : List Nat) (c : Conf) (hp : ∀ th ∈ c.threads, th.pending = none) :
    (runSched cfg clock sched c).1.st =
      run cfg clock ((commits (runSched cfg clock sched c).2).map Prod.fst) c.st := by
  refine runSched_induction cfg clock (P := fun c es c' => (∀ th ∈ c.threads, th.pending = none) →
    c'.st = run cfg clock ((commits es).map Prod.fst) c.st) (fun _ _ => rfl) ?_ sched c hp
  intro i c c' e es c'' hs ih hp
  -- no operation reads outside the lock: the step commits `op`, as `step` would
  obtain ⟨⟨op, err, rfl, hc⟩, hp'⟩ := stepThread_fixed cfg clock hfix i c c' e hp hs
  rw [ih hp', hc]; rfl

/-- …so with the repair the speed estimate is non-negative under *every* interleaving. -/
theorem speed_nonneg_all_schedules (cfg : Cfg) (clock : Clock) (hfix : cfg.clockOutside = false) (hm : Mono clock)
    (sched : List Nat) (progs : List (List Op))
    (hnn : NonnegAdvances ((commits (runSched cfg clock sched ⟨State.empty, progs.map (fun p => ⟨p, none⟩)⟩).2).map Prod.fst)) :
    ∀ t ∈ (runSched cfg clock sched ⟨State.empty, progs.map (fun p => ⟨p, none⟩)⟩).1.st.tasks,
      ∀ n d, t.speed = some (n, d) → 0 ≤ n ∧ 0 < d := by
  rw [fixed_schedules_are_sequential cfg clock hfix sched _ (by
    intro th hth; simp only [List.mem_map] at hth; obtain ⟨p, _, rfl⟩ := hth; rfl)]
  exact speed_nonneg cfg clock hm _ hnn

def wClock : Clock := fun k => (k : Int) + 1
def wProgs : List Thread := [⟨[.advance 0 1], none⟩, ⟨[.advance 0 1], none⟩]
def wConf (cfg : Cfg) : Conf := ⟨run cfg wClock [.addTask ⟨true, 100, 0, true, 0, []⟩] State.empty, wProgs⟩

/-- The defect (F21), on rich 9.10.0 as found (before fix b790bf0, `clockOutside = true`): two threads advance one started task by 1 each;
thread 0 reads the clock (2), thread 1 reads the clock (3), thread 1 commits, thread 0 commits.
The deque is `[(3,1),(2,1)]` and the speed is `1 / (2 - 3) = -1`; the remaining time is `-98` s. -/
theorem old_speed_negative_under_schedule :
    (runSched ⟨30, 1000, 1, true, 0⟩ wClock [0, 1, 1, 0] (wConf ⟨30, 1000, 1, true, 0⟩)).1.st.tasks.map
      (fun t => (t.samples, t.speed, t.timeRemaining ⟨30, 1000, 1, true, 0⟩)) =
    [([⟨3, 1⟩, ⟨2, 1⟩], some (1, -1), some (-98))] := by decide +kernel

/-- the same programs and the same schedule with the clock read under the lock -/
theorem fixed_speed_under_same_schedule :
    (runSched ⟨30, 1000, 1, false, 0⟩ wClock [0, 1, 1, 0] (wConf ⟨30, 1000, 1, false, 0⟩)).1.st.tasks.map
      (fun t => (t.samples, t.speed, t.timeRemaining ⟨30, 1000, 1, false, 0⟩)) =
    [([⟨2, 1⟩, ⟨3, 1⟩], some (1, 1), some 98)] := by decide +kernel

/-! ## track() -/

/-- `Progress.track` (no helper thread) on a new task with *any* total and *any* number of elements:
the total stays what was announced, `completed` is the number of elements, and the task is finished
exactly when at least one element was yielded and the total does not exceed the number of elements
(`add_task` itself never finishes a task: an empty sequence with total 0 leaves it unfinished). -/
theorem track_finishes_iff {α : Type} (cfg : Cfg) (clock : Clock) (st : State) (hwf : WF st) (total : Int) (xs : List α) :
    ∃ t, lookup (run cfg clock (trackSeq none total xs st).2 st).tasks st.nextId = some t ∧
      t.completed = xs.length ∧ t.total = total ∧ t.started = true ∧
      (t.finished = true ↔ (0 < xs.length ∧ total ≤ xs.length)) := by
  simp only [trackSeq, trackOpen, trackId, Option.getD_none, run]
  have hwf' := step_WF cfg clock (.addTask ⟨true, total, 0, true, 0, []⟩) st hwf
  have hl := step_addTask_lookup cfg clock st hwf ⟨true, total, 0, true, 0, []⟩
  have hall : ∀ op ∈ xs.map (fun _ => Op.advance st.nextId 1), op = .advance st.nextId 1 := fun op hop => by
    obtain ⟨_, _, rfl⟩ := List.mem_map.mp hop; rfl
  obtain ⟨t', hl'⟩ := run_lookup_some cfg clock _ _ _ _ hl (fun op hop => by rw [hall op hop]; nofun)
  obtain ⟨hs', ht', hc', hf'⟩ := run_advances_one cfg clock _ _ _ (hwf'.lt_nextId hl) _ t' hl hl' (fun op hop _ => hall op hop) rfl
    xs.length (by simp [List.countP_replicate, Op.target])
  refine ⟨t', hl', by rw [hc']; exact Int.zero_add _, ht', hs', ?_⟩
  rw [Task.finished, hf']
  simp [newTask]

example : (run ⟨30, 1000, 1, false, 0⟩ (fun k => (k : Int)) (trackSeq (α := Nat) none 2 [7, 8, 9] State.empty).2 State.empty).tasks.map
    (fun t => (t.completed, t.finished, t.finishedTime)) = [(3, true, some 3)] := by decide +kernel
example : (run ⟨30, 1000, 1, false, 0⟩ (fun k => (k : Int)) (trackSeq (α := Nat) none 0 [] State.empty).2 State.empty).tasks.map
    (fun t => (t.completed, t.finished)) = [(0, false)] := by decide +kernel

/-- `Progress.track` without auto-refresh on a new task: every element is yielded once, in order,
and after the whole sequence the task's `completed` is the number of elements. -/
theorem track_counts {α : Type} (cfg : Cfg) (clock : Clock) (st : State) (hwf : WF st) (total : Int) (xs : List α) :
    (trackSeq none total xs st).1 = xs ∧
    ∃ t, lookup (run cfg clock (trackSeq none total xs st).2 st).tasks st.nextId = some t ∧
      t.completed = xs.length := by
  obtain ⟨t, hl, hc, _⟩ := track_finishes_iff cfg clock st hwf total xs
  exact ⟨rfl, t, hl, hc⟩

/-- `Progress.track` with the helper thread on a new task: whatever counter values `seen` the
helper thread happens to see when it wakes up (any list — any batching), before the final update
the task has advanced exactly to the last value seen, and at the end `completed` is the number of
elements consumed. -/
theorem track_thread_counts {α : Type} (cfg : Cfg) (clock : Clock) (st : State) (hwf : WF st) (total : Int)
    (xs : List α) (seen : List Int) :
    (trackThread none total xs seen st).1 = xs ∧
    (∃ t, lookup (run cfg clock (trackOpen none total :: trackWakes st.nextId 0 seen) st).tasks st.nextId = some t ∧
      t.completed = seen.getLast?.getD 0) ∧
    ∃ t, lookup (run cfg clock (trackThread none total xs seen st).2 st).tasks st.nextId = some t ∧
      t.completed = xs.length := by
  have hadv := trackWakes_advances st.nextId 0 seen
  have hno : ∀ op ∈ trackWakes st.nextId 0 seen, op ≠ .removeTask st.nextId := fun op hop => by
    obtain ⟨a, rfl⟩ := hadv op hop; simp
  refine ⟨rfl, ?_, ?_⟩
  · obtain ⟨t, hl, hc⟩ := run_addTask_completed cfg clock st hwf ⟨true, total, 0, true, 0, []⟩ _ hno
    refine ⟨t, hl, ?_⟩
    rw [hc, lastSet_advances st.nextId 0 _ hadv, advSince_trackWakes]
    omega
  · obtain ⟨t, hl, hc⟩ := run_addTask_completed cfg clock st hwf ⟨true, total, 0, true, 0, []⟩
      (trackWakes st.nextId 0 seen ++ [Op.update st.nextId ⟨none, some xs.length, none, none, true, none, []⟩])
      (fun op hop => by
        rcases List.mem_append.mp hop with hop | hop
        · exact hno op hop
        · rw [List.mem_singleton.mp hop]; simp)
    refine ⟨t, hl, ?_⟩
    -- the final update sets `completed`
    rw [hc, lastSet_append, advSince_append, lastSet_cons, advSince_cons]
    simp only [setValue, if_true, Option.getD_some, Option.isSome_some]
    exact Int.add_zero _

example : (trackThread (α := Char) none 3 ['a', 'b', 'c'] [0, 1, 1, 3] State.empty).2 =
    [.addTask ⟨true, 3, 0, true, 0, []⟩, .advance 0 1, .advance 0 2, .update 0 ⟨none, some 3, none, none, true, none, []⟩] := by decide +kernel

/-! ## the sample window of `speed` -/

/-- **Speed is taken over the last `speed_estimate_period` only.**  On a monotone clock with a
non-negative period, after any history the time span `speed` divides by is positive and at most the
period (the loop `while _progress and _progress[0].timestamp < old_sample_time: popleft()`), whatever
the amounts. -/
theorem speed_window (cfg : Cfg) (clock : Clock) (hm : Mono clock) (hp : 0 ≤ cfg.period) (ops : List Op) :
    ∀ t ∈ (run cfg clock ops State.empty).tasks, ∀ n d, t.speed = some (n, d) → 0 < d ∧ d ≤ cfg.period := by
  intro t ht n d hs
  exact speed_of_samplesInWindow (run_samplesInWindow cfg clock hm hp ops State.empty (forall_empty _) t ht) n d hs

/-- …and every pair of samples in the deque is within the period, the deque being sorted by timestamp. -/
theorem samples_within_window (cfg : Cfg) (clock : Clock) (hm : Mono clock) (hp : 0 ≤ cfg.period) (ops : List Op) :
    ∀ t ∈ (run cfg clock ops State.empty).tasks,
      List.Pairwise (fun a b : Sample => a.ts ≤ b.ts) t.samples ∧
      ∀ s ∈ t.samples, ∀ s' ∈ t.samples, s'.ts - s.ts ≤ cfg.period := by
  intro t ht
  have := run_samplesInWindow cfg clock hm hp ops State.empty (forall_empty _) t ht
  exact ⟨this.sorted, this.within⟩

/-- **At most 1000 + 1 samples** (`while len(_progress) > 1000: popleft()`, then one append), for every
history on every clock, starting from any state that meets the bound. -/
theorem samples_bounded (cfg : Cfg) (clock : Clock) (ops : List Op) (st : State)
    (h : ∀ t ∈ st.tasks, t.samples.length ≤ cfg.maxLen + 1) :
    ∀ t ∈ (run cfg clock ops st).tasks, t.samples.length ≤ cfg.maxLen + 1 :=
  run_samples_inv cfg clock (Q := fun _ l => l.length ≤ cfg.maxLen + 1) (fun _ h => h) (fun _ => Nat.zero_le _)
    (fun _ => Nat.le_succ_of_le (prune_length_le ..)) ops
    (fun _ _ _ _ => by rw [List.length_append]; exact Nat.succ_le_succ (prune_length_le ..)) st h

/-- the bound is reached: maxLen = 2, four advances inside the window leave 3 samples; with period 2 the
same history keeps only the samples of the last two ticks -/
example :
    (run ⟨30, 2, 1, false, 0⟩ (fun k => (k : Int)) [.addTask ⟨true, 10, 0, true, 0, []⟩, .advance 0 1, .advance 0 1, .advance 0 1, .advance 0 1]
      State.empty).tasks.map (fun t => (t.samples.length, t.speed)) = [(3, some (2, 2))] ∧
    (run ⟨2, 1000, 1, false, 0⟩ (fun k => (k : Int)) [.addTask ⟨true, 10, 0, true, 0, []⟩, .advance 0 1, .advance 0 1, .advance 0 1, .advance 0 1]
      State.empty).tasks.map (fun t => (t.samples, t.speed)) = [([⟨2, 1⟩, ⟨3, 1⟩, ⟨4, 1⟩], some (2, 2))] := by decide +kernel

/-! ## rich/filesize.py: the unit selection law -/

open RichModel.ProgressFmt in
/-- **`pick_unit_and_suffix`**, any size, any base, `n + 1` suffixes: the answer is `(base ^ i, suffixes[i])`
with `unit ≤ size < unit · base`, except that the lower bound is dropped for the first suffix and the
upper bound for the last one.  (An empty suffix list raises: `pickUnit _ 0 _ = none`.) -/
theorem pick_unit_law (size base : Int) (n : Nat) :
    pickUnit size 0 base = none ∧
    ∃ i, pickUnit size (n + 1) base = some (base ^ i, i) ∧ i ≤ n ∧
      (i = 0 ∨ base ^ i ≤ size) ∧ (i = n ∨ size < base ^ i * base) := by
  have h := pickFrom_spec size base 0 n 0 1 (Int.pow_zero base).symm
  refine ⟨rfl, _, congrArg some (Prod.ext h.unit_eq rfl), h.idx_le, ?_, ?_⟩
  · rw [← h.unit_eq]; exact h.low
  · rw [← h.unit_eq]; exact h.up

open RichModel.ProgressFmt in
/-- …and for a base ≥ 2 that index is *the* one the law allows: any `j` meeting the law is the answer. -/
theorem pick_unit_unique (size base : Int) (hb : 2 ≤ base) (n i j : Nat)
    (hi : pickUnit size (n + 1) base = some (base ^ i, i)) (hj : j ≤ n)
    (hlow : j = 0 ∨ base ^ j ≤ size) (hup : j = n ∨ size < base ^ j * base) : j = i := by
  have h := pickFrom_spec size base 0 n 0 1 (Int.pow_zero base).symm
  have hj' : PickOk size base 0 0 n (base ^ j, j) := ⟨rfl, Nat.zero_le _, hj, hlow, hup⟩
  exact (hj'.index_unique (by omega) h).trans (congrArg Prod.snd (Option.some.inj hi))

open RichModel.ProgressFmt in
example : pickUnit 999999 9 1000 = some (1000, 1) ∧ pickUnit 1000000 9 1000 = some (1000000, 2) ∧
    pickUnit (-5) 9 1024 = some (1, 0) ∧ pickUnit (1024 ^ 10) 9 1024 = some (1024 ^ 8, 8) := by decide +kernel

open RichModel.ProgressFmt in
/-- **`_to_str` / `filesize.decimal`**: `1` is `"1 byte"`, any other size below the base is printed in
bytes, and from the base on the number shown is `base · size / base^(j+2)` for the suffix `j` with
`base^(j+1) ≤ size < base^(j+2)` (upper bound dropped for the last suffix) — i.e. a value in `[1, base)`.
(With no suffix at all the function raises.) -/
theorem to_str_unit_law (size base : Int) (n : Nat) :
    (size = 1 → toStrSel size n base = .oneByte) ∧
    (size ≠ 1 → size < base → toStrSel size n base = .bytes size) ∧
    (size ≠ 1 → base ≤ size → toStrSel size 0 base = .unbound) ∧
    (size ≠ 1 → base ≤ size → ∃ j, toStrSel size (n + 1) base = .scaled (base * size) (base ^ (j + 2)) j ∧ j ≤ n ∧
      base ^ (j + 1) ≤ size ∧ (j = n ∨ size < base ^ (j + 2))) := by
  refine ⟨?_, ?_, ?_, ?_⟩
  · intro h; simp [toStrSel, h]
  · intro h1 h2; simp [toStrSel, h1, h2]
  · intro h1 h2; have : ¬ size < base := by omega
    simp [toStrSel, h1, this]
  · intro h1 h2
    have h := pickFrom_spec size base 1 n 0 base (Int.pow_one base).symm
    refine ⟨(pickFrom size base n 0 base).2, ?_, h.idx_le, ?_, ?_⟩
    · rw [toStrSel, if_neg h1, if_neg (by omega)]
      simp only [toStrFrom_eq_pickFrom, h.unit_eq, ← Int.pow_succ]
    · rcases h.low with h0 | h0
      · rw [h0]; simpa using h2
      · rw [← h.unit_eq]; exact h0
    · rw [Int.pow_succ, ← h.unit_eq]; exact h.up

open RichModel.ProgressFmt in
example : decimal 1 = "1 byte".toList ∧ decimal 999 = "999 bytes".toList ∧ decimal 1000 = "1.0 kB".toList ∧
    decimal 1050 = "1.1 kB".toList ∧ decimal 1250 = "1.2 kB".toList ∧ decimal 999950 = "1,000.0 kB".toList ∧
    decimal 1000000 = "1.0 MB".toList := by
  repeat rw [String.toList_ofList]
  decide +kernel

/-! ## what the default columns show -/

open RichModel.ProgressFmt in
/-- **`str(timedelta(seconds=n))`** (the text of `TimeRemainingColumn` / `TimeElapsedColumn`): the printed
fields are Python's floor `divmod`s — `days·86400 + h·3600 + m·60 + s = n` with `0 ≤ h < 24`,
`0 ≤ m, s < 60` for *every* integer `n` (negative ones borrow a day) — and the call raises
`OverflowError` exactly when `|days| > 999999999`. -/
theorem td_fields_spec (n : Int) :
    (tdFields n).1 * 86400 + (tdFields n).2.1 * 3600 + (tdFields n).2.2.1 * 60 + (tdFields n).2.2.2 = n ∧
    0 ≤ (tdFields n).2.1 ∧ (tdFields n).2.1 < 24 ∧ 0 ≤ (tdFields n).2.2.1 ∧ (tdFields n).2.2.1 < 60 ∧
    0 ≤ (tdFields n).2.2.2 ∧ (tdFields n).2.2.2 < 60 ∧
    (tdStr n = .error .overflow ↔ 999999999 < (n / 86400).natAbs) := by
  have hov := tdStr_overflow_iff n
  simp only [tdFields] at hov ⊢
  have h0 := Int.emod_nonneg n (show (86400 : Int) ≠ 0 by decide)
  have h1 := Int.emod_lt_of_pos n (show (0 : Int) < 86400 by decide)
  have h2 := Int.ediv_mul_add_emod n 86400
  generalize n % 86400 = s at *
  -- seconds `s = 60 m + x`, minutes `m = 60 z + y` with `z = s / 3600`
  have e1 := Int.ediv_mul_add_emod s 60
  have e2 := Int.ediv_mul_add_emod (s / 60) 60
  rw [Int.ediv_ediv_of_nonneg (by decide)] at e2
  exact ⟨by omega, Int.ediv_nonneg h0 (by decide), Int.ediv_lt_of_lt_mul (by decide) h1,
    Int.emod_nonneg _ (by decide), Int.emod_lt_of_pos _ (by decide), Int.emod_nonneg _ (by decide),
    Int.emod_lt_of_pos _ (by decide), hov⟩

open RichModel.ProgressFmt in
/-- Within a day the text is `h:mm:ss`. -/
theorem td_str_hms (n : Int) (h0 : 0 ≤ n) (h1 : n < 86400) :
    tdStr n = .ok (natStr (n / 3600).toNat ++ ':' :: pad2 (n / 60 % 60).toNat ++ ':' :: pad2 (n % 60).toNat) := by
  have hd : n / 86400 = 0 := Int.ediv_eq_zero_of_lt h0 h1
  have hm : n % 86400 = n := Int.emod_eq_of_lt h0 h1
  simp only [tdStr, tdFields, hd, hm, Int.natAbs_zero, Nat.not_lt_zero, if_false, if_true]

open RichModel.ProgressFmt in
/-- **`TimeRemainingColumn`** shows `-:--:--` exactly when there is no estimate (`time_remaining is None`). -/
theorem time_remaining_text_dashes (cfg : Cfg) (t : Task) :
    timeRemainingText cfg t = .ok dashes ↔ t.timeRemaining cfg = none := by
  unfold timeRemainingText
  cases hr : t.timeRemaining cfg with
  | none => simp
  | some r =>
    simp only [reduceCtorEq, iff_false]
    exact tdStr_ne_dashes r

open RichModel.ProgressFmt in
example : timeRemainingText ⟨30, 1000, 4, false, 0⟩ ⟨0, 0, 10, 3, none, true, [], some 0, none, [⟨0, 1⟩, ⟨8, 2⟩]⟩ = .ok "0:00:07".toList ∧
    tdStr 3661 = .ok "1:01:01".toList ∧ tdStr (-1) = .ok "-1 day, 23:59:59".toList ∧
    tdStr 172800 = .ok "2 days, 0:00:00".toList ∧ tdStr (10 ^ 18) = .error .overflow := by
  repeat rw [String.toList_ofList]
  decide +kernel

open RichModel.ProgressFmt in
/-- **`BarColumn`** hands `ProgressBar` a non-negative total and count (negative ones are clamped to 0,
others untouched) and pulses exactly for a task that was not started. -/
theorem bar_args_clamped (t : Task) :
    0 ≤ (barArgs t).1 ∧ 0 ≤ (barArgs t).2.1 ∧ (0 ≤ t.total → (barArgs t).1 = t.total) ∧
    (0 ≤ t.completed → (barArgs t).2.1 = t.completed) ∧ ((barArgs t).2.2 = true ↔ t.startTime = none) := by
  simp only [barArgs, Task.started]
  refine ⟨by omega, by omega, by omega, by omega, ?_⟩
  cases t.startTime <;> simp

open RichModel.ProgressFmt in
/-- **A bar is exactly `width` cells wide** whenever the number of complete half cells it computes is at
most `2 · width`.

Full statement (not proved): `barHalves width total completed ≤ 2 * width` for every `total ≠ 0` — it is
`⌊RN(2·width·c / total)⌋` with `0 ≤ c/total ≤ 1`, and needs monotonicity of the correctly rounded
division `rn53`; the harness evaluates that bound on every drawn bar (`bar_cells`).  For `total = 0`
the hypothesis holds by definition (`bar_halves_zero_total`). -/
theorem bar_text_width_partial (width : Nat) (total completed : Int)
    (h : barHalves width total completed ≤ 2 * width) : (barText width total completed).length = width := by
  -- the background is `rem` cells long in each of its three forms
  have hbg : ∀ (rem : Nat) (c : Prop) [Decidable c], (if rem = 0 then [] else if c then '╺' :: List.replicate (rem - 1) '━'
      else List.replicate rem '━').length = rem := by
    intro rem c _
    split
    · next h0 => rw [h0]; rfl
    · split
      · rw [List.length_cons, List.length_replicate]; omega
      · exact List.length_replicate
  unfold barText
  simp only [List.length_append, List.length_replicate, hbg]
  omega

open RichModel.ProgressFmt in
theorem bar_halves_zero_total (width : Nat) (completed : Int) : barHalves width 0 completed = 2 * width := by
  simp [barHalves]

open RichModel.ProgressFmt in
example : barText 10 100 35 = "━━━╸━━━━━━".toList ∧ barText 4 8 4 = "━━╺━".toList ∧ barText 3 0 0 = "━━━".toList ∧
    barHalves 10 100 35 = 7 ∧ pctText ⟨0, 0, 8, 1, none, true, [], none, none, []⟩ = " 12".toList ∧
    pctText ⟨0, 0, 200, 3, none, true, [], none, none, []⟩ = "  2".toList := by
  repeat rw [String.toList_ofList]
  decide +kernel

end RichModel.C12
