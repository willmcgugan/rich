import RichModel.Lemmas.AnsiShape
import RichModel.Lemmas.AnsiChars
import RichModel.Lemmas.AnsiPrint
/-!
# C03 — the ANSI stream written means exactly what the styled segments say

Property theorems only (helper lemmas live in `Lemmas/AnsiTerm`, `AnsiCodes`, `AnsiRender`, `AnsiBuffer`, `AnsiHistory`,
`AnsiShape`, `AnsiWire`, `AnsiChars` and `AnsiPrint` — the route from `Console.print` to the terminal; the rule for
the models' loops is `forE_post` in `Lemmas/Except`).

* encoder model: `Model/AnsiRender.lean` — `Style._make_ansi_codes` with its per-object `_ansi` cache
  (`StyleObj.ansi`; the cache is *state*), `Style.render`, `Segment.remove_color`,
  `Console._render_buffer`, and *histories* (`Op`, `runOps`) of such calls on shared `Style` objects
  under changing colour systems, with `copy()` / `update_link()` carrying the cache along;
* independent decoder: `Model/AnsiTerm.lean` — the character-level `tokenize` and the token-level `interp`,
  written from ECMA-48 / xterm / OSC 8;
* specification: `expected` / `expectedCells` — the aspects that are set *and* true, the colours after
  the documented down-conversion (`downgrade`, property C18), the hyperlink; control segments only on
  a terminal.

`P := richPalettes` are the palettes translated from `/repo` on this run (`palettes_ok` is the only
fact used about them); `cc : Cfg` is C18's parameter (code variant + float facts) — every theorem holds
for every `cc`.  No theorem bounds the number or length of segments, the number of objects, the
length of a history, or enumerates styles.

`RVariant.repaired` is the code with the two repairs (`fix:` commits c9ec5a8 and 23674a1, the former
`pending_fixes/C03-*.diff`): it is what /repo contains now.  The `old_…` theorems show that rich 9.10.0 as
found, before those fixes (`RVariant.today` — the name dates from then), violates the statements.

The statements come in two layers.  Token layer: what `_render_buffer` writes as a list of `Tok`
(`stream_means_segments`, `history_means_segments`, …).  Character layer — the property's own words —
`stream_means_segments_chars` / `history_means_segments_chars`: the *characters* written
(`renderBufferChars` = `serialise` of the tokens), read back by the terminal's own tokenizer
(`AnsiTerm.tokenize`, written independently of `serialise`) and interpreted, mean the segments;
hypothesis `NoEscIn` / `OpsClean`: no ESC in any segment text, no ESC / BEL in any link (a link that
contained them could not be framed by OSC 8 at all).  `tokenize_reads_back` is the wire-format lemma
(decimal digits, `;`, ESC framing with the ST terminator; the BEL terminator `tokenize` also accepts is never written by
`serialise`).
-/
namespace RichModel.C03
open RichModel RichModel.AnsiTerm RichModel.AnsiRender

/-- The palettes of this run. -/
abbrev P : Palettes := richPalettes

/-- Side condition on the *generated* tables: 16 / 16 / 256 entries, every component ≤ 255. -/
theorem palettes_ok : P.ok = true := by decide +kernel

/-! ## what the generated parameters mean -/

/-- The attribute part of `_make_ansi_codes` — with its four single tests, two loops and three group
guards — emits exactly the parameters 1,2,…,9,21,51,52,53 of the bits that are set, in bit order:
nothing for a bit that is off, nothing twice. -/
theorem attr_codes_are_the_set_bits (a : Nat) :
    attrCodes a = ((List.range 13).filter fun i => a.testBit i).map aspectCode :=
  attrCodes_eq a

/-- **The parameter string of a style means the style.**  For every well-formed style and colour
system, `_make_ansi_codes` (empty cache) does not raise, and the independent interpreter, started in
the default rendition, ends with exactly the aspects that are set and true (an attribute that is
`False` or unset switches nothing on), the foreground and the background after down-conversion. -/
theorem codes_mean_style (cc : Cfg) (s : Style) (hs : StyleWF s) (cs : ColorSystem) :
    ∃ codes, computeCodes cc P s cs = .ok codes ∧
      sgrParams {} codes =
        rendOfMask (s.attributes &&& s.setAttributes) (expectedColor cc P s.color cs) (expectedColor cc P s.bgcolor cs) :=
  computeCodes_means cc palettes_ok s hs cs

/-- **One `Style.render`** (repaired cache): never raises; every character of the text is shown with
the style's aspects, converted colours and link; the terminal is back in its default state; the
cache stays sound. -/
theorem style_render_means_style (cc : Cfg) (o : StyleObj) (ho : ObjOK cc P o) (text : List Char)
    (cs : Option ColorSystem) (lw : Bool) :
    ∃ toks o', styleRender .repaired cc P o text cs lw = .ok (toks, o') ∧ o'.style = o.style ∧ ObjOK cc P o' ∧
      interp toks = (text.map fun c =>
        ⟨c, (expected cc P ⟨cs, false, true, lw⟩ (some o.style)).1, (expected cc P ⟨cs, false, true, lw⟩ (some o.style)).2⟩) ∧
      finalState toks = {} := by
  obtain ⟨o', h1, h2, h3⟩ := styleRender_eq_fresh .repaired rfl palettes_ok o ho text cs lw
  have h4 := freshToks_means cc palettes_ok ⟨cs, false, true, lw⟩ o.style ho.1 text (by intro h; cases h)
  exact ⟨_, o', h1, h2, h3, by simp [interp, h4], by simp [finalState, h4]⟩

/-! ## `_render_buffer` -/

/-- **stream_means_segments.**  For every console configuration (colour system None / standard /
256 / truecolor / windows × NO_COLOR × terminal × legacy Windows), every heap of shared `Style`
objects whose caches are sound, and every list of segments: `_render_buffer` (repaired code) does not
raise, and interpreting what it wrote yields exactly the characters of the segments that are to be
shown, each with the aspects, colours and hyperlink `expected` derives from the style it was printed
with.  Only caches change, and they stay sound. -/
theorem stream_means_segments (cc : Cfg) (cfg : Config) (heap : Heap) (segs : List Seg)
    (hok : HeapOK cc P heap) (hrefs : RefsOK heap segs) :
    ∃ toks heap', renderBuffer .repaired cc P cfg heap segs = .ok (toks, heap') ∧
      interp toks = expectedCells cc P cfg heap segs ∧
      HeapOK cc P heap' ∧ heap'.map (·.style) = heap.map (·.style) := by
  obtain ⟨toks, heap', h1, h2, h3, h4⟩ := renderBuffer_means palettes_ok cfg heap segs hok hrefs
  exact ⟨toks, heap', h1, by simp [interp, h4], h2, h3⟩

/-- **no_leak.**  After every `_render_buffer` the terminal is in its default state again: default
rendition, no open hyperlink.  (The theorem holds for every segment list, hence for every prefix of
one: the state is the default before and after every segment.) -/
theorem no_leak (cc : Cfg) (cfg : Config) (heap : Heap) (segs : List Seg)
    (hok : HeapOK cc P heap) (hrefs : RefsOK heap segs) :
    ∃ toks heap', renderBuffer .repaired cc P cfg heap segs = .ok (toks, heap') ∧ finalState toks = {} := by
  obtain ⟨toks, heap', h1, _, _, h4⟩ := renderBuffer_means palettes_ok cfg heap segs hok hrefs
  exact ⟨toks, heap', h1, by simp [finalState, h4]⟩

/-- No style leaks onto text that follows: what is shown for `a ++ b` is what is shown for `a`
followed by what `b` alone says — whatever the styles of `a` were. -/
theorem following_text_unaffected (cc : Cfg) (cfg : Config) (heap : Heap) (a b : List Seg)
    (hok : HeapOK cc P heap) (hrefs : RefsOK heap (a ++ b)) :
    ∃ toks heap', renderBuffer .repaired cc P cfg heap (a ++ b) = .ok (toks, heap') ∧
      interp toks = expectedCells cc P cfg heap a ++ expectedCells cc P cfg heap b := by
  obtain ⟨toks, heap', h1, h2, _, _⟩ := stream_means_segments cc cfg heap (a ++ b) hok hrefs
  exact ⟨toks, heap', h1, h2.trans (expectedCells_append cc P cfg heap a b)⟩

/-! ## histories: the cache is state -/

/-- Every step of a well-formed history keeps every cache sound. -/
theorem cache_sound_preserved (cc : Cfg) (heap : Heap) (hok : HeapOK cc P heap) (op : Op)
    (hop : OpsOK heap.length [op]) :
    ∃ heap' out, stepOp .repaired cc P heap op = .ok (heap', out) ∧ HeapOK cc P heap' := by
  obtain ⟨heap', out, h1, h2, _⟩ := stepOp_spec cc palettes_ok heap hok op [] hop
  exact ⟨heap', out, h1, h2⟩

/-- **history_means_segments** — the statement over *sequences of render calls on shared style objects
with changing colour systems*.  For every history (new styles, `copy()`, `update_link()`,
`_render_buffer` on consoles of any configuration, direct `Style.render` calls, in any order and of
any length) that is well-formed (`OpsOK`: new styles well-formed, indices in range), the repaired code
never raises, and what each writing step wrote — interpreted by the independent terminal model —
is what the cache-free specification `specOps` says for the styles as they are at that moment;
every write leaves the terminal in the default state. -/
theorem history_means_segments (cc : Cfg) (ops : List Op) (hops : OpsOK 0 ops) :
    ∃ outs : List (List Tok), runOps .repaired cc P [] ops = outs.map Except.ok ∧
      outs.map interp = specOps cc P [] ops ∧ ∀ o ∈ outs, finalState o = {} :=
  ⟨_, runOps_spec cc palettes_ok ops [] (by intro o ho; cases ho) hops⟩

/-- …and from any heap whose caches are sound, not only the empty one. -/
theorem history_means_segments_from (cc : Cfg) (heap : Heap) (hok : HeapOK cc P heap) (ops : List Op)
    (hops : OpsOK heap.length ops) :
    ∃ outs : List (List Tok), runOps .repaired cc P heap ops = outs.map Except.ok ∧
      outs.map interp = specOps cc P (heap.map (·.style)) ops ∧ ∀ o ∈ outs, finalState o = {} :=
  ⟨_, runOps_spec cc palettes_ok ops heap hok hops⟩

/-- All writes of a history sent to one terminal: the stream as a whole means the concatenation. -/
theorem history_single_terminal (outs : List (List Tok)) (h : ∀ o ∈ outs, finalState o = {}) :
    interp outs.flatten = (outs.map interp).flatten := by
  have h' : ∀ o ∈ outs, interpFrom {} (id o) = ({}, interp o) := fun o ho => Prod.ext (h o ho) rfl
  simpa [interp, List.flatMap_def] using congrArg Prod.snd (interpFrom_flatMap {} outs id interp h')

/-! ## the three special configurations (both code variants) -/

/-- **colour_none_no_escape.**  With colour disabled (`color_system=None`) every token written is
the text of a segment: no SGR, no OSC 8 — for rich 9.10.0 as found as well as the repaired code, whatever the
caches hold. -/
theorem colour_none_no_escape (v : RVariant) (cc : Cfg) (cfg : Config) (hcs : cfg.colorSystem = none)
    (heap : Heap) (segs : List Seg) (toks : List Tok) (heap' : Heap)
    (h : renderBuffer v cc P cfg heap segs = .ok (toks, heap')) :
    ∀ t ∈ toks, ∃ seg ∈ segs, t = .text seg.text :=
  (renderBuffer_colour_none v cfg hcs heap segs).of_ok h

/-- …so if no segment text contains ESC, the characters written contain no ESC at all. -/
theorem colour_none_no_esc_chars (v : RVariant) (cc : Cfg) (cfg : Config) (hcs : cfg.colorSystem = none)
    (heap : Heap) (segs : List Seg) (toks : List Tok) (heap' : Heap)
    (h : renderBuffer v cc P cfg heap segs = .ok (toks, heap'))
    (noEsc : ∀ seg ∈ segs, ESC ∉ seg.text) : ESC ∉ serialise toks := by
  intro hmem
  simp only [serialise, List.mem_flatMap] at hmem
  obtain ⟨t, ht, hc⟩ := hmem
  obtain ⟨seg, hs, rfl⟩ := colour_none_no_escape v cc cfg hcs heap segs toks heap' h t ht
  exact noEsc seg hs hc

/-- **no_color_no_colour_params.**  Under NO_COLOR every SGR sequence written is either the reset
`0` or consists of attribute parameters (1-9, 21, 51-53) only: no 30-49, 90-107, 38 or 48 — for both
code variants and whatever the caches of the shared objects hold. -/
theorem no_color_no_colour_params (v : RVariant) (cc : Cfg) (cfg : Config) (hnc : cfg.noColor = true)
    (heap : Heap) (segs : List Seg) (toks : List Tok) (heap' : Heap)
    (h : renderBuffer v cc P cfg heap segs = .ok (toks, heap')) :
    ∀ ps, Tok.sgr ps ∈ toks → ps = [0] ∨ ∀ p ∈ ps, p ∈ [1, 2, 3, 4, 5, 6, 7, 8, 9, 21, 51, 52, 53] :=
  fun ps hps => (renderBuffer_no_color v cfg hnc heap segs).of_ok h (.sgr ps) hps

/-- **not_terminal_no_control** at the level of what is shown: on a non-terminal the (repaired) output
shows the non-control segments only — nothing of any control segment, styled or not. -/
theorem not_terminal_no_control (cc : Cfg) (cfg : Config) (ht : cfg.isTerminal = false) (heap : Heap)
    (segs : List Seg) (hok : HeapOK cc P heap) (hrefs : RefsOK heap segs) :
    ∃ toks heap', renderBuffer .repaired cc P cfg heap segs = .ok (toks, heap') ∧
      interp toks = expectedCells cc P cfg heap (segs.filter fun s => !s.control) := by
  obtain ⟨toks, heap', h1, h2, _, _⟩ := stream_means_segments cc cfg heap segs hok hrefs
  exact ⟨toks, heap', h1, h2.trans (expectedCells_not_terminal cc P ht heap segs).symm⟩

/-- **not_terminal_no_control, token for token.**  On a non-terminal, dropping the control segments
from the buffer changes neither what is written nor the caches — every configuration, NO_COLOR
included. -/
theorem not_terminal_no_control_tokens (cc : Cfg) (cfg : Config) (ht : cfg.isTerminal = false) (heap : Heap)
    (segs : List Seg) (hok : HeapOK cc P heap) (hrefs : RefsOK heap segs) :
    renderBuffer .repaired cc P cfg heap segs = renderBuffer .repaired cc P cfg heap (segs.filter fun s => !s.control) :=
  have _ := hok  -- not needed: under NO_COLOR the loop never sees the objects of `heap` (`renderBuffer_toks_strip`)
  renderBuffer_not_terminal palettes_ok cfg ht heap segs hrefs

/-! ## the cache is invisible; the characters -/

/-- **The cache is invisible.**  Whatever the (sound) caches hold, `_render_buffer` writes exactly the
tokens of the cache-free specification `specToks` — every styled run as a brand-new `Style` object
would render it. -/
theorem tokens_are_cache_free (cc : Cfg) (cfg : Config) (heap : Heap) (segs : List Seg)
    (hok : HeapOK cc P heap) (hrefs : RefsOK heap segs) :
    ∃ heap', renderBuffer .repaired cc P cfg heap segs = .ok (specToks cc P cfg heap segs, heap') := by
  obtain ⟨heap', h, _⟩ := renderBuffer_toks palettes_ok cfg heap segs hok hrefs
  exact ⟨heap', h⟩

/-- …and so do whole histories. -/
theorem history_tokens_are_cache_free (cc : Cfg) (ops : List Op) (hops : OpsOK 0 ops) :
    runOps .repaired cc P [] ops = (specOpsToks cc P [] ops).map Except.ok :=
  (runOps_spec cc palettes_ok ops [] (by intro o ho; cases ho) hops).1

/-- **The wire format reads back.**  The terminal's tokenizer applied to the serialisation of
well-formed tokens (no ESC in text; no `;` / ESC / BEL in OSC 8 parameters, no ESC / BEL in the URI;
any SGR parameters) returns the tokens, adjacent text runs merged — decimal digits, `;` separators,
`ESC [ … m` and `ESC ] 8 ; … ESC \` framing included. -/
theorem tokenize_reads_back (toks : List Tok) (h : ∀ t ∈ toks, WFTok t) :
    tokenize (serialise toks) = normalise toks ∧ interp (tokenize (serialise toks)) = interp toks := by
  have hs : ∀ t ∈ toks, WFTokS t := fun t ht => wfTokS_of_wfTok t (h t ht)
  exact ⟨tokenize_serialise_safe toks hs, by simp only [interp, interpFrom_tokenize_serialise toks hs]⟩

/-- **stream_means_segments at the level of characters** — the property's own words.  For every
configuration, every sound heap and every segment list without ESC in its texts (and without ESC /
BEL in the links): the characters `_render_buffer` returns, read by the terminal's tokenizer and
interpreted from the default state, are exactly the visible characters of the segments, each with the
attributes, colours and hyperlink of its style; nothing leaks (the terminal ends in its default
state). -/
theorem stream_means_segments_chars (cc : Cfg) (cfg : Config) (heap : Heap) (segs : List Seg)
    (hok : HeapOK cc P heap) (hrefs : RefsOK heap segs) (hclean : NoEscIn heap segs) :
    ∃ chars heap', renderBufferChars .repaired cc P cfg heap segs = .ok (chars, heap') ∧
      interp (tokenize chars) = expectedCells cc P cfg heap segs ∧ finalState (tokenize chars) = {} ∧
      HeapOK cc P heap' ∧ heap'.map (·.style) = heap.map (·.style) := by
  obtain ⟨chars, heap', h1, h2, h3, h4⟩ :=
    renderBufferChars_means palettes_ok cfg heap segs hok hrefs hclean.safe hclean.2
  exact ⟨chars, heap', h1, by simp [interp, h4], by simp [finalState, h4], h2, h3⟩

/-- **history_means_segments at the level of characters.** -/
theorem history_means_segments_chars (cc : Cfg) (ops : List Op) (hops : OpsOK 0 ops) (hclean : OpsClean ops) :
    ∃ outs : List (List Char), runOpsChars .repaired cc P [] ops = outs.map Except.ok ∧
      outs.map (fun s => interp (tokenize s)) = specOps cc P [] ops ∧
      ∀ s ∈ outs, finalState (tokenize s) = {} :=
  runOpsChars_means palettes_ok ops [] (by intro o ho; cases ho) hops
    (specOpsToks_wf cc P ops [] (by intro s hs; cases hs) hclean)

/-! ## the `Except` branches -/

/-- **When `_render_buffer` raises** (both code variants): only with colour enabled and NO_COLOR off,
and then some style of the heap carries a `Color` object that is not well-formed (a STANDARD / 256 /
WINDOWS colour without number or out of range, a TRUECOLOR colour without triplet, …). -/
theorem raises_only_for_ill_formed_colour (v : RVariant) (cc : Cfg) (cfg : Config) (heap : Heap) (segs : List Seg)
    (e : ColorErr) (h : renderBuffer v cc P cfg heap segs = .error (.py e)) :
    cfg.noColor = false ∧ cfg.colorSystem ≠ none ∧
      ∃ o ∈ heap, ∃ c, (o.style.color = some c ∨ o.style.bgcolor = some c) ∧ ¬ c.WF := by
  obtain ⟨h1, o, ho, cs, hcs, hcc⟩ := (renderBuffer_error v cfg heap segs).of_error h e rfl
  exact ⟨h1, by rw [hcs]; simp, o, ho, computeCodes_error palettes_ok o.style cs e hcc⟩

/-- The exception is the one computing that style's codes raises (`AssertionError`, `IndexError`, …). -/
theorem raises_what_the_colour_raises (v : RVariant) (cc : Cfg) (cfg : Config) (heap : Heap) (segs : List Seg)
    (e : ColorErr) (h : renderBuffer v cc P cfg heap segs = .error (.py e)) :
    ∃ o ∈ heap, ∃ cs, cfg.colorSystem = some cs ∧ computeCodes cc P o.style cs = .error e :=
  ((renderBuffer_error v cfg heap segs).of_error h e rfl).2

/-- A STANDARD colour without a number (`Color("x", ColorType.STANDARD)`): `assert number is not None`. -/
theorem ill_formed_colour_raises :
    renderBuffer .repaired Cfg.repaired P ⟨some .truecolor, false, true, false⟩
      [⟨{ Style.null with color := some { name := ['x'], type := .standard }, isNull := false }, none⟩]
      [⟨['a'], some 0, false⟩] = .error (.py .assertionError) := by decide +kernel

/-! ## Witnesses: the defects of rich 9.10.0 as found (before fixes c9ec5a8, 23674a1; variant `RVariant.today`) -/

/-- `Style(color="#ff8800")` -/
def orange : Style :=
  { color := some { name := "#ff8800".toList, type := .truecolor, triplet := some ⟨255, 136, 0⟩ }, bgcolor := none,
    attributes := 0, setAttributes := 0, link := none,
    hash := ⟨some { name := "#ff8800".toList, type := .truecolor, triplet := some ⟨255, 136, 0⟩ }, none, some 0, some 0, none⟩,
    isNull := false, styleDef := none }

def onTruecolor : Config := ⟨some .truecolor, false, true, false⟩
def onStandard : Config := ⟨some .standard, false, true, false⟩

/-- One shared style printed on a truecolor console, then on a 16-colour console. -/
def twoConsoles : List Op :=
  [.newStyle orange, .render onTruecolor [⟨['x'], some 0, false⟩], .render onStandard [⟨['x'], some 0, false⟩]]

/-- **rich 9.10.0 as found (F7, before fix c9ec5a8).**  The second console receives the 24-bit sequence computed for the first:
`_ansi` is not keyed by the colour system. -/
theorem old_stale_ansi_cache :
    runOps .today Cfg.repaired P [] twoConsoles =
      [.ok [.sgr [38, 2, 255, 136, 0], .text ['x'], .sgr [0]], .ok [.sgr [38, 2, 255, 136, 0], .text ['x'], .sgr [0]]] := by
  decide +kernel

/-- …so `history_means_segments` is false for the as-found code: the 16-colour terminal shows an RGB
colour where the specification says entry 9 of its palette. -/
theorem old_history_violates :
    ¬ ∃ outs : List (List Tok), runOps .today Cfg.repaired P [] twoConsoles = outs.map Except.ok ∧
        outs.map interp = specOps Cfg.repaired P [] twoConsoles := by
  rw [old_stale_ansi_cache]
  rintro ⟨outs, h1, h2⟩
  match outs, h1 with
  | [a, b], h1 =>
    simp only [List.map_cons, List.map_nil, List.cons.injEq, Except.ok.injEq, and_true] at h1
    obtain ⟨rfl, rfl⟩ := h1
    revert h2
    decide +kernel

/-- The repaired code on the same history: `91` = bright red, entry 9. -/
theorem repaired_two_consoles :
    runOps .repaired Cfg.repaired P [] twoConsoles =
      [.ok [.sgr [38, 2, 255, 136, 0], .text ['x'], .sgr [0]], .ok [.sgr [91], .text ['x'], .sgr [0]]] := by
  decide +kernel

/-- `Style(bold=True)` -/
def bold : Style :=
  { color := none, bgcolor := none, attributes := 1, setAttributes := 1, link := none,
    hash := ⟨none, none, some 1, some 1, none⟩, isNull := false, styleDef := none }

def toFile : Config := ⟨some .truecolor, false, false, false⟩

/-- **rich 9.10.0 as found (F27, before fix 23674a1).**  A control segment that carries a style is written to a non-terminal
(`if style:` is tested before `is_control`): the clear-screen code reaches the file. -/
theorem old_styled_control_written :
    renderBuffer .today Cfg.repaired P toFile [⟨bold, none⟩] [⟨"\x1b[2J".toList, some 0, true⟩] =
      .ok ([.sgr [1], .text "\x1b[2J".toList, .sgr [0]], [⟨bold, some (.truecolor, [1])⟩]) := by
  decide +kernel

/-- …which contradicts `not_terminal_no_control`: nothing should be shown. -/
theorem old_not_terminal_violates :
    ∃ toks heap', renderBuffer .today Cfg.repaired P toFile [⟨bold, none⟩] [⟨"\x1b[2J".toList, some 0, true⟩] = .ok (toks, heap') ∧
      interp toks ≠ expectedCells Cfg.repaired P toFile [⟨bold, none⟩] ([⟨"\x1b[2J".toList, some 0, true⟩].filter fun s => !s.control) :=
  ⟨_, _, old_styled_control_written, by decide +kernel⟩

/-- The repaired code writes nothing. -/
theorem repaired_styled_control_dropped :
    renderBuffer .repaired Cfg.repaired P toFile [⟨bold, none⟩] [⟨"\x1b[2J".toList, some 0, true⟩] = .ok ([], [⟨bold, none⟩]) := by
  decide +kernel


/-! ## `Console.print` → `_buffer` → `_render_buffer` → terminal (`Model/AnsiPrint.lean`) -/

/-- **print_means_segments** — one `console.print(…, style=S, crop=…, soft_wrap=…)`, from the segments the renderables
rendered to, to what the terminal shows.  Every configuration, every width, every cell-width function, cropped or
not, any number of segments; sound heap, references in range.  Nothing raises.  `Segment.apply_style` allocates
`extra` — brand-new objects, nothing else changes — and the segments `applied` it yields keep texts and control flags
and carry, as values, `S + own style` (`Style.__add__`; nothing for a control segment).  `print` appends their crop
(`finishPrint`: C13's `split_and_crop_lines`, `pad=False`, or nothing under soft wrap / `crop=False`), and what is
then written, interpreted by the independent terminal model, is exactly `expectedCells` of what was appended; the
terminal is back in its default state; every cache stays sound. -/
theorem print_means_segments (cc : Cfg) (cw : Char → Nat) (cfg : Config) (env : PEnv) (heap : Heap) (p : PrintCall)
    (hok : HeapOK cc P heap) (hp : PrintOK heap p) :
    ∃ applied extra toks heap2,
      printBuffer cw env heap p = .ok (finishPrint cw env p applied, heap ++ extra) ∧
      viewSegs (heap ++ extra) applied =
        p.segs.map (fun s => (s.text, s.control,
          printedStyle ((p.style.bind (heap[·]?)).map (·.style)) s.control (segStyle heap s))) ∧
      printWrite .repaired cc P cw cfg env heap p = .ok (toks, heap2) ∧
      interp toks = expectedCells cc P cfg (heap ++ extra) (finishPrint cw env p applied) ∧
      finalState toks = {} ∧ HeapOK cc P heap2 ∧ heap2.map (·.style) = (heap ++ extra).map (·.style) := by
  obtain ⟨applied, extra, h1, h2, hr, hsum⟩ := printBuffer_spec cw env heap p hp
  obtain ⟨toks, heap2, g1, g2, g3, g4⟩ := renderBuffer_means palettes_ok cfg _ _ (hsum.heapOK hok) hr
  exact ⟨applied, extra, toks, heap2, h1, h2, (printWrite_of_buffer h1).trans g1, by simp [interp, g4],
    by simp [finalState, g4], g2, g3⟩

/-- What is shown depends on the printed segments only through (text, control flag, style *value*). -/
theorem expected_cells_by_value (cc : Cfg) (cfg : Config) (heap : Heap) (segs : List Seg) :
    expectedCells cc P cfg heap segs = cellsOfV cc P cfg (viewSegs heap segs) := by
  -- the view is a `map`, which filtering and `flatMap` commute with
  simp only [expectedCells, cellsOfV, viewSegs, List.filter_map, List.flatMap_map]
  rfl

/-- The crop of `print` adds no ESC: blanks and line feeds are all it adds to the characters that went in. -/
theorem print_crop_adds_no_esc (cw : Char → Nat) (env : PEnv) (p : PrintCall) (segs : List Seg)
    (h : ∀ s ∈ segs, ESC ∉ s.text) : ∀ s ∈ finishPrint cw env p segs, ESC ∉ s.text :=
  finishPrint_noEsc cw env p segs h

/-- **print_means_segments at the level of characters**, with or without `style=`, cropped or not: no ESC in the
rendered texts, no ESC / BEL in the links of the heap — then the characters written to `console.file`, read by the
terminal's tokenizer, show exactly `expectedCells` of what `print` appended to the buffer (`applied`, `extra` as in
`print_means_segments`), and the terminal ends in its default state.  The objects `apply_style` allocates are sums of
two objects of the heap, and the link of a sum is one of the two links. -/
theorem print_means_segments_chars (cc : Cfg) (cw : Char → Nat) (cfg : Config) (env : PEnv) (heap : Heap)
    (p : PrintCall) (hok : HeapOK cc P heap) (hp : PrintOK heap p) (hclean : NoEscIn heap p.segs) :
    ∃ applied extra chars heap2,
      printBuffer cw env heap p = .ok (finishPrint cw env p applied, heap ++ extra) ∧
      printChars .repaired cc P cw cfg env heap p = .ok (chars, heap2) ∧
      interp (tokenize chars) = expectedCells cc P cfg (heap ++ extra) (finishPrint cw env p applied) ∧
      finalState (tokenize chars) = {} ∧ HeapOK cc P heap2 := by
  obtain ⟨applied, extra, h1, _, hr, hsum⟩ := printBuffer_spec cw env heap p hp
  have hc := printBuffer_noEsc cw env heap p hp hclean h1
  obtain ⟨chars, heap2, g1, g2, _, g4⟩ :=
    renderBufferChars_means palettes_ok cfg _ _ (hsum.heapOK hok) hr hc.safe hc.2
  exact ⟨applied, extra, chars, heap2, h1, (printChars_of_buffer h1).trans g1, by simp [interp, g4],
    by simp [finalState, g4], g2⟩

/-- **print_means_segments at the level of characters, for `print` without `style=`** (cropped or not): no ESC in the
rendered texts, no ESC / BEL in the links — then the characters written to `console.file`, read by the terminal's
tokenizer, show exactly `expectedCells` of the cropped segments, and the terminal ends in its default state.  The
case `style = none` of `print_means_segments_chars`: nothing is allocated, the buffer is the crop of the rendered
segments. -/
theorem print_means_segments_chars_partial (cc : Cfg) (cw : Char → Nat) (cfg : Config) (env : PEnv) (heap : Heap)
    (p : PrintCall) (hst : p.style = none) (hok : HeapOK cc P heap) (hrefs : RefsOK heap p.segs)
    (hclean : NoEscIn heap p.segs) :
    ∃ chars heap2, printChars .repaired cc P cw cfg env heap p = .ok (chars, heap2) ∧
      interp (tokenize chars) = expectedCells cc P cfg heap (finishPrint cw env p p.segs) ∧
      finalState (tokenize chars) = {} ∧ HeapOK cc P heap2 := by
  obtain ⟨applied, extra, chars, heap2, g1, g2, g3, g4, g5⟩ :=
    print_means_segments_chars cc cw cfg env heap p hok ⟨hrefs, by simp [hst]⟩ hclean
  obtain ⟨e1, e2⟩ : finishPrint cw env p p.segs = finishPrint cw env p applied ∧ heap = heap ++ extra := by
    simpa [printBuffer, hst] using g1
  exact ⟨chars, heap2, g2, by rw [g3, ← e1, ← e2], g4, g5⟩

/-- One step of a history with prints keeps every cache sound and never raises (repaired code). -/
theorem print_step_sound (cc : Cfg) (cw : Char → Nat) (heap : Heap) (hok : HeapOK cc P heap) (cfg : Config) (env : PEnv)
    (p : PrintCall) (hp : PrintOK heap p) :
    ∃ heap' toks, stepPOp .repaired cc P cw heap (.print cfg env p) = .ok (heap', some toks) ∧ HeapOK cc P heap' ∧
      finalState toks = {} := by
  obtain ⟨_, _, toks, heap2, _, _, h4, _, h6, h7, _⟩ := print_means_segments cc cw cfg env heap p hok hp
  exact ⟨heap2, toks, by simp [stepPOp, h4, bind, Except.bind], h7, h6⟩

/-! ## ESC inside text -/

/-- **The wire format reads back under the weaker hypothesis `SafeText`**: an ESC inside a text is harmless as long as
it is followed, inside that text, by a character other than `[` and `]` — it cannot start an SGR or OSC 8 sequence
of the terminal model, whatever follows the text.  (`tokenize_reads_back` is the special case "no ESC at all".) -/
theorem tokenize_reads_back_safe (toks : List Tok) (h : ∀ t ∈ toks, WFTokS t) :
    tokenize (serialise toks) = normalise toks ∧ interp (tokenize (serialise toks)) = interp toks :=
  ⟨tokenize_serialise_safe toks h, by simp only [interp, interpFrom_tokenize_serialise toks h]⟩

/-- `tokenize_reads_back`'s hypothesis implies the weaker one. -/
theorem no_esc_is_safe (t : Tok) (h : WFTok t) : WFTokS t := wfTokS_of_wfTok t h

/-- **What the terminal model shows when a text does contain escape sequences**: the terminal reads characters, not
tokens — a text that is itself the serialisation of (well-formed) tokens `inner` is read as those tokens, in place.
So a control segment such as `\x1b[1m` is *executed*, and so is the same string inside ordinary text. -/
theorem embedded_sequences_are_executed (pre inner post : List Tok) (h : ∀ t ∈ pre ++ inner ++ post, WFTokS t) :
    tokenize (serialise (pre ++ [.text (serialise inner)] ++ post)) = normalise (pre ++ inner ++ post) ∧
    interp (tokenize (serialise (pre ++ [.text (serialise inner)] ++ post))) = interp (pre ++ inner ++ post) := by
  rw [serialise_text_inner]
  exact tokenize_reads_back_safe _ h

/-- The hypothesis cannot be dropped: an unstyled segment whose text is a complete SGR sequence changes how the
*next* segment is shown (`x` comes out bold) — `stream_means_segments_chars` is false without `NoEscIn`. -/
theorem esc_in_text_breaks_chars_statement :
    ∃ chars heap', renderBufferChars .repaired Cfg.repaired P onTruecolor [] [⟨"\x1b[1m".toList, none, false⟩, ⟨['x'], none, false⟩] = .ok (chars, heap') ∧
      interp (tokenize chars) = [⟨'x', { bold := true }, none⟩] ∧
      interp (tokenize chars) ≠ expectedCells Cfg.repaired P onTruecolor [] [⟨"\x1b[1m".toList, none, false⟩, ⟨['x'], none, false⟩] :=
  ⟨_, _, rfl, by decide +kernel, by decide +kernel⟩

/-- …nor can `SafeText` be weakened to "no complete sequence inside one text": an ESC at the very end of a text joins
the `[1m` that starts the next segment. -/
theorem trailing_esc_joins_next_segment :
    tokenize (serialise [.text [ESC], .text "[1mx".toList]) = [.sgr [1], .text ['x']] := by
  rw [String.toList_ofList]
  decide +kernel

/-! ## the two code tables, row by row -/

/-- `Color.get_ansi_codes` for every `ColorType` × foreground / background, on well-formed colours. -/
theorem ansi_codes_table (c : Color) (fg : Bool) :
    (c.type = .default → getAnsiCodes c fg = .ok [if fg then 39 else 49]) ∧
    (∀ n, (c.type = .standard ∨ c.type = .windows) → c.number = some n →
      getAnsiCodes c fg = .ok [(if fg then (if n < 8 then 30 else 82) else (if n < 8 then 40 else 92)) + n]) ∧
    (∀ n, c.type = .eightBit → c.number = some n → getAnsiCodes c fg = .ok [if fg then 38 else 48, 5, n]) ∧
    (∀ t, c.type = .truecolor → c.triplet = some t →
      getAnsiCodes c fg = .ok [if fg then 38 else 48, 2, t.red, t.green, t.blue]) ∧
    ((c.type = .standard ∨ c.type = .windows ∨ c.type = .eightBit) → c.number = none →
      getAnsiCodes c fg = .error .assertionError) ∧
    (c.type = .truecolor → c.triplet = none → getAnsiCodes c fg = .error .assertionError) := by
  refine ⟨?_, ?_, ?_, ?_, ?_, ?_⟩
  · intro h; simp [getAnsiCodes, h]
  · intro n h hn
    rcases h with h | h <;> by_cases h8 : n < 8 <;> cases fg <;>
      simp [getAnsiCodes, h, hn, assertSome, bind, Except.bind, h8]
  · intro n h hn; simp [getAnsiCodes, h, hn, assertSome, bind, Except.bind]
  · intro t h ht; simp [getAnsiCodes, h, ht, assertSome, bind, Except.bind]
  · intro h hn
    rcases h with h | h | h <;> simp [getAnsiCodes, h, hn, assertSome, bind, Except.bind]
  · intro h ht; simp [getAnsiCodes, h, ht, assertSome, bind, Except.bind]

/-- `Style._make_ansi_codes`, attribute part, as a table lookup: for every attribute word (all 2^13 sets and beyond)
the parameters are the entries of `Style._style_map` at the set bits, in bit order — the interpreter's reading of
the 13 aspects (`aspectCode`) and rich's own table agree row by row. -/
theorem attr_codes_table (a : Nat) :
    attrCodes a = ((List.range 13).filter fun i => a.testBit i).map fun i => styleMap[i]! := by
  rw [attr_codes_are_the_set_bits]
  apply List.map_congr_left
  intro i hi
  have h13 : i < 13 := by simpa using (List.mem_filter.mp hi).1
  simp [styleMap_get i h13]

/-- The 13 rows of `_style_map`. -/
theorem style_map_rows : (List.range 13).map (fun i => attrCodes (1 <<< i)) =
    [[1], [2], [3], [4], [5], [6], [7], [8], [9], [21], [51], [52], [53]] := by decide +kernel

/-! ## Non-vacuity: the hypotheses are met by concrete, non-trivial values -/

/-- `Style(color="#ff8800", bgcolor="color(100)", bold=True, dim=False, strike=True, link="http://x")` -/
def fancy : Style :=
  { color := some { name := "#ff8800".toList, type := .truecolor, triplet := some ⟨255, 136, 0⟩ },
    bgcolor := some { name := "color(100)".toList, type := .eightBit, number := some 100 },
    attributes := 0b100000001, setAttributes := 0b100000011, link := some "http://x".toList,
    hash := ⟨none, none, none, none, none⟩, isNull := false, styleDef := none }

theorem orange_wf : StyleWF orange :=
  ⟨(by intro c h; cases h; exact ⟨rfl, _, rfl, by decide, by decide, by decide⟩), (by intro c h; cases h), (by intro h; cases h)⟩
theorem fancy_wf : StyleWF fancy :=
  ⟨(by intro c h; cases h; exact ⟨rfl, _, rfl, by decide, by decide, by decide⟩),
   (by intro c h; cases h; exact ⟨⟨100, rfl, by decide⟩, rfl⟩), (by intro h; cases h)⟩
example : StyleWF Style.null := styleWF_null
example : HeapOK Cfg.repaired P [⟨fancy, none⟩, ⟨Style.null, none⟩] :=
  List.forall_mem_cons.2 ⟨objOK_fresh fancy_wf, List.forall_mem_singleton.2 (objOK_fresh styleWF_null)⟩
example : OpsOK 0 twoConsoles :=
  ⟨orange_wf, (by intro seg hs i hi; simp at hs; subst hs; cases hi; decide),
   (by intro seg hs i hi; simp at hs; subst hs; cases hi; decide), trivial⟩
-- a non-trivial style: `bold;9;38;2;255;136;0;48;5;100` inside an OSC 8 pair, `not dim` emits nothing
example : renderBuffer .repaired Cfg.repaired P onTruecolor [⟨fancy, none⟩] [⟨['h', 'i'], some 0, false⟩, ⟨['!'], none, false⟩] =
    .ok ([.osc8 linkIdMask "http://x".toList, .sgr [1, 9, 38, 2, 255, 136, 0, 48, 5, 100], .text ['h', 'i'], .sgr [0], .osc8 [] [],
          .text ['!']],
         [⟨fancy, some (.truecolor, [1, 9, 38, 2, 255, 136, 0, 48, 5, 100])⟩]) := by decide +kernel
example : interp [.osc8 linkIdMask "http://x".toList, .sgr [1, 9, 38, 2, 255, 136, 0, 48, 5, 100], .text ['h'], .sgr [0], .osc8 [] [], .text ['!']] =
    [⟨'h', { bold := true, strike := true, fg := .rgb 255 136 0, bg := .indexed 100 }, some "http://x".toList⟩, ⟨'!', {}, none⟩] := by
  rw [String.toList_ofList]
  decide +kernel
-- the same object on a 16-colour legacy-Windows console, NO_COLOR off: colours converted, link dropped
example : (renderBuffer .repaired Cfg.repaired P ⟨some .windows, false, true, true⟩ [⟨fancy, none⟩] [⟨['h'], some 0, false⟩]).map (·.1) =
    .ok [.sgr [1, 9, 33, 43], .text ['h'], .sgr [0]] := by decide +kernel
-- NO_COLOR keeps attributes and link, drops colours
example : (renderBuffer .repaired Cfg.repaired P ⟨some .eightBit, true, true, false⟩ [⟨fancy, none⟩] [⟨['h'], some 0, false⟩]).map (·.1) =
    .ok [.osc8 linkIdMask "http://x".toList, .sgr [1, 9], .text ['h'], .sgr [0], .osc8 [] []] := by
  rw [String.toList_ofList]
  decide +kernel
example : serialise [.sgr [1, 38, 5, 100], .text ['x'], .sgr [0]] = "\x1b[1;38;5;100mx\x1b[0m".toList := by
  rw [String.toList_ofList]
  decide +kernel

-- the character-level hypotheses are satisfiable, and the tokenizer reads a real stream back
example : OpsClean twoConsoles :=
  ⟨(by intro l h; cases h), (by intro seg hs; simp at hs; subst hs; decide), (by intro seg hs; simp at hs; subst hs; decide), trivial⟩
example : NoEscIn [⟨fancy, none⟩] [⟨['h', 'i'], some 0, false⟩] :=
  ⟨(by intro seg hs; simp at hs; subst hs; decide),
   (by intro o ho l hl; simp at ho; subst ho; cases hl; decide)⟩
example : tokenize "\x1b]8;id=*;http://x\x1b\\\x1b[1;9;38;2;255;136;0;48;5;100mhi\x1b[0m\x1b]8;;\x1b\\!".toList =
    [.osc8 linkIdMask "http://x".toList, .sgr [1, 9, 38, 2, 255, 136, 0, 48, 5, 100], .text ['h', 'i'], .sgr [0], .osc8 [] [],
     .text ['!']] := by
  rw [String.toList_ofList, String.toList_ofList]
  decide +kernel
example : (renderBufferChars .repaired Cfg.repaired P onTruecolor [⟨fancy, none⟩] [⟨['h', 'i'], some 0, false⟩, ⟨['!'], none, false⟩]).map (·.1) =
    .ok "\x1b]8;id=*;http://x\x1b\\\x1b[1;9;38;2;255;136;0;48;5;100mhi\x1b[0m\x1b]8;;\x1b\\!".toList := by
  rw [String.toList_ofList]
  decide +kernel

-- `PrintOK` / `print_means_segments` on a concrete call — a styled segment with an embedded line
-- feed and a control segment, printed with `style=bold` on a console 3 cells wide: `fancy` + bold is allocated at index 2
example : PrintOK [⟨bold, none⟩, ⟨fancy, none⟩] { segs := [⟨"abcd\ne".toList, some 1, false⟩, ⟨['\r'], some 1, true⟩], style := some 0 } :=
  ⟨(by intro seg hs i hi; simp at hs; rcases hs with rfl | rfl <;> cases hi <;> decide), (by intro j hj; cases hj; decide)⟩
example : (printBuffer (fun _ => 1) ⟨3, false⟩ [⟨bold, none⟩, ⟨fancy, none⟩]
      { segs := [⟨"abcd\ne".toList, some 1, false⟩, ⟨['\r'], some 1, true⟩], style := some 0 }).map (fun r => (r.1, r.2.length)) =
    .ok ([⟨"abc".toList, some 2, false⟩, ⟨['\n'], none, false⟩, ⟨['e'], some 2, false⟩, ⟨['\r'], none, true⟩], 3) := by
  rw [String.toList_ofList, String.toList_ofList]
  decide +kernel
example : SafeText "a\x1bcb".toList ∧ ¬ SafeText "a\x1b[".toList ∧ ¬ SafeText "a\x1b".toList := by
  rw [String.toList_ofList, String.toList_ofList, String.toList_ofList]
  decide +kernel
example : ∀ t ∈ [Tok.text "a\x1bcb".toList, Tok.sgr [1]], WFTokS t := by
  intro t ht; simp at ht; rcases ht with rfl | rfl
  · show SafeText _; decide
  · trivial

end RichModel.C03
