import RichModel.Lemmas.Style
import RichModel.Lemmas.StyleText
import RichModel.Lemmas.StyleParse
import RichModel.Lemmas.StyleSpell
import RichModel.Lemmas.StyleSpellNum
import RichModel.Lemmas.StyleSpellRgb
import RichModel.Lemmas.StrTablesReal
import RichModel.Lemmas.StyleCtor
/-!
# C06 — styles form a consistent algebra, round-trip through text, and hash consistently

Property theorems only, 53 of them (helper lemmas live in `Lemmas/Style`, `StyleGrammar`, `StyleText`, `StyleParse`,
`StyleSpell`, `StyleSpellNum`, `StyleSpellRgb`, `ColorParse`, `StrTablesReal`, `StyleCtor`).  `v : StyleVariant`
selects the code variant (seven flags, `Model/ColorParse.lean`; `StyleVariant.old` = rich 9.10.0 as
found, `StyleVariant.fixed` = `.repaired` = what /repo contains since fixes c34676b, a639ea2, cf948b2,
c566893): the algebra and the text theorems hold for *every* variant unless a flag is named in the
hypotheses; the hash theorems (`hash_from_fields`, `eq_hash`) need the four hash repairs, the `str()`
round trip of arbitrary reachable styles (`parse_str_roundtrip`) needs the `update_link` cache repair
(`updateLinkDef = false`), and the unconditional left identity `add_null_left` with `add_is_merge`,
`add_respects_eq`, `empty_style_is_identity` needs `emptyLink = false` (`add_null_left_of_link` is the
every-variant form, for links other than `""`).  Each of the six defects has a `decide`d witness on
`StyleVariant.old` (`old_*`, the section before the last).  `Reachable v s` = `s` can be built with the public
constructors (`Lemmas/Style.lean`).

`T : StrTables` are the interpreter's character tables (`str.isspace`, `str.isdecimal`/`int`,
`str.lower`, the `int()` digit limit); every text theorem holds for **all** tables satisfying
`StrTables.Lawful` — both `StrTables.ascii` (`ascii_tables_lawful`) and the tables translated from the
running Python on this run (`StrTables.real`, all code points: `real_tables_lawful`, re-proved from the
regenerated tables by `decide +kernel` on every run) are proved lawful.  `parse v` / `normalize v` / `wf v` without `T` are the ASCII instances.

`Style.eq` is `Style.__eq__`; `hashKey` is the tuple whose `hash()` the object stores.
-/
namespace RichModel.C06
open RichModel RichModel.Style RichModel.AsciiStr

/-! ## The `+` algebra -/

/-- `(a + b) + c` and `a + (b + c)` are the same object state — fields, `_null`, stored hash and
definition cache — for every three styles and every code variant. -/
theorem add_assoc (v : StyleVariant) (a b c : Style) : add v (add v a b) c = add v a (add v b c) :=
  Style.add_assoc v a b c

/-- The null style is a right identity (the very same object is returned), also for `+ None`. -/
theorem add_null_right (v : StyleVariant) (a : Style) :
    add v a Style.null = a ∧ addOpt v a (some Style.null) = a ∧ addOpt v a none = a :=
  ⟨Style.add_null_right v a, Style.add_null_right v a, rfl⟩

/-- The null style is a left identity up to `==`, for every constructible style whose link is not
the empty string — in every code variant. -/
theorem add_null_left_of_link (v : StyleVariant) (a : Style) (ha : Reachable v a) (hl : a.link ≠ some []) :
    eq (add v Style.null a) a = true :=
  null_add_eq v ha.inv hl

/-- **The null style is a left identity up to `==` for every constructible style**, once an empty
link is stored as `None` (`emptyLink = false`: fix c566893 in /repo, proposed as
pending_fixes/C06-empty-link-is-no-link.diff).  On rich 9.10.0 as found this is false at
`Style(link="")`: `old_empty_link_breaks_identity`. -/
theorem add_null_left (v : StyleVariant) (hv : v.emptyLink = false) (a : Style) (ha : Reachable v a) :
    eq (add v Style.null a) a = true :=
  add_null_left_of_link v a ha (ha.linkOk hv)

/-- Right bias, attributes: bit by bit the right operand wins exactly where it specifies a value
(`attr` is the descriptor `style.bold`, `style.dim`, …: `none` = not set). -/
theorem add_right_bias_attr (v : StyleVariant) (a b : Style) (ha : Reachable v a) (hb : Reachable v b) (i : Nat) :
    (add v a b).attr i = (b.attr i).or (a.attr i) :=
  attr_add v ha.inv hb.inv i

/-- Right bias, colours. -/
theorem add_right_bias_color (v : StyleVariant) (a b : Style) (ha : Reachable v a) (hb : Reachable v b) :
    (add v a b).color = b.color.or a.color ∧ (add v a b).bgcolor = b.bgcolor.or a.bgcolor :=
  color_add v ha.inv hb.inv

/-- Right bias, link: the right operand's link wins exactly where it is a (non-empty) link;
`linkVal` reads the empty string as "no link", which is how `+`, `str`, `_null` and the renderer treat it. -/
theorem add_right_bias_link (v : StyleVariant) (a b : Style) (ha : Reachable v a) (hb : Reachable v b) :
    linkVal (add v a b).link = if strTruthy b.link then b.link else linkVal a.link :=
  link_add v ha.inv hb.inv

/-- …and literally, when neither link is the empty string. -/
theorem add_right_bias_link_exact (v : StyleVariant) (a b : Style) (ha : Reachable v a) (hb : Reachable v b)
    (hla : a.link ≠ some []) (hlb : b.link ≠ some []) :
    (add v a b).link = b.link.or a.link :=
  (add_fields v ha.inv hb.inv hla hlb).2.2.2.2.trans (linkOr_eq_or hlb _)

/-- `Style.chain(*styles)` / `Style.combine(styles)` is the left fold of `+`; on an empty iterable
`next()` raises `StopIteration`. -/
theorem chain_is_fold (v : StyleVariant) (first : Style) (rest : List Style) :
    chain v (first :: rest) = .ok (rest.foldl (add v) first) ∧ chain v [] = .error .stopIteration :=
  ⟨rfl, rfl⟩

/-! ### The stored `_null` flag

`_null` is stored, not recomputed: `without_color`, `update_link` and `copy` set it to `False` even
when no field is left (`Style(color="red").without_color == Style()` yet `bool()` of it is `True`),
and `+` short-cuts on it.  This does **not** break the statement of C06: `_null` is not compared by
`==`, not hashed, and — the next two theorems — cannot be observed through `+` and `==` either: the
compared fields of a sum are the general merge of the operands' compared fields whatever the flags
say, so `+` respects `==`, and a "non-null empty" style is as much an identity as `NULL_STYLE`
(`a + e == a`, `e + a == a`).  What the flag does change is `bool(style)`, which is outside C06. -/

/-- The five compared fields of `a + b` are the merge of the compared fields of `a` and `b`: the
`_null` short cuts of `__add__` are unobservable. -/
theorem add_is_merge (v : StyleVariant) (hv : v.emptyLink = false) (a b : Style)
    (ha : Reachable v a) (hb : Reachable v b) :
    (add v a b).color = b.color.or a.color ∧ (add v a b).bgcolor = b.bgcolor.or a.bgcolor ∧
    (add v a b).setAttributes = a.setAttributes ||| b.setAttributes ∧
    (add v a b).attributes = andNot a.attributes b.setAttributes ||| (b.attributes &&& b.setAttributes) ∧
    (add v a b).link = linkOr b.link a.link :=
  add_fields v ha.inv hb.inv (ha.linkOk hv) (hb.linkOk hv)

/-- `+` respects `==`: equal operands (however built, whatever their `_null` flags, hashes and caches)
give equal sums. -/
theorem add_respects_eq (v : StyleVariant) (hv : v.emptyLink = false) (a a' b b' : Style)
    (ha : Reachable v a) (ha' : Reachable v a') (hb : Reachable v b) (hb' : Reachable v b')
    (e1 : eq a a' = true) (e2 : eq b b' = true) : eq (add v a b) (add v a' b') = true :=
  add_congr v ha.inv ha'.inv hb.inv hb'.inv (ha.linkOk hv) (ha'.linkOk hv) (hb.linkOk hv) (hb'.linkOk hv) e1 e2

/-- Every constructible style that compares equal to `NULL_STYLE` is a two-sided identity up to `==`,
flagged `_null` or not. -/
theorem empty_style_is_identity (v : StyleVariant) (hv : v.emptyLink = false) (e a : Style)
    (he : Reachable v e) (ha : Reachable v a) (h : eq e Style.null = true) :
    eq (add v a e) a = true ∧ eq (add v e a) a = true :=
  add_eq_of_eq_null v ha.inv (ha.linkOk hv) h

/-! ## Text round trip -/

/-- The ASCII rules are lawful character tables (so every theorem below holds for the two-argument
`parse v`, `normalize v`, `wf v` that other models use). -/
theorem ascii_tables_lawful : StrTables.Lawful StrTables.ascii := inferInstance

/-- The character tables translated from the running Python on this run (`str.isspace`,
`str.isdecimal`/`int`, `str.lower` of every code point, `Gen/StrTables.lean`) are lawful: they agree
with the ASCII rules below 128, `lower()` is idempotent and creates no white space.  So every theorem
below holds for `Color.parse` / `Style.parse` over **all** code points (the one thing outside the
tables is the context-dependent lower-casing of GREEK CAPITAL SIGMA). -/
theorem real_tables_lawful : StrTables.Lawful StrTables.real := inferInstance


/-- **Round trip of the computed definition.**  For every well-formed style (`Style.wf`, decidable:
13 attribute bits with values only where set, colours whose name is a white-space-free definition
of that very colour, a link that is `None` or one non-empty word) the definition `__str__`
computes parses, and parses back to an equal style. -/
theorem parse_render_roundtrip (T : StrTables) [T.Lawful] (v : StyleVariant) (s : Style) (hwf : wfT T v s = true) :
    ∃ s', parseT T v (render s) = .ok s' ∧ eq s' s = true :=
  parse_render (wf_iff.mp hwf)

/-- **Round trip of `str()`** for every constructible well-formed style, once `update_link` no
longer copies the cached definition (otherwise false: `old_update_link_stale_str`). -/
theorem parse_str_roundtrip (T : StrTables) [T.Lawful] (v : StyleVariant) (hv : v.updateLinkDef = false) (s : Style) (hr : Reachable v s)
    (hwf : wfT T v s = true) : ∃ s', parseT T v (str s) = .ok s' ∧ eq s' s = true := by
  rw [hr.cacheOk hv]
  exact parse_render_roundtrip T v s hwf

/-- Every style that `Style.parse` returns is well-formed (so the round trip applies to it), for
every input string, every code variant and every lawful character table. -/
theorem parse_result_wf (T : StrTables) [T.Lawful] (v : StyleVariant) (d : List Char) (s : Style) (h : parseT T v d = .ok s) : wfT T v s = true :=
  (parse_wf h).1

/-- `parse(str(parse(d))) == parse(d)` for every definition `d` that parses. -/
theorem parse_str_parse (T : StrTables) [T.Lawful] (v : StyleVariant) (d : List Char) (s : Style) (h : parseT T v d = .ok s) :
    ∃ s', parseT T v (str s) = .ok s' ∧ eq s' s = true := by
  rw [(parse_wf h).2]
  exact parse_render_roundtrip T v s (parse_wf h).1

/-- `normalize(d)` parses back to `parse(d)`, for every definition that parses. -/
theorem normalize_roundtrip (T : StrTables) [T.Lawful] (v : StyleVariant) (d : List Char) (s : Style) (h : parseT T v d = .ok s) :
    ∃ t s', normalizeT T v d = .ok t ∧ parseT T v t = .ok s' ∧ eq s' s = true := by
  obtain ⟨s', h1, h2⟩ := parse_str_parse T v d s h
  exact ⟨str s, s', normalize_of_parse h, h1, h2⟩

/-- `normalize` is idempotent on every definition that parses: `normalize(normalize(d)) == normalize(d)`.

Full statement (no hypothesis on `d`) is **false on the code as it is**, see
`normalize_not_idempotent_unparseable`: the fallback `style.strip().lower()` of a definition that
does not parse can produce one that does (the word after `not` is the only one `parse` does not
lower-case) and is then normalised further.  Definitions that do not parse are outside the
statement of C06 ("the string form of any style"). -/
theorem normalize_idempotent (T : StrTables) [T.Lawful] (v : StyleVariant) (d : List Char) (s : Style) (h : parseT T v d = .ok s) :
    ∃ t, normalizeT T v d = .ok t ∧ normalizeT T v t = .ok t :=
  ⟨str s, normalize_of_parse h, (parse_wf h).2 ▸ normalize_render (wf_iff.mp (parse_wf h).1)⟩

/-- Witness for the remark above (any variant of the code). -/
theorem normalize_not_idempotent_unparseable :
    (normalize StyleVariant.old (cl! "italic not Bold")).toOption = some (cl! "italic not bold") ∧
    (normalize StyleVariant.old (cl! "italic not bold")).toOption = some (cl! "not bold italic") := by
  decide +kernel

/-! ## Documented spellings (table driven) -/

/-- The documented attribute words (docs/source/style.rst and the `Style` docstring) with the bit
of the attribute each one names: 0 bold, 1 dim, 2 italic, 3 underline, 4 blink, 5 blink2, 6 reverse,
7 conceal, 8 strike, 9 underline2, 10 frame, 11 encircle, 12 overline. -/
def documentedAttrs : List (List Char × Nat) :=
  [(cl! "bold", 0), (cl! "b", 0), (cl! "dim", 1), (cl! "d", 1), (cl! "italic", 2), (cl! "i", 2),
   (cl! "underline", 3), (cl! "u", 3), (cl! "blink", 4), (cl! "blink2", 5), (cl! "reverse", 6), (cl! "r", 6),
   (cl! "conceal", 7), (cl! "c", 7), (cl! "strike", 8), (cl! "s", 8), (cl! "underline2", 9), (cl! "uu", 9),
   (cl! "frame", 10), (cl! "encircle", 11), (cl! "overline", 12), (cl! "o", 12)]

theorem attr_spellings_tbl : documentedAttrs.all (fun p => goodAttr (p.2, p.1)) = true := by
  decide +kernel

/-- Every documented attribute word parses to exactly that attribute switched on, and `not <word>`
to exactly that attribute switched off (nothing else set) — in every code variant and for every
lawful character table. -/
theorem attr_spellings (T : StrTables) [T.Lawful] (v : StyleVariant) (w : List Char) (i : Nat)
    (h : (w, i) ∈ documentedAttrs) :
    parseT T v w = .ok (single i true) ∧ parseT T v (cl! "not " ++ w) = .ok (single i false) :=
  parse_attr_word (goodAttr_idx (p := (i, w)) (List.all_eq_true.mp attr_spellings_tbl (w, i) h))

/-- Every name in `ANSI_COLOR_NAMES` (as translated from rich/color.py on this run) parses to the
colour of that name and number — standard below 16, eight-bit from 16 — as a foreground colour, and
after `on` as a background colour; nothing else is set. -/
theorem named_color_spellings (T : StrTables) [T.Lawful] (v : StyleVariant) (name : List Char) (number : Nat)
    (h : (name, number) ∈ Gen.ansiColorNames) :
    let c : Color := { name := name, type := if number < 16 then .standard else .eightBit, number := some number }
    parseT T v name = .ok (onlyColor c true) ∧ parseT T v (cl! "on " ++ name) = .ok (onlyColor c false) :=
  parse_color_word (c := namedColor (name, number)) (named_color_wf v h)

/-- The sixteen system colours carry their documented names. -/
theorem standard_color_names :
    ([cl! "black", cl! "red", cl! "green", cl! "yellow", cl! "blue", cl! "magenta", cl! "cyan", cl! "white",
      cl! "bright_black", cl! "bright_red", cl! "bright_green", cl! "bright_yellow", cl! "bright_blue",
      cl! "bright_magenta", cl! "bright_cyan", cl! "bright_white"].map ansiColorNumber) =
      (List.range 16).map some := by
  decide +kernel

/-- `color(n)` for every n ≤ 255 (decimal digits of n) is colour number n, foreground and background. -/
theorem color_number_spellings (T : StrTables) [T.Lawful] (v : StyleVariant) (n : Nat) (h : n < 256) :
    let text := cl! "color(" ++ Nat.toDigits 10 n ++ cl! ")"
    let c : Color := { name := text, type := if n < 16 then .standard else .eightBit, number := some n }
    parseT T v text = .ok (onlyColor c true) ∧ parseT T v (cl! "on " ++ text) = .ok (onlyColor c false) :=
  parse_color_word (c := Color.fromAnsi n) (numbered_color_wf v h)

/-- `default` is the default colour (`default on default` is what the documentation calls the
terminal's starting style). -/
theorem default_color_spelling (T : StrTables) [T.Lawful] (v : StyleVariant) :
    parseT T v (cl! "default") = .ok (onlyColor defaultColor true) ∧
    parseT T v (cl! "on default") = .ok (onlyColor defaultColor false) :=
  parse_color_word (c := defaultColor) (default_color_wf v)

/-- `#` followed by three pairs of hex digits **of either letter case** is the truecolor with those
components, foreground and background — for all 22^6 such strings.  `Style.parse` (alone) and
`Color.parse` (after `on`) lower-case the word, so the colour's name is the lower-cased text. -/
theorem hex_color_spellings (T : StrTables) [T.Lawful] (v : StyleVariant) (a b c d e f : Char)
    (h : [a, b, c, d, e, f].all isHex = true) :
    let text := ['#', a, b, c, d, e, f]
    let (a', b', c', d', e', f') := (lowerChar a, lowerChar b, lowerChar c, lowerChar d, lowerChar e, lowerChar f)
    let col : Color := { name := ['#', a', b', c', d', e', f'], type := .truecolor,
                         triplet := some ⟨16 * hexVal a' + hexVal b', 16 * hexVal c' + hexVal d', 16 * hexVal e' + hexVal f'⟩ }
    parseT T v text = .ok (onlyColor col true) ∧ parseT T v (cl! "on " ++ text) = .ok (onlyColor col false) := by
  obtain ⟨hl, hx, hns⟩ := lower_hex (T := T) h
  exact parse_color_word_lower (hex_color_wf v _ _ _ _ _ _ hx) hns hl

/-- `hexVal` reads the sixteen digits as 0..15. -/
theorem hex_digit_values : (cl! "0123456789abcdef").map hexVal = List.range 16 ∧
    (cl! "0123456789ABCDEF").map (fun c => hexVal (lowerChar c)) = List.range 16 ∧
    (cl! "0123456789abcdefABCDEF").all isHex = true := by
  decide +kernel

/-- `rgb(r,g,b)` with decimal r, g, b ≤ 255 is the truecolor with those components, foreground and
background — for all 2^24 triplets. -/
theorem rgb_color_spellings (T : StrTables) [T.Lawful] (v : StyleVariant) (r g b : Nat) (hr : r < 256) (hg : g < 256) (hb : b < 256) :
    let text := cl! "rgb(" ++ (Nat.toDigits 10 r ++ ',' :: (Nat.toDigits 10 g ++ ',' :: Nat.toDigits 10 b)) ++ [')']
    let col : Color := { name := text, type := .truecolor, triplet := some ⟨r, g, b⟩ }
    parseT T v text = .ok (onlyColor col true) ∧ parseT T v (cl! "on " ++ text) = .ok (onlyColor col false) :=
  parse_color_word (c := rgbColor r g b) (rgb_color_wf v r g b hr hg hb)

/-- The words the style grammar gives a meaning of their own (`on not link none` and the 22
attribute words) are not colour definitions on this run's `ANSI_COLOR_NAMES` — the side condition
that makes the round trip unambiguous. -/
theorem keywords_are_not_colors (T : StrTables) [T.Lawful] (v : StyleVariant) (k : List Char) (hk : k ∈ styleKeywords) :
    Color.parseT T v k = .error .colorParse :=
  keyword_not_color T v hk

/-! ## The public colour constructors as construction routes

`Color.from_ansi`, `Color.from_triplet`, `Color.from_rgb`, `Color.default` (`Model/StyleCtor.lean`) store a
name that is a definition of the very colour they build — same name, same `ColorType`, same number, same
triplet (colours are NamedTuples: `==` and `hash` see all four fields).  So a style whose colours come
from these constructors is `==` (with equal stored hash) to the one parsed from its text, and its `str()`
round trips.  An off-by-one in `from_ansi`'s `number < 16` alone (not in `Color.parse`) breaks exactly
`from_ansi_is_parsed_color` at 16. -/

/-- `Color.parse("color(n)")` is `Color.from_ansi(n)` — field by field, `ColorType` included — for every n ≤ 255. -/
theorem from_ansi_is_parsed_color (T : StrTables) [T.Lawful] (v : StyleVariant) (n : Nat) (h : n < 256) :
    Color.parseT T v (cl! "color(" ++ Nat.toDigits 10 n ++ cl! ")") = .ok (Color.fromAnsi n) ∧
    (Color.fromAnsi n).type = (if n < 16 then .standard else .eightBit) ∧ (Color.fromAnsi n).number = some n :=
  ⟨(wfColor_iff.mp (numbered_color_wf (T := T) v h)).2, rfl, rfl⟩

/-- `Color.from_ansi` does not validate: `from_ansi(256)` is an eight-bit colour named `color(256)`, which
`Color.parse` rejects — the bound in `from_ansi_is_parsed_color` is needed. -/
theorem from_ansi_out_of_range :
    (Color.fromAnsi 256).type = .eightBit ∧ wfColorT StrTables.ascii StyleVariant.fixed (Color.fromAnsi 256) = false := by
  decide +kernel

/-- `Color.parse(triplet.hex)` is `Color.from_triplet(triplet)` (= `Color.from_rgb` of floats truncating to
it), and `Color.parse(triplet.rgb)` is the truecolor with the same triplet — for all 2^24 triplets. -/
theorem from_triplet_is_parsed_hex (T : StrTables) [T.Lawful] (v : StyleVariant) (r g b : Nat)
    (hr : r < 256) (hg : g < 256) (hb : b < 256) :
    Color.parseT T v (Color.tripletHex ⟨r, g, b⟩) = .ok (Color.fromTriplet ⟨r, g, b⟩) ∧
    Color.parseT T v (Color.tripletRgb ⟨r, g, b⟩) =
      .ok { name := Color.tripletRgb ⟨r, g, b⟩, type := .truecolor, triplet := some ⟨r, g, b⟩ } ∧
    (∀ r4 g4 b4, r4 / 4 = r → g4 / 4 = g → b4 / 4 = b → Color.fromRgbQuarters r4 g4 b4 = Color.fromTriplet ⟨r, g, b⟩) := by
  refine ⟨(wfColor_iff.mp (fromTriplet_wf (T := T) v hr hg hb)).2,
    (wfColor_iff.mp (rgb_color_wf (T := T) v r g b hr hg hb)).2, ?_⟩
  intro r4 g4 b4 e1 e2 e3
  simp [Color.fromRgbQuarters, e1, e2, e3]

/-- Every colour the public constructors make from in-range arguments (and every table name) is
well-formed: white-space free and parsed back from its own name. -/
theorem made_color_wf (T : StrTables) [T.Lawful] (v : StyleVariant) (c : Color) (h : MadeColor c) :
    wfColorT T v c = true ∧ Color.parseT T v c.name = .ok c :=
  ⟨h.wf v, (wfColor_iff.mp (h.wf (T := T) v)).2⟩

/-- **All routes from a constructor-made colour to a one-colour style agree**: `Style(color=c)`,
`Style(color=c.name)`, `Style.parse(c.name)`, `Style.from_color(c)` are the same style, with the same
stored hash key; likewise for the background with `on`, and `background_style` of any style with that
background. -/
theorem made_color_routes_agree (T : StrTables) [T.Lawful] (v : StyleVariant) (hv : v.fromColorHash = false)
    (c : Color) (h : MadeColor c) :
    let fg := onlyColor c true
    let bg := onlyColor c false
    initT T v (some (.color c)) none [] none = .ok fg ∧ initT T v (some (.str c.name)) none [] none = .ok fg ∧
    parseT T v c.name = .ok fg ∧ fromColor v (some c) none = fg ∧
    initT T v none (some (.color c)) [] none = .ok bg ∧ initT T v none (some (.str c.name)) [] none = .ok bg ∧
    parseT T v (cl! "on " ++ c.name) = .ok bg ∧ fromColor v none (some c) = bg ∧
    (∀ s : Style, s.bgcolor = some c → backgroundStyleT T v s = .ok bg) :=
  have hw := h.wf (T := T) v
  have hc := init_only (T := T) (v := v) (x := .color c) rfl kwSet_nil
  have hn := init_only (x := .str c.name) (wfColor_iff.mp hw).2 kwSet_nil
  ⟨hc.1, hn.1, (parse_color_word hw).1, (fromColor_only v hv c).1,
   hc.2, hn.2, (parse_color_word hw).2, (fromColor_only v hv c).2,
   fun _ hs => backgroundStyle_some T v hs⟩

/-- **Round trip for constructor-made colours**: every constructible style whose colours come from the
public colour constructors (in range) and whose link is `None` or one word has a `str()` that parses back to it. -/
theorem made_color_roundtrip (T : StrTables) [T.Lawful] (v : StyleVariant) (hv : v.updateLinkDef = false) (s : Style)
    (hr : Reachable v s) (hc : ∀ c, s.color = some c → MadeColor c) (hb : ∀ c, s.bgcolor = some c → MadeColor c)
    (hl : wfLinkT T s.link = true) : ∃ s', parseT T v (str s) = .ok s' ∧ eq s' s = true :=
  parse_str_roundtrip T v hv s hr
    (wf_iff.mpr ⟨hr.inv.attrs_sub, hr.inv.set_lt, fun c h => (hc c h).wf v, fun c h => (hb c h).wf v, hl⟩)

/-! ## Links -/

/-- **A link containing white space cannot round trip**, by construction of the grammar (`link` takes the
next word only): whatever `str()` of such a style parses to, its link differs.  This is why the round
trip is stated for `Style.wf` (link `None` or one non-empty word); any single word — upper case, `%`,
non-ASCII, of any length — is inside `wf` and is kept verbatim (`parse` does not lower-case the word after `link`). -/
theorem link_with_space_no_roundtrip (T : StrTables) [T.Lawful] (v : StyleVariant) (s s' : Style) (l : List Char)
    (hl : s.link = some l) (hsp : T.noSpace l = false) (d : List Char) (h : parseT T v d = .ok s') :
    s'.link ≠ s.link := by
  intro e
  have hw := (wf_iff.mp (parse_result_wf T v d s' h)).link
  rw [e, hl] at hw
  simp [wfLinkT, hsp] at hw

/-- Witness: `Style(link="a b")` prints as `link a b`, which parses — to the link `a` with `bold` on. -/
theorem link_two_words_witness :
    (match init StyleVariant.fixed none none [] (some (cl! "a b")) with
     | .ok s => some (str s, (parse StyleVariant.fixed (str s)).toOption.map (fun t => (t.link, t.attr 0, eq t s)))
     | .error _ => none) = some (cl! "link a b", some (some ['a'], some true, false)) := by
  decide +kernel

/-- The word after `link` is stored verbatim (no lower-casing), for every one-word link: `normalize` and
`str()` keep the letter case of a URL. -/
theorem link_word_verbatim (T : StrTables) [T.Lawful] (v : StyleVariant) (l : List Char) (hne : l ≠ [])
    (hns : T.noSpace l = true) :
    ∃ s', parseT T v (cl! "link " ++ l) = .ok s' ∧ s'.link = some l ∧ normalizeT T v (cl! "link " ++ l) = .ok (cl! "link " ++ l) := by
  let s : Style := { color := none, bgcolor := none, attributes := 0, setAttributes := 0, link := some l,
                     hash := ⟨none, none, some 0, some 0, some l⟩, isNull := false, styleDef := none }
  have hne' : l.isEmpty = false := by cases l <;> simp_all
  have hwf : wfT T v s = true := by simp [wfT, s, wfLinkT, hns, hne']
  have hrender : render s = cl! "link " ++ l := by
    cases l with
    | nil => exact absurd rfl hne
    | cons x r => simp [render, strElems, s, strTruthy, joinSpace]
  obtain ⟨s', h1, h2⟩ := parse_render_roundtrip T v s hwf
  exact ⟨s', hrender ▸ h1, (eq_iff.mp h2).2.2.2.2, hrender ▸ normalize_render (wf_iff.mp hwf)⟩

/-! ## The remaining public constructors -/

/-- `background_style` is `Style(bgcolor=self.bgcolor)`: constructible (so `eq_hash` covers it), only the
background set; with no background it is a `_null` style with the fields of `NULL_STYLE`. -/
theorem background_style_spec (T : StrTables) (v : StyleVariant) (s : Style) :
    ∃ t, backgroundStyleT T v s = .ok t ∧ Reachable v t ∧ t.bgcolor = s.bgcolor ∧ t.color = none ∧
      t.setAttributes = 0 ∧ t.link = none ∧ t.hashKey = t.fieldsKey ∧ t.isNull = s.bgcolor.isNone :=
  ⟨_, backgroundStyle_eq T v s, Reachable.init (backgroundStyle_eq T v s), rfl, rfl, rfl, rfl, rfl, rfl⟩

/-- `Style.pick_first(*values)` returns the first non-`None` value itself, and raises `ValueError` exactly
when there is none; `Style.combine` is `Style.chain`; `sum(styles, start)` is the left fold of `+`. -/
theorem pick_first_combine_sum (v : StyleVariant) (l : List (Option Style)) (start : Style) (ss : List Style) :
    (pickFirst l = match l.find? Option.isSome with
      | some (some s) => .ok s
      | _ => .error .valueError) ∧
    combine v ss = chain v ss ∧ sumFrom v start ss = ss.foldl (add v) start ∧
    chain v (start :: ss) = .ok (sumFrom v start ss) :=
  ⟨pickFirst_spec l, rfl, rfl, rfl⟩

/-- …and they stay inside the constructible styles, so `eq_hash`, the algebra and the round trip cover them. -/
theorem pick_first_sum_reachable (v : StyleVariant) (l : List (Option Style)) (start s : Style) (ss : List Style)
    (hl : ∀ x, some x ∈ l → Reachable v x) (h0 : Reachable v start) (hs : ∀ x ∈ ss, Reachable v x) :
    (pickFirst l = .ok s → Reachable v s) ∧ Reachable v (sumFrom v start ss) :=
  ⟨fun h => hl s (pickFirst_mem h), Reachable.foldl ss h0 hs⟩

/-- `transparent_background`: no background, or the default colour. -/
theorem transparent_background_spec (s : Style) :
    s.transparentBackground = true ↔ (s.bgcolor = none ∨ ∃ c, s.bgcolor = some c ∧ c.type = .default) := by
  unfold transparentBackground
  cases s.bgcolor with
  | none => simp
  | some c =>
    obtain ⟨n, ty, num, tr⟩ := c
    simp only [reduceCtorEq, false_or, Option.some.injEq, exists_eq_left']
    cases ty <;> decide

/-! ## Equal styles have equal hashes -/

/-- With the four hash repairs, every constructible style stores the hash of its own five compared fields. -/
theorem hash_from_fields (v : StyleVariant) (h1 : v.addHash = false) (h2 : v.fromColorHash = false)
    (h3 : v.withoutColorHash = false) (h4 : v.updateLinkHash = false) (s : Style) (hs : Reachable v s) :
    s.hashKey = s.fieldsKey :=
  hs.hashOk h1 h2 h3 h4

/-- **`a == b → hash(a) == hash(b)`** for every two styles, however each was constructed (keywords,
`from_color`, `parse`, `+`, `chain`/`combine`, `copy`, `update_link`, `without_color`, after `str()`),
by induction on the construction routes. -/
theorem eq_hash (v : StyleVariant) (h1 : v.addHash = false) (h2 : v.fromColorHash = false)
    (h3 : v.withoutColorHash = false) (h4 : v.updateLinkHash = false) (a b : Style)
    (ha : Reachable v a) (hb : Reachable v b) (h : eq a b = true) : a.hashKey = b.hashKey := by
  rw [hash_from_fields v h1 h2 h3 h4 a ha, hash_from_fields v h1 h2 h3 h4 b hb]
  exact fieldsKey_eq_of_eq h

/-- `chain` / `combine` stay inside the constructible styles (so `eq_hash` covers them). -/
theorem chain_reachable (v : StyleVariant) (l : List Style) (s : Style) (hl : ∀ x ∈ l, Reachable v x)
    (h : chain v l = .ok s) : Reachable v s := by
  cases l with
  | nil => cases h
  | cons first rest =>
    cases h
    exact Reachable.foldl rest (hl first (by simp)) (fun s hs => hl s (by simp [hs]))

/-! ## Witnesses: the defects found in the code as it stood (`StyleVariant.old`) -/

/-- Evaluate `k` on three keyword-built styles (they always build: no colour strings). -/
def with3 (kw1 kw2 kw3 : Kwargs) (l3 : Option (List Char)) (k : Style → Style → Style → Bool × Bool) : Option (Bool × Bool) :=
  match init StyleVariant.old none none kw1 none, init StyleVariant.old none none kw2 none, init StyleVariant.old none none kw3 l3 with
  | .ok a, .ok b, .ok c => some (k a b c)
  | _, _, _ => none

/-- F3: `Style(bold=True) + Style(italic=True) == Style(bold=True, italic=True)` but the stored hashes differ. -/
theorem old_add_hash_wrong :
    with3 [some true] [none, none, some true] [some true, none, some true] none
      (fun a b c => (eq (add StyleVariant.old a b) c, decide ((add StyleVariant.old a b).hashKey = c.hashKey))) = some (true, false) := by
  decide +kernel

/-- F4: `Style.from_color(None, None) == Style()` but the stored hashes differ (`None` vs `0` attributes). -/
theorem old_from_color_hash_wrong :
    eq (fromColor StyleVariant.old none none) Style.null = true ∧
    (fromColor StyleVariant.old none none).hashKey ≠ Style.null.hashKey := by
  decide +kernel

/-- F5: `Style.from_color(default).without_color == Style()` but it keeps the hash of the coloured style. -/
theorem old_without_color_hash_wrong :
    eq (withoutColor StyleVariant.old (fromColor StyleVariant.old (some defaultColor) none)) Style.null = true ∧
    (withoutColor StyleVariant.old (fromColor StyleVariant.old (some defaultColor) none)).hashKey ≠ Style.null.hashKey := by
  decide +kernel

/-- F6: `Style(bold=True).update_link("x") == Style(bold=True, link="x")` but it keeps the hash of the link-less style. -/
theorem old_update_link_hash_wrong :
    with3 [some true] [] [some true] (some ['x'])
      (fun a _ c => (eq (updateLink StyleVariant.old a (some ['x'])) c,
        decide ((updateLink StyleVariant.old a (some ['x'])).hashKey = c.hashKey))) = some (true, false) := by
  decide +kernel

/-- F26: after `str(s)`, `s.update_link("x")` still says `str() == "bold"`, which does not parse back
to it (the style is well-formed, so `parse_str_roundtrip` would apply with the repair). -/
theorem old_update_link_stale_str :
    with3 [some true] [] [] none
      (fun a _ _ =>
        let t := updateLink StyleVariant.old a.strTouch (some ['x'])
        (wf StyleVariant.old t && decide (str t = cl! "bold"),
         match parse StyleVariant.old (str t) with
         | .ok back => eq back t
         | .error _ => false)) = some (true, false) := by
  decide +kernel

/-- F30: `Style(link="")` is `_null`, so `NULL_STYLE + Style(link="")` is `NULL_STYLE`, whose link is
`None` — not `==` to `Style(link="")`; likewise `Style(link="").copy()`. -/
theorem old_empty_link_breaks_identity :
    (match init StyleVariant.old none none [] (some []) with
     | .ok a => some (eq (add StyleVariant.old Style.null a) a, eq a.copy a, a.isNull)
     | .error _ => none) = some (false, false, true) := by
  decide +kernel

/-! ## Non-vacuity: the hypotheses are met by concrete non-trivial values -/

/-- `bold not italic red on #0000ff link https://x.y` as a style: -/
def sample : Style :=
  { color := some { name := cl! "red", type := .standard, number := some 1 },
    bgcolor := some { name := cl! "#0000ff", type := .truecolor, triplet := some ⟨0, 0, 255⟩ },
    attributes := 1, setAttributes := 5, link := some (cl! "https://x.y"),
    hash := ⟨none, none, none, none, none⟩, isNull := false, styleDef := none }

example : wf StyleVariant.fixed sample = true := by decide +kernel
example : render sample = cl! "bold not italic red on #0000ff link https://x.y" := by decide +kernel
example : Reachable StyleVariant.fixed (add StyleVariant.fixed (fromColor StyleVariant.fixed (some defaultColor) none) Style.null) :=
  Reachable.add (Reachable.fromColor _ _) Reachable.null
example : StyleVariant.fixed.addHash = false ∧ StyleVariant.fixed.updateLinkDef = false := ⟨rfl, rfl⟩
example : (cl! "uu", 9) ∈ documentedAttrs := by decide +kernel
example : (cl! "grey37", 59) ∈ Gen.ansiColorNames := by decide +kernel
-- all code points: KELVIN SIGN lower-cases to `k`, ARABIC-INDIC / FULLWIDTH digits are `\d` digits, U+3000 is white space
example : (parseT StrTables.real StyleVariant.fixed (cl! "lin\u212a x on BLAC\u212a")).toOption.map
    (fun s => (s.link, s.bgcolor.map (·.name))) = some (some ['x'], some (cl! "black")) := by decide +kernel
example : (Color.parseT StrTables.real StyleVariant.fixed (cl! "\u3000rgb(\u0661,\uff12, 3)")).toOption.map (·.triplet) =
    some (some ⟨1, 2, 3⟩) := by decide +kernel
example : (parse StyleVariant.fixed (cl! "bold red")).toOption.map (fun s => (s.attr 0, s.attr 1)) = some (some true, none) := by
  decide +kernel

-- the hypotheses on constructor-made colours are met by concrete non-trivial values
example : MadeColor (Color.fromAnsi 16) := MadeColor.ansi (by decide)
example : MadeColor (Color.fromRgbQuarters 1023 67 0) := MadeColor.rgb (by decide) (by decide) (by decide)
example : (Color.fromAnsi 16).type = .eightBit ∧ (Color.fromAnsi 15).type = .standard := by decide +kernel
example : Color.tripletHex ⟨255, 15, 16⟩ = cl! "#ff0f10" := by decide +kernel
example : StrTables.ascii.noSpace (cl! "a b") = false ∧ StrTables.ascii.noSpace (cl! "HTTPS://X.y/%20") = true := by decide +kernel
example : pickFirst [none, some sample, some Style.null] = .ok sample := rfl

end RichModel.C06
