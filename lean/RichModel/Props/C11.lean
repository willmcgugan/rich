import RichModel.Lemmas.ConcDeadlock
import RichModel.Lemmas.ConcOut
import RichModel.Lemmas.ConcRecord
import RichModel.Lemmas.ConcStable
import RichModel.Lemmas.ConcCount
/-!
# C11 — Console output is thread-safe under every interleaving

Property theorems only.  The model is `Model/Conc.lean`: any number of threads, each running any program
over {print/log, capture, nested capture, export (clearing or not), update(+refresh), refresh, start, stop, advance,
a line written through the redirected stdout} on one
console with a Live or Progress display (or none); a schedule is any list of thread ids; one step = one atomic action (a lock
operation, one access to the shared display / hook list / record, one `file.write`, or a thread-local
statement).  All theorems quantify over **every** schedule, every number of threads, every program.

`Reach cfg sh progs s`: `s` is reached by some schedule from the state where the threads
`0 … progs.length - 1` are about to start their programs on the shared state `sh`; `Fresh sh`: no lock is held and nothing is
written yet.

Locks nest in one order only: `live` (Live._lock / Progress._lock) < `console` (Console._lock) <
`record` (Console._record_buffer_lock) — `lock_order_acyclic`.

Finding F22 (print computes its erase sequence before another thread changes the frame height): no small
repair exists, so `live_screen_under_schedules_partial` is stated for sessions whose frames all have one
height, and `old_print_vs_taller_refresh_breaks_screen` is the machine-checked witness schedule for the
general statement (kept visible below).

One variant flag, `Cfg.stopTailUnlocked` (harness constant `STOP_TAIL_UNLOCKED`, value 1): `true` = the
`Progress.stop` of rich 9.10.0 as found, which /repo still has (known finding `progress-stop-tail-vs-start`, not
repaired); `old_progress_stop_tail_races_start` is its witness schedule.  Every other theorem is stated for
an arbitrary `cfg`, i.e. for both values of the flag.

The operation `Op.proxyPrint` (a `write()` on the redirected `sys.stdout` / `sys.stderr` that completes lines:
`with console: console.print(lines)`) is part of the program type, so every theorem below covers threads that write through the
`FileProxy` of a running display (in `StableOp` too: the screen theorem covers them).  `write_calls_per_operation` /
`at_most_one_write_call_per_print` bound the number of `file.write` CALLS, not only where the pieces end up.
-/
namespace RichModel.C11
open RichModel RichModel.Screen RichModel.Conc
open RichModel.Live (Line Frame Shown region shown_rows)

/-- `s` is reachable from the initial state by some schedule. -/
def Reach (cfg : Cfg) (sh : Shared) (progs : List (List Op)) (s : State) : Prop :=
  ∃ sched : List Nat, s = run cfg (initState sh progs) sched

/-- The shared state before any thread runs: no lock owned, nothing written. -/
structure Fresh (sh : Shared) : Prop where
  free : ∀ lk, sh.owner lk = none
  file : sh.file = []
  record : sh.record = []

theorem reach_inv {cfg : Cfg} {sh : Shared} {progs : List (List Op)} {s : State} (hf : Fresh sh)
    (hr : Reach cfg sh progs s) : Inv cfg s := by
  obtain ⟨sched, rfl⟩ := hr
  exact inv_run sched (inv_init sh progs hf.free)

theorem reach_out {cfg : Cfg} {sh : Shared} {progs : List (List Op)} {s : State} (hf : Fresh sh)
    (hr : Reach cfg sh progs s) : OutInv s := by
  obtain ⟨sched, rfl⟩ := hr
  exact out_run sched (inv_init sh progs hf.free) (out_init sh progs hf.file)

theorem reach_rec {cfg : Cfg} (hrec : cfg.record = true) {sh : Shared} {progs : List (List Op)} {s : State}
    (hf : Fresh sh) (hx : sh.exports = []) (hr : Reach cfg sh progs s) : RecAll s := by
  obtain ⟨sched, rfl⟩ := hr
  exact rec_run hrec sched (inv_init sh progs hf.free) (rec_init sh progs hf.free hf.file hf.record hx)

/-- **lock_order_acyclic.**  In every reachable state a thread that is about to acquire a lock either holds
that lock already (re-entrant) or holds only locks of strictly lower rank (live < console < record): the
lock acquisition graph has no cycle. -/
theorem lock_order_acyclic (cfg : Cfg) (sh : Shared) (progs : List (List Op)) (hf : Fresh sh) (s : State)
    (hr : Reach cfg sh progs s) (t : Nat) (g : Guard) (lk : Lock) (r : List GAct)
    (hc : (s.th t).cont = ⟨g, .acq lk⟩ :: r) (hg : guardOn cfg (s.th t).depth (s.th t).hooked g = true) :
    lk ∈ (s.th t).held ∨ ∀ h ∈ (s.th t).held, h.rank < lk.rank :=
  sim_acq (a := (s.th t).abs) hg (hc ▸ (reach_inv hf hr).sim t)

/-- **no_deadlock.**  Under every schedule: as long as some thread has not finished its program, some
thread can perform a step (no state in which every unfinished thread waits for a lock). -/
theorem no_deadlock (cfg : Cfg) (sh : Shared) (progs : List (List Op)) (hf : Fresh sh) (s : State)
    (hr : Reach cfg sh progs s) (hun : ∃ t, (s.th t).done = false) : ∃ t, (stepT cfg s t).isSome = true :=
  progress (reach_inv hf hr) hun

/-- No thread ever performs an action Python would answer with an internal error (releasing a lock it does
not hold, leaving a buffer context it did not enter). -/
theorem no_internal_error (cfg : Cfg) (sh : Shared) (progs : List (List Op)) (hf : Fresh sh) (s : State)
    (hr : Reach cfg sh progs s) (t : Nat) : (s.th t).fault = false :=
  (reach_inv hf hr).nofault t

/-- **write_mutual_exclusion.**  Two threads that are both inside a flush (about to append to the record or
to call `file.write`) are the same thread: flushes never overlap. -/
theorem write_mutual_exclusion (cfg : Cfg) (sh : Shared) (progs : List (List Op)) (hf : Fresh sh) (s : State)
    (hr : Reach cfg sh progs s) (t u : Nat) (gt gu : Guard) (at_ au : Act) (rt ru : List GAct)
    (hat : at_ = .write ∨ at_ = .recAppend) (hau : au = .write ∨ au = .recAppend)
    (hct : (s.th t).cont = ⟨gt, at_⟩ :: rt) (hgt : guardOn cfg (s.th t).depth (s.th t).hooked gt = true)
    (hcu : (s.th u).cont = ⟨gu, au⟩ :: ru) (hgu : guardOn cfg (s.th u).depth (s.th u).hooked gu = true) : t = u := by
  have inv := reach_inv hf hr
  exact inv.mutex (sim_console (a := (s.th t).abs) hat hgt (hct ▸ inv.sim t))
    (sim_console (a := (s.th u).abs) hau hgu (hcu ▸ inv.sim u))

/-- **write_per_print (1): a write is one thread's, one operation's.**  Every `file.write` call consists of
pieces produced by the writing thread during one and the same operation: the output of a print is never
interleaved with another thread's, and never merged with another call's. -/
theorem write_own_output_only (cfg : Cfg) (sh : Shared) (progs : List (List Op)) (hf : Fresh sh) (s : State)
    (hr : Reach cfg sh progs s) (w : Write) (hw : w ∈ s.sh.file) (x : Item) (hx : x ∈ w.items) :
    x.tid = w.tid ∧ x.op = w.op :=
  (reach_out hf hr).ownW w hw x hx

/-- **write_per_print (2): exactly once.**  Every non-empty piece of output a thread has produced (the
rendering of a print is one piece) is, at every moment of every schedule, in exactly one place exactly
once: in one `file.write` of that thread, in the result of one of that thread's capture blocks, or still in
that thread's buffer. -/
theorem output_exactly_once (cfg : Cfg) (sh : Shared) (progs : List (List Op)) (hf : Fresh sh) (s : State)
    (hr : Reach cfg sh progs s) (t : Nat) (x : Item) (hx : x ∈ (s.th t).emitted) (hne : nonEmpty x = true) :
    (written s t ++ capturedItems (s.th t) ++ (s.th t).buffer).count x = 1 := by
  have o := reach_out hf hr
  rw [o.count_eq t hne, (o.nodup_emitted t).count, if_pos hx]

/-- **write_per_print (3): nothing is left behind.**  A thread that has finished its program has an empty
buffer: every non-empty piece it produced is in one of its writes or in one of its capture results. -/
theorem finished_thread_flushed (cfg : Cfg) (sh : Shared) (progs : List (List Op)) (hf : Fresh sh) (s : State)
    (hr : Reach cfg sh progs s) (t : Nat) (hd : (s.th t).done = true) : (s.th t).buffer = [] := by
  simp only [Local.done, Bool.and_eq_true, List.isEmpty_iff] at hd
  exact (reach_inv hf hr).idle_buffer hd.1

/-- **write_per_print.**  Under every schedule, once a thread has finished: every non-empty piece of output it
produced (the rendering of one print / log call is one piece) occurs exactly once in that thread's writes and
capture results together; and any `file.write` that contains it was issued by that thread and consists only
of pieces of that thread from the same operation — the print reached the file contiguously, in one write
call, once, unmixed. -/
theorem write_per_print (cfg : Cfg) (sh : Shared) (progs : List (List Op)) (hf : Fresh sh) (s : State)
    (hr : Reach cfg sh progs s) (t : Nat) (hd : (s.th t).done = true) (x : Item) (hx : x ∈ (s.th t).emitted)
    (hne : nonEmpty x = true) :
    (written s t ++ capturedItems (s.th t)).count x = 1 ∧
    ∀ w ∈ s.sh.file, x ∈ w.items → w.tid = t ∧ ∀ y ∈ w.items, y.tid = t ∧ y.op = x.op := by
  have h1 := output_exactly_once cfg sh progs hf s hr t x hx hne
  rw [finished_thread_flushed cfg sh progs hf s hr t hd, List.append_nil] at h1
  exact ⟨h1, fun w => (reach_out hf hr).write_of_emitted hx⟩

/-- **capture_isolated.**  What a capture block of thread `t` returns consists of pieces produced by `t`
only: it never contains a piece any other thread produced.  (And it never swallows one: every piece of
another thread `u` is accounted for, exactly once, in `u`'s own writes / captures / buffer —
`output_exactly_once`.) -/
theorem capture_isolated (cfg : Cfg) (sh : Shared) (progs : List (List Op)) (hf : Fresh sh) (s : State)
    (hr : Reach cfg sh progs s) (t : Nat) (c : List Item) (hc : c ∈ (s.th t).captured) (x : Item) (hx : x ∈ c) :
    x.tid = t ∧ ∀ u, u ≠ t → x ∉ (s.th u).emitted := by
  have o := reach_out hf hr
  have h1 := o.ownC t c hc x hx
  exact ⟨h1, fun u hu hmem => hu ((o.ownE u x hmem).symm.trans h1)⟩

/-- **record_order_eq_file_order.**  With recording on, under every schedule — threads may call
`export_text` / `export_html` (clearing or not) at any time — what the clearing exports returned so far (in
the order of their critical sections) followed by the current record is, piece for piece and in the same
order, what is in the file; plus, while some thread is between its record append and its `file.write` (it
then holds the console lock), that thread's buffer at the end. -/
theorem record_order_eq_file_order (cfg : Cfg) (hrec : cfg.record = true) (sh : Shared) (progs : List (List Op))
    (hf : Fresh sh) (hx : sh.exports = []) (s : State) (hr : Reach cfg sh progs s) :
    (exportsItems s ++ s.sh.record).filter nonEmpty = (fileItems s ++ pend s).filter nonEmpty :=
  (reach_rec hrec hf hx hr).ri

/-- **exports_partition_the_record.**  For every schedule, whenever no flush is in progress (the console lock
is free): the concatenation of what all clearing exports returned, plus the record as it is now, equals what
was written to the file, in file order — nothing is lost between an exporter's read and its clear, nothing
appears in two exports. -/
theorem exports_partition_the_record (cfg : Cfg) (hrec : cfg.record = true) (sh : Shared) (progs : List (List Op))
    (hf : Fresh sh) (hx : sh.exports = []) (s : State) (hr : Reach cfg sh progs s) (hq : s.sh.owner .console = none) :
    (s.sh.exports.flatMap (·.2) ++ s.sh.record).filter nonEmpty = (fileItems s).filter nonEmpty := by
  have := record_order_eq_file_order cfg hrec sh progs hf hx s hr
  simpa [pend, hq, exportsItems] using this

/-- A thread in the middle of an export holds the record lock and what it has read is still the record: no
print can slip in between an exporter's read and its clear. -/
theorem export_reads_a_stable_record (cfg : Cfg) (hrec : cfg.record = true) (sh : Shared) (progs : List (List Op))
    (hf : Fresh sh) (hx : sh.exports = []) (s : State) (hr : Reach cfg sh progs s) (t : Nat)
    (hxr : (s.th t).xread = true) : Lock.record ∈ (s.th t).held ∧ (s.th t).xcopy = s.sh.record :=
  have x := (reach_rec hrec hf hx hr).x
  ⟨x.held t hxr, x.copy t hxr⟩

/-- As long as no clearing export has finished (`s.sh.exports = []`) and whenever no flush is in progress the record *is* the file. -/
theorem record_eq_file_when_quiet (cfg : Cfg) (hrec : cfg.record = true) (sh : Shared) (progs : List (List Op))
    (hf : Fresh sh) (hx : sh.exports = []) (s : State) (hr : Reach cfg sh progs s) (hq : s.sh.owner .console = none)
    (hnone : s.sh.exports = []) :
    s.sh.record.filter nonEmpty = (fileItems s).filter nonEmpty := by
  have := exports_partition_the_record cfg hrec sh progs hf hx s hr hq
  simpa [hnone] using this

/-- A constant-height session: the display is installed, what it recorded and what it will render have `h`
rows, and the threads only print / log, refresh, and update to renderables of `h` rows (no thread starts
or stops the display). -/
structure ConstHeight (cfg : Cfg) (h : Nat) (sh : Shared) (progs : List (List Op)) : Prop where
  kind : cfg.kind = .live
  fits : h ≤ cfg.height
  screen : 1 ≤ cfg.height
  free : ∀ lk, sh.owner lk = none
  hooked : 0 < sh.hooks
  shape : ∃ w, sh.shape = some (w, h)
  rend : sh.renderable.length = h
  ops : ∀ t, ∀ op ∈ progs.getD t [], StableOp h op = true

/- FULL STATEMENT (not provable for the code in /repo, which is rich 9.10.0 as found in this respect: known findings
`live-print-vs-*`, not repaired — see the witness below): the same conclusion for every
session, i.e. without `ConstHeight.shape / rend / ops` (frames of any height, threads may start and stop
the display).  It fails because `Console.print` computes `position_cursor()` from `_shape` inside
`process_renderables`, renders, and writes later, outside the live lock; a write of another thread in
between that changes the displayed height makes the erase count stale.  A repair has to keep the live lock
from `process_renderables` until after `file.write` (the RenderHook API has no such bracket): not small. -/

/-- **live_screen_under_schedules_partial.**  Constant-height sessions, every schedule: replaying the file
in the order the writes reached it shows what was on the screen before (`P0`, then the frame `F0`), with
the lines printed since (in file order) appended to `P0`, followed by the frame of the last write — no
remnant of an older frame, no printed line erased.  This is C10's `live_screen` for the file order. -/
theorem live_screen_under_schedules_partial (cfg : Cfg) (h : Nat) (sh : Shared) (progs : List (List Op))
    (hc : ConstHeight cfg h sh progs) (P0 : List Line) (F0 : Frame) (k0 : Nat)
    (hshown : Shown (replay cfg.height Screen.init (writesOps sh.file)) P0 F0 k0) (hF0 : F0.length = h)
    (hroom : (region F0).length + k0 ≤ cfg.height) (sched : List Nat) :
    ∃ ws k, (run cfg (initState sh progs) sched).sh.file = sh.file ++ ws ∧
      (replay cfg.height Screen.init (fileOps (run cfg (initState sh progs) sched))).rows =
        P0 ++ printedOf ws ++ lastFrameOf F0 ws ++ List.replicate k [] :=
  (stb_run hc.kind hc.fits sched (stb_init ⟨hc.hooked, hc.shape, hc.rend⟩ hc.ops)).rows hc.screen hc.fits hshown hF0 hroom

/-! ## Witness: the general statement fails for the code in /repo (finding F22 = known findings `live-print-vs-*`, not repaired) -/

def cfgW : Cfg := { kind := .live, width := 20, height := 8, record := false, transient := false }

/-- thread 0 starts and refreshes a 2-line display; thread 1 prints `a`; thread 2 updates to 4 lines and refreshes -/
def progsW : List (List Op) :=
  [[.start, .refresh], [.print [['a']]], [.update [['H', '1'], ['H', '2'], ['H', '3'], ['H', '4']] true]]

def shW : Shared := { renderable := [['G', '1'], ['G', '2']] }

/-- Thread 0 runs to completion; thread 1 performs six steps (load, enter, read the hook list, take the live
lock, `position_cursor()` = erase 2 rows, release); thread 2 runs to completion (the frame on screen now has
4 rows); thread 1 finishes (renders the 4-row frame, writes). -/
def schedW : List Nat := List.replicate 60 0 ++ List.replicate 6 1 ++ List.replicate 60 2 ++ List.replicate 40 1

/-- **F22.**  Under `schedW` the delayed write erases only 2 of the 4 rows on display: the screen ends as
`H1 H2 | a | H1 H2 H3 H4` — a remnant of the old frame above the printed line — although every thread has
finished and the file order says: printed `a`, last frame `H1 … H4`. -/
theorem old_print_vs_taller_refresh_breaks_screen :
    let s := run cfgW (initState shW progsW) schedW
    (replay 8 Screen.init (fileOps s)).rows =
      [['H', '1'], ['H', '2'], ['a'], ['H', '1'], ['H', '2'], ['H', '3'], ['H', '4']] ∧
    printedOf s.sh.file = [['a']] ∧
    lastFrameOf [] s.sh.file = [['H', '1'], ['H', '2'], ['H', '3'], ['H', '4']] ∧
    ((List.range 3).all fun t => (s.th t).done) = true := by
  decide +kernel

set_option maxRecDepth 100000 in
/-- The same threads under a schedule without that preemption: the screen is right. -/
example :
    (replay 8 Screen.init (fileOps (run cfgW (initState shW progsW)
        (List.replicate 60 0 ++ List.replicate 60 1 ++ List.replicate 60 2)))).rows =
      [['a'], ['H', '1'], ['H', '2'], ['H', '3'], ['H', '4']] := by
  decide +kernel

/-! ## Witness: `Progress.stop` finishes outside its lock (known finding `progress-stop-tail-vs-start`, not repaired: /repo still does this) -/

def cfgP (tailUnlocked : Bool) : Cfg :=
  { kind := .progress, width := 20, height := 8, record := false, transient := true, stopTailUnlocked := tailUnlocked }

def shP : Shared :=
  { tasks := [{ id := 0, desc := ['a'], completed := 0, total := 9, visible := true }],
    renderable := Live.tasksTable cw1 [{ id := 0, desc := ['a'], completed := 0, total := 9, visible := true }] }

/-- thread 0 starts and stops a transient Progress, thread 1 calls `start()` -/
def progsP : List (List Op) := [[.start, .stop], [.start]]

/-- thread 0 runs until `stop()` has released the progress lock (82 steps), thread 1 runs `start()` to completion,
thread 0 finishes `stop()` (transient erase, `_shape = None`), thread 1 gets further turns (it has none left to use). -/
def schedP : List Nat := List.replicate 82 0 ++ List.replicate 80 1 ++ List.replicate 20 0 ++ List.replicate 80 1

/-- The code in /repo (`stopTailUnlocked = true`, as in rich 9.10.0 as found; known finding `progress-stop-tail-vs-start`): the restarted display is drawn on the row below the one `stop()` then
erases, and `stop()`'s late `_shape = None` makes the display forget the frame it has on screen — the screen ends as a
blank row followed by the frame, with no recorded shape although the display is started. -/
theorem old_progress_stop_tail_races_start :
    let s := run (cfgP true) (initState shP progsP) schedP
    (replay 8 Screen.init (fileOps s)).rows = [[], ['a', ' ', '0', '/', '9']] ∧ s.sh.shape = none ∧ s.sh.started = true ∧
      ((List.range 2).all fun t => (s.th t).done) = true := by
  decide +kernel

set_option maxRecDepth 100000 in
/-- The repaired `stop()` (erase and reset before the lock is released), same schedule: thread 1 waits for the lock,
the old display is gone before the new one is drawn, and the shape of the frame on screen is recorded. -/
example :
    let s := run (cfgP false) (initState shP progsP) schedP
    (replay 8 Screen.init (fileOps s)).rows = [['a', ' ', '0', '/', '9'], []] ∧ s.sh.shape = some (5, 1) ∧ s.sh.started = true ∧
      ((List.range 2).all fun t => (s.th t).done) = true := by
  decide +kernel

/-! ## Exports under schedules: a concrete run -/

set_option maxRecDepth 100000 in
/-- Two printing threads and a thread exporting twice with `clear=True`; the first export is preempted between its
read and its clear while thread 2 prints `c` (which therefore has to wait for the record lock): the two exports and the
final record partition the three writes. -/
example :
    let cfg : Cfg := { kind := .none, width := 20, height := 8, record := true, transient := false }
    let s := run cfg (initState {} [[.print [['a']], .print [['b']]], [.export true, .export true], [.print [['c']]]])
      (List.replicate 14 0 ++ List.replicate 3 1 ++ List.replicate 20 2 ++ List.replicate 2 1 ++ List.replicate 20 2 ++ List.replicate 20 0 ++ List.replicate 10 1)
    (s.sh.exports.map (fun e => (e.1, itemsOps e.2))) = [(1, [.text ['a'], .lf]), (1, [.text ['c'], .lf, .text ['b'], .lf])] ∧
      s.sh.record = [] ∧ itemsOps (fileItems s) = [.text ['a'], .lf, .text ['c'], .lf, .text ['b'], .lf] := by
  decide +kernel

/-! ## The number of `file.write` calls -/

/-- **write_calls_per_operation.**  Under every schedule, at every moment: the number of `file.write` calls thread `t` has
issued during its `i`-th operation is at most the number of `file.write` statements in the code of that operation
(0 for an operation that does not exist). -/
theorem write_calls_per_operation (cfg : Cfg) (sh : Shared) (progs : List (List Op)) (hf : Fresh sh) (s : State)
    (hr : Reach cfg sh progs s) (t i : Nat) : writesOf s t i ≤ budget cfg progs t i := by
  obtain ⟨sched, rfl⟩ := hr
  exact Nat.le_trans (Nat.le_add_right _ _)
    ((inv_induction wc_step sched (inv_init sh progs hf.free) (wc_init cfg sh progs hf.file)).cnt t i)

/-- **at_most_one_write_call_per_print.**  A `print` / `log` — with or without a display, whatever the other threads do —
issues at most one `file.write` call.  (Together with `write_per_print`: the one non-empty piece the print rendered is in
exactly one write of that thread; so a finished print with non-empty output made exactly one call.) -/
theorem at_most_one_write_call_per_print (cfg : Cfg) (sh : Shared) (progs : List (List Op)) (hf : Fresh sh) (s : State)
    (hr : Reach cfg sh progs s) (t i : Nat) (ls : List Line) (hop : opAt progs t i = some (.print ls)) :
    writesOf s t i ≤ 1 := by
  have h := write_calls_per_operation cfg sh progs hf s hr t i
  simpa [budget, hop, nWrites_print] using h

set_option maxRecDepth 100000 in
/-- Two printing threads under a display-less console, alternating step by step: each print made exactly one call. -/
example :
    let cfg : Cfg := { kind := .none, width := 20, height := 8, record := true, transient := false }
    let progs : List (List Op) := [[.print [['a']], .print [['b']]], [.print [['c']]]]
    let s := run cfg (initState {} progs) ((List.range 120).map (· % 2))
    opAt progs 0 1 = some (.print [['b']]) ∧ writesOf s 0 0 = 1 ∧ writesOf s 0 1 = 1 ∧ writesOf s 1 0 = 1 ∧ writesOf s 1 1 = 0 := by
  decide +kernel

set_option maxRecDepth 100000 in
/-- Nested capture blocks at different buffer offsets in two threads (`Op.nested`: the inner block starts with a non-empty
buffer; thread 1 first runs a plain capture, so its blocks start at other offsets), alternating step by step: every block
returns its own thread's pieces only — the instance of `capture_isolated` for the nested op type. -/
example :
    let cfg : Cfg := { kind := .none, width := 20, height := 8, record := false, transient := false }
    let progs : List (List Op) := [[.nested [['a']] [['b']] [['c']]], [.capture [[['x']], [['y']]], .nested [['p'], ['q']] [['r']] [['s']]]]
    let s := run cfg (initState {} progs) ((List.range 400).map (· % 2))
    (s.th 0).captured.map itemsOps = [[.text ['b'], .lf], [.text ['a'], .lf, .text ['c'], .lf]] ∧
    (s.th 1).captured.map itemsOps = [[.text ['x'], .lf, .text ['y'], .lf], [.text ['r'], .lf],
        [.text ['p'], .lf, .text ['q'], .lf, .text ['s'], .lf]] ∧ s.sh.file = [] := by
  decide +kernel

/-! ## Non-vacuity -/

/-- A constant-height session that meets every hypothesis of `live_screen_under_schedules_partial`: the
display shows `G1 G2` (state after `start; refresh`), three threads print, refresh and update to another
2-line frame. -/
def shC : Shared :=
  { renderable := [['G', '1'], ['G', '2']], shape := some (2, 2), hooks := 1, started := true,
    file := [⟨0, 0, [⟨0, 0, 0, .ctl [.hideCursor] true⟩]⟩,
             ⟨0, 1, [⟨0, 1, 1, .pos none⟩, ⟨0, 1, 2, .ctl [] true⟩, ⟨0, 1, 3, .frame [['G', '1'], ['G', '2']]⟩]⟩] }

def progsC : List (List Op) :=
  [[.print [['a']], .refresh], [.update [['H', '1'], ['H', '2']] true], [.print [['b'], ['c']]]]

example : ConstHeight cfgW 2 shC progsC := by
  refine ⟨rfl, by decide, by decide, fun _ => rfl, by decide, ⟨2, rfl⟩, rfl, ?_⟩
  intro t op hop
  match t with
  | 0 | 1 | 2 => revert op; decide
  | n + 3 => simp [progsC] at hop

example : Shown (replay cfgW.height Screen.init (writesOps shC.file)) [] [['G', '1'], ['G', '2']] 0 :=
  ⟨by decide, by decide, by decide⟩

set_option maxRecDepth 100000 in
/-- …and one of its schedules, with the screen the theorem predicts. -/
example :
    (replay 8 Screen.init (fileOps (run cfgW (initState shC progsC)
        (List.replicate 6 0 ++ List.replicate 40 2 ++ List.replicate 12 1 ++ List.replicate 80 1 ++ List.replicate 80 0)))).rows =
      [['b'], ['c'], ['a'], ['H', '1'], ['H', '2']] := by
  decide +kernel

/-- The hypothesis `Fresh` of the general theorems is met by the default shared state. -/
example : Fresh ({} : Shared) := ⟨fun _ => rfl, rfl, rfl⟩

set_option maxRecDepth 100000 in
/-- Two threads write whole lines through the redirected `sys.stdout` under a running Live (state after `start; refresh`),
alternating step by step: one `file.write` call each, each consisting of that thread's pieces only. -/
example :
    let progs : List (List Op) := [[.proxyPrint [['a', 'a', 'a']]], [.proxyPrint [['b', 'b', 'b']]]]
    let s := run cfgW (initState shC progs) ((List.range 200).map (· % 2))
    (s.sh.file.drop 2).map (fun w => (w.tid, w.items.map (·.tid))) = [(1, [1, 1, 1]), (0, [0, 0, 0])] ∨
    (s.sh.file.drop 2).map (fun w => (w.tid, w.items.map (·.tid))) = [(0, [0, 0, 0]), (1, [1, 1, 1])] := by
  decide +kernel

end RichModel.C11
