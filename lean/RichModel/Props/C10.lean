import RichModel.Lemmas.LiveMain
import RichModel.Lemmas.LiveCtl
import RichModel.Lemmas.LiveText
import RichModel.Lemmas.LiveWrite
import RichModel.Lemmas.TermStyle
import RichModel.Lemmas.LiveCrop
/-!
# C10 — Live and progress displays leave a correct screen after any history

Property theorems, with the configurations of their witnesses and examples.  The model is `Model/Live.lean` (state machine of `rich/live.py`,
`rich/live_render.py`, `rich/progress.py`, `rich/status.py`) writing to the terminal of `Model/Term.lean`
(a window of `height` rows over an unbounded scroll-back).  Histories have no bound on their length, on
the number / width of lines, on the screen size.

`wf cfg ov r0 h` (decidable, `Model/Live.lean`): the screen has at least one row; every operation belongs
to the display kind and raises nothing; `stop` occurs only as the last operation; every frame put on
display fits the screen (`shown_fits_of_crop` below: automatic for `crop` / `ellipsis`; the documentation
says a `visible` frame taller than the screen "cannot be properly cleared"); a transient display leaves
one free row for the line feed `stop` writes before erasing; the console is a terminal that is not dumb
and the display is not disabled (`Cfg.plain`).  Histories include `Op.write`: writes to the redirected
`sys.stdout` / `sys.stderr` with any number of new lines and an unterminated rest, on both streams.  There is
NO hypothesis about text pending in the streams when `stop` is called: the repaired `stop`
(`flushFix = true`, fix 4c3921f) prints it — stdout's, then stderr's — right below everything printed so far
and above the last frame (`pendLines` in `viewStop` / `viewStopM`); `flushFits` in `wf` only asks that the
frames redrawn by those two prints fit the screen like any other frame.

The screen theorems are about the code with the argument-less `print()` routed through the render
hooks (`bareBypass = false`); `old_bare_print_leaves_remnant` is the machine-checked witness that rich 9.10.0
as found, before fix b373465 (`bareBypass = true`), breaks them.  Likewise `cleanup_on_exception` needs the guarded
`Progress.start` (`Cfg.guards`: `startGuard = true`, fix 4e4f7e5, and — when the injected exception derives from
BaseException only, `faultBase` — `guardBase = true`, fix fc3f517); `old_progress_start_leaks` and
`old_start_guard_misses_base_exception` are the witnesses for the as-found code and for the first guard.
`live_screen` speaks about one session (`stop` last); `live_screen_sessions` / `cursor_never_above_region_sessions`
are the same statements for any number of sessions on the same display object (`wfM`: `stop` anywhere) and need the
repaired `stop` (`resetShape = true`); what goes wrong when a stopped display is started
again with the as-found `stop` (before fix b4577f9) is witnessed by `old_restart_erases_printed_lines`
(`resetShape = false`).  /repo contains all seven repairs: `bareBypass = false` (fix b373465), `startGuard = true`
(4e4f7e5), `resetShape = true` (b4577f9), `blankFix = true` (bd10e80), `flushFix = true` (4c3921f), `guardBase = true`
(fc3f517), `disableFix = true` (363ded9) — the values the harness passes; every `old_…` theorem below is the
machine-checked witness for the as-found value of one of these flags.  Still open (known finding, no small repair): a
transient display whose last frame fills the screen, `transient_frame_filling_screen_leaves_remnant`, the case `wf` excludes.
-/
namespace RichModel.C10
open RichModel RichModel.Screen RichModel.Live

/-- **live_screen.**  After *any* well-formed history, replaying everything the display wrote on a fresh
terminal leaves exactly: the printed lines in order, then the most recently refreshed frame (nothing
after a transient stop), then blank rows only — no remnant of an earlier frame, no printed line lost.
Rows are rows of terminal cells: `cells cfg.cw l` is the line `l` with a filler cell after every
double-width character (the identity when every character is one cell wide). -/
theorem live_screen (cfg : Cfg) (ov : Live.Overflow) (r0 : Frame) (h : List Op)
    (hfix : cfg.bareBypass = false) (hflush : cfg.flushFix = true) (hwf : wf cfg ov r0 h = true) :
    ∃ k, (replay cfg.height Screen.init (emit cfg ov r0 h)).rows =
      (printed cfg ov r0 h ++ lastFrame cfg ov r0 h).map (cells cfg.cw) ++ List.replicate k [] := by
  obtain ⟨hp, hH, hw⟩ := wf_iff.1 hwf
  exact (history_main hp hfix hflush hH h _ _ _ (good_init cfg ov r0 hH) (bufOk_init ov r0) hw).1

/-- **live_screen_sessions** (any number of sessions on the same display object).  For every history in
which `start` / `stop` may occur anywhere — a stopped display started again, prints between the sessions —
with the repaired `stop` (`resetShape = true`: the recorded shape is forgotten and `vertical_overflow`
restored): the screen shows exactly the finished output (printed lines and the frames left by the stopped
non-transient sessions, in order; `finished`), then the frame of the session still running
(`liveFrameOf`, `[]` if none), then blank rows only.  `wfM` is `wf` with `stop` allowed anywhere. -/
theorem live_screen_sessions (cfg : Cfg) (ov : Live.Overflow) (r0 : Frame) (h : List Op)
    (hfix : cfg.bareBypass = false) (hflush : cfg.flushFix = true) (hreset : cfg.resetShape = true)
    (hwf : wfM cfg ov r0 h = true) :
    ∃ k, (replay cfg.height Screen.init (emit cfg ov r0 h)).rows =
      (finished cfg ov r0 h ++ liveFrameOf cfg ov r0 h).map (cells cfg.cw) ++ List.replicate k [] := by
  obtain ⟨hp, hH, hw⟩ := wfM_iff.1 hwf
  exact (history_multi hp hfix hflush hreset hH h _ _ _ (good_init cfg ov r0 hH) (bufOk_init ov r0) hw).1.rows

/-- …and during all of it the cursor never goes above the first row under the finished output. -/
theorem cursor_never_above_region_sessions (cfg : Cfg) (ov : Live.Overflow) (r0 : Frame) (h : List Op)
    (hfix : cfg.bareBypass = false) (hflush : cfg.flushFix = true) (hreset : cfg.resetShape = true)
    (hwf : wfM cfg ov r0 h = true) :
    AboveRegionM cfg (initSt ov r0) {} Screen.init h := by
  obtain ⟨hp, hH, hw⟩ := wfM_iff.1 hwf
  exact (history_multi hp hfix hflush hreset hH h _ _ _ (good_init cfg ov r0 hH) (bufOk_init ov r0) hw).2.2

/-- **cursor_hidden_iff_started**: for *every* history (any operations, any faults, every code variant,
every kind of console, the caller catching whatever is raised) the cursor is hidden exactly while the
display is started on a terminal that understands the codes (`vis cfg started = !(started && cfg.ansi)`). -/
theorem cursor_hidden_iff_started (cfg : Cfg) (fails : Nat → Bool) (H : Nat) (ops : List Op) :
    ∀ (st : St) (s : Screen), Bal cfg st → s.visible = vis cfg st.started →
      (replay H s (run cfg fails st ops).2.1).visible = vis cfg (run cfg fails st ops).1.started := by
  intro st s hb hv
  rw [replay_visible]
  exact (run_ctl cfg fails ops st _ hb hv).2

/-- **cursor_never_above_region.**  For every operation of a well-formed history, while its output is
replayed the cursor never visits a row above the first row below the lines printed before that
operation: the live region is the only part of the screen the display ever moves in
(`AboveRegion` unfolds to exactly this, operation by operation). -/
theorem cursor_never_above_region (cfg : Cfg) (ov : Live.Overflow) (r0 : Frame) (h : List Op)
    (hfix : cfg.bareBypass = false) (hflush : cfg.flushFix = true) (hwf : wf cfg ov r0 h = true) :
    AboveRegion cfg (initSt ov r0) {} Screen.init h := by
  obtain ⟨hp, hH, hw⟩ := wf_iff.1 hwf
  exact (history_main hp hfix hflush hH h _ _ _ (good_init cfg ov r0 hH) (bufOk_init ov r0) hw).2.1

/-- **cursor_visible_after_stop** (well-formed histories): once the started display is stopped the
cursor is visible again. -/
theorem cursor_visible_after_stop (cfg : Cfg) (ov : Live.Overflow) (r0 : Frame) (pre : List Op)
    (hfix : cfg.bareBypass = false) (hflush : cfg.flushFix = true) (hwf : wf cfg ov r0 (pre ++ [.stop]) = true)
    (hstarted : (run cfg noFault (initSt ov r0) pre).1.started = true) :
    (replay cfg.height Screen.init (emit cfg ov r0 (pre ++ [.stop]))).visible = true := by
  obtain ⟨hp, hH, hw⟩ := wf_iff.1 hwf
  exact (history_main hp hfix hflush hH _ _ _ _ (good_init cfg ov r0 hH) (bufOk_init ov r0) hw).2.2 pre rfl hstarted

/-- …and with no hypothesis at all on the history: from *any* balanced state, with *any* fault
predicate, whatever `stop` writes ends with the cursor shown if the display was started. -/
theorem stop_shows_cursor (cfg : Cfg) (fails : Nat → Bool) (st : St) (hbal : Bal cfg st)
    (hst : st.started = true) (H : Nat) (s : Screen) (hv : s.visible = vis cfg st.started) :
    (replay H s (doStop cfg fails st).out).visible = true := by
  rw [replay_visible, (doStop_ctl cfg fails st hbal s.visible).2.2, hv, hst]
  unfold vis; cases cfg.ansi <;> rfl

/-- Frames of a Live with `crop` or `ellipsis` always fit the screen (so `wf` only constrains `visible`). -/
theorem shown_fits_of_crop (cfg : Cfg) (st : St) (hk : cfg.kind ≠ .progress) (hH : 1 ≤ cfg.height)
    (hov : st.overflow ≠ .visible) : (shown cfg st).length ≤ cfg.height :=
  shown_fits cfg st hk hH hov

/-- **cleanup_on_exception.**  `with display: body`, from any not-started balanced state (tasks may
have been added before), for *every* fault predicate on the render calls (any call index, any number of
failing calls), every body, every position at which the body itself raises: after the block the hook
stack, `sys.stdout` / `sys.stderr` and their restore slots are as before `start`, the display is not
started, the cursor is visible; and an exception raised by the body leaves the block. -/
theorem cleanup_on_exception (cfg : Cfg) (hfix : cfg.kind ≠ .progress ∨ cfg.guards = true)
    (fails : Nat → Bool) (st : St) (hbal : Bal cfg st) (hst : st.started = false)
    (body : List Op) (raiseAt : Option Nat) (H : Nat) (s : Screen) (hvis : s.visible = true) :
    let res := runWith cfg fails st body raiseAt
    res.1.started = false ∧ res.1.hooks = 0 ∧ res.1.stdoutDepth = 0 ∧ res.1.stderrDepth = 0 ∧
      res.1.restoreStdout = none ∧ res.1.restoreStderr = none ∧
      (replay H s res.2.1).visible = true ∧
      (∀ j, raiseAt = some j → j ≤ body.length → res.2.2 = true) := by
  obtain ⟨hb, hv, hs, hr⟩ := runWith_ctl cfg fails st body raiseAt hbal s.visible (by rw [hvis, hst]; rfl)
  obtain ⟨f1, f2, f3, f4, f5⟩ := hb.idle (hs hfix)
  exact ⟨hs hfix, f1, f2, f3, f4, f5, by rw [replay_visible, hv, hs hfix]; rfl, hr⟩

/-- A fresh display is balanced and not started (so `cleanup_on_exception` applies to it). -/
theorem init_balanced (cfg : Cfg) (ov : Live.Overflow) (r0 : Frame) : Bal cfg (initSt ov r0) ∧ (initSt ov r0).started = false :=
  ⟨⟨rfl, rfl, rfl, rfl, rfl⟩, rfl⟩

/-- Adding tasks, printing, refreshing … before the block keeps the state balanced, so the cleanup
guarantee also covers displays prepared before `with` (any operations, any faults). -/
theorem run_balanced (cfg : Cfg) (fails : Nat → Bool) (ops : List Op) :
    ∀ st : St, Bal cfg st → Bal cfg (run cfg fails st ops).1 :=
  fun st h => (run_ctl cfg fails ops st _ h rfl).1

/-! ## Witnesses: the defects of rich 9.10.0 as found, all repaired in /repo since (machine-checked negations) -/

def cfgLive : Cfg := { kind := .live, transient := false, width := 20, height := 6 }

/-- F19.  rich 9.10.0 as found, before fix b373465 (`bareBypass = true`): `console.print()` under a Live moves the cursor without
telling the display; the next refresh erases one row too low and the first line of the old frame stays
on the screen — `L1 / M1 / M2` instead of an empty line followed by `M1 / M2`. -/
theorem old_bare_print_leaves_remnant :
    let h : List Op := [.start, .refresh, .printBare, .update [['M', '1'], ['M', '2']] true]
    wf { cfgLive with bareBypass := false } .ellipsis [['L', '1'], ['L', '2']] h = true ∧
    (replay 6 Screen.init (emit { cfgLive with bareBypass := true } .ellipsis [['L', '1'], ['L', '2']] h)).rows
      = [['L', '1'], ['M', '1'], ['M', '2']] ∧
    printed { cfgLive with bareBypass := true } .ellipsis [['L', '1'], ['L', '2']] h = [[]] ∧
    lastFrame { cfgLive with bareBypass := true } .ellipsis [['L', '1'], ['L', '2']] h = [['M', '1'], ['M', '2']] := by
  decide +kernel

def cfgProgress : Cfg := { kind := .progress, transient := false, width := 20, height := 6 }

/-- The `Progress.start` of rich 9.10.0 as found, before fix 4e4f7e5 (`startGuard = false`): when the first refresh inside `start()` raises,
`__enter__` never returns, `__exit__` is never called, and the hook, the redirection of `sys.stdout` /
`sys.stderr` and the hidden cursor all stay behind. -/
theorem old_progress_start_leaks :
    let st0 := (run cfgProgress (fun i => i == 1) (initSt .visible []) [.addTask ['t'] true 100]).1
    let res := runWith { cfgProgress with startGuard := false } (fun i => i == 1) st0 [] none
    res.2.2 = true ∧ res.1.hooks = 1 ∧ res.1.stdoutDepth = 1 ∧ res.1.stderrDepth = 1 ∧
      (replay 6 Screen.init res.2.1).visible = false := by
  decide +kernel

/-- The same input with the guarded `start`: everything restored, the exception still propagates. -/
example :
    let st0 := (run cfgProgress (fun i => i == 1) (initSt .visible []) [.addTask ['t'] true 100]).1
    let res := runWith { cfgProgress with startGuard := true } (fun i => i == 1) st0 [] none
    res.2.2 = true ∧ res.1.hooks = 0 ∧ res.1.stdoutDepth = 0 ∧ res.1.stderrDepth = 0 ∧
      (replay 6 Screen.init res.2.1).visible = true := by
  decide +kernel


/-- Restart.  The `stop` of rich 9.10.0 as found, before fix b4577f9 (`resetShape = false`) keeps the shape of the frame it leaves behind: after
`start; refresh; stop; print "b"; start; update` the new session erases upwards over finished output —
the last frame line `3` and the printed line `b` are gone. -/
theorem old_restart_erases_printed_lines :
    let h : List Op := [.start, .refresh, .stop, .print [['b']], .start, .update [['M']] true]
    (replay 6 Screen.init (run { cfgLive with bareBypass := false, resetShape := false } noFault
        (initSt .ellipsis [['1'], ['2'], ['3']]) h).2.1).rows = [['1'], ['2'], ['M'], [], []] := by
  decide +kernel

/-- The same history with the repaired `stop`: the finished frame, the printed line, then the new frame. -/
example :
    let h : List Op := [.start, .refresh, .stop, .print [['b']], .start, .update [['M']] true]
    (replay 6 Screen.init (run { cfgLive with bareBypass := false, resetShape := true } noFault
        (initSt .ellipsis [['1'], ['2'], ['3']]) h).2.1).rows = [['1'], ['2'], ['3'], ['b'], ['M']] := by
  decide +kernel


/-- The `restore_cursor` of rich 9.10.0 as found, before fix bd10e80 (`blankFix = false`), goes up `height` rows: a transient display whose last
frame is *empty* (a `Progress(transient=True)` without visible task, a Live showing nothing) does not undo
the line feed `stop` wrote, and one blank line stays between what was printed before and after —
`a / (blank) / b` although a transient display is to leave nothing.  (`finished` records that blank row, so
`live_screen_sessions` holds for both variants; the specification-level expectation `[a, b]` is the one
evaluated on real rich.) -/
theorem old_transient_empty_frame_leaves_blank_line :
    let cfg : Cfg := { cfgLive with bareBypass := false, resetShape := true, transient := true }
    let h : List Op := [.start, .print [['a']], .stop, .print [['b']]]
    (replay 6 Screen.init (emit { cfg with blankFix := false } .ellipsis [] h)).rows = [['a'], [], ['b'], []] ∧
    (replay 6 Screen.init (emit { cfg with blankFix := true } .ellipsis [] h)).rows = [['a'], ['b'], []] ∧
    finished { cfg with blankFix := true } .ellipsis [] h = [['a'], ['b']] := by
  decide +kernel

/-- The `stop` of rich 9.10.0 as found, before fix 4c3921f (`flushFix = false`), does not flush the redirected streams before its last refresh.
Text that `print("DL", end="")` left pending in the FileProxy is written only when the proxy object dies
in `_disable_redirect_io` — after the last frame and the final line feed, through the still installed
hook: a row of the old frame stays, the text lands below it, the frame is drawn a second time and the
cursor is left at its end.  With the repaired `stop` the text is completed *above* the last frame. -/
theorem old_pending_text_flushed_after_last_frame :
    let cfg : Cfg := { cfgLive with bareBypass := false, resetShape := true }
    let h : List Op := [.start, .refresh, .write false [] ['D', 'L'], .stop]
    (replay 6 Screen.init (emit { cfg with flushFix := false } .ellipsis [['1'], ['2']] h)).rows
      = [['1'], ['D', 'L'], ['1'], ['2']] ∧
    (replay 6 Screen.init (emit { cfg with flushFix := true } .ellipsis [['1'], ['2']] h)).rows
      = [['D', 'L'], ['1'], ['2'], []] := by
  decide +kernel

/-- The guard of fix 4e4f7e5 was `except Exception:` (`guardBase = false`, the code before fix fc3f517).  A
renderable that raises KeyboardInterrupt /
SystemExit / GeneratorExit (`faultBase = true`) inside the first refresh of `Progress.start` gets past
it: `__enter__` never returns, `__exit__` is never called, hook, redirection and hidden cursor stay
behind (`guardBase = false`); with `except BaseException:` (`guardBase = true`, fix fc3f517) everything is restored. -/
theorem old_start_guard_misses_base_exception :
    let cfg : Cfg := { cfgProgress with startGuard := true, faultBase := true }
    let st0 := (run cfg (fun i => i == 1) (initSt .visible []) [.addTask ['t'] true 100]).1
    let bad := runWith { cfg with guardBase := false } (fun i => i == 1) st0 [] none
    let good := runWith { cfg with guardBase := true } (fun i => i == 1) st0 [] none
    (bad.2.2 = true ∧ bad.1.hooks = 1 ∧ bad.1.stdoutDepth = 1 ∧ (replay 6 Screen.init bad.2.1).visible = false) ∧
    (good.2.2 = true ∧ good.1.hooks = 0 ∧ good.1.stdoutDepth = 0 ∧ (replay 6 Screen.init good.2.1).visible = true) := by
  decide +kernel

/-- `Progress(disable=True)` draws nothing — but in rich 9.10.0 as found, before fix 363ded9, its `stop` still wrote
the line feed that follows a last
frame (`disableFix = false`): `a / (blank) / b` for `print a; start; stop; print b`, transient or not,
although a disabled display has no frame to leave.  The repaired `stop` (`disableFix = true`, fix 363ded9) writes no
line feed and erases nothing when the display is disabled. -/
theorem old_disabled_progress_writes_newline :
    let cfg : Cfg := { cfgProgress with bareBypass := false, resetShape := true, flushFix := true, blankFix := true, startGuard := true, disable := true, transient := true }
    let h : List Op := [.print [['a']], .start, .stop, .print [['b']]]
    (replay 6 Screen.init (run { cfg with disableFix := false } noFault (initSt .visible []) h).2.1).rows = [['a'], [], ['b'], []] ∧
    (replay 6 Screen.init (run { cfg with disableFix := true } noFault (initSt .visible []) h).2.1).rows = [['a'], ['b'], []] := by
  decide +kernel

/- Decided against the property text, with evidence on real rich (harness/props/c10.py, corpus):

* `console.print("abc", end="")` under a live display — NOT a finding, outside `wf`.  The property speaks
  of printed *lines*.  The hook appends the frame to whatever the user printed, so an unterminated print
  shares its row with the first frame line (`abcF1`), and the next refresh erases that row with the frame:
  real rich shows `F1 / F2` after `start; refresh; print("abc", end=""); refresh; stop`.  Keeping partial
  output would need the display to buffer it (as FileProxy does for `sys.stdout`); this is the design of
  `process_renderables`, not a slip in it.  `wf` therefore has no such operation; text written to the
  *redirected streams* without a new line is modelled (`Op.write`); what is still pending when `stop` is
  called is printed by the repaired `stop` above the last frame — no hypothesis of `wf` (witness above for
  the as-found `stop`).
* a transient display with an empty last frame leaves a blank line — a finding (small; fixed, bd10e80):
  `old_transient_empty_frame_leaves_blank_line`.
* text pending in a FileProxy at `stop` — a finding (fixed, 4c3921f): `old_pending_text_flushed_after_last_frame`.  With
  the repaired `stop` the theorems need no hypothesis about it: the pending text of stdout, then of
  stderr, is printed right below everything printed so far and above the last frame
  (`pendLines`, part of `viewStop` / `viewStopM`).
* `Progress(disable=True)`: "nothing if transient" — and nothing otherwise, a disabled display has no
  frame — was broken by the line feed of `stop`: a finding (fixed, 363ded9), `old_disabled_progress_writes_newline`
  (the repair is in `Progress.stop`, not in `restore_cursor`, whose `""` for an unknown shape is pinned by
  tests/test_live_render.py).  Disabled displays stay outside `Cfg.plain`.
* BaseException raised by the body or by a renderable: `stop` uses `finally`, and `cleanup_on_exception`
  quantifies over *whether* an error is raised, not over its class, so it covers KeyboardInterrupt,
  SystemExit and GeneratorExit — except in the one place where the class matters, the guard of
  `Progress.start`: a finding (fixed, fc3f517), `old_start_guard_misses_base_exception`. -/

/-- What the redirected streams print (the part of C19's `proxy_lines` / `proxy_two_streams` this property
relies on, restated for `Op.write`): over any sequence of writes to a stream, the lines handed to the
console are the complete lines of the flattened character stream, the unterminated rest stays pending,
however the text was chunked into writes; `doWrite_pw` ties `Op.write` to `pw`. -/
theorem stream_writes_print_complete_lines (buf : Line) (ws : List (List Line × Line))
    (h : ∀ w ∈ ws, (∀ l ∈ w.1, '\n' ∉ l) ∧ '\n' ∉ w.2) :
    pws buf ws = cutNL buf (ws.map flatW).flatten :=
  pws_eq_cut buf ws h

/-- A Progress row wider than the console is cut by `Text.truncate(width, overflow="ellipsis")` of the
Text model of C05 (`Model/Text.lean`): the model's `truncRow` is that function. -/
theorem progress_row_truncation (cw : Char → Nat) (w : Nat) (hw : 1 ≤ w) (row : Line) :
    truncRow cw w row = ((rowText row).truncate cw (w : Int) (some .ellipsis)).plain :=
  truncRow_eq_truncate cw w hw row

/-- Known finding (no small repair): a transient display whose last frame fills the screen.  The line
feed `stop` writes scrolls the first frame row out of reach before `restore_cursor` runs, so it stays in
the scroll-back although `printed = []` and `lastFrame = []`.  This is the case `wf` excludes with
"a transient display leaves one free row". -/
theorem transient_frame_filling_screen_leaves_remnant :
    let cfg : Cfg := { cfgLive with bareBypass := false, height := 2, transient := true }
    (replay 2 Screen.init (emit cfg .crop [['a'], ['b']] [.start, .refresh, .stop])).rows = [['a'], [], []] ∧
    printed cfg .crop [['a'], ['b']] [.start, .refresh, .stop] = [] ∧
    lastFrame cfg .crop [['a'], ['b']] [.start, .refresh, .stop] = [] ∧
    wf cfg .crop [['a'], ['b']] [.start, .refresh, .stop] = false := by
  decide +kernel


/-! ## Styled output: styles are zero-width for the cursor

`console.print(..., style=…)`, styled renderables, `console.rule`, highlighted logs … interleave SGR / OSC 8
sequences with the text, also in the middle of a line.  `plainOps` (`Model/TermStyle.lean`) is the style-free normal
form of a stream — styles dropped, adjacent text runs merged — the form in which the correspondence of
harness/props/c10.py compares what real rich writes with what the model emits (`plain_ops` of harness/term.py;
`term_plain` ties the two normal forms).  The screen theorems therefore hold for EVERY stream with the normal form
of the model's emission, whatever styles it carries and wherever they split the text. -/

/-- Styles, wherever they are in the stream, change nothing on the screen (rows, cursor, cursor visibility). -/
theorem styles_are_zero_width (H : Nat) (s : Screen) (ops : List TermOp) :
    replay H s (plainOps ops) = replay H s ops :=
  replay_plainOps H ops s

/-- **live_screen_styled.**  `live_screen` for styled output: any stream `out` whose style-free normal form is that of
the model's emission — e.g. what `print(..., style="red")` under the display really writes — leaves exactly the
printed lines, then the last frame, then blank rows. -/
theorem live_screen_styled (cfg : Cfg) (ov : Live.Overflow) (r0 : Frame) (h : List Op)
    (hfix : cfg.bareBypass = false) (hflush : cfg.flushFix = true) (hwf : wf cfg ov r0 h = true)
    (out : List TermOp) (hout : plainOps out = plainOps (emit cfg ov r0 h)) :
    ∃ k, (replay cfg.height Screen.init out).rows =
      (printed cfg ov r0 h ++ lastFrame cfg ov r0 h).map (cells cfg.cw) ++ List.replicate k [] := by
  rw [replay_eq_of_plainOps_eq _ _ _ _ hout]
  exact live_screen cfg ov r0 h hfix hflush hwf

/-- **live_screen_sessions_styled.**  The same for any number of sessions. -/
theorem live_screen_sessions_styled (cfg : Cfg) (ov : Live.Overflow) (r0 : Frame) (h : List Op)
    (hfix : cfg.bareBypass = false) (hflush : cfg.flushFix = true) (hreset : cfg.resetShape = true)
    (hwf : wfM cfg ov r0 h = true)
    (out : List TermOp) (hout : plainOps out = plainOps (emit cfg ov r0 h)) :
    ∃ k, (replay cfg.height Screen.init out).rows =
      (finished cfg ov r0 h ++ liveFrameOf cfg ov r0 h).map (cells cfg.cw) ++ List.replicate k [] := by
  rw [replay_eq_of_plainOps_eq _ _ _ _ hout]
  exact live_screen_sessions cfg ov r0 h hfix hflush hreset hwf

/-- …and the cursor is shown again after `stop` whatever styles the stream carries. -/
theorem cursor_visible_after_stop_styled (cfg : Cfg) (ov : Live.Overflow) (r0 : Frame) (pre : List Op)
    (hfix : cfg.bareBypass = false) (hflush : cfg.flushFix = true) (hwf : wf cfg ov r0 (pre ++ [.stop]) = true)
    (hstarted : (run cfg noFault (initSt ov r0) pre).1.started = true)
    (out : List TermOp) (hout : plainOps out = plainOps (emit cfg ov r0 (pre ++ [.stop]))) :
    (replay cfg.height Screen.init out).visible = true := by
  rw [replay_eq_of_plainOps_eq _ _ _ _ hout]
  exact cursor_visible_after_stop cfg ov r0 pre hfix hflush hwf hstarted

/-- non-vacuity: `start; print "hi" (style=red, the style splitting the line); stop` as a real terminal stream with
SGR sequences around and inside the text runs -/
example :
    let cfg : Cfg := { cfgLive with bareBypass := false, flushFix := true }
    let h : List Op := [.start, .print [['h', 'i']], .stop]
    let out : List TermOp := [.hideCursor, .sgr [31], .text ['h'], .sgr [1, 31], .text ['i'], .sgr [0], .lf, .sgr [31], .text ['F'],
      .sgr [0], .cr, .el2, .osc8 ['u'], .text ['F'], .osc8 [], .lf, .showCursor]
    wf cfg .ellipsis [['F']] h = true ∧ plainOps out = plainOps (emit cfg .ellipsis [['F']] h) ∧
      (replay 6 Screen.init out).rows = [['h', 'i'], ['F'], []] := by
  decide +kernel


/-! ## `vertical_overflow` "crop" / "ellipsis": no hypothesis about frame heights

`wf` asks that every displayed frame fits the screen.  For a Live / Status whose `vertical_overflow` is `"crop"` or
`"ellipsis"` the code cuts every frame to the screen height, and only `stop` changes the mode (`step_overflow`), so that
clause — including the redraws of the two flushes of `stop` (`flushFits`) — holds by itself: `wfOpsNoFit` is `wfOps`
with all of it removed (operations of the kind, nothing raises, `stop` last, one free row for a transient `stop`), and
the renderable may be arbitrarily taller than the screen at every moment of the history.  (`"visible"` and Progress,
which has no overflow handling, keep the hypothesis: rich documents such frames as not clearable.) -/

/-- **live_screen_crop.**  `live_screen` for `crop` / `ellipsis` without any hypothesis on the height of the frames. -/
theorem live_screen_crop (cfg : Cfg) (ov : Live.Overflow) (r0 : Frame) (h : List Op)
    (hfix : cfg.bareBypass = false) (hflush : cfg.flushFix = true) (hplain : cfg.plain = true) (hH : 1 ≤ cfg.height)
    (hk : cfg.kind ≠ .progress) (hov : ov ≠ .visible) (hwf : wfOpsNoFit cfg (initSt ov r0) h = true) :
    ∃ k, (replay cfg.height Screen.init (emit cfg ov r0 h)).rows =
      (printed cfg ov r0 h ++ lastFrame cfg ov r0 h).map (cells cfg.cw) ++ List.replicate k [] :=
  live_screen cfg ov r0 h hfix hflush (wf_of_crop hplain hH hk hov hwf)

/-- …and the cursor stays inside the live region, whatever the height of the renderable. -/
theorem cursor_never_above_region_crop (cfg : Cfg) (ov : Live.Overflow) (r0 : Frame) (h : List Op)
    (hfix : cfg.bareBypass = false) (hflush : cfg.flushFix = true) (hplain : cfg.plain = true) (hH : 1 ≤ cfg.height)
    (hk : cfg.kind ≠ .progress) (hov : ov ≠ .visible) (hwf : wfOpsNoFit cfg (initSt ov r0) h = true) :
    AboveRegion cfg (initSt ov r0) {} Screen.init h :=
  cursor_never_above_region cfg ov r0 h hfix hflush (wf_of_crop hplain hH hk hov hwf)

/-- non-vacuity: a two-row screen, frames of five and four lines (crop), prints in between, pending text at `stop` -/
example :
    let cfg : Cfg := { cfgLive with bareBypass := false, flushFix := true, height := 2 }
    let h : List Op := [.start, .update [['1'], ['2'], ['3'], ['4'], ['5']] true, .print [['p']], .write false [] ['t'],
      .update [['a'], ['b'], ['c'], ['d']] true, .stop]
    wfOpsNoFit cfg (initSt .crop [['x'], ['y'], ['z']]) h = true ∧
      (replay 2 Screen.init (emit cfg .crop [['x'], ['y'], ['z']] h)).rows = [['p'], ['t'], ['a'], ['b'], ['c'], ['d'], []] := by
  decide +kernel

/-! ## Non-vacuity: the hypotheses are met by concrete non-trivial histories -/

/-- a Live session with prints, a growing then shrinking frame, an over-tall frame (ellipsis) and stop -/
example : wf { cfgLive with bareBypass := false, height := 3 } .ellipsis [['a']]
    [.start, .print [['h', 'i']], .update [['1'], ['2'], ['3'], ['4']] true, .printBare,
     .update [['x']] true, .refresh, .stop] = true := by decide +kernel

example : (replay 3 Screen.init (emit { cfgLive with bareBypass := false, height := 3 } .ellipsis [['a']]
    [.start, .print [['h', 'i']], .update [['1'], ['2'], ['3'], ['4']] true, .printBare,
     .update [['x']] true, .refresh, .stop])).rows = [['h', 'i'], [], ['x'], [], []] := by decide +kernel

/-- a transient Progress: tasks added before and after start, one hidden again -/
example : wf { cfgProgress with transient := true, bareBypass := false } .visible []
    [.addTask ['a'] true 100, .start, .addTask ['b', 'c'] true 100, .updateTask 0 { advance := some 3 } false, .print [['o', 'u', 't']],
     .updateTask 1 { visible := some false } true, .stop] = true := by decide +kernel

example : printed { cfgProgress with transient := true, bareBypass := false } .visible []
    [.addTask ['a'] true 100, .start, .addTask ['b', 'c'] true 100, .updateTask 0 { advance := some 3 } false, .print [['o', 'u', 't']],
     .updateTask 1 { visible := some false } true, .stop] = [['o', 'u', 't']] ∧
  lastFrame { cfgProgress with transient := true, bareBypass := false } .visible []
    [.addTask ['a'] true 100, .start, .addTask ['b', 'c'] true 100, .updateTask 0 { advance := some 3 } false, .print [['o', 'u', 't']],
     .updateTask 1 { visible := some false } true, .stop] = [] := by decide +kernel

/-- double-width characters: the frame is cropped in cells (the `あ` that would straddle column 4 becomes a
space), and every `あ` occupies two cells of the screen -/
example :
    let cfg : Cfg := { cfgLive with bareBypass := false, width := 4, cw := fun c => if c = 'あ' then 2 else 1 }
    let h : List Op := [.start, .print [['あ', 'x']], .update [['a', 'あ', 'あ', 'b'], ['あ']] true, .stop]
    wf cfg .ellipsis [] h = true ∧ lastFrame cfg .ellipsis [] h = [['a', 'あ', ' '], ['あ']] ∧
    (replay 6 Screen.init (emit cfg .ellipsis [] h)).rows
      = [['あ', '\x00', 'x'], ['a', 'あ', '\x00', ' '], ['あ', '\x00'], []] := by decide +kernel

/-- stream writes — several new lines in one write, text left pending on both streams when the display
stops: the repaired `stop` completes it above the last frame, stdout first -/
example :
    let cfg : Cfg := { cfgLive with bareBypass := false, flushFix := true }
    let h : List Op := [.start, .write false [['a'], ['b']] ['c'], .write true [] ['e'], .write false [['d']] ['x'], .stop]
    wf cfg .ellipsis [['F']] h = true ∧
    printed cfg .ellipsis [['F']] h = [['a'], ['b'], ['c', 'd'], ['x'], ['e']] ∧
    (replay 6 Screen.init (emit cfg .ellipsis [['F']] h)).rows = [['a'], ['b'], ['c', 'd'], ['x'], ['e'], ['F'], []] := by
  decide +kernel

/-- two sessions on the same Live with prints between them (repaired `stop`) -/
example : wfM { cfgLive with bareBypass := false, resetShape := true } .ellipsis [['1'], ['2'], ['3']]
    [.start, .refresh, .stop, .print [['b']], .start, .update [['M']] true, .stop, .print [['c']]] = true := by decide +kernel

example : finished { cfgLive with bareBypass := false, resetShape := true } .ellipsis [['1'], ['2'], ['3']]
    [.start, .refresh, .stop, .print [['b']], .start, .update [['M']] true, .stop, .print [['c']]]
    = [['1'], ['2'], ['3'], ['b'], ['M'], ['c']] := by decide +kernel

/-- `wf` really excludes something: a `visible` frame taller than the screen, and a transient frame that
fills the screen. -/
example : wf { cfgLive with bareBypass := false, height := 2 } .visible [['a'], ['b'], ['c']] [.start, .refresh] = false := by decide +kernel
example : wf { cfgLive with bareBypass := false, height := 2, transient := true } .crop [['a'], ['b']] [.start, .refresh, .stop] = false := by decide +kernel

end RichModel.C10
