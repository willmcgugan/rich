import RichModel.Lemmas.Ratio
import RichModel.Props.C01
import RichModel.Props.C17
/-!
# C09 — measurements are sound bounds on what rendering produces

First the part every renderable shares — `Measurement.get` normalises and clamps whatever `__rich_measure__` returns — then, on the
composition model (`Model/Layout.lean`, shared with C01): the measurement of every renderable tree is normal; rendering at the
reported maximum, or at the reported minimum, produces no line wider than that value (for values at or above the structural
minimum, inside the domain of C01 — both are cases of `render_at_fits_any`, which is `C01.render_fits_any` through `Console.render`:
at EVERY width no line is wider than the width or, below the structural minimum, than that minimum); a fitted group reports the largest minimum / maximum of its members (`group_measure_is_max`); for a text and for a
tree the proviso "at or above the structural minimum" can be dropped (`text_render_at_measure_fits`, `tree_render_at_measure_fits`),
for a framed renderable it cannot (`panel_measure_below_borders_is_only_the_clamp`); the text measurement is "widest word / widest
line" and a text given its maximum is not wrapped.  The known finding F23 (`progressbar-no-newline`) is machine-checked on the
measurement side at the end (`known_group_with_progressbar_measure_unsound`).  `Syntax` and `Pretty` are not renderables of C01's
trees: see "documented non-claims" below.
-/
namespace RichModel.C09
open RichModel RichModel.Frames RichModel.Layout

/-- For every renderable (whatever its `__rich_measure__` returns, or if it has none) and every
available width, the reported measurement satisfies `0 ≤ minimum ≤ maximum ≤ max(available, 0)`. -/
theorem measurement_get_normal (maxWidth : Int) (measured : Option Measurement) :
    0 ≤ (Measurement.getPost maxWidth measured).minimum ∧
    (Measurement.getPost maxWidth measured).minimum ≤ (Measurement.getPost maxWidth measured).maximum ∧
    (Measurement.getPost maxWidth measured).maximum ≤ max maxWidth 0 :=
  Measurement.getPost_ok maxWidth measured

theorem normalize_ok (m : Measurement) : 0 ≤ m.normalize.minimum ∧ m.normalize.minimum ≤ m.normalize.maximum :=
  Measurement.normalize_ok m

theorem normalize_idempotent (m : Measurement) : m.normalize.normalize = m.normalize :=
  Measurement.normalize_idem m

example : Measurement.getPost 10 (some ⟨-3, 50⟩) = ⟨0, 10⟩ := by decide
example : Measurement.getPost 0 (some ⟨1, 5⟩) = ⟨0, 0⟩ := by decide

/-! ## every renderable tree -/

/-- **measure_normal.**  `Measurement.get(console, tree, available)` of every renderable tree — text, every frame, tables, columns,
trees, groups, objects without `__rich_measure__` (`opaque`), objects cast through `__rich__` (`cast`) — at every available width
(any Python int, including 0, negatives and widths below the content's needs): `0 ≤ minimum ≤ maximum ≤ max(available, 0)`. -/
theorem measure_normal (cfg : Cfg) (r : R) (available : Int) :
    0 ≤ (measureGet cfg r available).minimum ∧ (measureGet cfg r available).minimum ≤ (measureGet cfg r available).maximum ∧
      (measureGet cfg r available).maximum ≤ max available 0 :=
  measureGet_normal cfg r available

/-- **render_at_max_fits.**  Rendering at the reported maximum never produces a line wider than that value, when the value is at or
above the structural minimum (and the tree is in C01's domain at that width). -/
theorem render_at_max_fits (cfg : Cfg) (ok : CfgOk cfg) (r : R) (o : Opts) (available : Int)
    (hs : (smin cfg.cw r : Int) ≤ (measureGet cfg r available).maximum)
    (hd : Dom cfg r o (measureGet cfg r available).maximum.toNat) :
    ∀ l ∈ renderedLines cfg r o (measureGet cfg r available).maximum,
      (lineLength cfg.cw l : Int) ≤ (measureGet cfg r available).maximum :=
  render_at_fits cfg ok r o _ hs hd

/-- **render_at_min_fits.**  The same at the reported minimum. -/
theorem render_at_min_fits (cfg : Cfg) (ok : CfgOk cfg) (r : R) (o : Opts) (available : Int)
    (hs : (smin cfg.cw r : Int) ≤ (measureGet cfg r available).minimum)
    (hd : Dom cfg r o (measureGet cfg r available).minimum.toNat) :
    ∀ l ∈ renderedLines cfg r o (measureGet cfg r available).minimum,
      (lineLength cfg.cw l : Int) ≤ (measureGet cfg r available).minimum :=
  render_at_fits cfg ok r o _ hs hd

/-- **group_measure_is_max.**  A fitted `RenderGroup` with at least one member reports exactly the largest minimum and the largest
maximum among its members' measurements (`measure_renderables`; the clamping of `Measurement.get` changes nothing because every
member's measurement is already normal). -/
theorem group_measure_is_max (cfg : Cfg) (items : List R) (w : Nat) (hne : items ≠ []) :
    measure cfg (.group true items) w =
      ⟨listMax ((measureL cfg items w).map (·.minimum)), listMax ((measureL cfg items w).map (·.maximum))⟩ :=
  Layout.group_measure_is_max cfg items w hne

/-! ### where the proviso "at or above the structural minimum" can be dropped, and where it cannot -/

/-- **Text needs no proviso**: at EVERY available width (any Python int) a text — or a `str` — rendered at its reported maximum produces
no line wider than that maximum (below one cell nothing is rendered at all); likewise at its reported minimum.  Only the documented
opt-out `overflow="ignore"` and an explicit `end` are excluded. -/
theorem text_render_at_measure_fits (cfg : Cfg) (ok : CfgOk cfg) (t : T) (o : Opts) (hd : textDom t o) (m : Int) :
    ∀ l ∈ renderedLines cfg (.text t) o m, (lineLength cfg.cw l : Int) ≤ max m 0 := by
  intro l hl
  have := rendered_lines_le cfg _ o m m.toNat (fun hm => by
    unfold render
    exact text_fits cfg ok.hsp ok.h2 ok.hel ok.hp t o m.toNat (by omega) hd.1 hd.2) l hl
  omega

/-- **A tree needs no proviso** either: every line of a rendered tree is at most the width it was given, whatever the labels. -/
theorem tree_render_at_measure_fits (cfg : Cfg) (ok : CfgOk cfg) (root : TNode) (o : Opts) (m : Int) :
    ∀ l ∈ renderedLines cfg (.tree root) o m, (lineLength cfg.cw l : Int) ≤ max m 0 := by
  intro l hl
  have := rendered_lines_le cfg _ o m m.toNat (fun _ => C01.tree_fits_whatever_the_labels cfg ok root o m.toNat) l hl
  omega

/-- **A panel does need it**: with one cell available `Panel(Text("a"))` reports (1, 1) — `Measurement.get` clamps the panel's own
answer 5 to the width on offer — and rendered at 1 its borders alone are 2 cells wide.  Below the structural minimum (here 5) the
measurement of a framed renderable is only the clamp, not a promise. -/
theorem panel_measure_below_borders_is_only_the_clamp :
    measureGet C01.nowCfg (.panel { box := 0 } (C01.wText "a")) 1 = ⟨1, 1⟩ ∧
    (renderedLines C01.nowCfg (.panel { box := 0 } (C01.wText "a")) {} 1).map (lineLength cwR) = [2, 2] ∧
    smin cwR (.panel { box := 0 } (C01.wText "a")) = 5 := by decide +kernel

/-! ### documented non-claims (outside C09's quantifier "renderable trees as in C01")

`Syntax` and `Pretty` are not among the renderables of C01's trees, so nothing above speaks about them; what the neighbouring
properties established about their `__rich_measure__` is recorded here so that nobody reads C09 as covering it:
* `Syntax.__rich_measure__` with line numbers and an explicit `code_width` reported, in rich 9.10.0 as found, a maximum ONE CELL SHORT of
  what it renders (C17: `old_measure_maximum_one_short_with_numbers`) — an unsound measurement of exactly the kind C09 forbids for its own
  trees; since fix 51eccb0 the blank after the line number is counted (`syntax_measure_maximum_sound` at the end of this file);
* `Pretty.__rich_measure__` is sound since fix db5535b (C16: `pretty_measure_sound`); before it, it measured the repr without the
  width it was going to be rendered at. -/

/-! ## text -/

/-- **text_measure_spec.**  For a text that is not all whitespace, `Text.__rich_measure__` reports: as maximum the width of its
widest line (every line-break separated piece is at most that wide and one of them is exactly that wide), as minimum the width of
its widest word (likewise for the whitespace separated pieces); and `minimum ≤ maximum`. -/
theorem text_measure_spec (cw : Char → Nat) (t : T) (hne : t.plain.all pyIsSpace = false) :
    (∀ p ∈ splitOnP isLineBreak t.plain [], (cellLen cw p : Int) ≤ (textRichMeasure cw t).maximum) ∧
    (∃ p ∈ splitOnP isLineBreak t.plain [], (cellLen cw p : Int) = (textRichMeasure cw t).maximum) ∧
    (∀ p ∈ splitOnP pyIsSpace t.plain [], (cellLen cw p : Int) ≤ (textRichMeasure cw t).minimum) ∧
    (∃ p ∈ splitOnP pyIsSpace t.plain [], (cellLen cw p : Int) = (textRichMeasure cw t).minimum) ∧
    (textRichMeasure cw t).minimum ≤ (textRichMeasure cw t).maximum :=
  Layout.text_measure_spec cw t hne

/-- **text_at_max_not_wrapped.**  A text given (at least) its measured maximum is never wrapped: `divide_line` finds no break in any
of its paragraphs (the pieces between line feeds), folding or not — when `\n` is the only line-break character of the text
(`str.splitlines`, which the measurement uses, also breaks at FS/GS/RS/NEL/LS/PS; `Text.wrap` does not). -/
theorem text_at_max_not_wrapped (cw : Char → Nat) (t : T) (w : Nat) (fold : Bool)
    (hnb : ∀ c ∈ t.plain, isLineBreak c = true → c = '\n')
    (hw : (textRichMeasure cw t).maximum ≤ (w : Int)) :
    ∀ p ∈ Layout.pieces t.plain, Wrap.divideLine cw p w fold = [] :=
  Layout.text_at_max_not_wrapped cw t w fold hnb hw

/-! ### the other `str.splitlines` separators, and tabs -/

/-- a text with a FILE SEPARATOR (U+001C): `Text("aaa\x1cbbb cc")` -/
def sepText (n : Nat) : T := Text.new Variant.repaired ['a', 'a', 'a', Char.ofNat n, 'b', 'b', 'b', ' ', 'c', 'c'] [0]

/-- the evaluations on `sepText` of this section, in one kernel evaluation -/
theorem sepText_measured :
    (([28, 29, 30, 0x85, 0x2028, 0x2029].all fun n =>
      textRichMeasure cwR (sepText n) == ⟨3, 6⟩ && C01.widthsOf (.text (sepText n)) 6 == [6, 2] &&
        (Layout.pieces (sepText n).plain).map (fun p => Wrap.divideLine cwR p 6 false) == [[8]]) = true) ∧
    (Layout.textRichMeasureNl cwR (sepText 28) = ⟨3, 9⟩ ∧ C01.widthsOf (.text (sepText 28)) 9 = [9]) ∧
    ((textRichMeasureV true cwR (sepText 28)).maximum = 6 ∧ (textRichMeasureV false cwR (sepText 28)).maximum = 9 ∧
      (Layout.pieces (sepText 28).plain).map (fun p => Wrap.divideLine cwR p 6 false) = [[8]]) := by decide +kernel

/-- **The hypothesis of `text_at_max_not_wrapped` is necessary — and rich 9.10.0 as found wraps a tab-free text at its own maximum.**
There `Text.__rich_measure__` (the model's `textRichMeasure`) splits with `str.splitlines()`, `Text.wrap` at `"\n"` only: with any of FS, GS, RS, NEL, LS, PS inside
(all of them zero cells wide) the text `aaa<sep>bbb cc` — ONE 9-cell line for `wrap` — is measured (3, 6), and rendered at 6 it is wrapped
into a 6-cell and a 2-cell line.  No line is wider than the measurement (soundness holds: `text_render_at_measure_fits`), but "given
its maximum it is never wrapped" fails.  Same on rich as found for all six separators (`Measurement(3, 6)`, lines `aaa<sep>bbb` / `cc`);
since fix 542a59e the measurement splits at `"\n"` too (`text_at_max_not_wrapped_fixed` below). -/
theorem separator_text_is_wrapped_at_its_maximum :
    ([28, 29, 30, 0x85, 0x2028, 0x2029].all fun n =>
      textRichMeasure cwR (sepText n) == ⟨3, 6⟩ && C01.widthsOf (.text (sepText n)) 6 == [6, 2] &&
        (Layout.pieces (sepText n).plain).map (fun p => Wrap.divideLine cwR p 6 false) == [[8]]) = true :=
  sepText_measured.1

/-- **text_at_max_not_wrapped_repaired.**  With the one-token repair of the measurement (`text.split("\n")` instead of
`text.splitlines()`: `Layout.textRichMeasureNl`) a text given at least its measured maximum is never wrapped — EVERY text, whatever
separators it contains, no hypothesis. -/
theorem text_at_max_not_wrapped_repaired (cw : Char → Nat) (t : T) (w : Nat) (fold : Bool)
    (hw : (Layout.textRichMeasureNl cw t).maximum ≤ (w : Int)) :
    ∀ p ∈ Layout.pieces t.plain, Wrap.divideLine cw p w fold = [] :=
  Layout.text_at_max_not_wrapped_nl cw t w fold hw

/-- …and the repair changes nothing for the texts `text_at_max_not_wrapped` speaks about (only `\n` among the separators) -/
theorem repaired_measure_agrees_without_other_separators (cw : Char → Nat) (t : T)
    (hnb : ∀ c ∈ t.plain, isLineBreak c = true → c = '\n') : Layout.textRichMeasureNl cw t = textRichMeasure cw t :=
  Layout.textRichMeasureNl_eq cw t hnb

/-- the repaired measurement of the separator text is its real line: (3, 9) — at 9 it is not wrapped -/
example : Layout.textRichMeasureNl cwR (sepText 28) = ⟨3, 9⟩ ∧ C01.widthsOf (.text (sepText 28)) 9 = [9] := sepText_measured.2.1

theorem text_measured :
    (textRichMeasure cwR (Text.new Variant.repaired "aaa\tbbb cc".toList [0]) = ⟨3, 9⟩ ∧
      C01.widthsOf (.text (Text.new Variant.repaired "aaa\tbbb cc".toList [0])) 9 = [8, 6]) ∧
    textRichMeasure cwR (Text.new Variant.repaired "hello wörld\nあい x".toList [0]) = ⟨5, 11⟩ := by decide +kernel

/-- Why the statement says "text without tab characters": tabs are expanded (to the next multiple of 8) by `Text.__rich_console__`
BEFORE wrapping but not by `Text.__rich_measure__`, which counts a tab as 0 cells: `Text("aaa\tbbb cc")` measures (3, 9) and is
wrapped at 9 into an 8-cell and a 6-cell line (its expanded line is 14 cells).  Still sound: no line wider than 9. -/
theorem tab_text_is_wrapped_at_its_maximum :
    textRichMeasure cwR (Text.new Variant.repaired "aaa\tbbb cc".toList [0]) = ⟨3, 9⟩ ∧
    C01.widthsOf (.text (Text.new Variant.repaired "aaa\tbbb cc".toList [0])) 9 = [8, 6] := text_measured.1

/-- **The finding `text-measure-splitlines` on the model's variant flag** (`textRichMeasureV`, what the driver answers request
`layout_text_spec` with): for the code since the fix (`false`) a text given at least its measured maximum is never wrapped — every
text, no hypothesis; -/
theorem text_at_max_not_wrapped_fixed (cw : Char → Nat) (t : T) (w : Nat) (fold : Bool)
    (hw : (textRichMeasureV false cw t).maximum ≤ (w : Int)) :
    ∀ p ∈ Layout.pieces t.plain, Wrap.divideLine cw p w fold = [] := by
  rw [Layout.textRichMeasureV_false] at hw
  exact Layout.text_at_max_not_wrapped_nl cw t w fold hw

/-- …and the as-found variant (`true`) violates it: `aaa<FS>bbb cc` measures (3, 6) and `divide_line` breaks its paragraph at 6. -/
theorem old_text_measure_splitlines_wraps_at_maximum :
    (textRichMeasureV true cwR (sepText 28)).maximum = 6 ∧ (textRichMeasureV false cwR (sepText 28)).maximum = 9 ∧
    (Layout.pieces (sepText 28).plain).map (fun p => Wrap.divideLine cwR p 6 false) = [[8]] := sepText_measured.2.2

/-- a paragraph that fits is left alone -/
theorem divide_line_nil_of_fits (cw : Char → Nat) (text : List Char) (w : Nat) (fold : Bool) (h : cellLen cw text ≤ w) :
    Wrap.divideLine cw text w fold = [] :=
  Layout.divideLine_nil_of_fits cw text w fold h

/-- the executable form: the measured text of a rendered text -/
example : textRichMeasure cwR (Text.new Variant.repaired "hello wörld\nあい x".toList [0]) = ⟨5, 11⟩ := text_measured.2

/-! ## The known finding F23 (`progressbar-no-newline`) on the measurement side -/

/-- `RenderGroup(ProgressBar(width=5), Text("ccc dd"))`: the group reports (5, 6) at 9 cells available; rendered at its maximum 6
the bar and the text share one line of 11 cells — the measurement of a group containing a `ProgressBar` is unsound. -/
theorem known_group_with_progressbar_measure_unsound :
    measureGet C01.nowCfg (.group true [C01.wBar, C01.wText "ccc dd"]) 9 = ⟨5, 6⟩ ∧
    (renderedLines C01.nowCfg (.group true [C01.wBar, C01.wText "ccc dd"]) {} 6).map (lineLength cwR) = [11] := by decide +kernel

/-- non-vacuity of `render_at_max_fits`: a table measured at 40 cells reports a maximum at or above its structural minimum and
renders exactly that wide -/
def exTable : R :=
  .table { box := some 0 } [.mk {} (C01.wText "name") (C01.wText "") [C01.wText "alpha beta", C01.wText "日本"],
                            .mk {} (C01.wText "n") (C01.wText "") [C01.wText "1", C01.wText "22"]]

theorem exTable_measured :
    (measureGet C01.nowCfg exTable 40 = ⟨14, 19⟩ ∧ smin cwR exTable = 10) ∧
    (renderedLines C01.nowCfg exTable {} 19).map (lineLength cwR) = [19, 19, 19, 19, 19, 19] := by decide +kernel

example : measureGet C01.nowCfg exTable 40 = ⟨14, 19⟩ ∧ smin cwR exTable = 10 := exTable_measured.1
example : (renderedLines C01.nowCfg exTable {} 19).map (lineLength cwR) = [19, 19, 19, 19, 19, 19] := exTable_measured.2

end RichModel.C09

/-! ## `rich.syntax.Syntax` (not a renderable of C01's trees): the clause for its own `__rich_measure__`

Re-exported from Props/C17.lean (model `RichModel.Syntax`, whose rows the C17 check compares with real rich character for
character), so that this property's axiom audit covers them.  `measureV false` is the repaired variant
(fix 51eccb0, what /repo contains), `measureV true` rich 9.10.0 as found. -/
namespace RichModel.C09

/-- Repaired: with line numbers and an explicit `code_width`, every rendered row takes at most the reported maximum
`code_width + numbers column + 1` cells — exactly that many on a non-transparent background (padded cells).  Hypotheses of the
render path: cropping on (`options.no_wrap` off or word wrap on), blanks / digits / pointers one cell wide, no character wider
than two cells; `C17.Setting`: clean source, lexer contract, indent guides off, room for a row under word wrap. -/
theorem syntax_measure_maximum_sound (cw : Char → Nat) (h1 : ∀ c, RichModel.Syntax.GutterChar c → cw c = 1) (h2 : ∀ c, cw c ≤ 2)
    (o : RichModel.Syntax.Opts) (found : Bool) (lex : List Char → List RichModel.Syntax.Line) (code : List Char)
    (h : RichModel.C17.Setting o found lex code) (hn : o.lineNumbers = true) (hnc : RichModel.C17.noCrop o = false)
    (w : Nat) (hw : o.codeWidth = some w) :
    ∃ rows, RichModel.Syntax.numberedRows cw false false o found lex code = .ok rows ∧
      ∀ r ∈ rows,
        cellLen cw (r.render (RichModel.Syntax.numbersColumnWidth o code) o.legacyWindows) ≤
          (RichModel.Syntax.measureV false o code o.maxWidth).2 ∧
        (o.pad = true →
          cellLen cw (r.render (RichModel.Syntax.numbersColumnWidth o code) o.legacyWindows) =
            (RichModel.Syntax.measureV false o code o.maxWidth).2) :=
  RichModel.C17.measure_maximum_sound cw h1 h2 o found lex code h hn hnc w hw

/-- Either variant, `code_width` None: rows take at most the width offered once the gutter and its blank fit. -/
theorem syntax_measure_maximum_sound_auto (cw : Char → Nat) (h1 : ∀ c, RichModel.Syntax.GutterChar c → cw c = 1) (h2 : ∀ c, cw c ≤ 2)
    (short : Bool) (o : RichModel.Syntax.Opts) (found : Bool) (lex : List Char → List RichModel.Syntax.Line) (code : List Char)
    (h : RichModel.C17.Setting o found lex code) (hn : o.lineNumbers = true) (hnc : RichModel.C17.noCrop o = false)
    (hw : o.codeWidth = none) (hroom : RichModel.Syntax.numbersColumnWidth o code + 1 ≤ o.maxWidth) :
    ∃ rows, RichModel.Syntax.numberedRows cw false false o found lex code = .ok rows ∧
      ∀ r ∈ rows,
        cellLen cw (r.render (RichModel.Syntax.numbersColumnWidth o code) o.legacyWindows) ≤
          (RichModel.Syntax.measureV short o code o.maxWidth).2 :=
  (RichModel.C17.measure_maximum_sound_auto cw h1 h2 short o found lex code h hn hnc hw hroom).imp
    (fun _ hr => ⟨hr.1, fun r hmem => (hr.2 r hmem).1⟩)

/-- Either variant, without line numbers: every row takes at most the reported maximum. -/
theorem syntax_measure_maximum_fits_without_numbers (cw : Char → Nat) (hsp : cw ' ' = 1) (h2 : ∀ c, cw c ≤ 2) (short : Bool)
    (o : RichModel.Syntax.Opts) (found : Bool) (lex : List Char → List RichModel.Syntax.Line) (code : List Char)
    (hn : o.lineNumbers = false) (rows : List RichModel.Syntax.Line)
    (hr : RichModel.Syntax.plainRows cw false o found lex code = .ok rows) :
    ∀ r ∈ rows, cellLen cw r ≤ (RichModel.Syntax.measureV short o code o.maxWidth).2 :=
  RichModel.C17.measure_maximum_fits_without_numbers cw hsp h2 short o found lex code hn rows hr

/-- Either variant: minimum ≤ maximum (with `code_width` None: once the width offered holds the numbers column). -/
theorem syntax_measure_minimum_le_maximum (short : Bool) (o : RichModel.Syntax.Opts) (code : List Char) (maxWidth : Nat)
    (h : o.codeWidth = none → RichModel.Syntax.numbersColumnWidth o code ≤ maxWidth) :
    (RichModel.Syntax.measureV short o code maxWidth).1 ≤ (RichModel.Syntax.measureV short o code maxWidth).2 :=
  RichModel.C17.measure_minimum_le_maximum short o code maxWidth h

/-- As found (witness): with line numbers and an explicit `code_width` every row with a full code cell is one character
longer than the reported maximum. -/
theorem old_syntax_measure_maximum_one_short (cw : Char → Nat) (o : RichModel.Syntax.Opts) (found : Bool)
    (lex : List Char → List RichModel.Syntax.Line) (code : List Char) (h : RichModel.C17.Setting o found lex code)
    (hn : o.lineNumbers = true) (w : Nat) (hw : o.codeWidth = some w) :
    ∃ rows, RichModel.Syntax.numberedRows cw false false o found lex code = .ok rows ∧
      ∀ r ∈ rows, w ≤ r.body.length →
        (RichModel.Syntax.measureV true o code o.maxWidth).2 <
          (r.render (RichModel.Syntax.numbersColumnWidth o code) o.legacyWindows).length :=
  RichModel.C17.old_measure_maximum_one_short_with_numbers cw o found lex code h hn w hw

end RichModel.C09
