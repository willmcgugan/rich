import RichModel.Lemmas.Cells
import RichModel.Lemmas.Segment
import RichModel.Lemmas.FramesRect
import RichModel.Lemmas.FramesBars
import RichModel.Lemmas.FramesTreeRect
import RichModel.Lemmas.FramesColumns
import RichModel.Lemmas.FramesStyled
import RichModel.Lemmas.LayoutColumnsGrid
import RichModel.Lemmas.FramesTitlePanel
import RichModel.Gen.CellWidths
import RichModel.Gen.Boxes
/-!
# C08 — framing renderables draw exact rectangles around intact content

`cw` is Rich's
`get_character_cell_size` over the table translated from `rich/_cell_widths.py` on this run; the box
table is translated from `rich/box.py` on this run.  Children are arbitrary: every theorem is stated
for every child oracle `c : Child σ` (what the real child measures / renders at each width), every
option value and every width, with the structural minimum as the only hypothesis.

"Lines" are what `Segment.split_lines` — the observer every consumer of a rendering uses — makes of
the frame's output.

Besides the rectangles of `Model/Frames.lean` (text, segmentation, control flags) the theorems cover the styled
layer of `Model/FramesStyled.lean`, `Columns` down to the rendered grid table (through `Model/Layout.lean` and
`Model/Table.lean`), Panel titles and Rule texts as real `Text` objects (`Model/FramesTitle.lean`; `panel_border_style`
takes the title as an arbitrary oracle) and the styled `Bar` / `ProgressBar` of `Model/FramesBarsStyled.lean`.  All seven
code-variant flags
(`Frames.Variant`, `SVariant`) are repaired in /repo (fixes a9def3a, 8879061, f5f2be9, f7ecf83, 63e086e, 0e1edf7,
a442cbd); the `old_…` theorems are the witnesses for rich 9.10.0 as found.

Documented non-claim.  Every function here is a pure function of the object's options as they are when it
is rendered.  One frame edits its own options while rendering: a `Rule` given a `Text` title works on that
`Text` in place (line feeds replaced, tabs expanded, truncated to the width), so a later, wider render of
the same `Rule` shows the truncated title.  Every render still fills its width exactly (`rule_exact`
applies to the title as it then is), which is all the statement asks; "a second render equals a fresh
object's render" is not claimed (the harness counts it as an observation only).
-/
namespace RichModel.C08
open RichModel RichModel.Frames

/-- `get_character_cell_size` at the generated table. -/
def cw : Char → Nat := charWidthT Gen.cellWidths

theorem cw_le_two (c : Char) : cw c ≤ 2 := charWidthT_cellWidths_le_two c

theorem cw_space : cw ' ' = 1 := by decide +kernel

variable {σ : Type}

/-! ## Side conditions on the generated tables -/

def boxOk (b : Frames.Box) : Bool :=
  [b.topLeft, b.top, b.topRight, b.midLeft, b.midRight, b.bottomLeft, b.bottom, b.bottomRight].all
    (fun c => c != '\n' && cw c == 1)

/-- Every box of `rich/box.py` parses (8 lines of 4 characters) and its border characters are one cell
wide and are not line feeds. -/
theorem boxes_ok :
    (List.range Gen.boxes.length).all (fun i => match boxAt i with | some b => boxOk b | none => false) = true := by
  decide +kernel

/-- …hence whatever `Box.substitute` selects is such a box. -/
theorem boxAt_ok (i : Nat) (b : Frames.Box) (h : boxAt i = some b) : b.NoNl ∧ b.Narrow cw := by
  have := List.all_eq_true.mp boxes_ok i (List.mem_range.mpr (boxAt_lt h))
  simp only [h] at this
  exact Box.of_all cw this

/-- The tree guide strings are four cells wide (ASCII and the three Unicode sets). -/
theorem guides_ok : GuidesOk cw := by
  unfold GuidesOk
  decide +kernel

/-- The width table is looked up once for all the single characters the theorems below need. -/
theorem cw_narrow : ∀ c ∈ '…' :: (barChars ++ ['-', '━', '╸', '╺']), cw c = 1 := by decide +kernel

/-- The characters of bars and progress bars are one cell wide. -/
theorem bar_chars_narrow : ∀ c ∈ barChars ++ ['-', '━', '╸', '╺'], cw c = 1 :=
  fun c hc => cw_narrow c (List.mem_cons_of_mem _ hc)

/-! ## Padding -/

/-- **padding_rect.**  For every child, padding tuple, `expand` flag and width with room for the
padding (`left + right ≤ width`): the lines drawn are `top` blank lines, then — in order — the child's
own lines as rendered alone at the inner width, each between exactly `left` and `right` blank cells
and followed by blanks only up to the inner width, then `bottom` blank lines; every line is exactly
`width` cells wide, and `width` is the full available width when expanding. -/
theorem padding_rect (v : Frames.Variant) (p : PadDims) (expand : Bool) (c : Child σ) (w : Int)
    (hfit : (p.left : Int) + p.right ≤ paddingWidth v p expand c w) :
    splitLines (paddingConsole cw v p expand c w) = paddingLines cw v p expand c w ∧
    (∀ l ∈ paddingLines cw v p expand c w, lineLength cw l = (paddingWidth v p expand c w).toNat) ∧
    (expand = true → paddingWidth v p expand c w = w) ∧
    (paddingWidth v p expand c w ≤ w) ∧
    (∀ l ∈ c.linesAt cw (paddingChildWidth v p expand c w) false,
      stream (adjustLineLength cw l (paddingChildWidth v p expand c w).toNat none) =
        stream l ++ List.replicate ((paddingChildWidth v p expand c w).toNat - lineLength cw l) (' ', none, false)) := by
  refine ⟨paddingConsole_lines cw cw_space cw_le_two v p expand c w,
    paddingLines_width cw cw_space cw_le_two v p expand c w hfit, ?_, ?_, ?_⟩
  · intro h; rw [h, paddingWidth_expand]
  · exact paddingWidth_le v p expand c w
  · intro l hl
    exact adjust_pad_stream cw l _ none (renderLines_le cw cw_space cw_le_two _ _ false l hl)

/-- Shape of the padding lines: exactly `top` + (child lines) + `bottom` of them. -/
theorem padding_line_count (v : Frames.Variant) (p : PadDims) (expand : Bool) (c : Child σ) (w : Int) :
    (paddingLines cw v p expand c w).length =
      p.top + (c.linesAt cw (paddingChildWidth v p expand c w) false).length + p.bottom := by
  simp [paddingLines, Nat.add_assoc]

/-- `Padding.__rich_measure__` mirrors the render arithmetic: rendering at the measured maximum uses
no more than that many cells (for a child whose own measurement is sound: `0 ≤ maximum ≤ available`). -/
theorem padding_measure_covers_render (p : PadDims) (c : Child σ) (w : Int)
    (hroom : (p.left : Int) + p.right + 1 ≤ w)
    (hc : 0 ≤ (c.measureAt (w - p.left - p.right)).maximum ∧ (c.measureAt (w - p.left - p.right)).maximum ≤ w - p.left - p.right) :
    (paddingRichMeasure p c w).maximum = (c.measureAt (w - p.left - p.right)).maximum + p.left + p.right ∧
    (paddingRichMeasure p c w).maximum ≤ w := by
  unfold paddingRichMeasure
  have h1 : ¬ (w - ((p.left : Int) + p.right) < 1) := by omega
  have h2 : max 0 (w - ((p.left : Int) + p.right)) = w - p.left - p.right := by omega
  simp only [h1, if_false, h2, Measurement.withMaximum]
  omega

/-! ## Panel -/

/-- **panel_rect.**  For every child, box of `rich/box.py`, title, title alignment, `expand`, `width`,
padding and available width `w`, whenever the panel is at least 2 cells wide (4 with a title) and — for
the `Text.rstrip_end` of rich 9.10.0 as found only (before fix f5f2be9), which counts characters — the title has no more characters than the
console is wide: the lines drawn are the top border, then — unchanged and
in order — the lines `Console.render_lines` gives for the (padded) child at the inner width, each
between the two side border characters, then the bottom border; all of them are exactly
`inner width + 2` cells wide. -/
theorem panel_rect (env : Env) (v : Frames.Variant) (o : PanelOpts) (c : Child σ) (w : Int) (p : PadDims) (box : Frames.Box)
    (out : List (Segment σ)) (hp : unpackPad o.padding = .ok p)
    (hb : boxAt (substituteBox env (o.safeBox.getD env.safeBox) o.box) = some box)
    (h : panelConsole cw env v o c w = .ok (some out))
    (hmin : 0 ≤ panelChildWidth cw v o (panelInner cw v p c) w)
    (hmint : o.title ≠ [] → 2 ≤ panelChildWidth cw v o (panelInner cw v p c) w)
    (htl : v.rstripCountsChars = true → ∀ t, panelTitle o.title = some t →
      ((textAlign cw t o.titleAlign (panelChildWidth cw v o (panelInner cw v p c) w - 2) box.top).length : Int) ≤ env.consoleWidth) :
    let cwid := panelChildWidth cw v o (panelInner cw v p c) w
    ∃ top, splitLines out = [top]
        ++ ((panelInner cw v p c).linesAt cw cwid true).map (fun l => [seg [box.midLeft]] ++ l ++ [seg [box.midRight]])
        ++ [[seg (boxBottom box cwid)]] ∧
      (∀ l ∈ splitLines out, lineLength cw l = (cwid + 2).toNat) ∧
      (∀ l ∈ (panelInner cw v p c).linesAt cw cwid true, lineLength cw l = cwid.toNat) := by
  dsimp only
  obtain ⟨hnn, hnar⟩ := boxAt_ok _ box hb
  obtain ⟨top, htop, hlines⟩ := panelConsole_lines cw env v o c w p box out hp hb hnn h
  have hrows := renderLines_exact cw cw_space cw_le_two ((panelInner cw v p c).renderAt (panelChildWidth cw v o (panelInner cw v p c) w))
    (panelChildWidth cw v o (panelInner cw v p c) w)
  obtain ⟨hbody, _, htopw⟩ := panelLines_width cw cw_space cw_le_two env v o hnar _ top _ htop hrows
  refine ⟨top, hlines, fun l hl => ?_, hrows⟩
  rw [hlines, List.append_assoc] at hl
  rcases List.mem_append.mp hl with hl | hl
  · rw [List.mem_singleton.mp hl, htopw htl, panelTopCells_eq o _ hmin hmint]
  · rw [hbody l hl]
    omega

/-- An expanding panel without a `width` option fills the available width exactly (`w ≥ 2`); with a
`width` option and no title it is exactly `min(w, width)` wide. -/
theorem panel_expand_width (v : Frames.Variant) (o : PanelOpts) (inner : Child σ) (w : Int) (he : o.expand = true) :
    (o.width = none → panelChildWidth cw v o inner w + 2 = w) ∧
    (∀ pw, o.width = some pw → o.title = [] → panelChildWidth cw v o inner w + 2 = min w pw) := by
  unfold panelChildWidth
  constructor
  · intro hw
    simp only [hw, he, if_true]
    cases panelTitle o.title <;> simp only <;> omega
  · intro pw hw ht
    simp only [hw, he, if_true, panelTitle, ht, List.isEmpty_nil]
    omega

/-- The panel never exceeds the available width (title or not), for a child whose measurement is sound. -/
theorem panel_width_le (v : Frames.Variant) (o : PanelOpts) (inner : Child σ) (w : Int) (hw : 3 ≤ w)
    (hm : ∀ k : Int, (inner.measureAt k).maximum ≤ max k 0) :
    panelChildWidth cw v o inner w + 2 ≤ w :=
  panelChildWidth_le cw v o inner w hw hm

/-! ## Align, Constrain, Styled -/

/-- **align_rect.**  For every child, alignment, `pad` flag, `width` option and available width: the
lines drawn are — in order — the child's own lines (as it renders alone at the inner width), each
brought to their common width with trailing blanks only, between the left and right pads; the pads add
exactly `alignPadCells` cells, so that with `pad=True` (or right alignment) every line is exactly the
available width whenever the child's lines fit it. -/
theorem align_rect (env : Env) (v : Frames.Variant) (o : AlignOpts) (c : Child σ) (w : Int) :
    let L := alignChildLines env v o c w
    let sw := shapeWidth cw L
    splitLines (alignConsole cw env v o c w) = alignLines cw env v o c w ∧
    (alignLines cw env v o c w).length = L.length ∧
    (∀ l ∈ alignLines cw env v o c w, (lineLength cw l : Int) = sw + alignPadCells o (w - sw)) ∧
    ((o.pad = true ∨ o.align = .right) → (sw : Int) ≤ w →
      ∀ l ∈ alignLines cw env v o c w, (lineLength cw l : Int) = w) ∧
    (∀ l ∈ L, stream (adjustLineLength cw l sw none) = stream l ++ List.replicate (sw - lineLength cw l) (' ', none, false)) :=
  alignConsole_rect cw cw_space cw_le_two env v o c w

/-- `Constrain` renders the child at `min(width, available)` and nothing else; `Styled` leaves the
child's text, segmentation and control flags alone. -/
theorem constrain_is_child_at_min (width : Option Int) (c : Child σ) (w : Int) :
    constrainConsole width c w = c.renderAt (match width with | none => w | some k => min k w) := by
  cases width <;> rfl

theorem styled_is_child (c : Child σ) (w : Int) : styledConsole c w = c.renderAt w := rfl

/-! ### F25: a child whose measured maximum is 0 -/

/-- The repaired non-expanding frames never ask a child to render in no space when there is room. -/
theorem repaired_fit_width_pos (m : Int) : 1 ≤ fitWidth { zeroWidthChild := false } m := by
  rw [fitWidth_of_repaired rfl]; omega

/-- Repaired `Align`: for a child that fits (`measured maximum ≤ w`) and renders the same lines at every
width from its measured maximum (at least 1) up to the available width, the lines shown are the lines
the child renders alone at the full available width — none is lost. -/
theorem align_shows_child_lines (env : Env) (o : AlignOpts) (c : Child σ) (w : Int) (hw : 1 ≤ w) (ho : o.width = none)
    (hm : (c.measureAt env.consoleWidth).maximum ≤ w)
    (hst : ∀ k : Int, 1 ≤ k → (c.measureAt env.consoleWidth).maximum ≤ k → k ≤ w →
      splitLines (c.renderAt k) = splitLines (c.renderAt w)) :
    alignChildLines env { zeroWidthChild := false } o c w = splitLines (c.renderAt w) := by
  unfold alignChildLines alignInnerWidth
  simp only [ho]
  apply hst <;> (rw [fitWidth_of_repaired rfl]; omega)

/-- Repaired `Padding(expand=False)`: same statement for the lines inside the padding. -/
theorem padding_fit_shows_child_lines (p : PadDims) (c : Child σ) (w : Int)
    (hroom : (p.left : Int) + p.right + 1 ≤ w) (hm : (c.measureAt w).maximum + p.left + p.right ≤ w)
    (hst : ∀ k : Int, 1 ≤ k → (c.measureAt w).maximum ≤ k → k ≤ w - p.left - p.right →
      c.linesAt cw k false = c.linesAt cw (w - p.left - p.right) false) :
    c.linesAt cw (paddingChildWidth { zeroWidthChild := false } p false c w) false
      = c.linesAt cw (w - p.left - p.right) false := by
  unfold paddingChildWidth paddingWidth
  simp only [Bool.false_eq_true, if_false]
  apply hst <;> (rw [fitWidth_of_repaired rfl]; omega)

/-- Repaired `Panel(expand=False)` without title or `width`: the body rows are the child's rows. -/
theorem panel_fit_shows_child_lines (o : PanelOpts) (inner : Child σ) (w : Int) (hw : 3 ≤ w)
    (he : o.expand = false) (hwd : o.width = none) (ht : o.title = [])
    (hm : (inner.measureAt (w - 2)).maximum ≤ w - 2)
    (hst : ∀ k : Int, 1 ≤ k → (inner.measureAt (w - 2)).maximum ≤ k → k ≤ w - 2 →
      (inner.linesAt cw k true).length = (inner.linesAt cw (w - 2) true).length) :
    (inner.linesAt cw (panelChildWidth cw { zeroWidthChild := false } o inner w) true).length
      = (inner.linesAt cw (w - 2) true).length := by
  unfold panelChildWidth
  simp only [hwd, he, Bool.false_eq_true, if_false, panelTitle, ht, List.isEmpty_nil, if_true]
  apply hst <;> (rw [fitWidth_of_repaired rfl]; omega)

/-- The child of F25: `Text("")` — measured `(0, 0)`, renders one empty line at every width ≥ 1. -/
def blankChild : Child Nat := { measure := fun _ => ⟨0, 0⟩, render := fun _ => [nl] }

/-- it meets the stability hypotheses of the three theorems above -/
example : ∀ k : Int, 1 ≤ k → k ≤ 10 → splitLines (blankChild.renderAt k) = splitLines (blankChild.renderAt 10) := by
  intro k h1 _
  simp [Child.renderAt, blankChild, show ¬ k < 1 by omega]

/-- F25, rich 9.10.0 as found (before fix a9def3a): `Align` shows NO line for a child that renders one blank line on its own. -/
theorem old_align_drops_child_line :
    alignChildLines { consoleWidth := 10 } { zeroWidthChild := true } { align := .center } blankChild 10 = [] ∧
    splitLines (blankChild.renderAt 10) = [[]] ∧
    alignConsole cw { consoleWidth := 10 } { zeroWidthChild := true } { align := .center } blankChild 10 = [] := by
  decide +kernel

/-- F25, rich 9.10.0 as found (before fix a9def3a): `Padding(expand=False)` — the child's line is gone (only nothing is drawn). -/
theorem old_padding_fit_drops_child_line :
    paddingConsole cw { zeroWidthChild := true } ⟨0, 0, 0, 2⟩ false blankChild 10 = [] ∧
    blankChild.linesAt cw 8 false = [[]] := by
  decide +kernel

/-- F25, rich 9.10.0 as found (before fix a9def3a): `Panel.fit(Text(""), padding=0)` has no body row. -/
theorem old_panel_fit_has_no_body_row :
    (blankChild.linesAt cw (panelChildWidth cw { zeroWidthChild := true } { box := 0, expand := false, padding := [0] } blankChild 10) true).length = 0 ∧
    (blankChild.linesAt cw 8 true).length = 1 := by
  decide +kernel

/-- …and the repaired variant shows it. -/
example : splitLines (alignConsole cw { consoleWidth := 10 } { zeroWidthChild := false } { align := .center } blankChild 10)
    = [[seg (rep 5 ' '), seg (rep 5 ' ')]] := by decide +kernel

/-! ## Styles of the cells a frame adds (styled layer, `Model/FramesStyled.lean`) -/

/-- **padding_style.**  For every child, style `s`, padding and width with room for the padding: the lines of
`Padding(child, pad, style=s)` are blank lines made of ONE segment of style `s`, and body lines made of the
left pad (style `s`), the child's line, the right pad (style `s`); the child's line is what
`render_lines(style=s)` gives — every rendered segment restyled to `s + its own style` — followed by blanks
that all carry `s`; every line is exactly `width` cells. -/
theorem padding_style (A : SOps σ) (sv : SVariant) (s : σ) (p : PadDims) (expand : Bool) (c : Child σ) (w : Int)
    (hfit : (p.left : Int) + p.right ≤ paddingWidth sv.base p expand c w) :
    splitLines (paddingConsoleS cw A sv s p expand c w) = paddingLinesS cw A sv s p expand c w ∧
    (∀ l ∈ paddingLinesS cw A sv s p expand c w, lineLength cw l = (paddingWidth sv.base p expand c w).toNat) ∧
    (∀ g ∈ (blankLineS (some s) (paddingWidth sv.base p expand c w) ++ padLeftSegsS s p ++ padRightSegsS s p : List (Segment σ)),
      g.style = some s ∧ ∀ ch ∈ g.text, ch = ' ') ∧
    (∀ l ∈ c.linesAtS cw A sv (paddingChildWidth sv.base p expand c w) (some s) false,
      stream (adjustLineLength cw l (paddingChildWidth sv.base p expand c w).toNat (some s)) =
        stream l ++ List.replicate ((paddingChildWidth sv.base p expand c w).toNat - lineLength cw l) (' ', some s, false)) ∧
    (∀ k, ∀ g ∈ Frames.applyStyle A (some s) (c.renderAt k), ∃ g0 ∈ c.renderAt k, g.text = g0.text ∧ g.control = g0.control ∧
      g.style = (if g0.control then none else some (A.addO s g0.style))) := by
  refine ⟨paddingConsoleS_lines cw cw_space cw_le_two A sv s p expand c w,
    paddingLinesS_width cw cw_space cw_le_two A sv s p expand c w hfit, ?_, ?_, fun k g hg => applyStyle_mem A s _ g hg⟩
  · -- each of the three is one segment `segS (some s) (rep n ' ')` or nothing
    intro g hg
    rcases List.mem_append.mp hg with hg | hg
    · rcases List.mem_append.mp hg with hg | hg
      · rw [blankLineS_eq] at hg
        exact mem_optBlank hg
      · exact mem_optBlank hg
    · exact mem_optBlank hg
  · intro l hl
    exact adjust_pad_stream cw l _ (some s) (splitAndCrop_le cw cw_space cw_le_two _ _ _ false l hl)

/-- **panel_border_style.**  For every child, box, styles `s` (panel) and `b` (border), title oracle, padding and
width: the top border, the two side cells of every body row and the bottom border are segments of style
`s + b`; between the side cells stands, unchanged, what `render_lines(style=s)` gives for the (padded) child. -/
theorem panel_border_style (A : SOps σ) (env : Env) (sv : SVariant) (o : PanelOpts) (s b : σ) (title : Option (TitleO σ))
    (c : Child σ) (w : Int) (p : PadDims) (box : Frames.Box) (out : List (Segment σ)) (hp : unpackPad o.padding = .ok p)
    (hb : boxAt (substituteBox env (o.safeBox.getD env.safeBox) o.box) = some box)
    (ht : ∀ t, title = some t → t.NlFreeO)
    (h : panelConsoleS cw A env sv o s b title c w = .ok (some out)) :
    let cwid := panelChildWidthS sv o title (panelInnerS cw A sv p c) w
    ∃ top, panelTopLineS A env sv s b title box cwid = some top ∧
      splitLines out = [top]
        ++ ((panelInnerS cw A sv p c).linesAtS cw A sv cwid (some s) true).map
            (fun l => [segS (some (A.add s b)) [box.midLeft]] ++ l ++ [segS (some (A.add s b)) [box.midRight]])
        ++ [[segS (some (A.add s b)) (boxBottom box cwid)]] ∧
      (∀ l ∈ (panelInnerS cw A sv p c).linesAtS cw A sv cwid (some s) true, lineLength cw l = cwid.toNat) ∧
      (title = none → top = [segS (some (A.add s b)) (boxTop box cwid)]) :=by
  dsimp only
  obtain ⟨hnn, _⟩ := boxAt_ok _ box hb
  obtain ⟨top, htop, hlines⟩ := panelConsoleS_lines cw A env sv o s b title c w p box out hp hb hnn ht h
  refine ⟨top, htop, hlines, splitAndCrop_exact cw cw_space cw_le_two _ _ _, ?_⟩
  intro hnone
  subst hnone
  rw [panelTopLineS_none] at htop
  exact (Option.some.inj htop).symm

/-- **panel_content_pad_style** (repaired `render_lines`, fix 63e086e): the blanks that complete a short child line inside a
panel carry the panel style `s`, like every other content cell. -/
theorem panel_content_pad_style (A : SOps σ) (z t r : Bool) (bv : Frames.Variant) (inner : Child σ) (s : σ) (cwid : Int) :
    inner.linesAtS cw A { base := bv, linesPadUnstyled := false, titleAtConsoleWidth := t, ruleNoTitleEnd := r } cwid (some s) true =
      (splitLinesTagged (Frames.applyStyle A (some s) (inner.renderAt cwid))).map (fun q => adjustLineLength cw q.1 cwid.toNat (some s) true) := by
  have := z
  unfold Child.linesAtS
  rw [renderLinesS_pad_style]
  rfl

/-- a child rendering the one line `hi` (style 7) -/
def hiChild : Child Nat := { measure := fun _ => ⟨2, 2⟩, render := fun _ => [{ text := ['h', 'i'], style := some 7, control := false }, nl] }
def natOps : SOps Nat := { add := fun a b => a * 100 + b, null := 0 }

/-- rich 9.10.0 as found (before fix 63e086e): inside `Panel("hi", style=5, padding=0)` the blanks after `hi` have style `None`
(not the panel style): `render_lines` does not hand its `style` to `split_and_crop_lines`. -/
theorem old_panel_content_pad_unstyled :
    hiChild.linesAtS cw natOps { linesPadUnstyled := true } 4 (some 5) true
      = [[{ text := ['h', 'i'], style := some 507, control := false }, { text := [' ', ' '], style := none, control := false }]] ∧
    hiChild.linesAtS cw natOps { linesPadUnstyled := false } 4 (some 5) true
      = [[{ text := ['h', 'i'], style := some 507, control := false }, { text := [' ', ' '], style := some 5, control := false }]] := by
  decide +kernel

/-- **align_style.**  The lines of `Align(child, …, style=st)`: the pads are segments of style `st`, the child's own
lines (each brought to the common width with unstyled blanks) stand between them, and the whole line is then
restyled by `apply_style(st)` (`st + segment style`; nothing happens for `st = None`). -/
theorem align_style (A : SOps σ) (env : Env) (sv : SVariant) (o : AlignOpts) (style : Option σ) (c : Child σ) (w : Int) :
    splitLines (alignConsoleS cw A env sv o style c w) = alignLinesS cw A env sv o style c w :=
  alignConsoleS_lines cw A env sv o style c w

/-- **vertical_center_lines.**  `VerticalCenter`: `⌊(height − n)/2⌋` blank lines, the child's `n` own lines
(unpadded), the remaining blank lines; the blank lines are one segment of the requested style, as wide as the
child's widest line. -/
theorem vertical_center_lines (height : Int) (style : Option σ) (c : Child σ) (w : Int) :
    splitLines (verticalCenterConsoleS cw height style c w) = verticalCenterLinesS cw height style c w ∧
    ((c.linesAt cw w false).length ≤ height →
      ((verticalCenterLinesS cw height style c w).length : Int) = height) := by
  refine ⟨verticalCenterConsoleS_lines cw height style c w, ?_⟩
  intro hle
  simp only [verticalCenterLinesS, List.length_append, List.length_replicate]
  omega

/-! ### Title width and the `end` of a title-less rule -/

/-- Repaired `Panel` (title rendered at the width it was aligned to: fix 0e1edf7; `rstrip_end` counting cells: fix f5f2be9): for a simple
title the title part of the top border is exactly `cwid − 2` cells — the top border is as wide as the rest of
the panel — at EVERY available width, wider than the console or not.  (`cwid` = child width, the panel is
`cwid + 2` wide; `hsimple`: the aligned title stays in the simple domain, i.e. the fill character is simple.) -/
theorem panel_title_own_width (v : Frames.Variant) (title : List Char) (a : AlignM) (t : TitleO σ) (st : σ)
    (cwid : Int) (ch : Char) (hch : cw ch = 1) (h2 : 2 ≤ cwid) (hv : v.rstripCountsChars = false)
    (ht : simpleTitle (σ := σ) cw v title a = some t)
    (hsimple : ∀ t0, panelTitle title = some t0 → (textAlign cw t0 a (cwid - 2) ch).all simpleChar = true) :
    ∃ ts, t.render st (cwid - 2) ch (cwid - 2) = some ts ∧ lineLength cw ts = (cwid - 2).toNat := by
  -- not needed: in no space nothing is rendered, which is 0 cells
  have _ := h2
  exact simpleTitle_own_width cw cw_space cw_le_two ht st (cwid - 2) ch hch hsimple (by intro h; rw [hv] at h; cases h)

/-- rich 9.10.0 as found (before fix 0e1edf7) renders the title at `console.width`, not at the width it was aligned to
(`Panel("x", title="a long title here")` on a 10-column console rendered at width 30: the title is aligned to 26 cells and
rendered at 10).  What is stated: the simple-title oracle asked to render the 26-cell title at width 10 answers `none` (the
text does not fit, outside its one-line domain), and rendered at its own width 26 (repaired `rstrip_end`) it is 26 cells. -/
theorem old_panel_title_cropped_at_console_width :
    ((simpleTitle (σ := Nat) cw {} "a long title here".toList .center).bind
      (fun t => t.render 0 26 '─' 10)) = none ∧
    ((simpleTitle (σ := Nat) cw { rstripCountsChars := false } "a long title here".toList .center).bind
      (fun t => (t.render 0 26 '─' 26).map (lineLength cw))) = some 26 := by
  rw [String.toList_ofList]
  decide +kernel

/-- Repaired `Rule` without a title honours its `end` option (fix a442cbd); rich 9.10.0 as found ignores it (second conjunct:
the witness for `ruleNoTitleEnd`). -/
theorem rule_no_title_end (env : Env) (bv : Frames.Variant) (l t : Bool) (o : RuleOpts) (w : Int) (h : o.title = []) :
    (ruleTextS cw env { base := bv, linesPadUnstyled := l, titleAtConsoleWidth := t, ruleNoTitleEnd := false } o w).2 = o.endS ∧
    (ruleTextS cw env { base := bv, linesPadUnstyled := l, titleAtConsoleWidth := t, ruleNoTitleEnd := true } o w).2 = ['\n'] := by
  unfold ruleTextS ruleText
  simp [h]

/-! ## Rule -/

/-- **rule_exact.**  For every title, `characters` (any length, wide characters included), alignment,
`end` and width `w ≥ 1` in the modelled domain: the rule is one line of exactly `w` cells followed by
`end`.  With the repaired `Text.rstrip_end` (cell count; fix f5f2be9, what /repo contains now) this holds unconditionally — zero-width
characters in the title included; with the as-found one (character count) it needs the text to have no more
characters than cells available or not to end in a blank (see `old_rule_short_after_rstrip`). -/
theorem rule_exact (env : Env) (v : Frames.Variant) (o : RuleOpts) (w : Int) (hw : 1 ≤ w) (out : List (Segment σ))
    (h : ruleConsole cw env v o w = some out)
    (hns : v.rstripCountsChars = true →
      ((ruleText cw env v o w).1.length : Int) ≤ w ∨ trailingSpaces (ruleText cw env v o w).1 = 0) :
    out = [seg (ruleText cw env v o w).1] ++ (if (ruleText cw env v o w).2.isEmpty then [] else [seg (ruleText cw env v o w).2]) ∧
    cellLen cw (ruleText cw env v o w).1 = w.toNat := by
  have hlen := ruleText_cellLen cw cw_space cw_le_two env v o w (by omega)
  refine ⟨?_, hlen⟩
  -- `ruleConsole` hands the two components of `ruleText` to `textConsoleSimple`
  rw [textConsoleSimple_unstripped (plain := (ruleText cw env v o w).1) (e := (ruleText cw env v o w).2) h hns, if_neg]
  intro he
  rw [List.isEmpty_iff.mp he, cellLen_nil] at hlen
  omega

/-- Repaired `Text.rstrip_end`: every rule (any title, zero-width characters included, any alignment,
any `characters`) is exactly `w` cells wide. -/
theorem rule_exact_repaired (env : Env) (z r k : Bool) (o : RuleOpts) (w : Int) (hw : 1 ≤ w) (out : List (Segment σ))
    (h : ruleConsole cw env { zeroWidthChild := z, ruleRightRepeat := r, rstripCountsChars := false, columnsZeroCount := k } o w = some out) :
    ∃ plain e, out = [seg plain] ++ (if e.isEmpty then [] else [seg e]) ∧ cellLen cw plain = w.toNat := by
  obtain ⟨h1, h2⟩ := rule_exact env _ o w hw out h (by intro hv; cases hv)
  exact ⟨_, _, h1, h2⟩

/-- The text of a rule is exactly `w` cells wide for every input whatsoever (`w ≥ 0`). -/
theorem rule_text_exact (env : Env) (v : Frames.Variant) (o : RuleOpts) (w : Int) (hw : 0 ≤ w) :
    cellLen cw (ruleText cw env v o w).1 = w.toNat :=
  ruleText_cellLen cw cw_space cw_le_two env v o w hw

/-- Repaired `Rule(align="right")`: a title that fits is shown whole at the right end behind one blank,
after a side of exactly the remaining cells — for every `characters` string. -/
theorem rule_right_shows_title (env : Env) (z : Bool) (o : RuleOpts) (w : Int) (ha : o.align = .right) (hne : o.title ≠ [])
    (hfit : (cellLen cw (o.title.map (fun c => if c == '\n' then ' ' else c)) : Int) + 2 ≤ w) :
    ∃ side : List Char,
      (ruleText cw env { zeroWidthChild := z, ruleRightRepeat := false } o w).1
        = side ++ [' '] ++ o.title.map (fun c => if c == '\n' then ' ' else c) ∧
      (cellLen cw side : Int) = w - cellLen cw (o.title.map (fun c => if c == '\n' then ' ' else c)) - 1 :=
  ruleText_right cw cw_space cw_le_two env rfl o w ha hne hfit

/-- rich 9.10.0 as found (before fix 8879061): `Rule("title", characters="-=", align="right")` at width 20 does not show
its title at all (the side is `characters` repeated 14 times = 28 cells, and the final crop removes the title). -/
theorem old_rule_right_loses_title :
    (ruleText cw { consoleWidth := 20 } { ruleRightRepeat := true }
      { title := "title".toList, characters := "-=".toList, align := .right } 20).1 = "-=-=-=-=-=-=-=-=-=-=".toList := by
  rw [String.toList_ofList, String.toList_ofList, String.toList_ofList]
  decide +kernel

example : (ruleText cw { consoleWidth := 20 } { ruleRightRepeat := false }
      { title := "title".toList, characters := "-=".toList, align := .right } 20).1 = "-=-=-=-=-=-=-= title".toList := by
  rw [String.toList_ofList, String.toList_ofList, String.toList_ofList]
  decide +kernel

/-- rich 9.10.0 as found (before fix f5f2be9): a right-aligned title with a zero-width character and a trailing blank makes the rule
one cell short (`Rule(Text("à "), align="right")` at width 10 draws 9 cells). -/
theorem old_rule_short_after_rstrip :
    (ruleConsole (σ := Nat) cw { consoleWidth := 10 } {} { title := ['a', '\u0300', ' '], align := .right } 10).map (lineLength cw)
      = some 9 := by decide +kernel

example : (ruleConsole (σ := Nat) cw { consoleWidth := 10 } { rstripCountsChars := false } { title := ['a', '\u0300', ' '], align := .right } 10).map (lineLength cw)
      = some 10 := by decide +kernel

example : (ruleConsole (σ := Nat) cw { consoleWidth := 7 } {} { characters := ['あ'] } 7).map (lineLength cw) = some 7 := by
  decide +kernel

/-! ## Bar and ProgressBar -/

/-- **bar_begin_end_spec.**  Which cells of a `Bar` are blank, partial and full, as a function of `begin`, `end`,
`size` (exact rationals) and the width: with `lo = ⌊8·width·begin/size⌋`, `hi = ⌊8·width·end/size⌋` eighths
(`0 ≤ lo ≤ hi ≤ 8·width`): `lo / 8` blanks, the right-aligned partial block `BEGIN[lo % 8]` if `lo % 8 ≠ 0`, full
blocks up to cell `hi / 8`, the left-aligned partial block `END[hi % 8]` if `hi % 8 ≠ 0` and that cell is not
already the begin block's, blanks up to `width`. -/
theorem bar_begin_end_spec (o : BarOpts) (w : Int)
    (hsd : 0 < o.size.den) (hbd : 0 < o.beginV.den) (hed : 0 < o.endV.den)
    (hb0 : 0 ≤ o.beginV.num) (hes : o.endV.le o.size = true) (hlt : o.endV.le o.beginV = false)
    (hw : 0 ≤ barWidth o.width w) :
    let width := barWidth o.width w
    let lo := (width * 8 * o.beginV.num * o.size.den) / (o.beginV.den * o.size.num)
    let hi := (width * 8 * o.endV.num * o.size.den) / (o.endV.den * o.size.num)
    let px : List Char := if lo % 8 != 0 then [beginBlocks.getD (lo % 8).toNat ' '] else []
    let ex : List Char := if hi % 8 != 0 then [endBlocks.getD (hi % 8).toNat ' '] else []
    0 ≤ lo ∧ lo ≤ hi ∧ hi ≤ width * 8 ∧
    barConsole (σ := σ) o w =
      [seg (List.replicate (lo / 8).toNat ' ' ++ px
            ++ (List.replicate ((hi / 8).toNat - ((lo / 8).toNat + px.length)) '█'
                ++ (if (lo / 8).toNat + px.length ≤ (hi / 8).toNat then ex else []))
            ++ List.replicate (width.toNat - ((hi / 8).toNat + ex.length)) ' '), nl] := by
  intro width lo hi px ex
  have hk : 0 ≤ width * 8 := by show 0 ≤ barWidth o.width w * 8; omega
  obtain ⟨hen, h0, h1, h2⟩ := bar_ends (width * 8) _ _ _ hk hsd hbd hed hb0 hes hlt
  rw [truncMulDiv_eq _ _ _ hk hb0] at h0 h1
  rw [truncMulDiv_eq _ _ _ hk hen] at h1 h2
  refine ⟨h0, h1, h2, ?_⟩
  rw [barConsole_eq, hlt, truncMulDiv_eq _ _ _ hk hb0, truncMulDiv_eq _ _ _ hk hen]
  exact congrArg (fun t => [seg t, nl]) (barText_eq lo hi width h1 px ex rfl rfl)

/-- an empty range (`end ≤ begin`) is all blanks -/
theorem bar_empty_range (o : BarOpts) (w : Int) (h : o.endV.le o.beginV = true) :
    barConsole (σ := σ) o w = [seg (rep (barWidth o.width w) ' '), nl] := by
  unfold barConsole; simp [h]

example : barConsole (σ := Nat) (barInit { size := ⟨10, 1⟩, beginV := ⟨3, 1⟩, endV := ⟨7, 1⟩, width := some 5 }) 20
    = [seg ['\x20', '▐', '█', '▌', '\x20'], nl] := by decide +kernel


/-- **bar_exact.**  `Bar` (as `__init__` leaves it: `begin ≥ 0`, `end ≤ size`) draws one segment of
exactly `width` cells, for every size, begin, end (exact rationals) and width. -/
theorem bar_exact (o : BarOpts) (w : Int)
    (hsd : 0 < o.size.den) (hbd : 0 < o.beginV.den) (hed : 0 < o.endV.den)
    (hb0 : 0 ≤ o.beginV.num) (hes : o.endV.le o.size = true) (hw : 0 ≤ barWidth o.width w) :
    ∃ text : List Char, barConsole (σ := σ) o w = [seg text, nl] ∧ cellLen cw text = (barWidth o.width w).toNat :=
  barConsole_cells cw (fun c hc => bar_chars_narrow c (List.mem_append.mpr (Or.inl hc))) o w hsd hbd hed hb0 hes hw

/-- `Bar.__init__` establishes the hypotheses of `bar_exact`. -/
theorem bar_init_ok (o : BarOpts) (hbd : 0 < o.beginV.den) :
    0 ≤ (barInit o).beginV.num ∧ (barInit o).endV.le (barInit o).size = true ∧ 0 < (barInit o).beginV.den :=
  barInit_ok o hbd

/-- **progress_bar_le_and_exact.**  A progress bar never exceeds its width, and fills it
exactly when colour is available (`no_color` off and a colour system present), for every total,
completed (exact rationals, any sign) and width. -/
theorem progress_bar_le_and_exact (env : Env) (o : ProgressOpts) (w : Int) (hp : o.pulse = false)
    (hw : 0 ≤ barWidth o.width w) (htd : 0 < o.total.den) (hcd : 0 < o.completed.den) :
    lineLength cw (progressConsole (σ := σ) env o w) ≤ (barWidth o.width w).toNat ∧
    (env.noColor = false → env.colorSystem ≠ 0 →
      lineLength cw (progressConsole (σ := σ) env o w) = (barWidth o.width w).toNat) :=
  progress_bar_cells cw cw_space (bar_chars_narrow _ (by decide)) (bar_chars_narrow _ (by decide))
    (bar_chars_narrow _ (by decide)) (bar_chars_narrow _ (by decide)) env o w hp hw htd hcd

/-- The pulse animation is exactly `width` cells for every time stamp and console. -/
theorem progress_pulse_exact_width (env : Env) (o : ProgressOpts) (w : Int) (hp : o.pulse = true)
    (hw : 0 ≤ barWidth o.width w) :
    lineLength cw (progressConsole (σ := σ) env o w) = (barWidth o.width w).toNat :=
  progress_pulse_exact cw cw_space (bar_chars_narrow _ (by decide)) (bar_chars_narrow _ (by decide)) env o w hp hw

/-- F23: no line feed is ever emitted by a progress bar (so the next renderable continues its line). -/
theorem progress_bar_has_no_newline (env : Env) (o : ProgressOpts) (w : Int) :
    ∀ s ∈ progressConsole (σ := σ) env o w, '\n' ∉ s.text :=
  progressConsole_no_nl env o w

/-! ## Columns -/

/-- **columns_each_once_in_order.**  For every item count, padding, `width`, `equal`, `column_first`,
`right_to_left` and available width for which `Columns` renders: the grid handed to the inner table has
`column_count > 0` columns, every row has exactly that many cells, and reading the rows left to right
(right to left under `right_to_left`) gives `itemOrder` followed only by fewer than `column_count`
blanks; `itemOrder` is `0, 1, …, n-1` row-first, and column-first it puts item `off j + r` at row `r`
of column `j` (consecutive indices down each column, columns left to right); in both cases every item
occurs exactly once. -/
theorem columns_each_once_in_order (v : Frames.Variant) (o : ColumnsOpts) (measured : List Int) (maxWidth : Int) (L : ColumnsLayout)
    (h : columnsLayout v o measured maxWidth = .ok (some L)) :
    0 < L.columnCount ∧
    (∀ row ∈ L.rows, row.length = L.columnCount) ∧
    (∃ k, k < L.columnCount ∧
      ((if o.rightToLeft then L.rows.map List.reverse else L.rows).flatten
        = (itemOrder o.columnFirst measured.length L.columnCount).map some ++ List.replicate k none)) ∧
    (L.rows.flatten.filterMap id).Perm (List.range measured.length) ∧
    (o.columnFirst = false → itemOrder o.columnFirst measured.length L.columnCount = List.range measured.length) ∧
    (o.columnFirst = true → ∀ r j, j < L.columnCount → r * L.columnCount + j < measured.length →
      (itemOrder o.columnFirst measured.length L.columnCount)[r * L.columnCount + j]?
        = some (colOff measured.length L.columnCount j + r)) := by
  obtain ⟨hc, hrows, hk⟩ := columnsLayout_each_once v o measured maxWidth L h
  refine ⟨hc, hrows, hk, columnsLayout_items_perm v o measured maxWidth L h, ?_, ?_⟩
  · intro hf; rw [hf]; exact itemOrder_rowFirst _ _
  · intro hf r j hj hp; rw [hf]; exact itemOrder_columnFirst_getElem? hc r j hj hp

/-- F11, rich 9.10.0 as found, before fix f7ecf83 (belongs to C14, lives in this model): `Columns(width=…)` raises
`ZeroDivisionError` exactly when the requested column width plus padding is 0 or exceeds the available width. -/
theorem old_columns_zero_division_iff (z r k : Bool) (o : ColumnsOpts) (measured : List Int) (maxWidth : Int) (p : PadDims) (cwid : Int)
    (hne : measured ≠ []) (hp : unpackPad o.padding = .ok p) (hw : o.width = some cwid) :
    columnsLayout { zeroWidthChild := z, ruleRightRepeat := r, rstripCountsChars := k, columnsZeroCount := true } o measured maxWidth
        = .error .zeroDivision ↔
      (cwid + max (p.left : Int) p.right = 0 ∨ maxWidth / (cwid + max (p.left : Int) p.right) ≤ 0) := by
  rw [columnsLayout_error_iff _ o measured maxWidth p hne hp, hw]
  simp

/-- Repaired `Columns` (`column_count = max(1, max_width // max(1, width + padding))`): with valid padding
and at least one item it never raises — for every `width` option whatsoever, and without one whenever the
items' measurements are sound — and lays the items out in at least one column. -/
theorem columns_repaired_never_raises (z r k : Bool) (o : ColumnsOpts) (measured : List Int) (maxWidth : Int) (p : PadDims)
    (hne : measured ≠ []) (hp : unpackPad o.padding = .ok p) (hmw : 0 ≤ maxWidth)
    (hw : o.width = none → ∀ m ∈ measured, m ≤ maxWidth) :
    ∃ L, columnsLayout { zeroWidthChild := z, ruleRightRepeat := r, rstripCountsChars := k, columnsZeroCount := false } o measured maxWidth
        = .ok (some L) ∧ 0 < L.columnCount := by
  obtain ⟨L?, hres⟩ := columnsLayout_ok_of_repaired
    { zeroWidthChild := z, ruleRightRepeat := r, rstripCountsChars := k, columnsZeroCount := false } rfl o measured maxWidth p hp hmw hw
  cases L? with
  | none => exact absurd hres (columnsLayout_ne_none _ o maxWidth hne)
  | some L => exact ⟨L, hres, (columnsLayout_each_once _ o measured maxWidth L hres).1⟩

/-- Without a `width` option no `ZeroDivisionError` is possible when the items' measurements are sound. -/
theorem columns_auto_width_total (v : Frames.Variant) (o : ColumnsOpts) (measured : List Int) (maxWidth : Int)
    (hw : o.width = none) (hmw : 0 ≤ maxWidth) (hfit : ∀ m ∈ measured, m ≤ maxWidth) :
    columnsLayout v o measured maxWidth ≠ .error .zeroDivision :=
  columnsLayout_no_zeroDivision v o measured maxWidth hw hmw hfit

example : (match columnsLayout {} { width := some 30 } [3, 3] 20 with | .error .zeroDivision => true | _ => false) = true := by decide +kernel
example : (match columnsLayout { columnsZeroCount := false } { width := some 30 } [3, 3] 20 with
    | .ok (some L) => L == ⟨1, [[some 0], [some 1]]⟩ | _ => false) = true := by decide +kernel
example : (match columnsLayout { columnsZeroCount := false } { width := some 0, padding := [0] } [3, 3] 4 with
    | .ok (some L) => L == ⟨4, [[some 0, some 1, none, none]]⟩ | _ => false) = true := by decide +kernel
example : (match columnsLayout {} { columnFirst := true } [1, 1, 1, 1, 1] 5 with
    | .ok (some L) => L == ⟨3, [[some 0, some 2, some 4], [some 1, some 3, none]]⟩ | _ => false) = true := by decide +kernel

/-- **columns_rendered_cells.**  `Columns` down to the characters (composition layer `Model/Layout.lean`, inner
`Table.grid` = `Model/Table.lean`): what is rendered is the grid table whose cell at row `r`, column `j` is the
oracle of the item the layout puts there — `itemOrder` read row by row, blanks last — wrapped in `Constrain` /
`Align` as `equal` / `align` ask, or the blank text.  Together with C07's `rows_in_order` and
`fold_cells_in_column` (every cell's own lines appear verbatim inside its column's span of its row) this is:
every item is RENDERED exactly once, at the documented grid position. -/
theorem columns_rendered_cells (cfg : Layout.Cfg) (o : Layout.ColsOpts) (opts : Layout.Opts) (items : List (Child Nat)) (w : Nat)
    (p : PadDims) (lay : ColumnsLayout) (hp : unpackPad o.lay.padding = .ok p)
    (hlay : columnsLayout cfg.v o.lay (items.map (fun c => (c.measureAt (w : Int)).maximum)) (w : Int) = .ok (some lay)) :
    Layout.columnsConsole cfg o opts items w = Layout.tableConsole cfg (o.grid p) opts (Layout.colsGrid cfg o items w lay) w ∧
    (Layout.colsGrid cfg o items w lay).length = lay.columnCount ∧
    (∀ j r, j < lay.columnCount → r < lay.rows.length →
      ∃ col, (Layout.colsGrid cfg o items w lay)[j]? = some col ∧ col.cells.length = lay.rows.length ∧
        col.cells[r]? = some (Layout.colsCell cfg o items w ((lay.rows.getD r []).getD j none))) ∧
    (lay.rows.flatten.filterMap id).Perm (List.range items.length) := by
  refine ⟨Layout.columnsConsole_eq_grid cfg o opts items w p lay hp hlay, Layout.colsGrid_length cfg o items w lay,
    fun j r hj hr => Layout.colsGrid_cell cfg o items w lay j r hj hr, ?_⟩
  have := columnsLayout_items_perm cfg.v o.lay _ _ lay hlay
  simpa using this

/-! ## Tree -/

/-- **tree_walk_is_depth_first.**  The explicit stack walk of `Tree.__rich_console__` (with the fuel the
model gives it: it terminates) equals the depth-first reference walk `specTree`: a node's label lines,
then its children in order if it is expanded, every line behind one guide segment per ancestor level.
For every tree shape, every `expanded` flag, every label, every guide style. -/
theorem tree_walk_is_depth_first (env : Env) (root : TreeN σ) (w : Int) :
    treeConsole cw env root w = specTree cw env root w :=
  treeConsole_eq_spec cw env root w

/-- **tree_prefix_four_cells_per_level.**  A guide prefix of `d` levels is exactly `4 * d` cells wide (ASCII,
legacy-windows and the three Unicode guide sets alike). -/
theorem tree_prefix_four_cells_per_level (env : Env) (gs : List Guide) (h : ∀ g ∈ gs, g.idx < 4) :
    lineLength cw (gs.map (guideSeg (σ := σ) env)) = 4 * gs.length :=
  lineLength_guides cw guides_ok env gs h

/-- **tree_rect.**  Every line of a rendered tree is exactly `w` cells wide: label line of
`w - 4 * depth` cells behind `4 * depth` guide cells. -/
theorem tree_rect (env : Env) (root : TreeN σ) (w : Int) :
    ∀ l ∈ splitLines (treeConsole cw env root w), lineLength cw l = w.toNat :=
  treeConsole_rect cw cw_space cw_le_two guides_ok env root w


/-! ## `Text` titles of Rule / Panel, styled Bar / ProgressBar -/

section TextTitles
open RichModel.Text RichModel.Wrap
variable [BEq σ]

theorem cw_ellipsis : cw '…' = 1 := cw_narrow _ List.mem_cons_self

/-- **rule_text_title_fills_width.**  `Rule.__rich_console__` on real `Text` values (`ruleConsoleT`): for EVERY title text
(spans, tabs, line feeds, wide characters, longer than the rule; `none` = no title), every `characters` string free of
line feed / tab / stripped control codes (wide characters included; the constructor guarantees at least one cell), every
alignment, every `end`, every width `w ≥ 1` and every justify / overflow / no_wrap in force, on the repaired code:
nothing raises and the output is ONE line of exactly `w` cells followed by the `end` (`"\n"` for a title-less rule under
the as-found flag `ruleNoTitleEnd`).  Title hypothesis: a consistent `Text` whose `tab_size` is positive (what
`Text.__init__` builds). -/
theorem rule_text_title_fills_width (cfg : TCfg σ) (hcw : cfg.cw = cw) (hwv : cfg.wv = WVariant.repaired) (env : Env)
    (sv : SVariant) (o : RuleOptsT σ) (opts : TOpts) (w : Nat) (hw : 1 ≤ w) (hch : GoodC o.characters)
    (htitle : ∀ t, o.title = some t → Text.Inv t ∧ ∃ ts, 0 < ts ∧ t.tabSize = some ts) :
    ∃ segs x, ruleConsoleT cfg env sv o opts (w : Int) = .ok segs ∧
      segChars segs = x ++ (if o.title.isNone && sv.ruleNoTitleEnd then ['\n'] else o.endS) ∧
      cellLen cw x = w ∧ '\n' ∉ x ∧ ∀ s ∈ segs, s.control = false := by
  have := ruleConsoleT_exact cfg hwv (by rw [hcw]; exact cw_space) (by rw [hcw]; exact cw_le_two) env sv o opts w hw hch htitle
  rw [hcw] at this
  exact this

/-- **panel_text_title_own_width.**  The title part of a panel's top border, for EVERY consistent `Text` title (spans,
tabs, line feeds, wide characters, any alignment, longer than the panel or not) whose own overflow method is not
"ignore": `Panel._title` succeeds and `title_text.align(…, cwid − 2, box.top)` rendered at `cwid − 2` is one line of
exactly `cwid − 2` cells (nothing at all when `cwid − 2 < 1`: `Console.render` yields nothing in no space). -/
theorem panel_text_title_own_width (cfg : TCfg σ) (hcw : cfg.cw = cw) (hwv : cfg.wv = WVariant.repaired) (a : AlignM)
    (t0 : Text σ) (hi : Text.Inv t0) (ts : Nat) (hts : 0 < ts) (htab : t0.tabSize = some ts)
    (hov : t0.overflow ≠ some RichModel.Overflow.ignore) (st : σ) (cwid : Int) (ch : Char) (hch : cw ch = 1) (hg : GoodC [ch]) :
    ∃ title segs, panelTitleText Variant.repaired true t0 = .ok (some title) ∧
      (textTitleO cfg a title).render st (cwid - 2) ch (cwid - 2) = some segs ∧
      lineLength cw segs = (cwid - 2).toNat ∧ '\n' ∉ segChars segs ∧ ∀ s ∈ segs, s.control = false := by
  have := textTitleO_own_width cfg hwv (by rw [hcw]; exact cw_space) (by rw [hcw]; exact cw_le_two) (by rw [hcw]; exact cw_ellipsis)
    a t0 hi ts hts htab hov st (cwid - 2) ch (by rw [hcw]; exact hch) hg
  rw [hcw] at this
  exact this

/-- **panel_text_title_top_border.**  Hence the whole top border of a repaired panel with such a title — corner, one
`top`, the title part, one `top`, corner — is exactly `cwid + 2` cells, the width of every other line of the panel
(`panel_border_style`), for every child width `cwid ≥ 2`. -/
theorem panel_text_title_top_border (cfg : TCfg σ) (hcw : cfg.cw = cw) (hwv : cfg.wv = WVariant.repaired) (A : SOps σ)
    (env : Env) (sv : SVariant) (hsv : sv.titleAtConsoleWidth = false) (a : AlignM)
    (t0 : Text σ) (hi : Text.Inv t0) (ts : Nat) (hts : 0 < ts) (htab : t0.tabSize = some ts)
    (hov : t0.overflow ≠ some RichModel.Overflow.ignore) (s b : σ) (box : Frames.Box) (hbox : box.Narrow cw)
    (hg : GoodC [box.top]) (cwid : Int) (h2 : 2 ≤ cwid) :
    ∃ title top, panelTitleText Variant.repaired true t0 = .ok (some title) ∧
      panelTopLineS A env sv s b (some (textTitleO cfg a title)) box cwid = some top ∧
      lineLength cw top = (cwid + 2).toNat := by
  obtain ⟨title, segs, h1, h2', h3, _, _⟩ := panel_text_title_own_width cfg hcw hwv a t0 hi ts hts htab hov (A.add s b) cwid
    box.top hbox.2.1 hg
  obtain ⟨top, htop, hw⟩ := panelTopLineS_titled cw hbox A env hsv s b _ h2 h2' h3
  exact ⟨title, top, h1, htop, hw⟩

/-- a title with a tab, a wide character and a span; `natOps` as the style algebra -/
def exTitle : Text Nat :=
  { plain := ['a', '\t', 'あ', '\n', 'b'], length := 5, spans := [⟨1, 4, 7⟩], style := 0, justify := none, overflow := none,
    noWrap := none, endStr := ['\n'], tabSize := some 8 }
def exCfg : TCfg Nat := { cw := cw, A := natOps, wv := WVariant.repaired }

example : Text.Inv exTitle := by unfold Text.Inv; decide +kernel
example : GoodC ['─', 'あ'] := by
  intro c hc
  simp only [List.mem_cons, List.mem_nil_iff, or_false] at hc
  rcases hc with rfl | rfl <;> decide +kernel
example : exTitle.overflow ≠ some RichModel.Overflow.ignore ∧ exTitle.tabSize = some 8 := by decide +kernel

end TextTitles

/-! ### styled Bar / ProgressBar (`Model/FramesBarsStyled.lean`; the pulse animation depends on `monotonic()` and is excluded) -/

/-- **progress_bar_styled_split.**  `ProgressBar.__rich_console__` (no pulse) cell by cell with the style of every cell, for
every total (0 and negative included), completed (negative, beyond the total), width option and available width with a
non-negative bar width: `h / 2` bar cells then `h % 2` half-bar cell, all in the complete style — the finished style iff
`completed ≥ total` —, then, only when colour is available, the remaining `width − h/2 − h%2` cells in the background
style (the first a left half bar when the completed part ends on a full cell); `width` cells in all with colour, never
more without (`h` = `complete_halves`). -/
theorem progress_bar_styled_split (env : Env) (o : ProgressOpts) (w : Int) (hw : 0 ≤ barWidth o.width w)
    (htd : 0 < o.total.den) (hcd : 0 < o.completed.den) :
    let width := barWidth o.width w
    let ascii := env.legacyWindows || env.asciiOnly
    let bar := if ascii then '-' else '━'
    let halfR := if ascii then ' ' else '╸'
    let halfL := if ascii then ' ' else '╺'
    let h := progressHalves o width
    let fill := progressFillSty o
    let colour := !env.noColor && env.colorSystem != 0
    let rem := width - h / 2 - h % 2
    let lead : Nat := if h % 2 = 0 ∧ 0 < h / 2 ∧ 0 < rem then 1 else 0
    0 ≤ h ∧ h ≤ width * 2 ∧ 0 ≤ rem ∧
    styledCells (progressStyled env o w) =
      List.replicate (h / 2).toNat (bar, fill) ++ List.replicate (h % 2).toNat (halfR, fill)
        ++ (if colour then List.replicate lead (halfL, BarSty.back) ++ List.replicate (rem.toNat - lead) (bar, BarSty.back)
            else []) ∧
    (styledCells (progressStyled env o w)).length = (if colour then width.toNat else ((h + 1) / 2).toNat) ∧
    (styledCells (progressStyled env o w)).length ≤ width.toNat :=
  progressStyled_split env o w hw htd hcd

/-- erasing the style ids gives back the text model of `Model/Frames.lean` (`progress_bar_le_and_exact` is about it) -/
theorem progress_bar_styled_erases_to_text (env : Env) (o : ProgressOpts) (w : Int) (hp : o.pulse = false) :
    eraseSty (σ := σ) (progressStyled env o w) = progressConsole env o w :=
  progressStyled_erase env o w hp

/-- a finished bar (total ≠ 0) is full: `complete_halves = 2 · width`, so by the split theorem every cell is a bar cell
in the finished style -/
theorem progress_bar_finished_is_full (o : ProgressOpts) (width : Int) (htd : 0 < o.total.den) (hcd : 0 < o.completed.den)
    (hz : o.total.isZero = false) (hfin : progressFillSty o = BarSty.finished) : progressHalves o width = width * 2 := by
  have hge : o.total.num * o.completed.den ≤ o.completed.num * o.total.den := by
    unfold progressFillSty at hfin
    split at hfin
    · cases hfin
    · rename_i hx; simpa [Rat'.lt] using hx
  have htn : o.total.num ≠ 0 := by simpa [Rat'.isZero] using hz
  unfold progressHalves
  simp only [hz, Bool.false_eq_true, if_false]
  -- `min(total, max(0, completed))` is `total` or equal to it as a rational
  by_cases hneg : o.completed.lt ⟨0, 1⟩ = true
  · have hcn : o.completed.num < 0 := by simpa [Rat'.lt] using hneg
    have h1 : o.completed.num * (o.total.den : Int) < 0 := Int.mul_neg_of_neg_of_pos hcn (by omega)
    have htneg : o.total.num < 0 := by
      by_cases h : o.total.num < 0
      · exact h
      · have := Int.mul_nonneg (Int.not_lt.mp h) (Int.natCast_nonneg o.completed.den); omega
    have hlt : o.total.lt ⟨0, 1⟩ = true := by simp only [Rat'.lt, decide_eq_true_eq]; omega
    simp only [hneg, hlt, if_true]
    exact truncMulDiv_of_eq _ _ _ rfl (by omega) htn
  · simp only [hneg, Bool.false_eq_true, if_false]
    split
    · exact truncMulDiv_of_eq _ _ _ rfl (by omega) htn
    · rename_i hlt
      simp only [Rat'.lt, decide_eq_true_eq, Int.not_lt] at hlt
      exact truncMulDiv_of_eq _ _ _ (by omega) (by omega) htn

/-- `Bar.__rich_console__`: ONE segment in the bar's own style, then `Segment.line()` -/
theorem bar_styled_shape (o : BarOpts) (w : Int) : ∃ t, barStyled o w = [(t, BarSty.own), (['\n'], BarSty.line)] := by
  unfold barStyled
  split <;> exact ⟨_, rfl⟩

theorem bar_styled_erases_to_text (o : BarOpts) (w : Int) : eraseSty (σ := σ) (barStyled o w) = barConsole o w := by
  unfold barStyled barParts barConsole eraseSty
  cases o.endV.le o.beginV <;> rfl

/-! ## Non-vacuity -/

/-- a one-line child `"ab"` that measures (2, 2) -/
def abChild : Child Nat := { measure := fun _ => ⟨2, 2⟩, render := fun _ => [seg ['a', 'b'], nl] }

example : (3 : Int) + 1 ≤ paddingWidth { zeroWidthChild := true } ⟨1, 1, 0, 3⟩ true abChild 8 := by decide +kernel
example : splitLines (paddingConsole cw {} ⟨1, 1, 0, 3⟩ false abChild 8)
    = [[seg (rep 6 ' ')], [seg (rep 3 ' '), seg ['a', 'b'], seg [' ']]] := by decide +kernel
example : (panelConsole cw { consoleWidth := 8 } {} { box := 0, title := ['T'] } abChild 8).toOption.isSome = true := by decide +kernel
example : (treeConsole cw { consoleWidth := 12 } (.node abChild {} true [.node abChild {} true [], .node abChild {} true []]) 8).length = 11 := by
  decide +kernel

end RichModel.C08
