import RichModel.Lemmas.Theme
import RichModel.Lemmas.ThemeHist
import RichModel.Lemmas.ThemeConfig
import RichModel.Lemmas.ThemeConfigTotal
import RichModel.Lemmas.ThemeThreads
import RichModel.Lemmas.ThemeCtx
import RichModel.Gen.DefaultStyleNames
import RichModel.Lemmas.StrLit
/-!
# C20 — named styles resolve through a well-behaved theme stack

Property theorems only (definitions of the specification and helper lemmas live in `Lemmas/Theme*`).

* `σ` is the (opaque) type of styles, `parse : Name → Except PErr σ` is `Style.parse`.
* `stackOf base fs` is the concrete `ThemeStack` after pushing the frames `fs` (newest first) over
  the base theme `base`; `specLookup base fs` is the statement of the property (newest frame that
  defines the name, falling through inheriting frames, stopping at a non-inheriting one).
* `runOps f h st` runs a history `h` of `push_theme` / `pop_theme` / `raise` / `with use_theme(..): body`
  statements; `f = true` is `ThemeContext.__enter__` of rich 9.10.0 as found (it ignores `inherit`), `f = false` the
  repaired code (fix 2ea71d3, what /repo contains now).
* `runF` / `runMT shared f` run flat atomic steps (each in its own `try`) on one stack / on the stacks
  of several threads; `shared = true` is what the code does (`threading.local` hands every thread the
  same `ThemeStack` object), `false` a hypothetical variant with one stack per thread.
  **Threads are outside property C20**: its statement quantifies over sequences of pushes, pops and
  `use_theme` blocks on one thread, and the sharing is load-bearing (a `Live` / `Progress` refresh
  thread must see the themes the main thread pushed).  The shared stack is therefore *not* a defect
  and not a finding; `threads_share_one_stack` and `thread_isolation` below only document the two
  variants, and the harness compares real two- and three-thread runs with the `shared = true` model in
  the correspondence (so a change of that behaviour is noticed as model ≠ code) without evaluating
  any property on them.
* `Console(theme=…)`: `ThemeStack(themes.DEFAULT if theme is None else theme)`.  A variant testing
  `if not theme` instead of `is None` is *equivalent*, not a gap: `Theme` defines neither `__bool__`
  nor `__len__`, so every `Theme` instance is truthy and both tests pick `themes.DEFAULT` exactly for
  `None`; there is no input that separates them (the harness checks `Console(theme=Theme({}, inherit=False))`
  — an empty theme — keeps that theme as base).
* `cfgItems lower interp` is the modelled `configparser`; `lower` / `interp` = `true` is the parser
  `Theme.from_file` built in rich 9.10.0 as found (`optionxform = str.lower`, `BasicInterpolation`); /repo now builds
  `lower = true`, `interp = false`: interpolation was switched off by fix 1124f7d, the lower-casing is the known finding
  `config-name-case` (not repaired).
-/
namespace RichModel.C20
open RichModel RichModel.Theme RichModel.Cfg

variable {σ : Type}

/-! ## lookups -/

/-- **resolve_spec**: on the stack that represents the frames `fs` over `base`, a name resolves to
the entry of the newest frame that defines it — falling back to older frames exactly through
inheriting pushes — and to `Style.parse(name)` (with its error) when no visible theme defines it. -/
theorem resolve_spec (parse : Parse σ) (base : Dict σ) (fs : List (Frame σ))
    (hwf : ∀ f ∈ fs, WFD f.styles) (n : Name) :
    resolve parse (stackOf base fs) n =
      match specLookup base fs n with
      | some s => .ok s
      | none => parse n := by
  simp only [resolve, Stack.get, stackOf]
  rw [dget_topOf base fs hwf n]
  cases specLookup base fs n <;> rfl

/-- `Console.get_style` in terms of the specification's lookup: a `Style` instance is returned
as it is; a `StyleSyntaxError` from parsing becomes `MissingStyle`, or the (theme-resolved) default
when one is given; any other exception propagates. -/
theorem get_style_spec (parse : Parse σ) (base : Dict σ) (fs : List (Frame σ))
    (hwf : ∀ f ∈ fs, WFD f.styles) (name : NS σ) (default : Option (NS σ)) :
    getStyle parse (stackOf base fs) name default =
      let look : Name → Except PErr σ := fun n =>
        match specLookup base fs n with
        | some s => .ok s
        | none => parse n
      let one : NS σ → Except GErr σ := fun x =>
        match x with
        | .style s => .ok s
        | .str n =>
          match look n with
          | .ok s => .ok s
          | .error .syntaxError => .error .missingStyle
          | .error .other => .error .other
      match name with
      | .style s => .ok s
      | .str n =>
        match look n with
        | .ok s => .ok s
        | .error .other => .error .other
        | .error .syntaxError =>
          match default with
          | none => .error .missingStyle
          | some d => one d := by
  -- the statement spells `getStyle` and `getStyle1` out, with the specification's lookup where they call `resolve`
  rw [show (fun n => match specLookup base fs n with | some s => Except.ok s | none => parse n) =
    resolve parse (stackOf base fs) from funext fun n => (resolve_spec parse base fs hwf n).symm]
  cases name <;> rfl

/-- **history_refines**: for *every* history (any nesting, any number of unbalanced pops, any
exceptions) the repaired code, started on the stack representing `fs`, ends on the stack
representing the frames the specification computes, with the same outcome (normal /
`ThemeStackError` / the user's exception). -/
theorem history_refines (base : Dict σ) (h : List (Op σ)) (fs : List (Frame σ)) :
    runOps false h (stackOf base fs) = (stackOf base (specOps h fs).1, (specOps h fs).2) :=
  (run_refines base).2 h fs

/-- Hence after any history on a fresh console every name resolves as the specification says for
the frames that are still open. -/
theorem lookup_after_history (parse : Parse σ) (base : Theme σ) (h : List (Op σ)) (hwf : opsWF h) (n : Name) :
    resolve parse (runOps false h (Stack.init base)).1 n =
      match specLookup base.styles (specOps h []).1 n with
      | some s => .ok s
      | none => parse n := by
  rw [init_eq_stackOf, history_refines]
  exact resolve_spec parse base.styles _ (spec_wf.2 h [] hwf fun _ hf => absurd hf List.not_mem_nil) n

/-- **lookups read the top entry only**: two stacks whose top entries coincide answer every
`get_style(name, default=…)` alike, whatever lies below (so a variant that consults the base, or
any middle entry, after the top one is observably different as soon as the top entry lacks a name
that a lower entry has — the harness evaluates exactly this on every snapshot). -/
theorem lookup_reads_top_entry_only (parse : Parse σ) (st st' : Stack σ) (hwf : st.WF) (hwf' : st'.WF)
    (h : st.entries.getLast? = st'.entries.getLast?) (name : NS σ) (default : Option (NS σ)) :
    getStyle parse st name default = getStyle parse st' name default :=
  getStyle_bound_only parse st st' (Option.some.inj (Eq.trans (Eq.symm hwf) (Eq.trans h hwf'))) name default

/-- Which results of `get_style` are fresh objects: forgetting identity gives `get_style`; a looked-up
or parsed style is copied (new link id) exactly when it has a link; a `Style` instance passed as
`name` (or as the `default` that ends up being used) is returned as it is. -/
theorem get_style_object_spec (parse : Parse σ) (linked : σ → Bool) (st : Stack σ) (name : NS σ)
    (default : Option (NS σ)) :
    (getStyleObj parse linked st name default).map Got.val = getStyle parse st name default ∧
    (∀ n s, resolve parse st n = .ok s →
      getStyleObj parse linked st (.str n) default = .ok (if linked s then .fresh s else .same s)) ∧
    (∀ s, getStyleObj parse linked st (.style s) default = .ok (.same s)) := by
  refine ⟨getStyleObj_val parse linked st name default, ?_, fun s => rfl⟩
  intro n s hr
  simp [getStyleObj, hr, copyIfLink]

/-! ## push / pop discipline -/

/-- **pop_push_id**: `pop_theme` after `push_theme` gives back the very same stack — entries and
the bound lookup — for inheriting and non-inheriting pushes alike. -/
theorem pop_push_id (st : Stack σ) (hwf : st.WF) (t : Theme σ) (inherit : Bool) :
    ∃ st', pushTheme st t inherit = .ok st' ∧ popTheme st' = .ok st :=
  ⟨_, pushTheme_eq hwf t inherit, popTheme_pushed hwf _⟩

/-- **balanced_restores**: a balanced history — pushes closed by their pops, `use_theme` blocks
with balanced bodies, bodies possibly aborted by an exception at any point — leaves the whole stack
as it found it, and ends normally or with the user's exception (never a `ThemeStackError`).  Holds
for the code as found and for the repaired code. -/
theorem balanced_restores (f : Bool) (h : List (Op σ)) (c : Bool) (hb : Bal h c)
    (st : Stack σ) (hwf : st.WF) :
    runOps f h st = (st, if c then .normal else .raised .userError) := by
  induction hb generalizing st with
  | nil => exact runOps_nil f st
  | raise rest => rw [runOps_cons, runOp]; rfl
  | useOk _ _ ihb ihr =>
    rw [runOps_cons, runOp_use_restores f _ _ _ hwf _ ihb]
    exact ihr st hwf
  | useAbort rest _ ihb => rw [runOps_cons, runOp_use_restores f _ _ _ hwf _ ihb]; rfl
  | pushPop _ _ ihm ihr =>
    rw [runOps_push_pop_restores f _ _ _ _ hwf ihm]
    exact ihr st hwf

/-- …so every lookup (with or without default) is what it was before the history. -/
theorem balanced_restores_lookups (f : Bool) (h : List (Op σ)) (c : Bool) (hb : Bal h c)
    (st : Stack σ) (hwf : st.WF) (parse : Parse σ) (name : NS σ) (default : Option (NS σ)) :
    getStyle parse (runOps f h st).1 name default = getStyle parse st name default := by
  rw [balanced_restores f h c hb st hwf]

/-- A `use_theme` block restores the stack whatever its balanced body does, including when the body
raises: the exception leaves the block and the theme is gone. -/
theorem use_theme_restores_on_exception (f : Bool) (t : Theme σ) (i : Bool) (body : List (Op σ))
    (hb : Bal body false) (st : Stack σ) (hwf : st.WF) :
    runOp f (.use t i body) st = (st, .raised .userError) :=
  runOp_use_restores f t i body hwf _ fun st1 h1 => balanced_restores f body false hb st1 h1

/-- **base_not_poppable**: popping a stack that holds only the base theme raises
`ThemeStackError` (and changes nothing: the run functions keep the state on error). -/
theorem base_not_poppable (base bound : Dict σ) :
    popTheme (⟨[base], bound⟩ : Stack σ) = .error .themeStackError :=
  rfl

/-- …and no history whatsoever — balanced or not, either variant — removes or replaces the base
theme or unbinds the lookup from the top entry. -/
theorem base_survives (f : Bool) (h : List (Op σ)) (base : Theme σ) :
    (runOps f h (Stack.init base)).1.entries.head? = some base.styles ∧
    (runOps f h (Stack.init base)).1.WF := by
  rw [init_eq_stackOf, (run_refines_variant f base.styles).2]
  exact ⟨entriesOf_head .., stackOf_wf ..⟩

/-- The run the driver traces (state after every executed statement) is the run the theorems are about. -/
theorem trace_is_run (f : Bool) (h : List (Op σ)) (st : Stack σ) :
    ((traceOps f h st).1, (traceOps f h st).2.1) = runOps f h st :=
  (trace_run f).2 h st

/-! ## `ThemeContext` objects with identity (re-entered, re-used) -/

/-- **ctx_objects_are_stateless**: a history in which the results of `console.use_theme(…)` are kept as
objects and entered by identity — the same object again while it is active (`with c: with c: …`),
again after it was left, left by an exception from the inner of two uses — is, statement for statement,
the history in which every `with c:` is a `with console.use_theme(c.theme, inherit=c.inherit):` on a fresh
object: `__enter__` reads only the immutable fields, `__exit__` pops whatever object it is called on.  Both
variants of `__enter__`.  So every theorem about `runOps` transfers (the next three). -/
theorem ctx_objects_are_stateless (f : Bool) (env : CtxEnv σ) (h : List (COp σ)) (st : Stack σ) :
    runCOps f env h st = runOps f (eraseOps env h) st :=
  (runC_erase f env).2 h st

/-- …hence every such history (any re-entry pattern, unbalanced pops, exceptions) ends on the stack the frame
specification computes: a context object entered `k` times contributes `k` frames. -/
theorem ctx_history_refines (base : Dict σ) (env : CtxEnv σ) (h : List (COp σ)) (fs : List (Frame σ)) :
    runCOps false env h (stackOf base fs) =
      (stackOf base (specOps (eraseOps env h) fs).1, (specOps (eraseOps env h) fs).2) := by
  rw [ctx_objects_are_stateless, history_refines]

/-- …and every balanced one restores the whole stack — entries and the bound lookup — however often and however
deeply its context objects are re-entered. -/
theorem ctx_balanced_restores (f : Bool) (env : CtxEnv σ) (h : List (COp σ)) (c : Bool)
    (hb : Bal (eraseOps env h) c) (st : Stack σ) (hwf : st.WF) :
    runCOps f env h st = (st, if c then .normal else .raised .userError) := by
  rw [ctx_objects_are_stateless]
  exact balanced_restores f _ c hb st hwf

/-- The motivating shape: one object `c`, entered, entered again inside, around any balanced body (which may end by
an exception: then both `__exit__`s run on the way out), and — when the body completes — used a third time
afterwards: every theme pushed is popped again, every lookup is what it was. -/
theorem ctx_nested_reentry_restores (f : Bool) (env : CtxEnv σ) (c : Nat) (body : List (COp σ)) (b : Bool)
    (hb : Bal (eraseOps env body) b) (st : Stack σ) (hwf : st.WF) (parse : Parse σ) (name : NS σ)
    (default : Option (NS σ)) :
    runCOps f env [.withC c [.withC c body], .withC c []] st = (st, if b then .normal else .raised .userError) ∧
    getStyle parse (runCOps f env [.withC c [.withC c body], .withC c []] st).1 name default =
      getStyle parse st name default := by
  have hbal : Bal (eraseOps env [.withC c [.withC c body], .withC c []]) b := by
    cases b with
    | true => exact Bal.useOk (Bal.useOk hb Bal.nil) (Bal.useOk Bal.nil Bal.nil)
    | false => exact Bal.useAbort _ (Bal.useAbort _ hb)
  have h := ctx_balanced_restores f env _ b hbal st hwf
  exact ⟨h, by rw [h]⟩

/-- The same for `__enter__` / `__exit__` called by hand: `n` enters of any context objects (the same one as often
as one likes) followed by `n` exits — on whichever objects, in whatever order: `__exit__` only pops — leave the stack
exactly as it was. -/
theorem ctx_enters_exits_restore (f : Bool) (env : CtxEnv σ) (cs ds : List Nat) (hl : ds.length = cs.length)
    (st : Stack σ) (hwf : st.WF) :
    runF f ((cs.map CStep.enterC ++ ds.map CStep.exitC).map (CStep.toF env)) st = st := by
  rw [List.map_append, List.map_map, List.map_map]
  exact runF_nest f (mid := []) (g := id)
    (ha := List.forall_mem_map.2 fun c _ st h =>
      ⟨_, by rw [Function.comp, CStep.toF, applyF, ctxEnter, pushTheme_eq h]⟩)
    (hm := fun _ _ => rfl) (hg := fun st d h => ⟨h, rfl⟩)
    (hb := List.forall_mem_map.2 fun c _ st d h => by
      rw [Function.comp, CStep.toF, applyF, ctxExit, popTheme_pushed h])
    (hl := by rw [List.length_map, List.length_map, hl]) hwf

/-- What is *not* the code (documentation of the class of change the re-entry histories of the harness are there
to catch): a `ThemeContext` that remembers "I am entered" and pops only then.  Entered twice and left twice, the
code (first line) is back on the base theme; the flag variant (`runG`) skips the second pop, so the theme stays pushed
for good — `a` keeps resolving to the pushed style `2`. -/
theorem ctx_entered_flag_would_break_reentry :
    let env : CtxEnv Nat := fun _ => ⟨⟨[(['a'], 2)]⟩, true⟩
    let st0 : Stack Nat := Stack.init ⟨[(['a'], 1)]⟩
    let w : List CStep := [.enterC 0, .enterC 0, .exitC 0, .exitC 0]
    runF false (w.map (CStep.toF env)) st0 = st0 ∧
    (runG env w (st0, [])).1.get ['a'] = some 2 ∧
    (runG env w (st0, [])).1.entries.length = 2 := by
  decide +kernel

/-! ## outside mutation of the base theme's dict (documented non-finding) -/

/-- `ThemeStack.__init__` keeps `theme.styles` itself as `_entries[0]`; pushed entries are fresh
dicts.  So: any number of pushes, then `base_theme.styles[k] = v` from outside, then as many pops
leave exactly the original stack with that assignment applied — the lookups the console would give
had the pushes never happened.  Popping "restores" in this sense also across outside mutation. -/
theorem restore_after_base_mutation (f : Bool) (k : Name) (v : σ) (ps : List (Theme σ × Bool))
    (st : Stack σ) (hwf : st.WF) :
    runF f (ps.map (fun p => FStep.push p.1 p.2) ++ FStep.setBase k v :: List.replicate ps.length FStep.pop) st
      = mutBase k v st :=
  runF_nest f (mid := [.setBase k v]) (g := mutBase k v)
    (ha := List.forall_mem_map.2 fun p _ st h => ⟨_, by rw [applyF, pushTheme_eq h]⟩)
    (hm := fun _ _ => rfl) (hg := fun st d h => ⟨mutBase_wf k v st h, mutBase_pushed k v h d⟩)
    (hb := fun b hb st d h => by cases List.eq_of_mem_replicate hb; rw [applyF, popTheme_pushed h])
    (hl := by rw [List.length_replicate, List.length_map]) hwf

/-- What is *not* promised (and is how the code behaves, checked on every generated schedule): while an
inheriting push is open it holds a snapshot of the entries below, so the outside assignment to the
base (`a := 9`) is invisible until the pop, after which it shows. -/
theorem inherit_snapshot_is_stale :
    (runF (σ := Nat) false [.push ⟨[(['c'], 2)]⟩ true, .setBase ['a'] 9] (Stack.init ⟨[(['a'], 1)]⟩)).get ['a'] = some 1 ∧
    (runF (σ := Nat) false [.push ⟨[(['c'], 2)]⟩ true, .setBase ['a'] 9, .pop] (Stack.init ⟨[(['a'], 1)]⟩)).get ['a'] = some 9 := by
  decide +kernel

/-! ## threads -/

/-- **thread_isolation** — documentation, about the *hypothetical* variant with one `ThemeStack` per
thread (`shared = false`; not what the code does, and not required by C20): for every interleaving
of the steps of any number of threads, a thread's stack is what its own steps (plus everybody's
assignments to the shared base dict) produce when run alone. -/
theorem thread_isolation (f : Bool) (tid : Nat) (sch : List (Nat × FStep σ)) (S : Nat → Stack σ) :
    runMT false f sch S tid = runF f ((sch.filter (relevant tid)).map (·.2)) (S tid) :=
  runMT_slot false f tid sch S

/-- What the code does (documentation, not a defect): `threading.local` hands every thread the same
`ThemeStack` object.  Thread 1, which never pushed, sees thread 0's theme (`a ↦ 2`) — this is what
lets a refresh thread render with the themes the main thread pushed — and a `pop_theme` in thread 1
removes it again; in the per-thread variant neither happens. -/
theorem threads_share_one_stack :
    let S0 : Nat → Stack Nat := fun _ => Stack.init ⟨[(['a'], 1)]⟩
    (runMT true false [(0, .push ⟨[(['a'], 2)]⟩ false)] S0 (slotOf true 1)).get ['a'] = some 2 ∧
    (runMT false false [(0, .push ⟨[(['a'], 2)]⟩ false)] S0 (slotOf false 1)).get ['a'] = some 1 ∧
    (runMT true false [(0, .push ⟨[(['a'], 2)]⟩ false), (1, .pop)] S0 (slotOf true 0)).get ['a'] = some 1 ∧
    (runMT false false [(0, .push ⟨[(['a'], 2)]⟩ false), (1, .pop)] S0 (slotOf false 0)).get ['a'] = some 2 := by
  decide +kernel

/-! ## `Theme(styles, inherit)` -/

/-- A theme built from already-evaluated styles (unique names) answers every lookup with the given
style, else with the default style exactly when `inherit` was requested. -/
theorem theme_new_lookup (defaults : Dict σ) (parse : Parse σ) (styles : Dict σ) (hwf : WFD styles)
    (inherit : Bool) (n : Name) :
    ∃ t, Theme.new defaults parse (some (styles.map (fun p => (p.1, SV.style p.2)))) inherit = .ok t ∧
      dget t.styles n = (dget styles n).or (if inherit then dget defaults n else none) := by
  refine ⟨_, by simp only [Theme.new, evalItems_style]; rfl, ?_⟩
  simp only
  rw [dupdate_nil hwf, dget_dupdate _ _ hwf]
  cases inherit <;> rfl

/-- A definition that does not parse makes the constructor raise that error. -/
theorem theme_new_error (defaults : Dict σ) (parse : Parse σ) (n : Name) (d : Name) (e : PErr)
    (h : parse d = .error e) (inherit : Bool) :
    Theme.new defaults parse (some [(n, SV.str d)]) inherit = .error e := by
  simp [Theme.new, evalItems, h]

/-! ## config round trip -/

/-- **configparser_contract**: the modelled `configparser` (either variant of each flag) returns
exactly the entries `Theme.config` wrote, for every list of entries with unique safe names and safe
values — no bound on their number or length. -/
theorem configparser_contract (lower interp : Bool) :
    Contract (cfgItems lower interp) (safeName lower) (safeValue interp) :=
  cfgItems_render lower interp

/-- **config_roundtrip** (over the abstract contract of `configparser`): for any reader that meets
`Contract` on names `okName` and values `okValue`, a theme with such names whose styles' string
forms are such values and parse back to the same style (C06) reads back from its own config text,
and every lookup in the result is the original lookup — falling back to the defaults exactly when
`inherit` was requested. -/
theorem config_roundtrip (read : List Char → Res (List (Name × List Char))) (okName : Name → Bool)
    (okValue : List Char → Bool) (hc : Contract read okName okValue)
    (defaults : Dict σ) (parse : Parse σ) (str : σ → List Char) (t : Theme σ) (inherit : Bool)
    (hwf : WFD t.styles)
    (hnames : ∀ p ∈ t.styles, okName p.1 = true)
    (hvalues : ∀ p ∈ t.styles, okValue (str p.2) = true)
    (hparse : ∀ p ∈ t.styles, parse (str p.2) = .ok p.2) :
    ∃ t', fromFileWith read defaults parse (Theme.config str t) inherit = .ok t' ∧
      ∀ n, dget t'.styles n = (dget t.styles n).or (dget (if inherit then defaults else []) n) :=
  ⟨_, fromFileWith_config read okName okValue hc defaults parse str t inherit hwf hnames hvalues hparse,
    fun n => by rw [dget_dupdate _ _ (sortItems_wfd _ hwf), dget_sortItems _ hwf]⟩

/-- The round trip for `Theme.from_file` with the modelled parser, both variants of both flags:
without `inherit` the theme read back has *equal styles* (same lookup for every name). -/
theorem config_roundtrip_model (lower interp : Bool) (defaults : Dict σ) (parse : Parse σ)
    (str : σ → List Char) (t : Theme σ) (hwf : WFD t.styles)
    (hnames : ∀ p ∈ t.styles, safeName lower p.1 = true)
    (hvalues : ∀ p ∈ t.styles, safeValue interp (str p.2) = true)
    (hparse : ∀ p ∈ t.styles, parse (str p.2) = .ok p.2) :
    ∃ t', fromFile defaults parse lower interp (Theme.config str t) false = .ok t' ∧
      ∀ n, dget t'.styles n = dget t.styles n := by
  obtain ⟨t', h1, h2⟩ := config_roundtrip (cfgItems lower interp) _ _ (configparser_contract lower interp)
    defaults parse str t false hwf hnames hvalues hparse
  refine ⟨t', h1, fun n => ?_⟩
  rw [h2 n]; cases dget t.styles n <;> simp

/-- With `inherit=True` (the default of `from_file`) a theme that itself contains the defaults
(built with `inherit=True`) also reads back with equal styles. -/
theorem config_roundtrip_inherit (lower interp : Bool) (defaults : Dict σ) (parse : Parse σ)
    (str : σ → List Char) (t : Theme σ) (hwf : WFD t.styles)
    (hnames : ∀ p ∈ t.styles, safeName lower p.1 = true)
    (hvalues : ∀ p ∈ t.styles, safeValue interp (str p.2) = true)
    (hparse : ∀ p ∈ t.styles, parse (str p.2) = .ok p.2)
    (hdef : ∀ n, dget t.styles n = none → dget defaults n = none) :
    ∃ t', fromFile defaults parse lower interp (Theme.config str t) true = .ok t' ∧
      ∀ n, dget t'.styles n = dget t.styles n := by
  obtain ⟨t', h1, h2⟩ := config_roundtrip (cfgItems lower interp) _ _ (configparser_contract lower interp)
    defaults parse str t true hwf hnames hvalues hparse
  refine ⟨t', h1, fun n => ?_⟩
  rw [h2 n]
  cases h : dget t.styles n with
  | some s => simp
  | none => simpa using hdef n h

/-- The round trip for the parser that keeps the case of names (`lower = false`, the variant that would repair the
known finding `config-name-case`) with interpolation off as in /repo: names of any case — `Foo`, `A` next to `a` —
read back unchanged; the only conditions are the ones a config file imposes on any name. -/
theorem config_roundtrip_keeps_case (defaults : Dict σ) (parse : Parse σ)
    (str : σ → List Char) (t : Theme σ) (hwf : WFD t.styles)
    (hnames : ∀ p ∈ t.styles, safeName false p.1 = true)
    (hvalues : ∀ p ∈ t.styles, safeValue false (str p.2) = true)
    (hparse : ∀ p ∈ t.styles, parse (str p.2) = .ok p.2) :
    ∃ t', fromFile defaults parse false false (Theme.config str t) false = .ok t' ∧
      ∀ n, dget t'.styles n = dget t.styles n :=
  config_roundtrip_model false false defaults parse str t hwf hnames hvalues hparse

/-- **from_file_total**: with interpolation off (the repaired parser), for every text — any text
when names are kept, any text without a capital sigma U+03A3 while names are lower-cased (its
lower-casing is position dependent in CPython and outside the model) — `Theme.from_file` ends in a
theme, in one of the `configparser` exceptions (`MissingSectionHeaderError`, `DuplicateSectionError`,
`DuplicateOptionError`, `ParsingError`, `NoSectionError`), or in the exception `Style.parse` raised for
one of the values (`StyleSyntaxError`); the model never answers `unmodelled` there. -/
theorem from_file_total (defaults : Dict σ) (parse : Parse σ) (lower : Bool) (text : List Char)
    (inherit : Bool) (h : lower = true → ∀ c ∈ text, c.toNat ≠ 0x3A3) :
    (∃ t, fromFile defaults parse lower false text inherit = .ok t) ∨
    (∃ e, fromFile defaults parse lower false text inherit = .err (.cfg e)) ∨
    (∃ e d, parse d = .error e ∧ fromFile defaults parse lower false text inherit = .err (.parse e)) :=
  fromFileWith_total _ defaults parse text inherit (cfgItems_modelled lower text h)

/-- `Theme.read` is `Theme.from_file` on the file's text whenever that text has no carriage return
(text mode translates `\r\n` and `\r` to `\n`; nothing else happens to the text — no BOM handling,
no `encoding` argument in this version). -/
theorem read_is_from_file (defaults : Dict σ) (parse : Parse σ) (lower interp : Bool) (text : List Char)
    (inherit : Bool) (h : '\r' ∉ text) :
    readPath defaults parse lower interp text inherit = fromFile defaults parse lower interp text inherit := by
  unfold readPath
  rw [universalNL_id text h]

/-- …and with carriage returns it is not: a CRLF file reads fine (the `\r` is gone), while a name
containing `\r` — which `from_file` on a `StringIO` round-trips — is cut in two by `Theme.read`. A
leading BOM makes either of them raise `MissingSectionHeaderError`. -/
theorem read_carriage_return_and_bom :
    cfgItems true false (universalNL false "[styles]\r\na = red\r\n".toList) = .ok [(['a'], ['r','e','d'])] ∧
    cfgItems true false "[styles]\na\rb = red".toList = .ok [(['a','\r','b'], ['r','e','d'])] ∧
    cfgItems true false (universalNL false "[styles]\na\rb = red".toList) = .err .parsing ∧
    cfgItems true false "\uFEFF[styles]\na = red".toList = .err .missingSectionHeader := by
  simp only [toList_lit rfl]
  decide +kernel

/-- `[DEFAULT]` options are inherited by `[styles]`, continuation lines and empty lines inside a value
are joined with newlines, comments are skipped (concrete instances of the parser model; the
general behaviour is compared with the real parser on every generated text). -/
theorem configparser_fragment_examples :
    cfgItems true false "[DEFAULT]\nq = 1\na = 0\n[styles]\na = b".toList = .ok [(['q'], ['1']), (['a'], ['b'])] ∧
    cfgItems true false "[styles]\na = b\n c\n\n d\nx = y".toList = .ok [(['a'], "b\nc\n\nd".toList), (['x'], ['y'])] ∧
    cfgItems true false "[styles]\na = b\n# c\n  d".toList = .ok [(['a'], "b\nd".toList)] := by
  simp only [toList_lit rfl]
  decide +kernel

/-- …duplicate sections / options raise the documented exceptions; `%(name)s` is literal text once
interpolation is off. -/
theorem configparser_fragment_errors :
    cfgItems true false "[a]\n[a]".toList = .err .duplicateSection ∧
    cfgItems true false "[other]\na = 1\nA = 2\n[styles]".toList = .err .duplicateOption ∧
    cfgItems true false "[styles]\nb = %(a)s".toList = .ok [(['b'], "%(a)s".toList)] := by
  simp only [toList_lit rfl]
  decide +kernel

/-- Side condition on the *generated* table: every key of `DEFAULT_STYLES` is a safe config name
for the lower-casing parser `Theme.from_file` builds (known finding `config-name-case`; so `Theme().config` is inside the round trip's domain). -/
theorem default_names_safe : Gen.defaultStyleNames.all (safeName true) = true := by
  -- every key is non-empty and made of characters that are safe anywhere in a name (`safeName_of_nameChar`)
  have h : Gen.defaultStyleNames.all (fun n => !n.isEmpty && n.all nameChar) = true := by decide +kernel
  refine List.all_eq_true.2 fun n hn => ?_
  have := List.all_eq_true.1 h n hn
  rw [Bool.and_eq_true] at this
  exact safeName_of_nameChar true n (by intro e; rw [e] at this; exact absurd this.1 (by decide)) this.2

/-! ## Witnesses: the defects of the code as found (variant flags `true`) -/

/-- F14: with `ThemeContext.__enter__` ignoring `inherit`, inside `use_theme(t, inherit=False)` a
name that only the base defines still resolves to the base's style (1); the specification (and the
repaired code) finds no theme entry for it. -/
theorem old_use_theme_ignores_inherit :
    (match ctxEnter (σ := Nat) true (Stack.init ⟨[(['b'], 1)]⟩) ⟨[(['a'], 2)]⟩ false with
      | .ok st => st.get ['b'] | .error _ => none) = some 1 ∧
    specLookup (σ := Nat) [(['b'], 1)] [⟨[(['a'], 2)], false⟩] ['b'] = none ∧
    (match ctxEnter (σ := Nat) false (Stack.init ⟨[(['b'], 1)]⟩) ⟨[(['a'], 2)]⟩ false with
      | .ok st => st.get ['b'] | .error _ => some 0) = none := by decide +kernel

/-- What the code as found does instead, for every history: exactly what the repaired code does on
the history in which every `use_theme(..., inherit=…)` is read as `inherit=True` (this is also the
harness's narrow classifier for the finding). -/
theorem old_history_is_forced_inherit (h : List (Op σ)) (st : Stack σ) :
    runOps true h st = runOps false (forceOps h) st :=
  run_old.2 h st

/-- F15: with `BasicInterpolation`, the config of a theme whose style is `link 50%` does not read back
(`InterpolationSyntaxError`); with `interpolation=None` it does. -/
theorem old_config_percent_breaks :
    cfgItems true true (render [(['a'], ['l','i','n','k',' ','5','0','%'])]) = .err .interpolationSyntax ∧
    cfgItems true false (render [(['a'], ['l','i','n','k',' ','5','0','%'])]) = .ok [(['a'], ['l','i','n','k',' ','5','0','%'])] := by
  decide +kernel

/-- …and `%%` silently becomes `%`: the theme read back has a different link. -/
theorem old_config_percent_changes_value :
    cfgItems true true (render [(['a'], ['l','i','n','k',' ','%','%'])]) = .ok [(['a'], ['l','i','n','k',' ','%'])] := by
  decide +kernel

/-- Name case: with `optionxform = str.lower` the name `Foo` reads back as `foo`; with
`optionxform = str` it is kept. -/
theorem old_config_lowercases_names :
    cfgItems true true (render [(['F','o','o'], ['r','e','d'])]) = .ok [(['f','o','o'], ['r','e','d'])] ∧
    cfgItems false true (render [(['F','o','o'], ['r','e','d'])]) = .ok [(['F','o','o'], ['r','e','d'])] := by
  decide +kernel

/-- The known finding `config-name-case` with the parser /repo builds **now** (`lower = true`, `interp = false`):
`Theme({'Foo': 'red'}).config` reads back with the name `foo`; a theme defining both `A` and `a` does not read back at
all (`DuplicateOptionError`), through `Theme.from_file` as well; with `lower = false` both read back as written. -/
theorem known_config_name_case :
    cfgItems true false (render [(['F','o','o'], ['r','e','d'])]) = .ok [(['f','o','o'], ['r','e','d'])] ∧
    cfgItems false false (render [(['F','o','o'], ['r','e','d'])]) = .ok [(['F','o','o'], ['r','e','d'])] ∧
    cfgItems true false (render [(['A'], ['r','e','d']), (['a'], ['d','i','m'])]) = .err .duplicateOption ∧
    cfgItems false false (render [(['A'], ['r','e','d']), (['a'], ['d','i','m'])]) =
      .ok [(['A'], ['r','e','d']), (['a'], ['d','i','m'])] ∧
    fromFile (σ := Nat) [] (fun _ => .ok 7) true false
      (Theme.config (fun _ => ['r','e','d']) ⟨[(['a'], 7), (['A'], 7)]⟩) false = .err (.cfg .duplicateOption) ∧
    fromFile (σ := Nat) [] (fun _ => .ok 7) false false
      (Theme.config (fun _ => ['r','e','d']) ⟨[(['a'], 7), (['A'], 7)]⟩) false = .ok ⟨[(['A'], 7), (['a'], 7)]⟩ := by
  decide +kernel

/-! ## Non-vacuity: the hypotheses are met by concrete non-trivial values -/

/-- a balanced history with nesting, a non-inheriting block and an abort by exception -/
example : Bal (σ := Nat)
    [.push ⟨[(['a'], 1)]⟩ true, .use ⟨[(['b'], 2)]⟩ false [.push ⟨[]⟩ false, .pop], .pop,
     .use ⟨[(['a'], 3)]⟩ true [.use ⟨[]⟩ false [.raise, .pop]], .pop] false :=
  Bal.pushPop (mid := [.use ⟨[(['b'], 2)]⟩ false [.push ⟨[]⟩ false, .pop]])
    (Bal.useOk (Bal.pushPop (mid := []) Bal.nil Bal.nil) Bal.nil)
    (Bal.useAbort _ (Bal.useAbort _ (Bal.raise _)))

example : (Stack.init (σ := Nat) ⟨[(['a'], 1)]⟩).WF := init_wf _
example : WFD (σ := Nat) [(['a'], 1), (['b'], 2)] := by simp [WFD, keys]
example : opsWF (σ := Nat) [.use ⟨[(['a'], 3)]⟩ true [.push ⟨[(['b'], 1)]⟩ false, .raise]] := by
  simp [opsWF, opWF, WFD, keys]
/-- an inheriting frame over a non-inheriting one: `a` comes from the newest, `c` falls through one
frame, `b` (base only) is hidden by the non-inheriting frame. -/
example : specLookup (σ := Nat) [(['b'], 1)] [⟨[(['a'], 2)], true⟩, ⟨[(['c'], 3)], false⟩] ['a'] = some 2
    ∧ specLookup (σ := Nat) [(['b'], 1)] [⟨[(['a'], 2)], true⟩, ⟨[(['c'], 3)], false⟩] ['c'] = some 3
    ∧ specLookup (σ := Nat) [(['b'], 1)] [⟨[(['a'], 2)], true⟩, ⟨[(['c'], 3)], false⟩] ['b'] = none := by decide +kernel
example : safeName true ['r','e','p','r','.','s','t','r'] = true ∧ safeName true ['a',' ','b'] = true
    ∧ safeName true ['F','o','o'] = false ∧ safeName false ['F','o','o'] = true
    ∧ safeName false ['a',':','b'] = false ∧ safeName false [' ','a'] = false := by decide +kernel
example : safeName true ['é'] = true ∧ safeName true ['É'] = false ∧ safeName true ['a', 'Σ'] = false := by
  -- `é` has no row in the table; looking it up chunk by chunk spares the kernel the appends of `Gen.pyLower`
  have h : lowerLookup Gen.pyLower 233 = none := by
    simp only [Gen.pyLower, lowerLookup_append]
    decide +kernel
  have h1 : lowerChar 'é' = ['é'] := by
    rw [lowerChar, if_neg (by decide), show 'é'.toNat = 233 from rfl, h]
  refine ⟨?_, by decide +kernel⟩
  simp only [safeName, lowerName, List.flatMap_cons, List.flatMap_nil, h1]
  decide +kernel
example : safeValue true ['b','o','l','d',' ','r','e','d'] = true ∧ safeValue true ['5','0','%'] = false
    ∧ safeValue false ['5','0','%'] = true := by decide +kernel
example : Theme.config (σ := Nat) (fun _ => ['r','e','d']) ⟨[(['b'], 1), (['a'], 2)]⟩ =
    "[styles]\na = red\nb = red".toList := by
  simp only [toList_lit rfl]
  decide +kernel

/-- a history that re-enters one context object while it is active, leaves the inner use by an exception, and is
balanced after erasure (object 0 = `use_theme({b: 2}, inherit=False)`) -/
example : Bal (σ := Nat) (eraseOps (fun _ => ⟨⟨[(['b'], 2)]⟩, false⟩)
    [.withC 0 [.withC 0 [.push ⟨[]⟩ true, .pop]], .withC 0 [.withC 0 [.raise]]]) false :=
  Bal.useOk (Bal.useOk (Bal.pushPop (mid := []) Bal.nil Bal.nil) Bal.nil) (Bal.useAbort _ (Bal.useAbort _ (Bal.raise _)))
example : safeName false ['F','o','o'] = true ∧ safeName false ['A'] = true ∧ safeValue false ['5','0','%'] = true := by decide +kernel

end RichModel.C20
