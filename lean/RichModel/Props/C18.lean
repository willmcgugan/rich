import RichModel.Lemmas.Color
import RichModel.Lemmas.ColorExtra
import RichModel.Lemmas.ColorFloat
/-!
# C18 — colour down-conversion stays in gamut, is idempotent and picks the nearest entry

The theorems of the property.  The specification predicates `Color.WF`, `Color.InGamut`, `IsNearest`,
`onGreyRamp`, `sgrSpec`, `sourceTriplet` and the lemmas on the palette search, Python's `round` and
`downgrade` by target system are in `Lemmas/Color.lean`; `truecolorSpec`, `displayPalette`, the
hexadecimal digits of `ColorTriplet.hex` and the ASCII restriction of `int(…, 16)` in `Lemmas/ColorExtra.lean`;
the exact-rational blend, rounding to 53 bits and `blend_rgb` in IEEE doubles in `Lemmas/ColorFloat.lean`.
49 theorems.

`P := richPalettes` are the palettes translated from `rich/_palettes.py` / `rich/terminal_theme.py`
on this run; the only facts used about them are the side conditions `palettes_ok` (sizes 16/16/256,
components ≤ 255; the theorems use the sizes) and `default_theme_ok` (the default theme has 16 ANSI colours), re-proved by
`decide +kernel` on every run (`standard_display_is_theme_dependent` states two concrete table values
as a documented observation, not a finding).

`cfg : Cfg` carries (i) the code-variant flag `stdViaPalette` (`true` = rich 9.10.0 as found, `Cfg.today` — the name dates from before
fix 2cec9e1; `false` = the repaired code that /repo contains now, `Cfg.repaired`) and (ii) the list `satExc` of (max, min) channel pairs where the IEEE-double
saturation test differs from the exact one.  Every theorem below holds for **every** such list —
no theorem depends on which way a floating point comparison fell — and, unless it says otherwise,
for both code variants.  No theorem enumerates colours (the nine pairs of `satExcDouble` are a list of the model).
-/
namespace RichModel.C18
open RichModel

/-- The palettes of this run. -/
abbrev P : Palettes := richPalettes

/-- Side condition on the *generated* tables: 16 / 16 / 256 entries, every component ≤ 255. -/
theorem palettes_ok : P.ok = true := by decide +kernel

/-- **In gamut, total.**  Converting any well-formed colour to any colour system never raises and
yields a colour representable in that system: for `standard` a STANDARD colour with number < 16 (or
default), for `windows` a WINDOWS colour with number < 16 (or default), for `eightBit` a colour that
is not truecolor with number < 256 (< 16 if it stayed STANDARD / WINDOWS); the name is kept. -/
theorem downgrade_in_gamut (cfg : Cfg) (c : Color) (sys : ColorSystem) (h : c.WF) :
    ∃ r, downgrade cfg P c sys = .ok r ∧ r.InGamut sys ∧ r.name = c.name :=
  downgrade_wf cfg P palettes_ok c sys h

/-- **Idempotent.**  Converting again changes nothing — for every colour (well-formed or not), every
palette and both code variants: whenever a conversion succeeds, converting its result succeeds with
the same result. -/
theorem downgrade_idem (cfg : Cfg) (Q : Palettes) (c r : Color) (sys : ColorSystem)
    (h : downgrade cfg Q c sys = .ok r) : downgrade cfg Q r sys = .ok r :=
  RichModel.downgrade_idem cfg Q c r sys h

/-- **Native colours are returned unchanged**: a colour whose type is the target system, any colour
when the target is truecolor, and any non-truecolor colour when the target is 256 colours. -/
theorem downgrade_fixed_if_native (cfg : Cfg) (Q : Palettes) (c : Color) (sys : ColorSystem)
    (h : c.type.toNat = sys.toNat ∨ sys = .truecolor ∨ (sys = .eightBit ∧ c.type ≠ .truecolor)) :
    downgrade cfg Q c sys = .ok c := by
  rcases h with h | rfl | ⟨rfl, h⟩
  · exact downgrade_self cfg Q c sys (Or.inr h)
  · exact downgrade_truecolor cfg Q c
  · rw [downgrade_eightBit, if_neg h]

/-- **Default stays default**, whatever else the colour object carries. -/
theorem default_stays (cfg : Cfg) (Q : Palettes) (c : Color) (sys : ColorSystem) (h : c.type = .default) :
    downgrade cfg Q c sys = .ok c :=
  downgrade_self cfg Q c sys (Or.inl h)

/-- **A colour that already is one of the 16 indices keeps its index** when converted to a 16-colour
system (only the type tag follows the system) — in the *repaired* code (fix 2cec9e1, what /repo contains now).  rich 9.10.0 as found broke this for
the `standard` target, see `old_downgrade_standard_renumbers`. -/
theorem downgrade_fixed_if_representable (cfg : Cfg) (hcfg : cfg.stdViaPalette = false) (Q : Palettes)
    (c : Color) (sys : ColorSystem) (n : Nat)
    (hsys : sys = .standard ∨ sys = .windows)
    (ht : c.type = .standard ∨ c.type = .eightBit ∨ c.type = .windows)
    (hn : c.number = some n) (h16 : n < 16) :
    ∃ r, downgrade cfg Q c sys = .ok r ∧ r.number = some n ∧ r.type = sys.type16 ∧ r.name = c.name :=
  downgrade_16_of_lt cfg Q c hsys (fun _ => hcfg) ht hn h16

/-- **`Palette.match` is the argmin**, for every palette and colour: the returned index `k` is in
range, no entry is closer than entry `k` under the weighted-RGB metric, and every earlier entry is
strictly farther (ties go to the lowest index). -/
theorem match_is_argmin (pal : List Triplet) (c : Triplet) (k : Nat) (h : paletteMatch pal c = .ok k) :
    k < pal.length ∧ ∃ p, pal[k]? = some p ∧
      ∀ j q, pal[j]? = some q → colorDist2 c p ≤ colorDist2 c q ∧ (j < k → colorDist2 c p < colorDist2 c q) :=
  ⟨(paletteMatch_spec pal c k h).lt, paletteMatch_spec pal c k h⟩

/-- …and it only fails on an empty palette. -/
theorem match_total (pal : List Triplet) (c : Triplet) (h : pal ≠ []) : ∃ k, paletteMatch pal c = .ok k :=
  paletteMatch_ok pal c h

/-- The specification determines the answer: two indices that both satisfy it are equal. -/
theorem nearest_unique (pal : List Triplet) (c : Triplet) (k k' : Nat)
    (h : IsNearest pal c k) (h' : IsNearest pal c k') : k = k' :=
  h.unique h'

/-- **Conversion to a 16-colour palette picks the nearest entry.**  For a truecolor colour (source =
its triplet) or an 8-bit colour with number ≥ 16 (source = its 8-bit palette entry), the result's
number is the first entry of minimum distance from the source in the target palette. -/
theorem downgrade_picks_nearest (cfg : Cfg) (Q : Palettes) (c r : Color) (sys : ColorSystem) (t : Triplet)
    (hsys : sys = .standard ∨ sys = .windows)
    (hsrc : sourceTriplet Q c = some t)
    (hbig : c.type = .eightBit → ∀ n, c.number = some n → 16 ≤ n)
    (h : downgrade cfg Q c sys = .ok r) :
    ∃ k, r.number = some k ∧ r.type = sys.type16 ∧
      IsNearest (if sys = .windows then Q.windows else Q.standard) t k := by
  rw [downgrade_16_search cfg Q c hsys hsrc hbig] at h
  obtain ⟨k, rfl, hk⟩ := search16_spec h
  exact ⟨k, rfl, rfl, hk⟩

/-- The integer under the square root in `get_color_distance` is at most 649,740 for colours in
range — the bound up to which the harness checks that `math.sqrt` is strictly increasing, which is
what makes the argmin over floats the argmin over these integers. -/
theorem dist2_le (c p : Triplet) (hc : c.WF) (hp : p.WF) : colorDist2 c p ≤ 649740 := by
  have hr := absDiff_le hc.1 hp.1
  have hg := absDiff_le hc.2.1 hp.2.1
  have hb := absDiff_le hc.2.2 hp.2.2
  have hm : (c.red + p.red) / 2 ≤ 255 := by have := hc.1; have := hp.1; omega
  -- red and blue terms: weight ≤ 767, so each ≤ 767 · 255² / 256; green term ≤ 4 · 255²
  exact Nat.le_trans
    (Nat.add_le_add
      (Nat.add_le_add (distTerm_le (Nat.add_le_add_left hm 512) hr) (Nat.mul_le_mul (Nat.mul_le_mul_left 4 hg) hg))
      (distTerm_le (Nat.sub_le _ _) hb))
    (by decide)

/-- **Truecolor → 256 colours lands in 16..255**; when the saturation test says "grey" the result is
on the grey ramp or black/white, otherwise it is the 6×6×6 cube entry with coordinates
`(c + 25) / 51` (= `round(c / 255 * 5)`, proved from the round-half-even definition). -/
theorem eight_bit_number_range (exc : List (Nat × Nat)) (t : Triplet) (h : t.WF) :
    16 ≤ toEightBitNumber exc t ∧ toEightBitNumber exc t ≤ 255 ∧
    (satLow exc t = true → onGreyRamp (toEightBitNumber exc t)) ∧
    (satLow exc t = false →
      toEightBitNumber exc t = 16 + 36 * ((t.red + 25) / 51) + 6 * ((t.green + 25) / 51) + (t.blue + 25) / 51 ∧
      toEightBitNumber exc t ≤ 231) :=
  toEightBitNumber_spec exc t h

/-- The tabulated float exceptions are all exact ties `s = 1/10` with `min < max ≤ 255`: the model's
saturation test is the exact rational one except at nine points *on* its boundary. -/
theorem sat_exceptions_are_ties :
    ∀ p ∈ satExcDouble, p.2 < p.1 ∧ p.1 ≤ 255 ∧
      10 * (p.1 - p.2) = (if p.1 + p.2 ≤ 255 then p.1 + p.2 else 510 - p.1 - p.2) := by decide +kernel

/-- **Greys land on the grey ramp or black/white**: for `r = g = b = v`, whatever the float
exception list, the conversion to 256 colours gives number 16, 231 or 232..255 — namely the grey
level `(10 v + 51) / 102` (= `round(v / 255 * 25)`) mapped 0 ↦ 16, 25 ↦ 231, g ↦ 231 + g. -/
theorem grey_on_ramp (cfg : Cfg) (Q : Palettes) (name : List Char) (v : Nat) (hv : v ≤ 255) :
    ∃ n, downgrade cfg Q { name := name, type := .truecolor, number := none, triplet := some ⟨v, v, v⟩ } .eightBit
        = .ok { name := name, type := .eightBit, number := some n, triplet := none } ∧
      onGreyRamp n ∧
      n = (if (10 * v + 51) / 102 = 0 then 16 else if (10 * v + 51) / 102 = 25 then 231 else 231 + (10 * v + 51) / 102) := by
  have hs : satLow cfg.satExc ⟨v, v, v⟩ = true := by
    simp only [satLow, Triplet.maxc, Triplet.minc, Nat.max_self, Nat.min_self, if_true]
  refine ⟨toEightBitNumber cfg.satExc ⟨v, v, v⟩, downgrade_eightBit_of_triplet cfg Q rfl rfl,
    (toEightBitNumber_spec _ _ ⟨hv, hv, hv⟩).2.2.1 hs, ?_⟩
  simp only [toEightBitNumber, hs, if_true, grayLevel_diag]

/-- **The SGR parameters are the standard ones for the colour's kind**: 39/49; 30-37 / 90-97
(foreground) and 40-47 / 100-107 (background) for the 16 STANDARD or WINDOWS colours; 38;5;n /
48;5;n; 38;2;r;g;b / 48;2;r;g;b — and `get_ansi_codes` never raises on a well-formed colour. -/
theorem ansi_codes_standard (c : Color) (fg : Bool) (h : c.WF) : getAnsiCodes c fg = .ok (sgrSpec c fg) :=
  getAnsiCodes_spec c fg h

/-- The ranges, spelled out for the 16-colour kinds. -/
theorem ansi_codes_16_ranges (c : Color) (fg : Bool) (h : c.WF) (ht : c.type = .standard ∨ c.type = .windows) :
    ∃ code, getAnsiCodes c fg = .ok [code] ∧
      (fg = true → (30 ≤ code ∧ code ≤ 37) ∨ (90 ≤ code ∧ code ≤ 97)) ∧
      (fg = false → (40 ≤ code ∧ code ≤ 47) ∨ (100 ≤ code ∧ code ≤ 107)) := by
  rw [ansi_codes_standard c fg h]
  obtain ⟨n, hs, hn⟩ : ∃ n, sgrSpec c fg =
      [if n < 8 then (if fg then 30 else 40) + n else (if fg then 90 else 100) + (n - 8)] ∧ n < 16 := by
    obtain ⟨name, type, number, triplet⟩ := c
    rcases ht with ht | ht <;> cases ht <;> obtain ⟨⟨n, rfl, hn⟩, -⟩ := h <;> exact ⟨n, rfl, hn⟩
  refine ⟨_, congrArg _ hs, ?_⟩
  cases fg <;>
    simp only [Bool.false_eq_true, reduceCtorEq, if_false, if_true, false_imp_iff, true_and, and_true, forall_const] <;>
    split <;> omega

/-- After any conversion of a well-formed colour the generated codes are the standard ones for the
*converted* colour (composition of `downgrade_in_gamut` and `ansi_codes_standard`). -/
theorem ansi_codes_after_downgrade (cfg : Cfg) (c : Color) (sys : ColorSystem) (fg : Bool) (h : c.WF) :
    ∃ r, downgrade cfg P c sys = .ok r ∧ getAnsiCodes r fg = .ok (sgrSpec r fg) := by
  obtain ⟨r, hr, hg, _⟩ := downgrade_in_gamut cfg c sys h
  exact ⟨r, hr, ansi_codes_standard r fg hg.wf⟩

/-! ## What a colour is displayed as: `get_truecolor`, terminal themes -/

/-- Side condition on the *generated* default theme: `DEFAULT_TERMINAL_THEME.ansi_colors` has 16 entries. -/
theorem default_theme_ok : P.defaultTheme.ansiColors.length = 16 := by decide +kernel

/-- `TerminalTheme(background, foreground, normal, bright)` holds `normal + (bright or normal)`
(an empty `bright` counts as absent), and the two colours it was given. -/
theorem theme_init_spec (bg fg : Triplet) (normal : List Triplet) (bright : Option (List Triplet)) :
    (TerminalTheme.init bg fg normal bright).ansiColors =
      normal ++ (match bright with | some (b :: bs) => b :: bs | _ => normal) ∧
    (TerminalTheme.init bg fg normal bright).backgroundColor = bg ∧
    (TerminalTheme.init bg fg normal bright).foregroundColor = fg := by
  refine ⟨?_, rfl, rfl⟩
  unfold TerminalTheme.init
  cases bright with
  | none => rfl
  | some b => cases b <;> rfl

/-- With 8 normal colours and 8 (or no, or an empty list of) bright colours, `ansi_colors` has 16 entries. -/
theorem theme_init_length (bg fg : Triplet) (normal : List Triplet) (bright : Option (List Triplet))
    (hn : normal.length = 8) (hb : ∀ b, bright = some b → b.length = 8 ∨ b = []) :
    (TerminalTheme.init bg fg normal bright).ansiColors.length = 16 := by
  rw [(theme_init_spec bg fg normal bright).1, List.length_append, hn]
  cases bright with
  | none => rw [hn]
  | some b =>
    cases b with
    | nil => rw [hn]
    | cons x xs => rw [(hb _ rfl).resolve_right nofun]

/-- **`get_truecolor` specification and totality**: for every well-formed colour and every theme with
(at least) 16 ANSI colours the call succeeds and returns: a truecolor colour's own triplet;
`EIGHT_BIT_PALETTE[n]`; `theme.ansi_colors[n]` for STANDARD; `WINDOWS_PALETTE[n]`; the theme's
foreground / background colour for the default colour, chosen by `foreground`. -/
theorem get_truecolor_spec (theme : TerminalTheme) (hT : 16 ≤ theme.ansiColors.length)
    (c : Color) (fg : Bool) (h : c.WF) :
    ∃ t, getTruecolorT P theme c fg = .ok t ∧ truecolorSpec P theme c fg = some t :=
  getTruecolorT_spec P palettes_ok theme hT c fg h

/-- …for `theme=None` (the default terminal theme). -/
theorem get_truecolor_default_theme (c : Color) (fg : Bool) (h : c.WF) :
    ∃ t, getTruecolor P c fg = .ok t ∧ truecolorSpec P P.defaultTheme c fg = some t :=
  getTruecolorT_spec P palettes_ok P.defaultTheme (Nat.le_of_eq default_theme_ok.symm) c fg h

/-- Whenever `get_truecolor` returns (any colour object, any palettes, any theme), it returns what
the specification says — the only error-free route outside the specification is ruled out by the
`assert self.number is None` of the default branch. -/
theorem get_truecolor_sound (Q : Palettes) (theme : TerminalTheme) (c : Color) (fg : Bool) (t : Triplet)
    (h : getTruecolorT Q theme c fg = .ok t) : truecolorSpec Q theme c fg = some t :=
  getTruecolorT_sound Q theme c fg t h

/-- **The RGB a colour downgraded to 16 colours denotes is the entry at the matched index**: for a
truecolor or 8-bit (≥ 16) colour with source RGB `t`, `get_truecolor` of the downgraded colour is entry
`k` of the palette it is displayed with, where `k` is the first nearest entry of the *search* palette.
For WINDOWS the display palette **is** the search palette (`WINDOWS_PALETTE`), so the colour shown is
exactly the matched entry; for STANDARD the search runs over `STANDARD_PALETTE` while the display
palette is the theme's `ansi_colors` (see `standard_display_is_theme_dependent`). -/
theorem downgrade_then_truecolor_is_palette_entry (cfg : Cfg) (Q : Palettes) (theme : TerminalTheme)
    (c r : Color) (sys : ColorSystem) (t : Triplet) (fg : Bool)
    (hsys : sys = .standard ∨ sys = .windows)
    (hsrc : sourceTriplet Q c = some t)
    (hbig : c.type = .eightBit → ∀ n, c.number = some n → 16 ≤ n)
    (h : downgrade cfg Q c sys = .ok r) :
    ∃ k, IsNearest (if sys = .windows then Q.windows else Q.standard) t k ∧
      getTruecolorT Q theme r fg = paletteGet (displayPalette Q theme sys) k := by
  obtain ⟨k, hk, hty, hnear⟩ := downgrade_picks_nearest cfg Q c r sys t hsys hsrc hbig h
  exact ⟨k, hnear, getTruecolorT_16 Q theme hsys hty hk fg⟩

/-- WINDOWS, spelled out: the triplet shown is the nearest `WINDOWS_PALETTE` entry itself. -/
theorem downgrade_windows_shows_matched_entry (cfg : Cfg) (Q : Palettes) (theme : TerminalTheme)
    (c r : Color) (t : Triplet) (fg : Bool)
    (hsrc : sourceTriplet Q c = some t)
    (hbig : c.type = .eightBit → ∀ n, c.number = some n → 16 ≤ n)
    (h : downgrade cfg Q c .windows = .ok r) :
    ∃ k p, IsNearest Q.windows t k ∧ Q.windows[k]? = some p ∧ getTruecolorT Q theme r fg = .ok p := by
  obtain ⟨k, hk, hg⟩ := downgrade_then_truecolor_is_palette_entry cfg Q theme c r .windows t fg (Or.inr rfl) hsrc hbig h
  have hk : IsNearest Q.windows t k := hk
  have ⟨p, hp, _⟩ := hk
  exact ⟨k, p, hk, hp, hg.trans (paletteGet_eq_ok.2 hp)⟩

/-- Truecolor → 256 colours: the colour shown is `EIGHT_BIT_PALETTE[n]` for the computed number `n`. -/
theorem downgrade_eight_bit_then_truecolor (cfg : Cfg) (theme : TerminalTheme) (name : List Char)
    (t : Triplet) (ht : t.WF) (fg : Bool) :
    ∃ r p, downgrade cfg P { name := name, type := .truecolor, number := none, triplet := some t } .eightBit = .ok r ∧
      P.eightBit[toEightBitNumber cfg.satExc t]? = some p ∧ getTruecolorT P theme r fg = .ok p := by
  have hr := (toEightBitNumber_spec cfg.satExc t ht).2.1
  have h256 := (Palettes.lengths palettes_ok).2.2
  have hp := List.getElem?_eq_getElem (l := P.eightBit) (i := toEightBitNumber cfg.satExc t) (by omega)
  exact ⟨_, _, downgrade_eightBit_of_triplet cfg P rfl rfl, hp, paletteGet_eq_ok.2 hp⟩

/-- Observation (not a defect — standard colours are defined by the terminal): with the default
theme, STANDARD colour 1 is searched as `(170,0,0)` but displayed as `(128,0,0)`. -/
theorem standard_display_is_theme_dependent :
    P.standard[1]? = some ⟨170, 0, 0⟩ ∧ getTruecolor P { name := [], type := .standard, number := some 1 } true = .ok ⟨128, 0, 0⟩ := by
  decide +kernel

/-! ## `ColorTriplet.hex`, `parse_rgb_hex`, `blend_rgb` -/

/-- `parse_rgb_hex` inverts `ColorTriplet.hex` (without its `#`) for every triplet in range. -/
theorem parse_rgb_hex_roundtrip (t : Triplet) (h : t.WF) :
    t.hex.length = 7 ∧ parseRgbHex (t.hex.drop 1) = .ok ((t.red : Int), (t.green : Int), (t.blue : Int)) := by
  obtain ⟨h1, h2, h3⟩ := h
  have h1 := Nat.lt_succ_of_le h1
  have h2 := Nat.lt_succ_of_le h2
  have h3 := Nat.lt_succ_of_le h3
  simp only [Triplet.hex, hexByte_eq, h1, h2, h3, List.cons_append, List.nil_append, List.drop_succ_cons, List.drop_zero,
    parseRgbHex, pyIntHex2_hexByte, bind, Except.bind, List.length_cons, List.length_nil, and_self]

/-- …and raises `AssertionError` on anything that is not six characters long. -/
theorem parse_rgb_hex_length (s : List Char) (h : s.length ≠ 6) : parseRgbHex s = .error .assertionError := by
  unfold parseRgbHex
  split
  · simp at h
  · rfl

/-- The dyadic model of `blend_rgb` is the exact-rational one at `cross_fade = k / 2^n`. -/
theorem blend_dyadic_is_rational (c1 c2 : Nat) (k : Int) (n : Nat) :
    blendChannel c1 c2 k n = blendChannelQ c1 c2 k (2 ^ n) :=
  rfl

/-- **The exact-rational blend stays between its arguments** for every `cross_fade = num / den` in [0, 1]. -/
theorem blend_rgb_rational_in_range (c1 c2 : Nat) (num : Int) (den : Nat) (hden : 0 < den) (h0 : 0 ≤ num)
    (h1 : num ≤ (den : Int)) :
    ((min c1 c2 : Nat) : Int) ≤ blendChannelQ c1 c2 num den ∧ blendChannelQ c1 c2 num den ≤ ((max c1 c2 : Nat) : Int) :=
  tdiv_mix_bounds c1 c2 _ _ num den (Int.natCast_pos.2 hden) h0 h1 (Int.natCast_nonneg _)
    (Int.ofNat_le.2 (Nat.min_le_left ..)) (Int.ofNat_le.2 (Nat.min_le_right ..))
    (Int.ofNat_le.2 (Nat.le_max_left ..)) (Int.ofNat_le.2 (Nat.le_max_right ..))

/-- **`blend_rgb` stays between its arguments** for a cross-fade `k / 2^n` in `[0, 1]` (hence in
gamut), for every `n`. -/
theorem blend_rgb_in_range (c1 c2 : Nat) (k : Int) (n : Nat) (h0 : 0 ≤ k) (h1 : k ≤ ((2 ^ n : Nat) : Int)) :
    ((min c1 c2 : Nat) : Int) ≤ blendChannel c1 c2 k n ∧ blendChannel c1 c2 k n ≤ ((max c1 c2 : Nat) : Int) :=
  blend_rgb_rational_in_range c1 c2 k (2 ^ n) (Nat.two_pow_pos n) h0 h1

/-- …and returns `color1` at 0 and `color2` at 1. -/
theorem blend_rgb_endpoints (t1 t2 : Triplet) (n : Nat) :
    blendRgb t1 t2 0 n = ((t1.red : Int), (t1.green : Int), (t1.blue : Int)) ∧
    blendRgb t1 t2 ((2 ^ n : Nat) : Int) n = ((t2.red : Int), (t2.green : Int), (t2.blue : Int)) := by
  have hpos := Nat.two_pow_pos n
  simp only [blendRgb, blend_dyadic_is_rational, blendChannelQ_zero _ _ _ hpos, blendChannelQ_one _ _ _ hpos, and_self]

/-! ## The saturation test against exact arithmetic, `blend_rgb` in doubles, `int(…, 16)` on Unicode, the rest of the surface -/

/-- **The saturation test is the exact rational one except exactly at the nine listed pairs** — for every
triplet, no bound on the components: `satLow` (what the model uses for `rgb_to_hls(…)[2] < 0.1`) equals
`satLowRat` (`s < 1/10` in exact arithmetic, `s = 0` when max = min) iff (max, min) is not in `satExcDouble`.
The harness evaluates the same statement on the real `colorsys` for all 32,896 pairs on every run. -/
theorem sat_decision_exact_except_listed (t : Triplet) :
    satLow satExcDouble t = satLowRat t ↔ (t.maxc, t.minc) ∉ satExcDouble :=
  satLow_eq_rat_iff (fun p hp => (satExc_facts p hp).1) t

/-- …and at a listed pair the double computation says "grey" where exact arithmetic (a tie, see
`sat_exceptions_are_ties`) says "not grey": the only effect is that nine tie classes go to the grey ramp. -/
theorem sat_exception_direction (t : Triplet) (h : (t.maxc, t.minc) ∈ satExcDouble) :
    satLow satExcDouble t = true ∧ satLowRat t = false := by
  obtain ⟨hne, hex⟩ := satExc_facts _ h
  simp only at hne hex
  unfold satLow satLowRat
  simp [hne, hex, h]

/-- `Color.is_system_defined`: exactly the default, STANDARD and WINDOWS colours. -/
theorem is_system_defined_spec (c : Color) :
    c.isSystemDefined = true ↔ c.type = .default ∨ c.type = .standard ∨ c.type = .windows := by
  obtain ⟨name, type, number, triplet⟩ := c
  cases type <;> simp [Color.isSystemDefined, Color.system] <;> decide

/-- `Color.is_default`: exactly the colours of type DEFAULT — and those are the ones whose SGR parameter is 39 / 49. -/
theorem is_default_spec (c : Color) (fg : Bool) :
    (c.isDefault = true ↔ c.type = .default) ∧
    (c.isDefault = true → getAnsiCodes c fg = .ok [if fg then 39 else 49]) := by
  have hd : c.isDefault = true ↔ c.type = .default := by
    obtain ⟨name, type, number, triplet⟩ := c
    cases type <;> simp [Color.isDefault] <;> decide
  exact ⟨hd, fun h => by simp [getAnsiCodes, hd.1 h]⟩

/-- **A colour downgraded to a 16-colour system is system-defined** (its RGB value is the terminal's to choose). -/
theorem downgrade16_is_system_defined (cfg : Cfg) (c : Color) (sys : ColorSystem) (h : c.WF)
    (hsys : sys = .standard ∨ sys = .windows) :
    ∃ r, downgrade cfg P c sys = .ok r ∧ r.isSystemDefined = true := by
  obtain ⟨r, hr, hg, _⟩ := downgrade_in_gamut cfg c sys h
  refine ⟨r, hr, (is_system_defined_spec r).2 ?_⟩
  rcases hsys with rfl | rfl <;> rcases hg.2 with h | h <;> simp only [h, true_or, or_true]

/-- `parse_rgb_hex` on arbitrary strings raises `AssertionError` on anything that is not six characters long, as the
ASCII model does. -/
theorem parse_rgb_hex_unicode_length (s : List Char) (h : s.length ≠ 6) : parseRgbHexU s = .error .assertionError := by
  unfold parseRgbHexU
  split
  · simp at h
  · rfl

/-- `parse_rgb_hex` on arbitrary strings (`parseRgbHexU`: Unicode decimal digits and white space are read as
their ASCII forms, any other non-ASCII character is a `ValueError`) **extends** the ASCII model. -/
theorem parse_rgb_hex_unicode_extends_ascii (s : List Char) (h : ∀ c ∈ s, c.toNat < 128) :
    parseRgbHexU s = parseRgbHex s := by
  by_cases hl : s.length = 6
  · match s, hl with
    | [a, b, c, d, e, f], _ =>
      simp only [List.forall_mem_cons] at h
      obtain ⟨ha, hb, hc, hd, he, hf, -⟩ := h
      simp only [parseRgbHexU, parseRgbHex, pyIntHex2U_ascii, ha, hb, hc, hd, he, hf]
  · rw [parse_rgb_hex_unicode_length s hl, parse_rgb_hex_length s hl]

/-- Side condition on the *generated* runtime table of Unicode decimal digits (`Gen.strDecimalRuns`, from the
running Python): every run is ten consecutive code points with values 0..9, so the translation of a digit is
always one of `'0'..'9'`; only the first run is ASCII. -/
theorem decimal_runs_ok :
    Gen.strDecimalRuns.all (fun r => r.1 + 9 == r.2.1 && r.2.2 == 0 && (r.1 == 48 || 128 ≤ r.1)) = true := by
  decide +kernel

/-- **Refinement, doubles → rationals**: when neither float operation has to round (both exact intermediate
values have at most 53 bits in units of `2^-cs`) the double computation of `blend_rgb` is the exact-rational
one.  This is the side condition under which the dyadic model `blendChannel` is what Python computes. -/
theorem blend_rgb_float_exact_when_small (c1 c2 : Nat) (cn : Int) (cs : Nat)
    (hp : ((((c2 : Int) - (c1 : Int)) * cn).natAbs) < 2 ^ 53)
    (hs : (((c1 : Int) * ((2 ^ cs : Nat) : Int) + ((c2 : Int) - (c1 : Int)) * cn).natAbs) < 2 ^ 53) :
    blendChannelF c1 c2 cn cs = blendChannelQ c1 c2 cn (2 ^ cs) := by
  simp only [blendChannelF, blendChannelQ, rndI_of_small _ hp, rndI_of_small _ hs]

/-- Round-to-nearest-even to 53 bits never crosses a number with at most 53 significant bits. -/
theorem rounding_sandwich (A B s n : Nat) (hA : A < 2 ^ 53) (hB : B < 2 ^ 53) (h : A * 2 ^ s ≤ n) (h' : n ≤ B * 2 ^ s) :
    A * 2 ^ s ≤ rnd53 n ∧ rnd53 n ≤ B * 2 ^ s :=
  ⟨rnd53_lower A s n hA h, rnd53_upper B s n hB h'⟩

/-- **`blend_rgb` as computed in IEEE doubles stays between its arguments for every finite double
`cross_fade = cn / 2^cs` in [0, 1]** (any `cs`: no bound on the size of the float) — hence in gamut. -/
theorem blend_rgb_float_in_range (c1 c2 : Nat) (cn : Int) (cs : Nat) (hc1 : c1 ≤ 255) (hc2 : c2 ≤ 255)
    (h0 : 0 ≤ cn) (h1 : cn ≤ ((2 ^ cs : Nat) : Int)) :
    ((min c1 c2 : Nat) : Int) ≤ blendChannelF c1 c2 cn cs ∧ blendChannelF c1 c2 cn cs ≤ ((max c1 c2 : Nat) : Int) := by
  obtain ⟨k, rfl⟩ := Int.eq_ofNat_of_zero_le h0
  exact blendChannelF_mem c1 c2 k cs (channel_lt_two_pow_53 hc1) (channel_lt_two_pow_53 hc2) (Int.ofNat_le.1 h1)

/-- …and returns `color1` at `0.0`, `color2` at `1.0`. -/
theorem blend_rgb_float_endpoints (c1 c2 cs : Nat) (hc1 : c1 ≤ 255) (hc2 : c2 ≤ 255) :
    blendChannelF c1 c2 0 cs = c1 ∧ blendChannelF c1 c2 ((2 ^ cs : Nat) : Int) cs = c2 :=
  ⟨blendChannelF_at_zero c1 c2 cs (channel_lt_two_pow_53 hc1),
    blendChannelF_at_one c1 c2 cs (channel_lt_two_pow_53 hc1) (channel_lt_two_pow_53 hc2)⟩

/-- `blend_rgb` raises exactly for a non-finite `cross_fade` (`int(inf)`: `OverflowError`, `int(nan)`: `ValueError`). -/
theorem blend_rgb_float_raises_iff_nonfinite (t1 t2 : Triplet) (cf : PyFloat) :
    (∃ v, blendRgbF t1 t2 cf = .ok v) ↔ ∃ n s, cf = .finite n s := by
  cases cf with
  | finite n s => exact ⟨fun _ => ⟨n, s, rfl⟩, fun _ => ⟨_, rfl⟩⟩
  | posInf => by_cases hr : t1.red = t2.red <;> simp [blendRgbF, blendChannelPy, bind, Except.bind, hr]
  | negInf => by_cases hr : t1.red = t2.red <;> simp [blendRgbF, blendChannelPy, bind, Except.bind, hr]
  | nan => simp [blendRgbF, blendChannelPy, bind, Except.bind]

/-- Observation (float semantics, not a defect): `0.29` is not a double; `blend_rgb` of a channel 0 → 100 at
the double nearest to 0.29 gives 28, the exact blend at 29/100 is 29.  The harness checks on real rich that
for `k/100` and `k/255` this happens only where the exact value is an integer, and then by exactly one. -/
theorem blend_float_differs_from_rational_at_integers :
    blendChannelF 0 100 5224175567749775 54 = 28 ∧ blendChannelQ 0 100 29 100 = 29 := by decide +kernel

/-! ## Non-vacuity: the hypotheses are met by concrete, non-trivial values -/

def orange : Color := { name := "#ff8700".toList, type := .truecolor, triplet := some ⟨255, 135, 0⟩ }

example : orange.WF := ⟨rfl, _, rfl, by decide, by decide, by decide⟩
example : downgrade Cfg.today P orange .eightBit = .ok { orange with type := .eightBit, number := some 214, triplet := none } := by decide +kernel
example : downgrade Cfg.today P orange .standard = .ok { orange with type := .standard, number := some 9, triplet := none } := by decide +kernel
example : downgrade Cfg.today P orange .windows = .ok { orange with type := .windows, number := some 3, triplet := none } := by decide +kernel
example : sourceTriplet P orange = some ⟨255, 135, 0⟩ := rfl
example : sourceTriplet P { name := [], type := .eightBit, number := some 208 } = some ⟨255, 135, 0⟩ := by decide +kernel
example : paletteMatch P.standard ⟨0, 0, 85⟩ = .ok 0 ∧ colorDist2 ⟨0, 0, 85⟩ ⟨0, 0, 0⟩ = colorDist2 ⟨0, 0, 85⟩ ⟨0, 0, 170⟩ := by
  decide +kernel  -- an exact tie between entries 0 and 4: the lowest index wins
example : satLow satExcDouble ⟨55, 45, 50⟩ = true ∧ satLowExact 55 45 = false := by decide +kernel  -- a float exception
example : getAnsiCodes { name := [], type := .standard, number := some 9 } true = .ok [91] := by decide +kernel
example : getAnsiCodes { name := [], type := .windows, number := some 15 } false = .ok [107] := by decide +kernel
example : getTruecolor P orange true = .ok ⟨255, 135, 0⟩ := rfl
example : getTruecolorT P (TerminalTheme.init ⟨1, 2, 3⟩ ⟨4, 5, 6⟩ (List.replicate 8 ⟨7, 7, 7⟩) none)
    { name := [], type := .standard, number := some 12 } true = .ok ⟨7, 7, 7⟩ := by decide +kernel
example : parseRgbHex "ff8700".toList = .ok (255, 135, 0) := by rw [String.toList_ofList]; decide +kernel
example : parseRgbHex "-f+a 1".toList = .ok (-15, 10, 1) := by rw [String.toList_ofList]; decide +kernel  -- what int(…, 16) accepts
example : blendRgb ⟨0, 0, 0⟩ ⟨255, 255, 255⟩ 1 1 = (127, 127, 127) := by decide +kernel

example : (⟨55, 45, 50⟩ : Triplet).maxc = 55 ∧ ((⟨55, 45, 50⟩ : Triplet).maxc, (⟨55, 45, 50⟩ : Triplet).minc) ∈ satExcDouble := by decide +kernel
example : satLow satExcDouble ⟨200, 100, 0⟩ = satLowRat ⟨200, 100, 0⟩ := by decide +kernel
example : parseRgbHexU "٣f00 1".toList = .ok (63, 0, 1) := by rw [String.toList_ofList]; decide +kernel  -- ARABIC-INDIC DIGIT THREE
example : parseRgbHexU "１٩ a-1".toList = .ok (25, 10, -1) := by rw [String.toList_ofList]; decide +kernel  -- FULLWIDTH ONE, IDEOGRAPHIC SPACE
example : parseRgbHexU "fé0000".toList = .error .valueError := by rw [String.toList_ofList]; decide +kernel
example : blendRgbF ⟨0, 10, 200⟩ ⟨100, 250, 3⟩ (.finite 5224175567749775 54) = .ok (28, 79, 142) := by decide +kernel  -- 0.29
example : blendRgbF ⟨0, 10, 200⟩ ⟨0, 250, 3⟩ .posInf = .error .valueError := by decide +kernel  -- 0 * inf = nan
example : blendRgbF ⟨0, 10, 200⟩ ⟨9, 10, 3⟩ .posInf = .error .overflowError := by decide +kernel
example : (0 : Int) ≤ 5224175567749775 ∧ (5224175567749775 : Int) ≤ ((2 ^ 54 : Nat) : Int) := by decide +kernel
example : ({ name := [], type := .windows, number := some 3 } : Color).isSystemDefined = true := by decide +kernel
example : (⟨1, 22, 255⟩ : Triplet).rgbStr = "rgb(1,22,255)".toList := by rw [String.toList_ofList]; decide +kernel

/-! ## Witness: the defect found in rich 9.10.0 as found, before fix 2cec9e1 (variant `stdViaPalette = true`) -/

/-- The as-found `downgrade(STANDARD)` of the 16-colour WINDOWS colour 8 ("bright black") goes through
`EIGHT_BIT_PALETTE[8] = (128,128,128)` and the palette search and comes back as colour 7 ("white"):
`downgrade_fixed_if_representable` is false for the code as found. -/
theorem old_downgrade_standard_renumbers :
    downgrade Cfg.today P { name := [], type := .windows, number := some 8 } .standard
      = .ok { name := [], type := .standard, number := some 7 } := by decide +kernel

/-- …and the same input under the repaired variant keeps its index. -/
theorem repaired_downgrade_standard_keeps :
    downgrade Cfg.repaired P { name := [], type := .windows, number := some 8 } .standard
      = .ok { name := [], type := .standard, number := some 8 } := by decide +kernel

end RichModel.C18
