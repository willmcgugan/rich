/-
Model of rich/progress.py (accounting part): `Task`, `Progress.add_task / start_task / stop_task /
update / reset / advance / remove_task`, the derived values `percentage / finished / elapsed /
speed / time_remaining / remaining`, `Progress.track` and `_TrackThread`, and the thread-level step
machine (clock read outside the lock, atomic body under the lock).

Numbers.  Amounts (`total`, `completed`, advances) and clock readings are `Int`s counted in a fixed
unit: amounts in units of `1/A` step, times in *ticks* of `1/tps` second (`A`, `tps` powers of two
in the correspondence, so that every `+`, `-`, comparison of the real `float`/`int` values is exact
in double arithmetic).  Every statement of progress.py on amounts is additive, a comparison or a
ratio, hence invariant under the amount unit; only `time_remaining` (seconds) and
`speed_estimate_period` (seconds) see the time unit, through `Cfg.tps` and `Cfg.period`.
Ratios (`percentage`, `speed`) are returned as exact fractions `(numerator, denominator)`.

Clock.  `get_time` is an input: `clock : Nat → Int`, the k-th call returns `clock k`; the state
counts the calls made so far (`State.clk`) — so *how often* and *where* the code reads the clock is
part of the model (and of the correspondence).
-/
namespace RichModel.Progress

abbrev Clock := Nat → Int

/-- `ProgressSample(timestamp, completed)` -/
structure Sample where
  ts : Int
  amt : Int
deriving DecidableEq, Repr, Inhabited

/-- `rich.progress.Task`.  `description` is an opaque string id, `fields` the user dict in insertion
order (keys are opaque ids). -/
structure Task where
  id : Nat
  description : Nat
  total : Int
  completed : Int
  finishedTime : Option Int
  visible : Bool
  fields : List (Nat × Int)
  startTime : Option Int
  stopTime : Option Int
  /-- `_progress` deque, oldest first (no `maxlen`; pruned by hand in `update`/`advance`). -/
  samples : List Sample
deriving DecidableEq, Repr

structure Cfg where
  /-- `speed_estimate_period` in ticks. -/
  period : Int
  /-- the literal `1000` in `while len(_progress) > 1000`. -/
  maxLen : Nat
  /-- clock ticks per second. -/
  tps : Int
  /-- CODE VARIANT FLAG. `true`: `advance` and `reset` call `get_time()` *before* `with self._lock`
  (rich 9.10.0 as found); `false`: the read is the first statement under the lock (repair: fix b790bf0, what /repo contains now). -/
  clockOutside : Bool
  /-- `get_time()` calls one `refresh()` makes per visible task: 0 when the console is not a terminal
  (refresh does nothing), 5 for the default columns on a terminal (each of the 4 columns reads the clock
  in `ProgressColumn.__call__`, `BarColumn.render` once more). -/
  refreshReads : Nat
deriving Repr

inductive Err
  | keyError
deriving DecidableEq, Repr

/-! ## derived values (progress.py:472-531) -/

/-- `Task.started` -/
def Task.started (t : Task) : Bool := t.startTime.isSome

/-- `Task.finished` -/
def Task.finished (t : Task) : Bool := t.finishedTime.isSome

/-- `Task.remaining` -/
def Task.remaining (t : Task) : Int := t.total - t.completed

/-- `Task.elapsed`, with the clock: returns the value and the new number of clock calls
(`get_time()` is called only for a started, not stopped task). -/
def Task.elapsedC (clock : Clock) (t : Task) (k : Nat) : Option Int × Nat :=
  match t.startTime with
  | none => (none, k)
  | some s =>
    match t.stopTime with
    | some e => (some (e - s), k)
    | none => (some (clock k - s), k + 1)

/-- `Task.percentage` as an exact fraction `(n, d)`, `d > 0`:
`0.0 if not total else min(100.0, max(0.0, completed / total * 100.0))`. -/
def Task.percentage (t : Task) : Int × Int :=
  if t.total = 0 then (0, 1)
  else
    let n := if t.total < 0 then -(100 * t.completed) else 100 * t.completed
    let d := if t.total < 0 then -t.total else t.total
    if n < 0 then (0, 1) else if 100 * d < n then (100, 1) else (n, d)

def sumAmt : List Sample → Int
  | [] => 0
  | s :: r => s.amt + sumAmt r

/-- `Task.speed` as the raw fraction `(Σ completed of all samples but the first, last.ts - first.ts)`
in amount-units per tick; `none` where the code returns `None`.  The denominator is whatever the
deque holds — it is negative when the samples are out of timestamp order. -/
def Task.speed (t : Task) : Option (Int × Int) :=
  match t.startTime with
  | none => none
  | some _ =>
    match t.samples with
    | [] => none
    | s0 :: rest =>
      let d := (rest.getLast?.getD s0).ts - s0.ts
      if d = 0 then none else some (sumAmt rest, d)

/-- `math.ceil(a / b)` for `b > 0` (Lean's `/` on `Int` is floor division for a positive divisor). -/
def ceilDiv (a b : Int) : Int := -((-a) / b)

/-- `Task.time_remaining` in seconds: `0.0` if finished, `None` if `not speed`, else
`ceil(remaining / speed)`; with `speed = n/d` amount-units per tick this is
`ceil(remaining * d / (n * tps))`. -/
def Task.timeRemaining (cfg : Cfg) (t : Task) : Option Int :=
  if t.finishedTime.isSome then some 0
  else
    match t.speed with
    | none => none
    | some (n, d) =>
      if n = 0 then none
      else
        let num := t.remaining * d
        let den := n * cfg.tps
        some (if 0 < den then ceilDiv num den else ceilDiv (-num) (-den))

/-! ## sample pruning (progress.py:837-841 / 900-904) -/

/-- `while _progress and _progress[0].timestamp < old_sample_time: popleft()` -/
def dropOld (old : Int) : List Sample → List Sample
  | [] => []
  | s :: r => if s.ts < old then dropOld old r else s :: r

/-- `while len(_progress) > 1000: popleft()` -/
def dropExcess (maxLen : Nat) (l : List Sample) : List Sample := l.drop (l.length - maxLen)

def prune (cfg : Cfg) (now : Int) (l : List Sample) : List Sample :=
  dropExcess cfg.maxLen (dropOld (now - cfg.period) l)

/-! ## the bodies executed under `with self._lock`, on the task they address -/

/-- `if task.completed >= task.total and task.finished_time is None: task.finished_time = task.elapsed`
(`task.elapsed` may call `get_time()` a second time). -/
def Task.finishCheck (clock : Clock) (t : Task) (k : Nat) : Task × Nat :=
  if t.total ≤ t.completed ∧ t.finishedTime = none then
    ({ t with finishedTime := (t.elapsedC clock k).1 }, (t.elapsedC clock k).2)
  else (t, k)

/-- `Progress.advance` under the lock; `now` is `current_time`. The sample is appended
unconditionally (also for zero and negative amounts). -/
def Task.advanceBody (cfg : Cfg) (clock : Clock) (now amt : Int) (t : Task) (k : Nat) : Task × Nat :=
  let c1 := t.completed + amt
  let upd := c1 - t.completed
  Task.finishCheck clock
    { t with completed := c1, samples := prune cfg now t.samples ++ [⟨now, upd⟩] } k

structure UpdArgs where
  total : Option Int
  completed : Option Int
  advance : Option Int
  visible : Option Bool
  refresh : Bool
  description : Option Nat := none
  /-- `**fields`, merged with `task.fields.update(fields)` -/
  fields : List (Nat × Int) := []
deriving Repr, DecidableEq

/-- `d[k] = v` on an insertion-ordered dict -/
def dictSet (k : Nat) (v : Int) : List (Nat × Int) → List (Nat × Int)
  | [] => [(k, v)]
  | kv :: r => if kv.1 = k then (k, v) :: r else kv :: dictSet k v r

/-- `d.update(f)` -/
def dictUpdate (d f : List (Nat × Int)) : List (Nat × Int) :=
  f.foldl (fun d kv => dictSet kv.1 kv.2 d) d

/-- number of visible tasks (rows `refresh()` renders) -/
def visCount (l : List Task) : Nat := (l.filter (fun t => t.visible)).length

/-- clock counter after one `refresh()` that renders `others` other visible tasks and this one -/
def refreshK (cfg : Cfg) (others : Nat) (t : Task) (k : Nat) : Nat :=
  k + cfg.refreshReads * (others + if t.visible then 1 else 0)

/-- the assignments of `Progress.update` (progress.py:816-827) -/
def Task.applyUpd (u : UpdArgs) (t : Task) : Task :=
  let t1 := match u.total with
    | some x => { t with total := x, samples := [], finishedTime := none }
    | none => t
  let t2 := match u.advance with
    | some a => { t1 with completed := t1.completed + a }
    | none => t1
  let t3 := match u.completed with
    | some c => { t2 with completed := c }
    | none => t2
  let t4 := match u.description with
    | some d => { t3 with description := d }
    | none => t3
  let t5 := match u.visible with
    | some v => { t4 with visible := v }
    | none => t4
  { t5 with fields := dictUpdate t5.fields u.fields }

/-- `Progress.update` under the lock: `refresh()` (if asked for) comes *before* the clock read; the
clock is read inside the lock; a sample is appended only when `update_completed > 0`. -/
def Task.updateBody (cfg : Cfg) (clock : Clock) (u : UpdArgs) (others : Nat) (t : Task) (k : Nat) : Task × Nat :=
  let t' := t.applyUpd u
  let upd := t'.completed - t.completed
  let k0 := if u.refresh then refreshK cfg others t' k else k
  let now := clock k0
  let s := prune cfg now t'.samples
  Task.finishCheck clock { t' with samples := if 0 < upd then s ++ [⟨now, upd⟩] else s } (k0 + 1)

structure ResetArgs where
  start : Bool
  total : Option Int
  completed : Int
  visible : Option Bool
  description : Option Nat := none
  /-- `**fields`: *replaces* `task.fields` when non-empty -/
  fields : List (Nat × Int) := []
deriving Repr, DecidableEq

/-- `Progress.reset` under the lock. Note: `stop_time` is *not* cleared. -/
def Task.resetBody (now : Int) (r : ResetArgs) (t : Task) : Task :=
  { t with
    samples := []
    finishedTime := none
    startTime := if r.start then some now else none
    total := r.total.getD t.total
    completed := r.completed
    visible := r.visible.getD t.visible
    fields := if r.fields.isEmpty then t.fields else r.fields
    description := r.description.getD t.description }

structure AddArgs where
  start : Bool
  total : Int
  completed : Int
  visible : Bool
  description : Nat := 0
  fields : List (Nat × Int) := []
deriving Repr, DecidableEq

/-! ## Progress state and operations -/

structure State where
  /-- `_tasks` dict in insertion order -/
  tasks : List Task
  /-- `_task_index` -/
  nextId : Nat
  /-- number of `get_time()` calls made so far -/
  clk : Nat
  /-- `Progress._started` (the live display is on) -/
  started : Bool := false
deriving Repr, DecidableEq

def State.empty : State := { tasks := [], nextId := 0, clk := 0 }

inductive Op
  | addTask (a : AddArgs)
  | startTask (id : Nat)
  | stopTask (id : Nat)
  | update (id : Nat) (u : UpdArgs)
  | reset (id : Nat) (r : ResetArgs)
  | advance (id : Nat) (amt : Int)
  | removeTask (id : Nat)
  /-- `Progress.refresh()` (also what `_RefreshThread.run` calls after every wait) -/
  | refresh
  /-- `Progress.start()` -/
  | start
  /-- `Progress.stop()` -/
  | stop
deriving Repr, DecidableEq

def lookup (l : List Task) (id : Nat) : Option Task := l.find? (fun t => t.id == id)

def setTask (id : Nat) (t' : Task) (l : List Task) : List Task :=
  l.map (fun t => if t.id = id then t' else t)

/-- the task id an operation addresses (`self._tasks[task_id]`), if it addresses one -/
def Op.target : Op → Option Nat
  | .addTask .. => none
  | .startTask id => some id
  | .stopTask id => some id
  | .update id _ => some id
  | .reset id .. => some id
  | .advance id _ => some id
  | .removeTask id => some id
  | .refresh => none
  | .start => none
  | .stop => none

/-- Does the operation call `get_time()` before `with self._lock`? -/
def Op.readsOutside (cfg : Cfg) : Op → Bool
  | .advance .. => cfg.clockOutside
  | .reset .. => cfg.clockOutside
  | _ => false

/-- `current_time` of `advance`/`reset`: the reading taken before the lock (`pre`), or a fresh
reading taken as the first statement under the lock. -/
def nowOf (clock : Clock) (pre : Option Int) (k : Nat) : Int × Nat :=
  match pre with
  | some v => (v, k)
  | none => (clock k, k + 1)

/-- effect of an operation on the task it addresses, with the clock counter; `others` is the number
of *other* visible tasks (what a `refresh()` inside the operation renders besides this one) -/
def taskEffect (cfg : Cfg) (clock : Clock) (op : Op) (pre : Option Int) (others : Nat) (t : Task) (k : Nat) : Task × Nat :=
  match op with
  | .startTask _ =>
    match t.startTime with
    | none => ({ t with startTime := some (clock k) }, k + 1)
    | some _ => (t, k)
  | .stopTask _ =>
    ({ t with startTime := some (t.startTime.getD (clock k)), stopTime := some (clock k) }, k + 1)
  | .update _ u => t.updateBody cfg clock u others k
  | .reset _ r =>
    (t.resetBody (nowOf clock pre k).1 r,
     refreshK cfg others (t.resetBody (nowOf clock pre k).1 r) (nowOf clock pre k).2)
  | .advance _ amt => t.advanceBody cfg clock (nowOf clock pre k).1 amt (nowOf clock pre k).2
  | _ => (t, k)

/-- clock counter after an operation that raised `KeyError`: `advance`/`reset` have read the clock
before the failing `self._tasks[task_id]`, the others have not. -/
def clkOnError (clock : Clock) (op : Op) (pre : Option Int) (k : Nat) : Nat :=
  match op with
  | .advance .. => (nowOf clock pre k).2
  | .reset .. => (nowOf clock pre k).2
  | _ => k

structure Res where
  st : State
  err : Option Err
deriving Repr, DecidableEq

/-- The part of an operation that runs under the lock (atomic). `pre` is the clock reading the
calling thread took before acquiring the lock, when the code does that. -/
def body (cfg : Cfg) (clock : Clock) (op : Op) (pre : Option Int) (st : State) : Res :=
  match op with
  | .addTask a =>
    let t : Task :=
      { id := st.nextId, description := a.description, total := a.total, completed := a.completed,
        finishedTime := none, visible := a.visible, fields := a.fields,
        startTime := if a.start then some (clock st.clk) else none,
        stopTime := none, samples := [] }
    let k1 := if a.start then st.clk + 1 else st.clk
    ⟨{ tasks := st.tasks ++ [t], nextId := st.nextId + 1,
       clk := k1 + cfg.refreshReads * visCount (st.tasks ++ [t]), started := st.started }, none⟩
  | .refresh => ⟨{ st with clk := st.clk + cfg.refreshReads * visCount st.tasks }, none⟩
  | .start =>
    if st.started then ⟨st, none⟩
    else ⟨{ st with started := true, clk := st.clk + cfg.refreshReads * visCount st.tasks }, none⟩
  | .stop =>
    if st.started then ⟨{ st with started := false, clk := st.clk + cfg.refreshReads * visCount st.tasks }, none⟩
    else ⟨st, none⟩
  | .removeTask id =>
    match lookup st.tasks id with
    | none => ⟨st, some .keyError⟩
    | some _ => ⟨{ st with tasks := st.tasks.filter (fun t => t.id != id) }, none⟩
  | op =>
    match op.target with
    | none => ⟨st, none⟩
    | some id =>
      match lookup st.tasks id with
      | none => ⟨{ st with clk := clkOnError clock op pre st.clk }, some .keyError⟩
      | some t =>
        let r := taskEffect cfg clock op pre (visCount (st.tasks.filter (fun x => x.id != id))) t st.clk
        ⟨{ st with tasks := setTask id r.1 st.tasks, clk := r.2 }, none⟩

/-- the read before the lock, if the operation has one -/
def preRead (cfg : Cfg) (clock : Clock) (op : Op) (st : State) : Option Int × State :=
  if op.readsOutside cfg then (some (clock st.clk), { st with clk := st.clk + 1 }) else (none, st)

/-- one whole operation, executed by a single thread with nothing in between -/
def step (cfg : Cfg) (clock : Clock) (op : Op) (st : State) : Res :=
  body cfg clock op (preRead cfg clock op st).1 (preRead cfg clock op st).2

/-- a sequential history; an operation that raises leaves the tasks unchanged -/
def run (cfg : Cfg) (clock : Clock) : List Op → State → State
  | [], st => st
  | op :: ops, st => run cfg clock ops (step cfg clock op st).st

/-! ## `Progress.track` (progress.py:711-758) and `_TrackThread` (53-85) -/

/-- the operation that announces the total: a new task, or `update(task_id, total=…)` -/
def trackOpen (taskId : Option Nat) (total : Int) : Op :=
  match taskId with
  | none => .addTask ⟨true, total, 0, true, 0, []⟩
  | some id => .update id ⟨some total, none, none, none, false, none, []⟩

/-- the id `track` works on (given the state in which it is called) -/
def trackId (taskId : Option Nat) (st : State) : Nat := taskId.getD st.nextId

/-- `auto_refresh = False`: one `advance(task_id, 1)` per element, after the element was yielded.
Returns the yielded elements and the operations issued. -/
def trackSeq {α : Type} (taskId : Option Nat) (total : Int) (xs : List α) (st : State) : List α × List Op :=
  (xs, trackOpen taskId total :: xs.map (fun _ => Op.advance (trackId taskId st) 1))

/-- `_TrackThread.run`: on each wake-up the thread sees the counter value `c`; if it differs from
the last one seen it advances by the difference. -/
def trackWakes (id : Nat) : Int → List Int → List Op
  | _, [] => []
  | last, c :: cs =>
    if last ≠ c then Op.advance id (c - last) :: trackWakes id c cs else trackWakes id c cs

/-- `auto_refresh = True`: the wake-ups in `seen` (any values), then the final
`update(task_id, completed=n, refresh=True)` where `n` is the number of elements consumed. -/
def trackThread {α : Type} (taskId : Option Nat) (total : Int) (xs : List α) (seen : List Int) (st : State) :
    List α × List Op :=
  (xs, trackOpen taskId total :: trackWakes (trackId taskId st) 0 seen ++
        [Op.update (trackId taskId st) ⟨none, some xs.length, none, none, true, none, []⟩])

/-- `_RefreshThread.run`: `while not done.wait(period): progress.refresh()` — `k` wake-ups -/
def refreshThreadProg (k : Nat) : List Op := List.replicate k Op.refresh

/-- operations of the live display: they render, they never touch a task -/
def Op.isDisplay : Op → Bool
  | .refresh => true
  | .start => true
  | .stop => true
  | _ => false

/-! ## threads: every operation is `[read clock]` then `atomic body` -/

structure Thread where
  prog : List Op
  /-- `some v`: the head operation has already read the clock (value `v`) and waits for the lock -/
  pending : Option Int
deriving Repr, DecidableEq

structure Conf where
  st : State
  threads : List Thread
deriving Repr, DecidableEq

inductive Event
  | read (tid : Nat)
  | commit (tid : Nat) (op : Op) (pre : Option Int) (err : Option Err)
deriving Repr, DecidableEq

def setThread (i : Nat) (th : Thread) (l : List Thread) : List Thread := l.set i th

/-- thread `i` performs its next step (a clock read outside the lock, or an atomic body);
`none` if it has nothing left to do. -/
def stepThread (cfg : Cfg) (clock : Clock) (i : Nat) (c : Conf) : Option (Conf × Event) :=
  match c.threads[i]? with
  | none => none
  | some th =>
    match th.prog with
    | [] => none
    | op :: rest =>
      if op.readsOutside cfg && th.pending.isNone then
        some (⟨{ c.st with clk := c.st.clk + 1 },
               setThread i { th with pending := some (clock c.st.clk) } c.threads⟩, .read i)
      else
        let r := body cfg clock op th.pending c.st
        some (⟨r.st, setThread i { prog := rest, pending := none } c.threads⟩,
              .commit i op th.pending r.err)

/-- run a schedule (a list of thread indices); steps of finished threads are skipped -/
def runSched (cfg : Cfg) (clock : Clock) : List Nat → Conf → Conf × List Event
  | [], c => (c, [])
  | i :: is, c =>
    match stepThread cfg clock i c with
    | none => runSched cfg clock is c
    | some (c', e) => let r := runSched cfg clock is c'; (r.1, e :: r.2)

/-- the operations of an event log in lock-acquisition order, with the reading each one carried -/
def commits : List Event → List (Op × Option Int)
  | [] => []
  | .read _ :: es => commits es
  | .commit _ op pre _ :: es => (op, pre) :: commits es

/-- the bodies in lock-acquisition order, each with the clock reading its thread took -/
def runBodies (cfg : Cfg) (clock : Clock) : List (Op × Option Int) → State → State
  | [], st => st
  | (op, pre) :: r, st => runBodies cfg clock r (body cfg clock op pre st).st

end RichModel.Progress
