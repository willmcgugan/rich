import RichModel.Model.Term
import RichModel.Model.Live
/-
Concurrency model for property C11: several threads printing / logging / capturing / refreshing a live
display on ONE console (rich/console.py, rich/live.py, rich/live_render.py, rich/progress.py as they are
after the `fix:` commits listed in known_findings.txt).  Import-free apart from Model/Term + Model/Live.

A labelled transition system.  Every thread runs a program (a list of `Op`s).  An operation is compiled
(`code`) into the *static* list of guarded atomic actions (`GAct`) its Python code performs; one step of the
system = one thread performs its next action.  An action is "the statement sequence between two yield
points": it touches shared state at most once (a lock operation, one read or write of `_live_render._shape`,
of `_render_hooks`, of the record buffer, one `file.write`).  Statements that touch only thread-local state
(`ConsoleThreadLocals`: buffer, buffer_index, capture_starts) are actions of their own too, so every
interleaving at statement granularity is an interleaving of the model.

Code read (line numbers of /repo at the time of writing):
* console.py 581-588 `_enter_buffer/_exit_buffer`, 612-628 `begin_capture/end_capture` (capture_starts stack),
  804-814 `line`, 1131-1139 `control`, 1173-1257 `print` (`with self:` … hooks … render … `_buffer.extend`),
  1288-1371 `log` (same skeleton), 1373-1400 `_check_buffer` (`with self._lock:` → `if _buffer_index == 0:`
  → record under `_record_buffer_lock` → `_render_buffer` → one `file.write`), thread-local buffer 351-358.
* live.py 137-150 `start`, 152-187 `stop`, 216-226 `update`, 228-254 `refresh`
  (`with self._lock, self.console: self.console.print(Control(""))`), 265-283 `process_renderables`
  (`position_cursor()` under the live lock), 47-87 `_LiveRender.__rich_console__` (render + `_shape = …`
  under the live lock).
* live_render.py 31-51 `position_cursor/restore_cursor`, 53-75 `LiveRender.__rich_console__` (Progress: running
  maximum of the shape, *not* under any lock when reached from a user print).
* progress.py 653-670 `start`, 672-697 `stop`, 879-902 `advance`, 904-929 `refresh`, 1022-1032
  `process_renderables` (no lock).

Locks: `live` = `Live._lock` / `Progress._lock`, `console` = `Console._lock`,
`record` = `Console._record_buffer_lock`; all three are re-entrant.

Redirected `sys.stdout` / `sys.stderr` (round 4): `Op.proxyPrint lines` is a `FileProxy.write` that completes lines (file_proxy.py:28-47,
`with console: console.print(lines)`); which lines a `write()` hands over (the first one carries what was pending in the proxy) is a
parameter, observed on real rich.  Not modelled (stated in the MANIFEST): the assembly of those lines from the text pending in the
FileProxy objects, and the flush of pending text by `stop()` (`flushProxies` prints nothing: the harness completes every partial line first),
Jupyter, the auto-refresh thread (it is one more thread whose program is `refresh`), styles (what a print
renders to is a parameter: its lines), preemption inside one source line.

There is no variant flag for finding F22 (stale erase count when the frame height changes between
`process_renderables` and the write): no small repair exists; Props/C11.lean carries the `_partial` screen
theorem and the machine-checked witness schedule instead.
-/
namespace RichModel.Conc
open RichModel RichModel.Live

inductive Lock where
  | live | console | record
deriving Repr, DecidableEq

/-- The order in which the code nests its locks: live < console < record. -/
def Lock.rank : Lock → Nat
  | .live => 0
  | .console => 1
  | .record => 2

/-- Which display is attached to the console. -/
inductive DKind where
  | none | live | progress
deriving Repr, DecidableEq

structure Cfg where
  kind : DKind
  width : Nat
  height : Nat
  /-- `Console(record=True)` -/
  record : Bool
  transient : Bool
  /-- CODE VARIANT FLAG.  `true` = the `Progress.stop` of rich 9.10.0 as found, which /repo still has (recorded known finding
  `progress-stop-tail-vs-start`, no small safe repair; the harness constant `STOP_TAIL_UNLOCKED` stays 1): the transient erase (`restore_cursor`) and
  `_live_render._shape = None` run after the progress lock is released, so another thread's `start()` can slip in
  between.  `false` = the proposed repair (pending_fixes/C11-progress-stop-tail-outside-lock.diff, not applied): both happen before the
  lock is released (as in `Live.stop`). -/
  stopTailUnlocked : Bool := true
deriving Repr, DecidableEq

/-- Characters are one terminal cell wide in this model (`Model/Live` is parametric in the cell width). -/
def cw1 : Char → Nat := fun _ => 1

/-- What a buffered piece of output is. -/
inductive Body where
  /-- `position_cursor()` computed from the shape that was read -/
  | pos (shape : Option (Nat × Nat))
  /-- what the user's objects rendered to -/
  | user (lines : List Line)
  /-- the live display as rendered -/
  | frame (f : Frame)
  /-- `Console.control(...)` / `Console.line()` / `Control("")`: raw terminal operations; `control` = it is a control segment -/
  | ctl (ops : List TermOp) (control : Bool)
deriving Repr, DecidableEq

def Body.ops : Body → List TermOp
  | .pos s => positionCursor s
  | .user ls => emitLines ls
  | .frame f => emitFrame f
  | .ctl o _ => o

/-- A buffered piece of output with its origin: thread, index of the operation in the thread's program,
and the number of pieces that thread had produced before (`seq`, unique per thread). -/
structure Item where
  tid : Nat
  op : Nat
  seq : Nat
  body : Body
deriving Repr, DecidableEq

/-- One `file.write` call. -/
structure Write where
  tid : Nat
  op : Nat
  items : List Item
deriving Repr, DecidableEq

def itemsOps (l : List Item) : List TermOp := l.flatMap (·.body.ops)

inductive Op where
  /-- `console.print(...)` / `console.log(...)` with at least one object that renders to `lines` -/
  | print (lines : List Line)
  /-- `with console.capture(): print(l1); print(l2); …` -/
  | capture (bodies : List (List Line))
  /-- `with console.capture(): print(a); with console.capture(): print(b); print(c)` — the inner block starts with a non-empty buffer -/
  | nested (a b c : List Line)
  /-- `Live.update(renderable, refresh=…)` -/
  | update (f : Frame) (refresh : Bool)
  | refresh
  | start
  | stop
  /-- `Progress.advance(id, n)` -/
  | advance (id n : Nat)
  /-- `console.export_text(clear=…)` / `export_html(clear=…)`: read the record, optionally empty it, under the record lock -/
  | export (clear : Bool)
  /-- `sys.stdout.write(text)` / `sys.stderr.write(text)` through the `FileProxy` a running display installs, for a `text` that
  completes at least one line (file_proxy.py:28-47): `with console: console.print(Text("\n").join(lines), …)` — a print inside one more
  buffering level; `lines` = the completed lines (the first one prefixed by what was pending in the proxy).
  A `write` that completes no line touches no console state at all (it is no operation of this model). -/
  | proxyPrint (lines : List Line)
deriving Repr, DecidableEq

inductive Act where
  | acq (l : Lock)
  | rel (l : Lock)
  /-- `_buffer_index += 1` -/
  | enter
  /-- `_buffer_index -= 1` -/
  | exitDec
  /-- `for hook in self._render_hooks:` — is a hook installed right now? -/
  | readHooks
  /-- `self._live_render.position_cursor()` — reads `_shape` -/
  | hookPos
  | pushUser (lines : List Line)
  | pushCtl (ops : List TermOp) (control : Bool)
  /-- `(_)LiveRender.__rich_console__`, first half: `console.render_lines(self.renderable, …)` reads the renderable -/
  | readRenderable
  /-- second half: computes the shape of what was rendered, writes `_shape`, yields the frame -/
  | renderFrame
  /-- `self._record_buffer.extend(self._buffer[:])` -/
  | recAppend
  /-- `text = self._render_buffer(self._buffer[:]); del self._buffer[:]; if text: self.file.write(text)` -/
  | write
  | setRenderable (f : Frame)
  /-- `begin_capture`: `_enter_buffer(); capture_starts.append(len(_buffer))` -/
  | capBegin
  /-- `end_capture` up to `_exit_buffer`: render and remove `_buffer[start:]` -/
  | capEnd
  | pushHook
  | popHook
  | setStarted (b : Bool)
  /-- `if self._started: return` (want = false) / `if not self._started: return` (want = true) -/
  | guardStarted (want : Bool)
  /-- `vertical_overflow = self.vertical_overflow; self.vertical_overflow = "visible"` -/
  | saveOverflow
  /-- `self.console.control(self._live_render.restore_cursor())` up to `_check_buffer` -/
  | restorePush
  /-- `self._live_render._shape = None` (and, for a Live, `self.vertical_overflow = vertical_overflow`) -/
  | resetShape
  /-- `self._live_render.set_renderable(self.get_renderable())` (Progress) -/
  | tableRender
  | advance (id n : Nat)
  /-- `for stream in (sys.stdout, sys.stderr): if isinstance(stream, FileProxy): stream.flush()` in `stop()`
  (live.py:162-165, progress.py:681-684): the proxies hold no pending text in this model, so nothing is printed -/
  | flushProxies
  /-- the loop of `export_text` / `export_html` over `self._record_buffer` (console.py:1482-1494, 1548-1587) -/
  | exportRead
  /-- `if clear: del self._record_buffer[:]` and the end of the `with self._record_buffer_lock:` body -/
  | exportEnd (clear : Bool)
deriving Repr, DecidableEq

/-- When an action of the static code is executed at all. -/
inductive Guard where
  | always
  /-- only when this print found a hook installed -/
  | hooked
  /-- `if self._buffer_index == 0` -/
  | top
  /-- `… and self.record` -/
  | topRecord
deriving Repr, DecidableEq

structure GAct where
  g : Guard
  a : Act
deriving Repr, DecidableEq

def ga (a : Act) : GAct := ⟨.always, a⟩
def gh (a : Act) : GAct := ⟨.hooked, a⟩

/-- `_check_buffer` (console.py:1373-1400). -/
def flushCode : List GAct :=
  [ga (.acq .console), ⟨.topRecord, .acq .record⟩, ⟨.topRecord, .recAppend⟩, ⟨.topRecord, .rel .record⟩,
   ⟨.top, .write⟩, ga (.rel .console)]

/-- `process_renderables`: a Live takes its lock around `position_cursor()`, a Progress does not. -/
def hookCode : DKind → List GAct
  | .live => [gh (.acq .live), gh .hookPos, gh (.rel .live)]
  | _ => [gh .hookPos]

/-- Rendering `self._live_render`: `_LiveRender` holds the live lock, `LiveRender` (Progress) holds nothing. -/
def frameCode : DKind → List GAct
  | .live => [gh (.acq .live), gh .readRenderable, gh .renderFrame, gh (.rel .live)]
  | _ => [gh .readRenderable, gh .renderFrame]

/-- `print` / `log`: `with self:` collect, hooks, render, extend the buffer, `_exit_buffer`. -/
def printBody (k : DKind) (push : Act) : List GAct :=
  [ga .enter, ga .readHooks] ++ hookCode k ++ [ga push] ++ frameCode k ++ [ga .exitDec] ++ flushCode

/-- `refresh()` on a terminal. -/
def refreshCode : DKind → List GAct
  | .live => [ga (.acq .live), ga .enter] ++ printBody .live (.pushCtl [] true) ++ [ga .exitDec] ++ flushCode ++ [ga (.rel .live)]
  | .progress => [ga (.acq .live), ga .tableRender, ga .enter] ++ printBody .progress (.pushCtl [] true) ++ [ga .exitDec] ++ flushCode ++ [ga (.rel .live)]
  | .none => []

/-- `control(codes)` / `line()`: append one segment, `_check_buffer`. -/
def ctlCode (ops : List TermOp) (control : Bool) : List GAct := ga (.pushCtl ops control) :: flushCode

def captureCode (k : DKind) (bodies : List (List Line)) : List GAct :=
  [ga .capBegin] ++ bodies.flatMap (fun ls => printBody k (.pushUser ls)) ++ [ga .capEnd, ga .exitDec] ++ flushCode

def nestedCode (k : DKind) (a b c : List Line) : List GAct :=
  [ga .capBegin] ++ printBody k (.pushUser a) ++ [ga .capBegin] ++ printBody k (.pushUser b) ++ [ga .capEnd, ga .exitDec] ++ flushCode
    ++ printBody k (.pushUser c) ++ [ga .capEnd, ga .exitDec] ++ flushCode

def startCode (cfg : Cfg) : List GAct :=
  match cfg.kind with
  | .live => [ga (.acq .live), ga (.guardStarted false)] ++ ctlCode [.hideCursor] true ++ [ga .pushHook, ga (.setStarted true), ga (.rel .live)]
  | .progress => [ga (.acq .live), ga (.guardStarted false), ga (.setStarted true)] ++ ctlCode [.hideCursor] true ++ [ga .pushHook]
      ++ refreshCode .progress ++ [ga (.rel .live)]
  | .none => []

def stopCode (cfg : Cfg) : List GAct :=
  match cfg.kind with
  | .live => [ga (.acq .live), ga (.guardStarted true), ga (.setStarted false), ga .flushProxies, ga .saveOverflow] ++ refreshCode .live
      ++ ctlCode [.lf] false ++ [ga .popHook] ++ ctlCode [.showCursor] true
      ++ (if cfg.transient then ga .restorePush :: flushCode else []) ++ [ga .resetShape, ga (.rel .live)]
  | .progress => [ga (.acq .live), ga (.guardStarted true), ga (.setStarted false), ga .flushProxies] ++ refreshCode .progress
      ++ ctlCode [.lf] false ++ ctlCode [.showCursor] true ++ [ga .popHook]
      ++ (if cfg.stopTailUnlocked then
            [ga (.rel .live)] ++ (if cfg.transient then ga .restorePush :: flushCode else []) ++ [ga .resetShape]
          else (if cfg.transient then ga .restorePush :: flushCode else []) ++ [ga .resetShape, ga (.rel .live)])
  | .none => []

/-- The static code of an operation (`[]`: the operation does not exist for this kind of display). -/
def code (cfg : Cfg) : Op → List GAct
  | .print ls => printBody cfg.kind (.pushUser ls)
  | .capture bodies => captureCode cfg.kind bodies
  | .nested a b c => nestedCode cfg.kind a b c
  | .update f r =>
    match cfg.kind with
    | .live => [ga (.acq .live), ga (.setRenderable f)] ++ (if r then refreshCode .live else []) ++ [ga (.rel .live)]
    | _ => []
  | .refresh => refreshCode cfg.kind
  | .start => startCode cfg
  | .stop => stopCode cfg
  | .advance id n =>
    match cfg.kind with
    | .progress => [ga (.acq .live), ga (.advance id n), ga (.rel .live)]
    | _ => []
  | .export clear => [ga (.acq .record), ga .exportRead, ga (.exportEnd clear), ga (.rel .record)]
  | .proxyPrint ls => [ga .enter] ++ printBody cfg.kind (.pushUser ls) ++ [ga .exitDec] ++ flushCode

def Op.applies (k : DKind) : Op → Bool
  | .print _ | .capture _ | .nested _ _ _ | .export _ | .proxyPrint _ => true
  | .update _ _ => k == .live
  | .refresh | .start | .stop => k != .none
  | .advance _ _ => k == .progress

/-- Thread-local state (`ConsoleThreadLocals` + the control state of the running operation). -/
structure Local where
  prog : List Op := []
  /-- number of operations started so far (the running one has index `nops - 1`) -/
  nops : Nat := 0
  cont : List GAct := []
  /-- `_buffer_index` -/
  depth : Nat := 0
  buffer : List Item := []
  /-- `capture_starts` -/
  marks : List Nat := []
  /-- did the running print find a hook? -/
  hooked : Bool := false
  /-- the renderable as read by the running render of the live display -/
  rcopy : Frame := []
  /-- locks held, one entry per (re-entrant) acquisition -/
  held : List Lock := []
  /-- between `recAppend` and `write` -/
  recDone : Bool := false
  /-- something was buffered since the last write (over-approximation of `buffer ≠ []`) -/
  dirty : Bool := false
  /-- results of the capture blocks, oldest first -/
  captured : List (List Item) := []
  /-- the record as read by the running export -/
  xcopy : List Item := []
  /-- between `exportRead` and `exportEnd` -/
  xread : Bool := false
  /-- what the export calls of this thread returned (the recorded pieces), oldest first -/
  results : List (List Item) := []
  /-- ghost: every piece of output this thread produced, in order -/
  emitted : List Item := []
  /-- an action Python would have answered with an exception (releasing a lock that is not held, …) -/
  fault : Bool := false
  /-- an operation was left by a Python exception the caller sees (`KeyError` for an unknown task id) -/
  raised : Bool := false
deriving Repr

structure Shared where
  owner : Lock → Option Nat := fun _ => none
  file : List Write := []
  record : List Item := []
  /-- ghost: what every *clearing* export returned, in the order of their critical sections (thread, pieces) -/
  exports : List (Nat × List Item) := []
  /-- `_live_render._shape` -/
  shape : Option (Nat × Nat) := none
  renderable : Frame := []
  overflow : Overflow := .ellipsis
  overflow0 : Overflow := .ellipsis
  /-- `len(console._render_hooks)` -/
  hooks : Nat := 0
  started : Bool := false
  tasks : List Task := []

structure State where
  sh : Shared := {}
  th : Nat → Local := fun _ => {}

def upd {α : Type} (f : Nat → α) (t : Nat) (v : α) : Nat → α := fun u => if u = t then v else f u

def updLock (f : Lock → Option Nat) (l : Lock) (v : Option Nat) : Lock → Option Nat := fun k => if k = l then v else f k

def guardOn (cfg : Cfg) (depth : Nat) (hooked : Bool) : Guard → Bool
  | .always => true
  | .hooked => hooked
  | .top => depth == 0
  | .topRecord => depth == 0 && cfg.record

def Local.push (l : Local) (t : Nat) (b : Body) : Local :=
  let x : Item := { tid := t, op := l.nops - 1, seq := l.emitted.length, body := b }
  { l with buffer := l.buffer ++ [x], emitted := l.emitted ++ [x], dirty := true }

/-- A write is issued only when the rendered text is not empty (`if text:`). -/
def nonEmpty (x : Item) : Bool := !x.body.ops.isEmpty

/-- One action of thread `t` (`l` already has the action removed from `cont`).  `none` = blocked. -/
def exec (cfg : Cfg) (t : Nat) (sh : Shared) (l : Local) : Act → Option (Shared × Local)
  | .acq lk =>
    match sh.owner lk with
    | none => some ({ sh with owner := updLock sh.owner lk (some t) }, { l with held := lk :: l.held })
    | some u => if u = t then some ({ sh with owner := updLock sh.owner lk (some t) }, { l with held := lk :: l.held }) else none
  | .rel lk =>
    if lk ∈ l.held then
      let held := l.held.erase lk
      some ({ sh with owner := if lk ∈ held then sh.owner else updLock sh.owner lk none }, { l with held := held })
    else some (sh, { l with fault := true })
  | .enter => some (sh, { l with depth := l.depth + 1 })
  | .exitDec => if l.depth = 0 then some (sh, { l with fault := true }) else some (sh, { l with depth := l.depth - 1 })
  | .readHooks => some (sh, { l with hooked := decide (0 < sh.hooks) })
  | .hookPos => some (sh, l.push t (.pos sh.shape))
  | .pushUser ls => some (sh, l.push t (.user ls))
  | .pushCtl o c => some (sh, l.push t (.ctl o c))
  | .readRenderable => some (sh, { l with rcopy := sh.renderable })
  | .renderFrame =>
    match cfg.kind with
    | .progress =>
      let r := progressFrame cw1 cfg.width sh.shape l.rcopy
      some ({ sh with shape := some r.2 }, l.push t (.frame r.1))
    | _ =>
      let f := liveFrame cw1 cfg.width cfg.height sh.overflow l.rcopy
      some ({ sh with shape := some (getShape cw1 f) }, l.push t (.frame f))
  | .recAppend => some ({ sh with record := sh.record ++ l.buffer }, { l with recDone := true })
  | .write =>
    some ({ sh with file := if l.buffer.any nonEmpty then sh.file ++ [{ tid := t, op := l.nops - 1, items := l.buffer }] else sh.file },
          { l with buffer := [], recDone := false, dirty := false })
  | .setRenderable f => some ({ sh with renderable := f }, l)
  | .capBegin => some (sh, { l with depth := l.depth + 1, marks := l.buffer.length :: l.marks })
  | .capEnd =>
    let start := l.marks.headD 0
    some (sh, { l with captured := l.captured ++ [l.buffer.drop start], buffer := l.buffer.take start, marks := l.marks.tail })
  | .pushHook => some ({ sh with hooks := sh.hooks + 1 }, l)
  | .popHook => some ({ sh with hooks := sh.hooks - 1 }, l)
  | .setStarted b => some ({ sh with started := b }, l)
  | .guardStarted want =>
    if sh.started = want then some (sh, l) else some (sh, { l with cont := [ga (.rel .live)] })
  | .saveOverflow => some ({ sh with overflow0 := sh.overflow, overflow := .visible }, l)
  | .restorePush => some (sh, l.push t (.ctl (restoreCursor true sh.shape) true))
  | .resetShape =>
    some ({ sh with shape := none, overflow := if cfg.kind = .live then sh.overflow0 else sh.overflow }, l)
  | .tableRender => some ({ sh with renderable := tasksTable cw1 sh.tasks }, l)
  | .advance id n =>
    match findTask sh.tasks id with
    | some tk => some ({ sh with tasks := replaceTask sh.tasks { tk with completed := tk.completed + n } }, l)
    | none => some (sh, { l with cont := [ga (.rel .live)], raised := true })   -- KeyError leaves the `with self._lock:` block
  | .flushProxies => some (sh, l)
  | .exportRead => some (sh, { l with xcopy := sh.record, xread := true })
  | .exportEnd clear =>
    some ({ sh with record := if clear then [] else sh.record,
                    exports := if clear then sh.exports ++ [(t, l.xcopy)] else sh.exports },
          { l with results := l.results ++ [l.xcopy], xread := false })

/-- One step of thread `t`: load the next operation, skip an action whose guard is off, or perform the
action.  `none`: the thread is finished or blocked on a lock. -/
def stepT (cfg : Cfg) (s : State) (t : Nat) : Option State :=
  let l := s.th t
  match l.cont with
  | [] =>
    match l.prog with
    | [] => none
    | op :: rest => some { s with th := upd s.th t { l with prog := rest, cont := code cfg op, nops := l.nops + 1 } }
  | g :: rest =>
    let l1 := { l with cont := rest }
    if guardOn cfg l.depth l.hooked g.g then
      (exec cfg t s.sh l1 g.a).map (fun r => { sh := r.1, th := upd s.th t r.2 })
    else some { s with th := upd s.th t l1 }

def Local.done (l : Local) : Bool := l.cont.isEmpty && l.prog.isEmpty

/-- A schedule is a list of thread ids; choosing a finished or blocked thread changes nothing. -/
def run (cfg : Cfg) (s : State) (sched : List Nat) : State :=
  sched.foldl (fun s t => (stepT cfg s t).getD s) s

/-- Threads `0 … progs.length-1` with their programs, nothing written yet. -/
def initState (sh : Shared) (progs : List (List Op)) : State :=
  { sh := sh, th := fun t => { prog := progs.getD t [] } }

/-- Everything written to the file, as terminal operations in file order. -/
def fileOps (s : State) : List TermOp := s.sh.file.flatMap (fun w => itemsOps w.items)

/-- What thread `t` wrote, flattened. -/
def written (s : State) (t : Nat) : List Item := (s.sh.file.filter (·.tid == t)).flatMap (·.items)

/-- Is a recorded piece a control piece?  (`export_text()` is the text of the recorded pieces that are not.) -/
def isControl (k : DKind) : Body → Bool
  | .pos _ => true
  | .user _ => false
  | .frame _ => k == .progress
  | .ctl _ c => c

end RichModel.Conc
