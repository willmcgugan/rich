import RichModel.Model.Cells
/-
Model of rich/pretty.py: `Node` (iter_tokens, check_length, __str__, render), `_Line`
(expandable, check_length, expand, __str__), `traverse` (over a heap of objects with identities),
`pretty_repr`.  Core Lean only (imports Model/Cells for `cellLen`), so the driver links natively.

Every definition mirrors the Python statement by statement; quirks are kept.  Three places where
rich 9.10.0 as found was defective are selected by *variant flags* (`Variant`): `true` = rich 9.10.0 as found,
`false` = the minimally repaired code, which /repo contains now (`fix:` commits 376cec1, e5d1b9a, db5535b; see
Props/C16.lean for the theorems and the witnesses).  Since the deepening round `Pretty.__rich_measure__` /
`__rich_console__` are modelled on the traversed tree and the options are `Int`s as in the code.

What is NOT modelled but enters as a parameter (runtime facts):
* `repr()` of leaves: an atom is an opaque token string; for `str`/`bytes` leaves the characters are
  in the model and `pyRepr : Bool → Str → Str` (isBytes, characters ↦ Python's repr) is a parameter;
* the width function `cw` (instantiated with the generated table in the driver).
-/
namespace RichModel.Pretty
open RichModel

abbrev Str := List Char

/-- Which variant of the code is modelled.  `dropSuffix = true`: `_Line.expand` computes the suffix of
the closing line from the node (as found, F24; before fix 376cec1); `false`: it carries the expanded line's own suffix.
`arrayLiteral = true`: the empty form of `array` is the literal text `array({_object.typecode!r})`
(as found, F12: missing f-string; before fix e5d1b9a); `false`: `array('<typecode>')`. -/
structure Variant where
  dropSuffix : Bool
  arrayLiteral : Bool
  /-- `Pretty.__rich_measure__` calls `pretty_repr` without `expand_all` (as found, F26); `false`: it passes
  `expand_all=self.expand_all`, like `__rich_console__` does. -/
  measureNoExpandAll : Bool := true

/-- rich 9.10.0 as found (the name `today` dates from before the `fix:` commits) / the repaired code, which /repo contains now. -/
def Variant.today : Variant := ⟨true, true, true⟩
def Variant.repaired : Variant := ⟨false, false, false⟩
/-- /repo after the `fix:` commits 376cec1, e5d1b9a and before db5535b (F26 as found); the name dates from then:
what /repo contains now is `Variant.repaired`. -/
def Variant.current : Variant := ⟨false, false, true⟩

/-! ### `Node` (pretty.py:244-303) -/

/-- `@dataclass class Node`.  `children: Optional[List[Node]]` is represented by `isContainer`
(`children is not None`) and the list (`[]` when `children is None`). -/
inductive Node where
  | mk (keyRepr valueRepr openBrace closeBrace empty : Str) (last isTuple isContainer : Bool)
       (children : List Node)

namespace Node

def keyRepr : Node → Str | .mk k _ _ _ _ _ _ _ _ => k
def valueRepr : Node → Str | .mk _ v _ _ _ _ _ _ _ => v
def openBrace : Node → Str | .mk _ _ o _ _ _ _ _ _ => o
def closeBrace : Node → Str | .mk _ _ _ c _ _ _ _ _ => c
def empty : Node → Str | .mk _ _ _ _ e _ _ _ _ => e
def last : Node → Bool | .mk _ _ _ _ _ l _ _ _ => l
def isTuple : Node → Bool | .mk _ _ _ _ _ _ t _ _ => t
def isContainer : Node → Bool | .mk _ _ _ _ _ _ _ ic _ => ic
def children : Node → List Node | .mk _ _ _ _ _ _ _ _ ch => ch

/-- `child_node.key_repr = …; child_node.last = …` (attribute assignment in `_traverse`). -/
def setKeyLast : Node → Str → Bool → Node
  | .mk _ v o c e _ t ic ch, k, l => .mk k v o c e l t ic ch
def setLast : Node → Bool → Node
  | .mk k v o c e _ t ic ch, l => .mk k v o c e l t ic ch

/-- `separator` property: `"" if self.last else ","`. -/
def separator (n : Node) : Str := if n.last then [] else [',']

/-- `node.is_tuple and len(node.children) == 1`. -/
def tupleOfOne (n : Node) : Bool := n.isTuple && n.children.length == 1

mutual
/-- `iter_tokens` (pretty.py:262-282). -/
def tokens : Node → List Str
  | .mk k v o c e _ tup ic ch =>
    (if k.isEmpty then [] else [k, [':', ' ']]) ++
    (if !v.isEmpty then [v]
     else if ic then
       (if !ch.isEmpty then [o] ++ tokensList (tup && ch.length == 1) ch ++ [c] else [e])
     else [])
/-- the two loops over `self.children`: `one` selects the single-element-tuple branch
(child tokens then `","`), otherwise child tokens then `", "` unless `child.last`. -/
def tokensList (one : Bool) : List Node → List Str
  | [] => []
  | c :: cs =>
    c.tokens ++ (if one then [[',']] else if !c.last then [[',', ' ']] else []) ++ tokensList one cs
end

/-- `__str__`: `"".join(self.iter_tokens())`. -/
def str (n : Node) : Str := n.tokens.flatten

/-- The loop of `check_length` (pretty.py:294-299) with its early exit. -/
def checkLoop (cw : Char → Nat) (maxLength : Int) : Nat → List Str → Bool
  | _, [] => true
  | total, t :: ts =>
    if ((total + cellLen cw t : Nat) : Int) > maxLength then false
    else checkLoop cw maxLength (total + cellLen cw t) ts

/-- `check_length(start_length, max_length)`. -/
def checkLength (cw : Char → Nat) (n : Node) (startLength : Nat) (maxLength : Int) : Bool :=
  checkLoop cw maxLength startLength n.tokens

mutual
/-- Termination measure of the render loop: `1 + Σ (1 + weight child)`. -/
def weight : Node → Nat
  | .mk _ _ _ _ _ _ _ _ ch => 1 + weightList ch
def weightList : List Node → Nat
  | [] => 0
  | c :: cs => 1 + c.weight + weightList cs
end

end Node

/-! ### `_Line` (pretty.py:331-385) -/

/-- `@dataclass class _Line`. -/
structure Line where
  isRoot : Bool := false
  node : Option Node := none
  text : Str := []
  suffix : Str := []
  whitespace : Str := []
  expanded : Bool := false

namespace Line

/-- `expandable`: `bool(self.node is not None and self.node.children)`. -/
def expandable (l : Line) : Bool :=
  match l.node with
  | some n => n.isContainer && !n.children.isEmpty
  | none => false

/-- The node of a line the render loop may expand: `line.expandable and not line.expanded`.
(Gives the `assert self.node is not None` / `assert node.children` of `check_length` / `expand`
by construction.) -/
def expandNode (l : Line) : Option Node :=
  match l.node with
  | some n => if n.isContainer && !n.children.isEmpty && !l.expanded then some n else none
  | none => none

/-- `check_length(max_length)` for a line that has a node. -/
def checkLength (cw : Char → Nat) (l : Line) (n : Node) (maxLength : Int) : Bool :=
  n.checkLength cw (l.whitespace.length + cellLen cw l.text + cellLen cw l.suffix) maxLength

/-- first line yielded by `expand`: the opening brace (with the key, if any). -/
def expandHead (l : Line) (n : Node) : Line :=
  if !n.keyRepr.isEmpty then
    { text := n.keyRepr ++ [':', ' '] ++ n.openBrace, whitespace := l.whitespace }
  else
    { text := n.openBrace, whitespace := l.whitespace }

/-- the child lines yielded by `expand`. -/
def expandKids (l : Line) (n : Node) (indentSize : Int) : List Line :=
  n.children.map fun child =>
    { node := some child,
      -- `" " * indent_size`: the empty string for a negative count
      whitespace := l.whitespace ++ List.replicate indentSize.toNat ' ',
      suffix := if n.tupleOfOne then [','] else child.separator }

/-- last line yielded by `expand`: the closing brace.  rich 9.10.0 as found (`dropSuffix`, before fix 376cec1) derives the
suffix from the node; the repaired code carries the suffix of the line being expanded. -/
def expandClose (v : Variant) (l : Line) (n : Node) : Line :=
  { text := n.closeBrace, whitespace := l.whitespace,
    suffix := if v.dropSuffix then (if n.tupleOfOne && !l.isRoot then [','] else n.separator)
              else l.suffix }

/-- everything `expand` yields after the opening line. -/
def expandTail (v : Variant) (l : Line) (n : Node) (indentSize : Int) : List Line :=
  l.expandKids n indentSize ++ [l.expandClose v n]

/-- `expand(indent_size)` (pretty.py:355-382). -/
def expand (v : Variant) (l : Line) (n : Node) (indentSize : Int) : List Line :=
  l.expandHead n :: l.expandTail v n indentSize

/-- `__str__`: `f"{self.whitespace}{self.text}{self.node or ''}{self.suffix}"`. -/
def str (l : Line) : Str :=
  l.whitespace ++ l.text ++ (match l.node with | some n => n.str | none => []) ++ l.suffix

/-- termination weight of a pending line. -/
def weight (l : Line) : Nat :=
  match l.node with
  | some n => 1 + n.weight
  | none => 1

end Line

def todoWeight : List Line → Nat
  | [] => 0
  | l :: ls => l.weight + todoWeight ls

theorem todoWeight_append (a b : List Line) : todoWeight (a ++ b) = todoWeight a + todoWeight b := by
  induction a with
  | nil => simp [todoWeight]
  | cons x xs ih => simp [todoWeight, ih]; omega

theorem todoWeight_kids (ch : List Node) (ws sfx : Node → Str) :
    todoWeight (ch.map fun c => ({ node := some c, whitespace := ws c, suffix := sfx c } : Line))
      = Node.weightList ch := by
  induction ch with
  | nil => simp [todoWeight, Node.weightList]
  | cons c cs ih => simp [todoWeight, Node.weightList, Line.weight, ih]

theorem expandNode_some {l : Line} {n : Node} (h : l.expandNode = some n) : l.node = some n := by
  unfold Line.expandNode at h
  split at h
  · split at h
    · simp_all
    · cases h
  · cases h

theorem todoWeight_expandTail (v : Variant) (l : Line) (n : Node) (ind : Int) :
    todoWeight (l.expandTail v n ind) = n.weight := by
  unfold Line.expandTail Line.expandKids
  rw [todoWeight_append, todoWeight_kids]
  cases n with
  | mk k vr o c e la t ic ch =>
    simp [Node.children, Node.weight, todoWeight, Line.weight, Line.expandClose]
    omega

/-- Should this line be expanded?  (`expand_all or not line.check_length(max_width)`.) -/
def mustExpand (cw : Char → Nat) (maxWidth : Int) (expandAll : Bool) (l : Line) (n : Node) : Bool :=
  expandAll || !(l.checkLength cw n maxWidth)

set_option linter.unusedVariables false in
/-- The `while line_no < len(lines)` loop of `Node.render` (pretty.py:318-325).
`done` is `lines[:line_no]` reversed, the first argument is `lines[line_no:]`.
Replacing `lines[line_no:line_no+1]` by the expansion and then `line_no += 1` passes over the
opening line and leaves the children and the closing line pending.

The recursion is well-founded on the total weight of the pending lines. -/
def renderLoop (cw : Char → Nat) (v : Variant) (maxWidth indentSize : Int) (expandAll : Bool) :
    List Line → List Line → List Line
  | [], done => done.reverse
  | l :: rest, done =>
    match h : l.expandNode with
    | some n =>
      if mustExpand cw maxWidth expandAll l n then
        renderLoop cw v maxWidth indentSize expandAll (l.expandTail v n indentSize ++ rest)
          (l.expandHead n :: done)
      else renderLoop cw v maxWidth indentSize expandAll rest (l :: done)
    | none => renderLoop cw v maxWidth indentSize expandAll rest (l :: done)
termination_by todo => todoWeight todo
decreasing_by
  · rw [todoWeight_append, todoWeight_expandTail]
    simp only [todoWeight, Line.weight, expandNode_some h]
    omega
  · simp only [todoWeight]
    have : 0 < l.weight := by unfold Line.weight; split <;> omega
    omega
  · simp only [todoWeight]
    have : 0 < l.weight := by unfold Line.weight; split <;> omega
    omega

/-- `lines = [_Line(node=self, is_root=True)]`. -/
def rootLine (n : Node) : Line := { node := some n, isRoot := true }

/-- The lines of `Node.render` before they are joined. -/
def renderLines (cw : Char → Nat) (v : Variant) (n : Node) (maxWidth indentSize : Int)
    (expandAll : Bool) : List Line :=
  renderLoop cw v maxWidth indentSize expandAll [rootLine n] []

/-- `"\n".join(str(line) for line in lines)`. -/
def joinLines (ls : List Str) : Str := List.intercalate ['\n'] ls

/-- `Node.render(max_width, indent_size, expand_all)`. -/
def render (cw : Char → Nat) (v : Variant) (n : Node) (maxWidth indentSize : Int)
    (expandAll : Bool) : Str :=
  joinLines ((renderLines cw v n maxWidth indentSize expandAll).map Line.str)

/-! ### `traverse` (pretty.py:388-475) over a heap of objects with identities -/

/-- A non-container object as `to_repr` sees it.  `atom r`: `repr(obj)` is `r` (runtime);
`str isBytes chars`: a `str`/`bytes` object (the only ones `max_string` applies to);
`broken msg`: `repr(obj)` raises `Exception(msg)`. -/
inductive Leaf where
  | atom (repr : Str)
  | str (isBytes : Bool) (chars : Str)
  | broken (msg : Str)

/-- exact types in `_CONTAINERS` that are not mappings … -/
inductive SeqKind where
  | array | deque | frozenset | list | set | tuple
deriving DecidableEq

/-- … and those for which `isinstance(obj, (dict, os._Environ))` holds. -/
inductive MapKind where
  | environ | defaultdict | counter | dict
deriving DecidableEq

/-- A heap object.  `aux` is `repr(typecode)` for arrays and `repr(default_factory)` for
defaultdicts (runtime strings), unused otherwise.  Items are references (heap indices). -/
inductive HObj where
  /-- any object whose exact type is not in `_CONTAINERS` (this includes subclasses of list, tuple, dict,
  namedtuples, dataclass instances); `isTuple` is `isinstance(obj, tuple)`, which `_traverse` records on
  every node. -/
  | leaf (l : Leaf) (isTuple : Bool)
  | seq (k : SeqKind) (aux : Str) (items : List Nat)
  | map (k : MapKind) (aux : Str) (items : List (Leaf × Nat))

abbrev Heap := List HObj

/-- `_BRACES[obj_type](obj)` (pretty.py:216-239) for the non-mapping containers. -/
def seqBraces (v : Variant) : SeqKind → Str → Str × Str × Str
  | .array, tc =>
    ("array(".toList ++ tc ++ ", [".toList, "])".toList,
      if v.arrayLiteral then "array({_object.typecode!r})".toList
      else "array(".toList ++ tc ++ ")".toList)
  | .deque, _ => ("deque([".toList, "])".toList, "deque()".toList)
  | .frozenset, _ => ("frozenset({".toList, "})".toList, "frozenset()".toList)
  | .list, _ => ("[".toList, "]".toList, "[]".toList)
  | .set, _ => ("{".toList, "}".toList, "set()".toList)
  | .tuple, _ => ("(".toList, ")".toList, "()".toList)

def mapBraces : MapKind → Str → Str × Str × Str
  | .environ, _ => ("environ({".toList, "})".toList, "environ({})".toList)
  | .defaultdict, f =>
    ("defaultdict(".toList ++ f ++ ", {".toList, "})".toList,
      "defaultdict(".toList ++ f ++ ", {})".toList)
  | .counter, _ => ("Counter({".toList, "})".toList, "Counter()".toList)
  | .dict, _ => ("{".toList, "}".toList, "{}".toList)

/-- decimal digits of a natural number (`f"{n}"`). -/
def natStr (n : Nat) : Str := (Nat.repr n).toList

/-- `obj[:stop]` for a sequence: a negative stop counts from the end, clamped at 0. -/
def sliceTo (cs : Str) (stop : Int) : Str :=
  if stop ≥ 0 then cs.take stop.toNat else cs.take ((cs.length : Int) + stop).toNat

/-- the `str`/`bytes` branch of `to_repr`: `f"{obj[:max_string]!r}+{truncated}"` when
`max_string is not None and len(obj) > max_string`, else `repr(obj)`. -/
def strRepr (pyRepr : Bool → Str → Str) (maxString : Option Int) (b : Bool) (cs : Str) : Str :=
  match maxString with
  | some m =>
    if (cs.length : Int) > m then
      pyRepr b (sliceTo cs m) ++ ['+'] ++ natStr ((cs.length : Int) - m).toNat
    else pyRepr b cs
  | none => pyRepr b cs

/-- `<repr-error '{error}'>` -/
def reprError (msg : Str) : Str := "<repr-error '".toList ++ msg ++ "'>".toList

/-- `to_repr(obj)` (pretty.py:402-416). -/
def toRepr (pyRepr : Bool → Str → Str) (maxString : Option Int) : Leaf → Str
  | .atom r => r
  | .broken msg => reprError msg
  | .str b cs => strRepr pyRepr maxString b cs

/-- `Node(value_repr="...")` — recursion detected. -/
def cycleMarker : Node := .mk [] ['.', '.', '.'] [] [] [] false false false []

/-- `Node(value_repr=f"... +{num_items-max_length}", last=True)`. -/
def moreMarker (omitted : Nat) : Node :=
  .mk [] ("... +".toList ++ natStr omitted) [] [] [] true false false []

/-- `islice(iter, max_length)` when `max_length is not None`. -/
def shown {α} (maxLength : Option Nat) (items : List α) : List α :=
  match maxLength with
  | some m => items.take m
  | none => items

/-- `if max_length is not None and num_items > max_length: append(…)`. -/
def withMore (maxLength : Option Nat) (numItems : Nat) (kids : List Node) : List Node :=
  match maxLength with
  | some m => if numItems > m then kids ++ [moreMarker (numItems - m)] else kids
  | none => kids

def optList {α} : List (Option α) → Option (List α)
  | [] => some []
  | none :: _ => none
  | some a :: r => (optList r).map (a :: ·)

/-- `enumerate` -/
def enum {α} : Nat → List α → List (Nat × α)
  | _, [] => []
  | i, a :: r => (i, a) :: enum (i + 1) r

structure TravCfg where
  pyRepr : Bool → Str → Str
  variant : Variant
  maxLength : Option Nat
  maxString : Option Int

/-- `_traverse(obj, root)` (pretty.py:422-472).  `visited` is `visited_ids` (the ids pushed and not
yet popped = the containers on the current path; `pop_visited` is the return to the caller's list).
`fuel` bounds the depth: `none` = out of fuel or a dangling reference (never for
`fuel = |heap| + 1` on a well-formed heap: `traverseObj_isSome`, `C16.cycle_marker`). -/
def traverseObj (cfg : TravCfg) (h : Heap) : Nat → List Nat → Nat → Bool → Option Node
  | 0, _, _, _ => none
  | fuel + 1, visited, id, root =>
    match h[id]? with
    | none => none
    | some (.leaf l isTup) =>
      some (.mk [] (toRepr cfg.pyRepr cfg.maxString l) [] [] [] root isTup false [])
    | some (.seq k aux items) =>
      if visited.contains id then some cycleMarker
      else
        let br := seqBraces cfg.variant k aux
        if items.isEmpty then some (.mk [] [] [] [] br.2.2 root (k == .tuple) true [])
        else
          let lastIdx := items.length - 1
          match optList ((enum 0 (shown cfg.maxLength items)).map fun (i, r) =>
              (traverseObj cfg h fuel (id :: visited) r false).map (·.setLast (i == lastIdx))) with
          | none => none
          | some kids =>
            some (.mk [] [] br.1 br.2.1 [] root (k == .tuple) true
              (withMore cfg.maxLength items.length kids))
    | some (.map k aux items) =>
      if visited.contains id then some cycleMarker
      else
        let br := mapBraces k aux
        if items.isEmpty then some (.mk [] [] [] [] br.2.2 root false true [])
        else
          let lastIdx := items.length - 1
          match optList ((enum 0 (shown cfg.maxLength items)).map fun (i, kr) =>
              (traverseObj cfg h fuel (id :: visited) kr.2 false).map
                (·.setKeyLast (toRepr cfg.pyRepr cfg.maxString kr.1) (i == lastIdx))) with
          | none => none
          | some kids =>
            some (.mk [] [] br.1 br.2.1 [] root false true
              (withMore cfg.maxLength items.length kids))

/-- `traverse(_object, max_length, max_string)`. -/
def traverse (cfg : TravCfg) (h : Heap) (root : Nat) : Option Node :=
  traverseObj cfg h (h.length + 1) [] root true

/-- `pretty_repr(_object, max_width=, indent_size=, max_length=, max_string=, expand_all=)`
for `max_length` in its valid domain (`None` or `>= 0`). -/
def prettyRepr (cw : Char → Nat) (cfg : TravCfg) (h : Heap) (root : Nat)
    (maxWidth indentSize : Int) (expandAll : Bool) : Option Str :=
  (traverse cfg h root).map fun n => render cw cfg.variant n maxWidth indentSize expandAll

/-! ### Options outside their valid domain -/

/-- Python exceptions this module can raise on the modelled inputs. -/
inductive Err where
  | valueError     -- `islice(it, negative)`, `max()` of an empty sequence
deriving DecidableEq

/-- Is the object a non-empty container (`type(obj) in _CONTAINERS and obj`)? -/
def nonEmptyContainer (h : Heap) (id : Nat) : Bool :=
  match h[id]? with
  | some (.seq _ _ items) => !items.isEmpty
  | some (.map _ _ items) => !items.isEmpty
  | _ => false

/-- `traverse` with `max_length` as Python receives it (any integer or `None`).
`islice(iter, max_length)` raises `ValueError` for a negative stop.  `max_length` is the same at every
level and `islice` is called before any child is visited, so the first `islice` call of a traversal is
the one for the root: it is reached — and raises — exactly when the root is a non-empty container;
when the root is a leaf or an empty container no `islice` call is made and `max_length` is never
looked at. -/
def traverseAny (pyRepr : Bool → Str → Str) (v : Variant) (maxLength maxString : Option Int)
    (h : Heap) (root : Nat) : Except Err (Option Node) :=
  match maxLength with
  | none => .ok (traverse ⟨pyRepr, v, none, maxString⟩ h root)
  | some m =>
    if m < 0 then
      if nonEmptyContainer h root then .error .valueError
      else .ok (traverse ⟨pyRepr, v, none, maxString⟩ h root)
    else .ok (traverse ⟨pyRepr, v, some m.toNat, maxString⟩ h root)

/-- `pretty_repr` with every option as Python receives it. -/
def prettyReprAny (cw : Char → Nat) (pyRepr : Bool → Str → Str) (v : Variant)
    (maxLength maxString : Option Int) (h : Heap) (root : Nat)
    (maxWidth indentSize : Int) (expandAll : Bool) : Except Err (Option Str) :=
  (traverseAny pyRepr v maxLength maxString h root).map fun r =>
    r.map fun n => render cw v n maxWidth indentSize expandAll

/-! ### `Pretty.__rich_measure__` and `Pretty.__rich_console__` (pretty.py:177-213) -/

/-- the line boundaries of `str.splitlines()`. -/
def isLineBreak (c : Char) : Bool :=
  c == '\n' || c == '\r' || c == '\x0b' || c == '\x0c' || c == '\x1c' || c == '\x1d' ||
  c == '\x1e' || c == '\u0085' || c == ' ' || c == ' '

/-- `str.splitlines()`: `cur` is the current line reversed; `afterCR`: the previous character was a
`\r` boundary, so a `\n` now belongs to it (`\r\n` is one boundary); no final empty line. -/
def splitLoop : Str → Str → Bool → List Str
  | [], cur, _ => if cur.isEmpty then [] else [cur.reverse]
  | c :: rest, cur, afterCR =>
    if afterCR && c == '\n' then splitLoop rest cur false
    else if isLineBreak c then cur.reverse :: splitLoop rest [] (c == '\r')
    else splitLoop rest (c :: cur) false

def splitlines (s : Str) : List Str := splitLoop s [] false

/-- `max(iterable)`: `ValueError` on an empty one. -/
def pyMax : List Nat → Except Err Nat
  | [] => .error .valueError
  | x :: xs => .ok (xs.foldl max x)

/-- `Pretty.__rich_measure__(console, max_width)`: the text width `w` of `Measurement(w, w)`.
`pretty_repr` is called with `max_width`, `indent_size`, `max_length`, `max_string` — and, in the code
as found, **without** `expand_all` (and without the margin). -/
def prettyMeasure (cw : Char → Nat) (v : Variant) (n : Node) (maxWidth indentSize : Int)
    (expandAll : Bool) : Except Err Nat :=
  let s := render cw v n maxWidth indentSize (if v.measureNoExpandAll then false else expandAll)
  pyMax ((splitlines s).map (cellLen cw))

/-- the options of `Pretty` that `__rich_console__` looks at. -/
structure PrettyOpts where
  indentSize : Int := 4
  justify : Option Str := none
  overflow : Option Str := some "crop".toList
  noWrap : Option Bool := some false
  indentGuides : Bool := false
  expandAll : Bool := false
  margin : Int := 0
  insertLine : Bool := false

/-- the fields of `ConsoleOptions` that `__rich_console__` looks at. -/
structure ConsoleOpts where
  maxWidth : Int
  justify : Option Str := none
  overflow : Option Str := none
  noWrap : Option Bool := none
  asciiOnly : Bool := false

/-- what `__rich_console__` yields: an optional blank first, then a `Text` with these attributes;
`guides = some k`: `with_indent_guides(k, style="repr.indent")` was applied to it. -/
structure ConsoleOut where
  blankFirst : Bool
  text : Str
  justify : Option Str
  overflow : Option Str
  noWrap : Bool
  guides : Option Int
deriving DecidableEq

/-- Python `a or b` on optional strings (`None` and `""` are falsy). -/
def strOr (a b : Option Str) : Option Str :=
  match a with
  | some s => if s.isEmpty then b else some s
  | none => b

/-- `pick_bool(a, b)`: the first non-`None` value, else `bool(b)`. -/
def pickBool (a b : Option Bool) : Bool :=
  match a with
  | some x => x
  | none => match b with
    | some y => y
    | none => false

/-- `strip_control_codes` applied by `Text.__init__` (text.py:139, control.py:8-14): backspace, vertical tab,
form feed and carriage return are removed (they can only come from a leaf whose `repr` contains them). -/
def stripControl (s : Str) : Str :=
  s.filter fun c => !(c.toNat == 8 || c.toNat == 11 || c.toNat == 12 || c.toNat == 13)

/-- `Pretty.__rich_console__(console, options)` on an already traversed object. -/
def prettyConsole (cw : Char → Nat) (v : Variant) (n : Node) (p : PrettyOpts) (o : ConsoleOpts) :
    ConsoleOut :=
  let s := render cw v n (o.maxWidth - p.margin) p.indentSize p.expandAll
  { blankFirst := p.insertLine && s.contains '\n',
    text := stripControl s,
    justify := strOr p.justify o.justify,
    overflow := strOr p.overflow o.overflow,
    noWrap := pickBool p.noWrap o.noWrap,
    guides := if p.indentGuides && !o.asciiOnly then some p.indentSize else none }

end RichModel.Pretty
