import RichModel.Model.Pretty
import RichModel.Model.Syntax
/-
Deepening round 4 of property C16: the rest of `Pretty.__rich_console__` / `__rich_measure__` (pretty.py:177-214).

* `withIndentGuides`: `Text.with_indent_guides(indent_size, style="repr.indent")` on the characters of the text
  (text.py:1072-1118): `text.split()` (the current `Text.split`, `Syntax.textSplitC`), the `^( *)(.*)$` loop with its
  blank-line counter, `divmod(len(indent), indent_size)` — `ZeroDivisionError` for `indent_size == 0` at the first
  non-blank line, Python's floor division / `str * negative == ""` for a negative `indent_size` — and
  `Text("\n").join(new_lines)`.  `expand_tabs` is the identity when the text has no tab; a text with a tab is outside
  the modelled domain (the driver answers `unmodelled`).  The loop and `new_indent` for a positive size are the ones
  property C17 already models (`Syntax.guideLoop`, `Syntax.newIndent`); imported read-only.
* `prettyConsoleFull`: everything `__rich_console__` yields, as characters: the optional `""` first
  (`self.insert_line and "\n" in pretty_text`, evaluated on the text AFTER the guides were applied) and the text.
  The highlighter is a span source: `Highlighter.__call__` only appends spans (`Text.stylize`), it has no access to the
  characters, so it does not appear in the character model; the harness runs the real `ReprHighlighter`.
* `prettyMeasureM`: `__rich_measure__` with the `margin` option.  Variant flag `ignoreMargin`:
  `true`  = rich 9.10.0 as found (the measurement never looks at `self.margin`, although `__rich_console__` renders at
            `options.max_width - self.margin`);
  `false` = the minimal repair, which /repo contains now (fix f3605d0): measure what `__rich_console__` will render
            (`max_width - margin`) and report the width the renderable needs to render like that (`text_width + margin`).
-/
namespace RichModel.Pretty
open RichModel

/-- errors of the console path. -/
inductive CErr where
  | zeroDivision    -- divmod(len(indent), 0) in with_indent_guides
  | valueError      -- max() of an empty sequence in __rich_measure__
deriving DecidableEq, Repr

/-- `new_indent = f"{indent_line * full_indents}{' ' * remaining_space}"` for any non-zero integer `indent_size`:
for a negative size `full_indents <= 0` and `remaining_space <= 0`, both products are `""`. -/
def newIndentI (k : Int) (n : Nat) : Str :=
  if k > 0 then Syntax.newIndent k.toNat n else []

/-- the `for line in text.split()` loop of `with_indent_guides` for an integer indent size. -/
def guideLoopI (k : Int) : Nat → List Str → Except CErr (List Str)
  | blanks, [] => .ok (List.replicate blanks [])
  | blanks, l :: rest =>
    let n := Syntax.leadSpaces l
    if (l.drop n).isEmpty then guideLoopI k (blanks + 1) rest
    else if k == 0 then .error .zeroDivision
    else
      let ni := newIndentI k n
      match guideLoopI k 0 rest with
      | .error e => .error e
      | .ok r => .ok (List.replicate blanks ni ++ (ni ++ l.drop ni.length) :: r)

/-- `Text.with_indent_guides(indent_size)` on the characters of a text without tabs. -/
def withIndentGuides (k : Int) (s : Str) : Except CErr Str :=
  (guideLoopI k 0 (Syntax.textSplitC s false)).map Syntax.joinNL

/-- what `__rich_console__` yields, as characters: `parts` are the plain strings of the yielded renderables in order
(`""` first when a line is inserted), the attributes are those of the `Text`. -/
structure ConsoleFull where
  parts : List Str
  justify : Option Str
  overflow : Option Str
  noWrap : Bool
deriving DecidableEq

/-- `Pretty.__rich_console__(console, options)` on an already traversed object, guides included. -/
def prettyConsoleFull (cw : Char → Nat) (v : Variant) (n : Node) (p : PrettyOpts) (o : ConsoleOpts) :
    Except CErr ConsoleFull :=
  let s := stripControl (render cw v n (o.maxWidth - p.margin) p.indentSize p.expandAll)
  let guided : Except CErr Str :=
    if p.indentGuides && !o.asciiOnly then withIndentGuides p.indentSize s else .ok s
  -- `with_indent_guides` returns `Text("\n").join(new_lines)`: a NEW Text whose `justify` / `overflow` / `no_wrap`
  -- are `None` — the attributes computed above are lost whenever the guides are applied (quirk kept)
  let applied := p.indentGuides && !o.asciiOnly
  guided.map fun t =>
    { parts := (if p.insertLine && t.contains '\n' then [[]] else []) ++ [t],
      justify := if applied then none else strOr p.justify o.justify,
      overflow := if applied then none else strOr p.overflow o.overflow,
      noWrap := if applied then false else pickBool p.noWrap o.noWrap }

/-- `Pretty.__rich_measure__(console, max_width)` with the `margin` option: the `w` of `Measurement(w, w)`. -/
def prettyMeasureM (ignoreMargin : Bool) (cw : Char → Nat) (v : Variant) (n : Node)
    (maxWidth indentSize : Int) (expandAll : Bool) (margin : Int) : Except Err Int :=
  if ignoreMargin then (prettyMeasure cw v n maxWidth indentSize expandAll).map fun m => (m : Int)
  else (prettyMeasure cw v n (maxWidth - margin) indentSize expandAll).map fun m => (m : Int) + margin

end RichModel.Pretty
