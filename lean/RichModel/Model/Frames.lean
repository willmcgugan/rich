import RichModel.Model.Cells
import RichModel.Model.Segment
import RichModel.Model.Ratio
import RichModel.Gen.Boxes
/-
Model of the framing renderables of Rich 9.10.0:
  rich/console.py  `Console.render` guard + `Console.render_lines`
  rich/padding.py  `Padding`            rich/panel.py    `Panel`
  rich/align.py    `Align`              rich/constrain.py `Constrain`
  rich/styled.py   `Styled`             rich/rule.py     `Rule`
  rich/bar.py      `Bar`                rich/progress_bar.py `ProgressBar`
  rich/box.py      `Box.__init__`, `Box.substitute`, `get_top`, `get_bottom`
(Columns and Tree live in Model/FramesColumns.lean and Model/FramesTree.lean.)

DECOUPLING.  Children are arbitrary renderables and are NOT modelled: a child is an oracle
(`Child`) tabulated on real rich.  Every frame is a pure function of its options, the console
environment `Env`, the child oracle(s) and `options.max_width`.  Interface: see FRAMES_API.md.

Styles: frames never branch on a style except `Tree` (bold / underline2 of the guide style), so
the segments a frame creates itself carry `style := none`; child segments are passed through
untouched.  What is modelled is the text, the segmentation and the control flag.

Widths are Python ints (`Int`): `width - 2` may be negative, `" " * n` is empty for `n ≤ 0`.
Import-free apart from `RichModel.Model.*` / `RichModel.Gen.*`.
-/
namespace RichModel.Frames
open RichModel

variable {σ : Type}

abbrev Line (σ : Type) := List (Segment σ)

/-- Python exceptions a frame can raise. -/
inductive PyErr where
  | valueError
  | zeroDivision
  | indexError
deriving Repr, BEq, DecidableEq

/-- The console-level facts the frames read (`console.width`, `options.ascii_only`,
`options.legacy_windows`, `console.safe_box`, `console.no_color`, `console.color_system`). -/
structure Env where
  consoleWidth : Nat
  asciiOnly : Bool := false
  legacyWindows : Bool := false
  safeBox : Bool := true
  noColor : Bool := false
  /-- 0 = None, 1 = "standard", 2 = "256", 3 = "truecolor", 4 = "windows". -/
  colorSystem : Nat := 0
deriving Repr

/-- Code-variant flags (`true` = rich 9.10.0 as found; all four defects are repaired in /repo — fixes a9def3a, 8879061,
f5f2be9, f7ecf83 — and the harness passes `false` for each).  `zeroWidthChild`: the non-expanding frames
(`Align`, `Padding(expand=False)`, `Panel(expand=False)`) render the child at its measured maximum
even when that is 0, where `Console.render` yields nothing (pre-finding F25); `false` = the
repair `max(1, maximum)` (fix a9def3a). -/
structure Variant where
  zeroWidthChild : Bool := true
  /-- `Rule(align="right")` repeats `characters` `width - title - 1` TIMES instead of filling that many
  CELLS (rule.py:98), so any multi-cell `characters` pushes the title out of the rule; `false` = the
  repair (fill exactly `width - title - 1` cells; fix 8879061). -/
  ruleRightRepeat : Bool := true
  /-- `Text.rstrip_end` compares the number of CHARACTERS with the cell width (text.py:487), so a text with
  zero-width characters that exactly fills its width loses trailing blanks; `false` = the
  repair (`cell_len(self.plain)`; fix f5f2be9). -/
  rstripCountsChars : Bool := true
  /-- `Columns(width=…)` computes `max_width // (width + padding)` columns, possibly 0, and then raises
  `ZeroDivisionError` (F11); `false` = the repair `max(1, …)` (fix f7ecf83). -/
  columnsZeroCount : Bool := true
deriving Repr

/-- A child renderable as an oracle.
* `measure w` = `Measurement.get(console, child, w)` for `w ≥ 1`
* `render w`  = `list(console.render(child, options.update(width=w)))` for `w ≥ 1`. -/
structure Child (σ : Type) where
  measure : Nat → Measurement
  render : Nat → List (Segment σ)

/-- `Measurement.get(console, child, w)`: `if _max_width < 1: return Measurement(0, 0)` (measure.py:94). -/
def Child.measureAt (c : Child σ) (w : Int) : Measurement :=
  if w < 1 then ⟨0, 0⟩ else c.measure w.toNat

/-- `console.render(child, options.update(width=w))`: `if _options.max_width < 1: return` (console.py:868). -/
def Child.renderAt (c : Child σ) (w : Int) : List (Segment σ) :=
  if w < 1 then [] else c.render w.toNat

/-- A frame-created text segment `Segment(text, <some style>)`. -/
def seg (t : List Char) : Segment σ := { text := t, style := none, control := false }

/-- `Segment.line()`. -/
def nl : Segment σ := seg ['\n']

/-- `" " * n` / `ch * n` for a Python int `n`. -/
def rep (n : Int) (c : Char) : List Char := List.replicate n.toNat c

/-- `s * n` for a string `s`. -/
def repStr (n : Int) (s : List Char) : List Char := (List.replicate n.toNat s).flatten

/-- `Console.render_lines(renderable, options.update(width=w), pad=pad)` where `rendered` is
`console.render(renderable, <those options>)` (console.py:921-930; `style` only restyles). -/
def renderLines (cw : Char → Nat) (rendered : List (Segment σ)) (w : Int) (pad : Bool) : List (Line σ) :=
  splitAndCropLines cw rendered w.toNat none pad false false

/-- `Child` version: render at `w`, split, crop and pad. -/
def Child.linesAt (cw : Char → Nat) (c : Child σ) (w : Int) (pad : Bool) : List (Line σ) :=
  renderLines cw (c.renderAt w) w pad

/-- The measured width a non-expanding frame gives its child (variant flag, see `Variant`). -/
def fitWidth (v : Variant) (maximum : Int) : Int :=
  if v.zeroWidthChild then maximum else max 1 maximum

/-! ## Padding (padding.py) -/

structure PadDims where
  top : Nat
  right : Nat
  bottom : Nat
  left : Nat
deriving Repr, BEq, DecidableEq

/-- `Padding.unpack` (padding.py:58-72); an `int` is passed as a one-element list. -/
def unpackPad : List Nat → Except PyErr PadDims
  | [p] => .ok ⟨p, p, p, p⟩
  | [t, r] => .ok ⟨t, r, t, r⟩
  | [t, r, b, l] => .ok ⟨t, r, b, l⟩
  | _ => .error .valueError

/-- `Padding.__rich_console__` (padding.py:77-113), called with `options.max_width = w ≥ 1`. -/
def paddingConsole (cw : Char → Nat) (v : Variant) (p : PadDims) (expand : Bool) (c : Child σ) (w : Int) :
    List (Segment σ) :=
  let width : Int :=
    if expand then w
    else min (fitWidth v (c.measureAt w).maximum + p.left + p.right) w
  let childW : Int := width - p.left - p.right
  let lines := c.linesAt cw childW false
  let lines := setShape cw lines childW.toNat none none
  let blank : Segment σ := seg (rep width ' ' ++ ['\n'])
  let left : List (Segment σ) := if p.left != 0 then [seg (rep p.left ' ')] else []
  let right : List (Segment σ) := if p.right != 0 then [seg (rep p.right ' ')] else []
  List.replicate p.top blank
    ++ lines.flatMap (fun l => left ++ l ++ right ++ [nl])
    ++ List.replicate p.bottom blank

/-- `Padding.__rich_measure__` (padding.py:115-124). -/
def paddingRichMeasure (p : PadDims) (c : Child σ) (maxWidth : Int) : Measurement :=
  let extra : Int := p.left + p.right
  if maxWidth - extra < 1 then ⟨maxWidth, maxWidth⟩
  else
    let m := c.measureAt (max 0 (maxWidth - extra))
    (Measurement.mk (m.minimum + extra) (m.maximum + extra)).withMaximum maxWidth

/-- A frame seen as a child of an enclosing frame: `Console.render` guard + `Measurement.get` post-processing. -/
def asChild (console : Int → List (Segment σ)) (richMeasure : Int → Measurement) : Child σ :=
  { measure := fun w => Measurement.getPost (w : Int) (some (richMeasure (w : Int))),
    render := fun w => console (w : Int) }

def paddingChild (cw : Char → Nat) (v : Variant) (p : PadDims) (expand : Bool) (c : Child σ) : Child σ :=
  asChild (paddingConsole cw v p expand c) (paddingRichMeasure p c)

/-! ## Constrain (constrain.py) and Styled (styled.py) -/

/-- `Constrain.__rich_console__`: `width=None` yields the child itself (rendered with the same options). -/
def constrainConsole (width : Option Int) (c : Child σ) (w : Int) : List (Segment σ) :=
  match width with
  | none => c.renderAt w
  | some cwid => c.renderAt (min cwid w)

/-- `Constrain.__rich_measure__`. -/
def constrainRichMeasure (width : Option Int) (c : Child σ) (maxWidth : Int) : Measurement :=
  match width with
  | none => c.measureAt maxWidth
  | some cwid => c.measureAt (min cwid maxWidth)

def constrainChild (width : Option Int) (c : Child σ) : Child σ :=
  asChild (constrainConsole width c) (constrainRichMeasure width c)

/-- `Styled.__rich_console__`: the child's segments restyled (text, order and control flags unchanged). -/
def styledConsole (c : Child σ) (w : Int) : List (Segment σ) := c.renderAt w
def styledRichMeasure (c : Child σ) (maxWidth : Int) : Measurement := c.measureAt maxWidth
def styledChild (c : Child σ) : Child σ := asChild (styledConsole c) (styledRichMeasure c)

/-! ## Plain-text pieces of rich/text.py used by Panel titles and Rule -/

/-- `set_cell_size(text, total)` for a Python int `total`; a negative total crops everything
(the pop loop empties the text and `excess` ends at `-total ≥ 1`, never `-1`). -/
def setCellSizeI (cw : Char → Nat) (text : List Char) (total : Int) : List Char :=
  if total < 0 then [] else setCellSize cw text total.toNat

inductive Overflow where
  | fold | crop | ellipsis | ignore
deriving Repr, BEq, DecidableEq

/-- `Text.truncate(max_width, overflow=…)` on the plain text (text.py:661-686, `pad=False`). -/
def textTruncate (cw : Char → Nat) (plain : List Char) (maxWidth : Int) (ov : Overflow) : List Char :=
  if ov == .ignore then plain
  else if (cellLen cw plain : Int) > maxWidth then
    if ov == .ellipsis then setCellSizeI cw plain (maxWidth - 1) ++ ['…']
    else setCellSizeI cw plain maxWidth
  else plain

inductive AlignM where
  | left | center | right
deriving Repr, BEq, DecidableEq

/-- `Text.align(align, width, character)` on the plain text (text.py:745-763). -/
def textAlign (cw : Char → Nat) (plain : List Char) (a : AlignM) (width : Int) (ch : Char) : List Char :=
  let p := textTruncate cw plain width .fold
  let excess : Int := width - cellLen cw p
  if excess != 0 then
    match a with
    | .left => p ++ rep excess ch
    | .center =>
      let left := excess / 2
      rep left ch ++ p ++ rep (excess - left) ch
    | .right => rep excess ch ++ p
  else p

/-- Characters for which the simple `Text.__rich_console__` path below is claimed: no line break, no
tab, no whitespace other than U+0020 (Python `str.isspace` characters), no stripped control code. -/
def simpleChar (c : Char) : Bool :=
  let n := c.toNat
  !(n < 32 || n == 0x7f || n == 0x85 || n == 0xa0 || n == 0x1680 || (0x2000 ≤ n && n ≤ 0x200a)
    || n == 0x2028 || n == 0x2029 || n == 0x202f || n == 0x205f || n == 0x3000)

/-- number of trailing U+0020 (`_re_whitespace = r"\s+$"` on a `simpleChar` string). -/
def trailingSpaces (s : List Char) : Nat := (s.reverse.takeWhile (· == ' ')).length

/-- `Text.rstrip_end(size)` (text.py:481-493): rich 9.10.0 as found compares the *character* count with `size`
(`v.rstripCountsChars`); the repaired code (fix f5f2be9, what /repo contains now) compares the cell length. -/
def rstripEnd (cw : Char → Nat) (v : Variant) (plain : List Char) (size : Int) : List Char :=
  let textLength : Int := if v.rstripCountsChars then (plain.length : Int) else (cellLen cw plain : Int)
  if textLength > size then
    let excess : Int := textLength - size
    let ws := trailingSpaces plain
    if ws != 0 then plain.take (plain.length - (min (ws : Int) excess).toNat) else plain
  else plain

/-- `Text.__rich_console__` + `Text.render` for a one-line text that needs no wrapping:
all characters `simpleChar`, `cell_len(plain) ≤ options.max_width`, default justify/overflow
(text.py:504-524, wrap 980-1028: `divide_line` finds no break, `rstrip_end`, `truncate` is a no-op).
`none` = outside this domain (unmodelled). -/
def textConsoleSimple (cw : Char → Nat) (v : Variant) (plain endS : List Char) (w : Int) : Option (List (Segment σ)) :=
  if plain.all simpleChar && (cellLen cw plain : Int) ≤ w then
    let p := rstripEnd cw v plain w
    some ((if p.isEmpty then [] else [seg p]) ++ (if endS.isEmpty then [] else [seg endS]))
  else none

/-! ## Box (box.py) -/

structure Box where
  topLeft : Char
  top : Char
  topRight : Char
  midLeft : Char
  midRight : Char
  bottomLeft : Char
  bottom : Char
  bottomRight : Char
  ascii : Bool
deriving Repr, BEq, DecidableEq

/-- `Box.__init__` (box.py:27-61): eight lines of exactly four characters (anything else raises
`ValueError` when rich/box.py is imported). -/
def Box.ofLines (ascii : Bool) : List (List Char) → Option Box
  | [[tl, t, _, tr], [_, _, _, _], [_, _, _, _], [ml, _, _, mr], [_, _, _, _], [_, _, _, _], [_, _, _, _], [bl, b, _, br]] =>
    some ⟨tl, t, tr, ml, mr, bl, b, br, ascii⟩
  | _ => none

/-- The named box number `i` of the translated table. -/
def boxAt (i : Nat) : Option Box :=
  match Gen.boxes[i]? with
  | some (a, ls) => Box.ofLines a ls
  | none => none

/-- `Box.substitute(options, safe)` (box.py:70-87) on table indices. -/
def substituteBox (env : Env) (safe : Bool) (i : Nat) : Nat :=
  let i := if env.legacyWindows && safe then
      match Gen.legacyWindowsSubstitutions.find? (·.1 == i) with
      | some p => p.2
      | none => i
    else i
  let isAscii := match Gen.boxes[i]? with | some (a, _) => a | none => false
  if env.asciiOnly && !isAscii then Gen.asciiBox else i

/-- `Box.get_top([n])` / `get_bottom([n])`. -/
def boxTop (b : Box) (n : Int) : List Char := [b.topLeft] ++ rep n b.top ++ [b.topRight]
def boxBottom (b : Box) (n : Int) : List Char := [b.bottomLeft] ++ rep n b.bottom ++ [b.bottomRight]

/-! ## Panel (panel.py) -/

structure PanelOpts where
  box : Nat
  /-- `.plain` of the title `Text` (`Text.from_markup(title)` for a `str`); `[]` = no title (`None`, `""`, `Text("")`). -/
  title : List Char := []
  titleAlign : AlignM := .center
  safeBox : Option Bool := none
  expand : Bool := true
  width : Option Int := none
  padding : List Nat := [0, 1]
deriving Repr

/-- `Panel._title` (panel.py:94-108) on the plain text: newlines become spaces, one space each side.
(`expand_tabs` is the identity on the claimed domain: no tab.) -/
def panelTitle (title : List Char) : Option (List Char) :=
  if title.isEmpty then none
  else some ([' '] ++ title.map (fun c => if c == '\n' then ' ' else c) ++ [' '])

/-- The `renderable` of `Panel.__rich_console__`: `Padding(child, pad) if any(pad) else child`. -/
def panelInner (cw : Char → Nat) (v : Variant) (p : PadDims) (c : Child σ) : Child σ :=
  if p.top != 0 || p.right != 0 || p.bottom != 0 || p.left != 0 then paddingChild cw v p true c else c

/-- `child_width` and `width` of `Panel.__rich_console__` (panel.py:117-139). -/
def panelChildWidth (cw : Char → Nat) (v : Variant) (o : PanelOpts) (inner : Child σ) (w : Int) : Int :=
  let width : Int := match o.width with | none => w | some pw => min w pw
  let childW : Int := if o.expand then width - 2 else fitWidth v (inner.measureAt (width - 2)).maximum
  match panelTitle o.title with
  | none => childW
  | some t => min (w - 2) (max childW (cellLen cw t + 2))

/-- `Panel.__rich_console__` (panel.py:110-162).  `none` = unmodelled (unknown box, title outside `simpleChar`). -/
def panelConsole (cw : Char → Nat) (env : Env) (v : Variant) (o : PanelOpts) (c : Child σ) (w : Int) :
    Except PyErr (Option (List (Segment σ))) :=
  match unpackPad o.padding with
  | .error e => .error e
  | .ok p =>
    let inner := panelInner cw v p c
    let safe := o.safeBox.getD env.safeBox
    match boxAt (substituteBox env safe o.box) with
    | none => .ok none
    | some box =>
      let childW := panelChildWidth cw v o inner w
      let width := childW + 2
      let lines := inner.linesAt cw childW true
      let top : Option (List (Segment σ)) :=
        match panelTitle o.title with
        | none => some [seg (boxTop box (width - 2))]
        | some t =>
          let aligned := textAlign cw t o.titleAlign (width - 4) box.top
          -- `console.render(title_text)` is called WITHOUT options: the title is rendered at `console.width`
          match textConsoleSimple cw v aligned [] (env.consoleWidth : Int) with
          | none => none
          | some ts => some ([seg [box.topLeft, box.top]] ++ ts ++ [seg [box.top, box.topRight]])
      match top with
      | none => .ok none
      | some top =>
        .ok (some (top ++ [nl]
          ++ lines.flatMap (fun l => [seg [box.midLeft]] ++ l ++ [seg [box.midRight]] ++ [nl])
          ++ [seg (boxBottom box (width - 2)), nl]))

/-- Words of a `simpleChar` string (`str.split()`): maximal runs of non-space characters. -/
def wordsOf : List Char → List Char → List (List Char)
  | [], cur => if cur.isEmpty then [] else [cur.reverse]
  | c :: rest, cur =>
    if c == ' ' then (if cur.isEmpty then wordsOf rest [] else cur.reverse :: wordsOf rest [])
    else wordsOf rest (c :: cur)

/-- `Text.__rich_measure__` (text.py:526-532) for a one-line `simpleChar` text, then `Measurement.get`. -/
def textMeasureSimple (cw : Char → Nat) (plain : List Char) (maxWidth : Int) : Measurement :=
  let ws := wordsOf plain []
  let m : Measurement :=
    if ws.isEmpty then ⟨cellLen cw plain, cellLen cw plain⟩
    else ⟨listMax (ws.map (fun x => (cellLen cw x : Int))), cellLen cw plain⟩
  Measurement.getPost maxWidth (some m)

/-- `Panel.__rich_measure__` (panel.py:164-181); `measure_renderables` over `[child, title]`. -/
def panelRichMeasure (cw : Char → Nat) (o : PanelOpts) (c : Child σ) (maxWidth : Int) : Except PyErr Measurement :=
  match unpackPad o.padding with
  | .error e => .error e
  | .ok p =>
    let padding : Int := p.left + p.right
    match o.width with
    | some pw => .ok ⟨pw, pw⟩
    | none =>
      let avail := maxWidth - padding - 2
      let mc := (c.measureAt avail).maximum
      let m := match panelTitle o.title with
        | none => mc
        | some t => max mc (textMeasureSimple cw t avail).maximum
      .ok ⟨m + padding + 2, m + padding + 2⟩

/-! ## Align (align.py) -/

structure AlignOpts where
  align : AlignM
  pad : Bool := true
  width : Option Int := none
deriving Repr

/-- `Segment.get_shape(lines)`'s width: `max(line lengths) if lines else 0`. -/
def shapeWidth (cw : Char → Nat) (lines : List (Line σ)) : Nat :=
  (lines.map (lineLength cw)).foldl max 0

/-- `Align.__rich_console__` (align.py:91-154), `options.max_width = w ≥ 1`.
Note the measurement is taken against `console.width`, not `options.max_width` (align.py:97). -/
def alignConsole (cw : Char → Nat) (env : Env) (v : Variant) (o : AlignOpts) (c : Child σ) (w : Int) :
    List (Segment σ) :=
  let measured : Int := fitWidth v (c.measureAt env.consoleWidth).maximum
  let cwid : Int := match o.width with | none => measured | some aw => min measured aw
  let rendered := constrainConsole (some cwid) c w
  let lines := splitLines rendered
  let width := shapeWidth cw lines
  let lines := setShape cw lines width (some lines.length) none
  let excess : Int := w - width
  if excess ≤ 0 then lines.flatMap (fun l => l ++ [nl])
  else match o.align with
    | .left =>
      let pad : List (Segment σ) := if o.pad then [seg (rep excess ' ')] else []
      lines.flatMap (fun l => l ++ pad ++ [nl])
    | .center =>
      let left := excess / 2
      let padL : List (Segment σ) := if left != 0 then [seg (rep left ' ')] else []
      let padR : List (Segment σ) := if o.pad then [seg (rep (excess - left) ' ')] else []
      lines.flatMap (fun l => padL ++ l ++ padR ++ [nl])
    | .right =>
      lines.flatMap (fun l => [seg (rep excess ' ')] ++ l ++ [nl])

/-- `Align.__rich_measure__`. -/
def alignRichMeasure (c : Child σ) (maxWidth : Int) : Measurement := c.measureAt maxWidth

def alignChild (cw : Char → Nat) (env : Env) (v : Variant) (o : AlignOpts) (c : Child σ) : Child σ :=
  asChild (alignConsole cw env v o c) (alignRichMeasure c)

/-! ## Rule (rule.py) -/

structure RuleOpts where
  /-- plain text of the title (`console.render_str(title)` for a `str`, `title.plain` for a `Text`); `[]` = no title -/
  title : List Char := []
  characters : List Char := ['─']
  endS : List Char := ['\n']
  align : AlignM := .center
deriving Repr

/-- `Rule.__init__`: `cell_len(characters) < 1` raises `ValueError`. -/
def ruleInit (cw : Char → Nat) (o : RuleOpts) : Except PyErr RuleOpts :=
  if cellLen cw o.characters < 1 then .error .valueError else .ok o

/-- The `Text` a rule yields: `(plain, end)` (rule.py:48-103). -/
def ruleText (cw : Char → Nat) (env : Env) (v : Variant) (o : RuleOpts) (w : Int) : List Char × List Char :=
  let isascii := o.characters.all (fun c => c.toNat < 128)
  let characters := if env.asciiOnly && !isascii then ['-'] else o.characters
  let charsLen : Int := cellLen cw characters
  if o.title.isEmpty then
    let t := repStr (w / charsLen + 1) characters
    let t := textTruncate cw t w .fold
    (setCellSizeI cw t w, ['\n'])
  else
    let title := o.title.map (fun c => if c == '\n' then ' ' else c)
    let plain : List Char :=
      match o.align with
      | .center =>
        let title := textTruncate cw title (w - 4) .ellipsis
        let sideWidth : Int := (w - cellLen cw title) / 2
        let left := textTruncate cw (repStr (sideWidth / charsLen + 1) characters) (sideWidth - 1) .fold
        let rightLength : Int := w - cellLen cw left - cellLen cw title
        let right := textTruncate cw (repStr (sideWidth / charsLen + 1) characters) rightLength .fold
        left ++ [' '] ++ title ++ [' '] ++ right
      | .left =>
        let title := textTruncate cw title (w - 2) .ellipsis
        let t := title ++ [' ']
        t ++ repStr (w - cellLen cw t) characters
      | .right =>
        let title := textTruncate cw title (w - 2) .ellipsis
        let sideWidth : Int := w - cellLen cw title - 1
        let side :=
          if v.ruleRightRepeat then repStr sideWidth characters
          else setCellSizeI cw (repStr (sideWidth / charsLen + 1) characters) sideWidth
        side ++ [' '] ++ title
    (setCellSizeI cw plain w, o.endS)

/-- `Rule.__rich_console__` followed by the rendering of the yielded `Text`. -/
def ruleConsole (cw : Char → Nat) (env : Env) (v : Variant) (o : RuleOpts) (w : Int) : Option (List (Segment σ)) :=
  let (plain, e) := ruleText cw env v o w
  textConsoleSimple cw v plain e w

/-! ## Bar (bar.py) and ProgressBar (progress_bar.py)

Python floats are modelled as exact rationals `num / den` (`den > 0`); `int()` truncates toward zero. -/

structure Rat' where
  num : Int
  den : Nat
deriving Repr, BEq, DecidableEq

/-- `int(k * a / b)` for an integer `k` and rationals `a`, `b ≠ 0`. -/
def truncMulDiv (k : Int) (a b : Rat') : Int := Int.tdiv (k * a.num * b.den) (a.den * b.num)

def Rat'.le (a b : Rat') : Bool := a.num * b.den ≤ b.num * a.den
def Rat'.lt (a b : Rat') : Bool := a.num * b.den < b.num * a.den
def Rat'.isZero (a : Rat') : Bool := a.num == 0

def beginBlocks : List Char := ['█', '█', '█', '▐', '▐', '▐', '▕', '▕']
def endBlocks : List Char := [' ', '▏', '▎', '▍', '▌', '▋', '▊', '▉']

structure BarOpts where
  size : Rat'
  beginV : Rat'
  endV : Rat'
  width : Option Int := none
deriving Repr

/-- `Bar.__init__`: `begin = max(begin, 0)`, `end = min(end, size)`. -/
def barInit (o : BarOpts) : BarOpts :=
  { o with beginV := if o.beginV.lt ⟨0, 1⟩ then ⟨0, 1⟩ else o.beginV,
           endV := if o.size.lt o.endV then o.size else o.endV }

/-- `min(self.width or options.max_width, options.max_width)` (`0` is falsy). -/
def barWidth (width : Option Int) (w : Int) : Int :=
  match width with
  | none => w
  | some bw => if bw == 0 then w else min bw w

/-- `Bar.__rich_console__` (bar.py:49-88) on an initialised bar. -/
def barConsole (o : BarOpts) (w : Int) : List (Segment σ) :=
  let width := barWidth o.width w
  if o.endV.le o.beginV then [seg (rep width ' '), nl]
  else
    let pce := truncMulDiv (width * 8) o.beginV o.size
    let pbc := pce / 8
    let pec := pce % 8
    let bce := truncMulDiv (width * 8) o.endV o.size
    let bbc := bce / 8
    let bec := bce % 8
    let prefix_ := rep pbc ' ' ++ (if pec != 0 then [beginBlocks.getD pec.toNat ' '] else [])
    let body := rep bbc '█' ++ (if bec != 0 then [endBlocks.getD bec.toNat ' '] else [])
    let suffix := rep (width - body.length) ' '
    [seg (prefix_ ++ body.drop prefix_.length ++ suffix), nl]

/-- `Bar.__rich_measure__` / `ProgressBar.__rich_measure__`. -/
def barRichMeasure (width : Option Int) (maxWidth : Int) : Measurement :=
  match width with
  | some bw => ⟨bw, bw⟩
  | none => ⟨4, maxWidth⟩

structure ProgressOpts where
  total : Rat'
  completed : Rat'
  width : Option Int := none
  pulse : Bool := false
  /-- `animation_time` (the harness always supplies one). -/
  time : Rat' := ⟨0, 1⟩
deriving Repr

def pulseSize : Nat := 20

/-- `_get_pulse_segments` as characters, one per segment (progress_bar.py:69-112). -/
def pulseChars (env : Env) (ascii : Bool) : List Char :=
  let bar := if ascii then '-' else '━'
  if !(env.colorSystem == 1 || env.colorSystem == 2 || env.colorSystem == 3) || env.noColor then
    List.replicate (pulseSize / 2) bar ++ List.replicate (pulseSize - pulseSize / 2) (if env.noColor then ' ' else bar)
  else List.replicate pulseSize bar

/-- `l[start:stop]` for `0 ≤ start` and any Python int `stop` (a negative `stop` counts from the end). -/
def pySlice {α : Type} (l : List α) (start stop : Int) : List α :=
  let stop' : Int := if stop < 0 then max 0 ((l.length : Int) + stop) else min stop l.length
  (l.take stop'.toNat).drop start.toNat

/-- `ProgressBar.__rich_console__` (progress_bar.py:154-197). -/
def progressConsole (env : Env) (o : ProgressOpts) (w : Int) : List (Segment σ) :=
  let width := barWidth o.width w
  let ascii := env.legacyWindows || env.asciiOnly
  if o.pulse then
    let ps := pulseChars env ascii
    let count : Int := ps.length
    -- `int(width / segment_count) + 2` copies; `int(-current_time * 15) % segment_count`
    let segs := (List.replicate (Int.tdiv width count + 2).toNat ps).flatten
    let offset := (Int.tdiv (-(o.time.num) * 15) o.time.den) % count
    (pySlice segs offset (offset + width)).map (fun ch => seg [ch])
  else
    -- completed = min(total, max(0, completed))
    let c0 : Rat' := if o.completed.lt ⟨0, 1⟩ then ⟨0, 1⟩ else o.completed
    let completed : Rat' := if o.total.lt c0 then o.total else c0
    let bar := if ascii then '-' else '━'
    let halfR := if ascii then ' ' else '╸'
    let halfL := if ascii then ' ' else '╺'
    let halves : Int := if o.total.isZero then width * 2 else truncMulDiv (width * 2) completed o.total
    let barCount := halves / 2
    let halfCount := halves % 2
    let first : List (Segment σ) :=
      (if barCount != 0 then [seg (rep barCount bar)] else [])
      ++ (if halfCount != 0 then [seg (rep halfCount halfR)] else [])
    if !env.noColor then
      let remaining := width - barCount - halfCount
      if remaining != 0 && env.colorSystem != 0 then
        let useHalf := halfCount == 0 && barCount != 0
        let remaining' := if useHalf then remaining - 1 else remaining
        first ++ (if useHalf then [seg [halfL]] else [])
          ++ (if remaining' != 0 then [seg (rep remaining' bar)] else [])
      else first
    else first

end RichModel.Frames
