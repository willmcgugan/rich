/-
Model of rich/_ratio.py (ratio_reduce, ratio_distribute), rich/table.py `_collapse_widths`
and rich/measure.py `Measurement` arithmetic.  Import-free.

Python's `round(a / b)` and `math.ceil(a / b)` on ints are modelled by the exact
round-half-even / ceiling of the rational a/b (DESIGN.md section 5: exact for |a|,|b| < 2^26).
-/
namespace RichModel

/-- `round(a / b)` for `b > 0`: round half to even of the exact quotient. -/
def roundHalfEven (a : Int) (b : Int) : Int :=
  let q := a / b          -- floor division (Int.div rounds toward -inf for positive b: `Int./` is T-division? see lemma)
  let r := a % b
  if 2 * r < b then q else if 2 * r > b then q + 1 else if q % 2 == 0 then q else q + 1

/-- `math.ceil(a / b)` for `b > 0`. -/
def ceilDiv (a : Int) (b : Int) : Int := -((-a) / b)

/-- `ratio_reduce(total, ratios, maximums, values)` (rich/_ratio.py:5-34). -/
def ratioReduceLoop : List (Int × Int × Int) → Int → Int → List Int
  | [], _, _ => []
  | (ratio, maximum, value) :: rest, totalRemaining, totalRatio =>
    if ratio != 0 && totalRatio > 0 then
      let distributed := min maximum (roundHalfEven (ratio * totalRemaining) totalRatio)
      (value - distributed) :: ratioReduceLoop rest (totalRemaining - distributed) (totalRatio - ratio)
    else value :: ratioReduceLoop rest totalRemaining totalRatio

def ratioReduce (total : Int) (ratios maximums values : List Int) : List Int :=
  let ratios' := (ratios.zip maximums).map (fun p => if p.2 != 0 then p.1 else 0)
  let totalRatio := ratios'.sum
  if totalRatio == 0 then values
  else ratioReduceLoop (ratios'.zip (maximums.zip values)) total totalRatio

/-- `ratio_distribute(total, ratios, minimums)` (rich/_ratio.py:37-70); `minimums = none` is Python `None`
(also an empty list, which is falsy). The `assert total_ratio > 0` is the `none` result. -/
def ratioDistributeLoop : List (Int × Int) → Int → Int → List Int
  | [], _, _ => []
  | (ratio, minimum) :: rest, totalRemaining, totalRatio =>
    let distributed := if totalRatio > 0 then max minimum (ceilDiv (ratio * totalRemaining) totalRatio) else totalRemaining
    distributed :: ratioDistributeLoop rest (totalRemaining - distributed) (totalRatio - ratio)

def ratioDistribute (total : Int) (ratios : List Int) (minimums : Option (List Int)) : Option (List Int) :=
  let mins? := match minimums with
    | some m => if m.isEmpty then none else some m
    | none => none
  let ratios' : List Int := match mins? with
    | some m => (ratios.zip m).map (fun (p : Int × Int) => if p.2 != 0 then p.1 else 0)
    | none => ratios
  let totalRatio := ratios'.sum
  if totalRatio > 0 then
    let mins := match minimums with
      | some m => m            -- `_minimums = minimums` (an empty list stays empty: zip yields nothing)
      | none => List.replicate ratios'.length 0
    some (ratioDistributeLoop (ratios'.zip mins) total totalRatio)
  else none

/-- max of a list of integers with default (Python `max(gen)` raises on empty: callers guard). -/
def listMax : List Int → Int
  | [] => 0
  | x :: xs => xs.foldl max x

/-- One iteration of the `while` loop of `Table._collapse_widths` (table.py:520-541);
`none` = `break` / loop condition false. -/
def collapseStep (widths : List Int) (wrapable : List Bool) (maxWidth : Int) : Option (List Int) :=
  let totalWidth := widths.sum
  let excess := totalWidth - maxWidth
  if totalWidth != 0 && excess > 0 then
    let zipped := widths.zip wrapable
    let maxColumn := listMax ((zipped.filter (·.2)).map (·.1))
    let secondMax := listMax (zipped.map (fun p => if p.2 && p.1 != maxColumn then p.1 else 0))
    let diff := maxColumn - secondMax
    let ratios := zipped.map (fun p => if p.1 == maxColumn && p.2 then (1 : Int) else 0)
    if !(ratios.any (· != 0)) || diff == 0 then none
    else
      let maxReduce := List.replicate widths.length (min excess diff)
      some (ratioReduce excess ratios maxReduce widths)
  else none

def collapseLoop : Nat → List Int → List Bool → Int → List Int
  | 0, widths, _, _ => widths
  | fuel+1, widths, wrapable, maxWidth =>
    match collapseStep widths wrapable maxWidth with
    | none => widths
    | some w => collapseLoop fuel w wrapable maxWidth

/-- `Table._collapse_widths`: fuel `sum widths + 1` is shown sufficient in `Lemmas/Ratio`. -/
def collapseWidths (widths : List Int) (wrapable : List Bool) (maxWidth : Int) : List Int :=
  if wrapable.any id then collapseLoop (widths.sum.toNat + 1) widths wrapable maxWidth else widths

/-! ### Measurement (measure.py) -/

structure Measurement where
  minimum : Int
  maximum : Int
deriving Repr, BEq, DecidableEq

def Measurement.normalize (m : Measurement) : Measurement :=
  let minimum := min (max 0 m.minimum) m.maximum
  { minimum := max 0 minimum, maximum := max 0 (max minimum m.maximum) }

def Measurement.withMaximum (m : Measurement) (width : Int) : Measurement :=
  { minimum := min m.minimum width, maximum := min m.maximum width }

def Measurement.withMinimum (m : Measurement) (width : Int) : Measurement :=
  let width := max 0 width
  { minimum := max m.minimum width, maximum := max m.maximum width }

def Measurement.clamp (m : Measurement) (minWidth maxWidth : Option Int) : Measurement :=
  let m := match minWidth with | some w => m.withMinimum w | none => m
  match maxWidth with | some w => m.withMaximum w | none => m

/-- The post-processing `Measurement.get` applies to whatever `__rich_measure__` returned
(measure.py:93-112): `None` result of the renderable = no `__rich_measure__`. -/
def Measurement.getPost (maxWidth : Int) (measured : Option Measurement) : Measurement :=
  if maxWidth < 1 then ⟨0, 0⟩
  else match measured with
    | none => ⟨0, maxWidth⟩
    | some m =>
      let rw := (m.normalize).withMaximum maxWidth
      if rw.maximum < 1 then ⟨0, 0⟩ else rw.normalize

end RichModel
