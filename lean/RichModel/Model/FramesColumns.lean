import RichModel.Model.Frames
/-
Model of rich/columns.py `Columns.__rich_console__` (columns.py:62-171) up to the point where the
rows are handed to `Table.grid(...).add_row`: the column-count search, `iter_renderables`
(row-first / column-first order, blank padding of the last row) and the row slicing with
`right_to_left`.  The inner `Table` is NOT modelled (it is C07's subject): the result of the model is
the grid of item indices that is passed to `add_row`, `none` standing for a blank cell.

Inputs: the options, `Measurement.get(console, item, max_width).maximum` of every item (oracle), and
`options.max_width`.
-/
namespace RichModel.Frames
open RichModel

structure ColumnsOpts where
  padding : List Nat := [0, 1]
  width : Option Int := none
  equal : Bool := false
  columnFirst : Bool := false
  rightToLeft : Bool := false
deriving Repr

/-- The `for index in range(item_count)` loop that fills `cells` column by column (columns.py:99-107).
`k` = items still to place, `idx` = `index`.  (`cells[row][col] = index` cannot be out of range and
`column_lengths[col]` cannot be 0 on entry — shown in Lemmas/FramesColumnsFill.) -/
def fillLoop : Nat → Nat → Nat → Nat → List Int → List (List (Option Nat)) → List (List (Option Nat))
  | 0, _, _, _, _, cells => cells
  | k+1, idx, row, col, lens, cells =>
    let cells := cells.set row ((cells.getD row []).set col (some idx))
    let lens := lens.set col (lens.getD col 0 - 1)
    if lens.getD col 0 != 0 then fillLoop k (idx+1) (row+1) col lens cells
    else fillLoop k (idx+1) 0 (col+1) lens cells

/-- `column_lengths` (columns.py:92-94). -/
def columnLengths (n c : Nat) : List Int :=
  (List.range c).map (fun j => ((n / c : Nat) : Int) + (if j < n % c then 1 else 0))

/-- The index order `iter_renderables(column_count)` yields before the blank padding. -/
def itemOrder (columnFirst : Bool) (n c : Nat) : List Nat :=
  if columnFirst then
    let rowCount := (n + c - 1) / c
    let cells := fillLoop n 0 0 0 (columnLengths n c) (List.replicate rowCount (List.replicate c none))
    -- `for index in chain.from_iterable(cells): if index == -1: break`
    (cells.flatten.takeWhile (·.isSome)).filterMap id
  else List.range n

/-- `iter_renderables(column_count)` as (width, item index or `none` = blank).  `column_count = 0`
raises `ZeroDivisionError` (`item_count // column_count` resp. `item_count % column_count`). -/
def iterRenderables (columnFirst : Bool) (widths : List Int) (c : Nat) : Except PyErr (List (Int × Option Nat)) :=
  if c == 0 then .error .zeroDivision
  else
    let n := widths.length
    let items := (itemOrder columnFirst n c).map (fun i => (widths.getD i 0, some i))
    let padN := if n % c != 0 then c - n % c else 0
    .ok (items ++ List.replicate padN (0, none))

/-- The inner `for renderable_width, _ in iter_renderables(column_count)` of the width search
(columns.py:128-141).  `ws` = the values of the `widths` defaultdict in key order (the keys touched so
far are always `0 .. ws.length-1`).  `some k` = `break` with `column_count = k`; `none` = the `else`. -/
def searchInner (widthPadding maxWidth : Int) (c : Nat) : List (Int × Option Nat) → List Int → Nat → Option Nat
  | [], _, _ => none
  | (rw, _) :: rest, ws, colNo =>
    let ws := if colNo < ws.length then ws.set colNo (max (ws.getD colNo 0) rw) else ws ++ [max 0 rw]
    let total := ws.sum + widthPadding * ((ws.length : Int) - 1)
    if total > maxWidth then some (ws.length - 1)
    else searchInner widthPadding maxWidth c rest ws ((colNo + 1) % c)

/-- `while column_count > 1:` (columns.py:126-142); the count strictly decreases on every `break`. -/
def searchLoop (columnFirst : Bool) (widths : List Int) (widthPadding maxWidth : Int) : Nat → Nat → Nat
  | 0, c => c
  | fuel+1, c =>
    if c > 1 then
      match iterRenderables columnFirst widths c with
      | .error _ => c
      | .ok items =>
        match searchInner widthPadding maxWidth c items [] 0 with
        | some c' => searchLoop columnFirst widths widthPadding maxWidth fuel c'
        | none => c
    else c

/-- `rows`: `_renderables[start : start + column_count]` for `start in range(0, len, column_count)`. -/
def chunk {α : Type} (c : Nat) : Nat → List α → List (List α)
  | 0, _ => []
  | fuel+1, l => if l.isEmpty || c == 0 then [] else l.take c :: chunk c fuel (l.drop c)

structure ColumnsLayout where
  columnCount : Nat
  rows : List (List (Option Nat))
deriving Repr, BEq, DecidableEq

/-- `Columns.__rich_console__` up to `add_row`.  `.ok none` = no renderables (nothing is yielded). -/
def columnsLayout (v : Variant) (o : ColumnsOpts) (measured : List Int) (maxWidth : Int) : Except PyErr (Option ColumnsLayout) :=
  if measured.isEmpty then .ok none
  else
    match unpackPad o.padding with
    | .error e => .error e
    | .ok p =>
      let widthPadding : Int := max p.left p.right
      let n := measured.length
      let widths := if o.equal then List.replicate n (listMax measured) else measured
      let count : Except PyErr Nat :=
        match o.width with
        | some cwid =>
          if v.columnsZeroCount then
            -- as found (before fix f7ecf83): `max_width // (width + padding)` — raises for a zero divisor, may be 0 columns
            if cwid + widthPadding == 0 then .error .zeroDivision
            else .ok (maxWidth / (cwid + widthPadding)).toNat
          else
            -- repaired (fix f7ecf83, what /repo contains now): `max(1, max_width // max(1, width + padding))`
            .ok (max 1 (maxWidth / (max 1 (cwid + widthPadding))).toNat)
        | none => .ok (searchLoop o.columnFirst widths widthPadding maxWidth (n + 1) n)
      match count with
      | .error e => .error e
      | .ok c =>
        match iterRenderables o.columnFirst widths c with
        | .error e => .error e
        | .ok items =>
          let cells := items.map (·.2)
          let rows := chunk c cells.length cells
          .ok (some ⟨c, if o.rightToLeft then rows.map List.reverse else rows⟩)

end RichModel.Frames
