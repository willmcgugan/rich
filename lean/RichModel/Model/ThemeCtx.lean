import RichModel.Model.Theme
import RichModel.Model.ThemeThreads
/-
Third layer of the theme model (property C20, deepening round 4): `ThemeContext` **objects with identity**.

`console.use_theme(t, inherit=i)` only *constructs* a `ThemeContext` (console.py: `__init__` stores
`console`, `theme`, `inherit`); nothing is pushed until `__enter__`.  The object can therefore be kept in
a variable and used again:

    ctx = console.use_theme(t)
    with ctx:
        with ctx:          # re-entered while it is active
            ...
    with ctx: ...          # used again afterwards

`__enter__` is `self.console.push_theme(self.theme, inherit=self.inherit)`, `__exit__` is
`self.console.pop_theme()`: the object has **no mutable state** — no "am I entered" flag, no saved stack
depth.  The model makes that explicit: a history names its context objects by an index `c` into a store
`env` of the immutable fields, and `with c:` reads the store.  A variant that keeps per-object state is
*not* the code; `runG` below models the most natural such variant (an `entered` flag: `__exit__` pops
only when the flag is set and clears it) solely so that Props/C20 can exhibit how it breaks re-entry.
-/
namespace RichModel.Theme

variable {σ : Type}

/-- The fields `ThemeContext.__init__` stores (the console is the one the history runs on). -/
structure CtxObj (σ : Type) where
  theme : Theme σ
  inherit : Bool

/-- The object store: context object number `c` (created earlier by `console.use_theme(...)`). -/
abbrev CtxEnv (σ : Type) := Nat → CtxObj σ

/-- Statements of a history in which `use_theme` results are first-class objects. -/
inductive COp (σ : Type) where
  | push (theme : Theme σ) (inherit : Bool)     -- console.push_theme(theme, inherit=…)
  | pop                                         -- console.pop_theme()
  | raise                                       -- user code raises
  | withC (c : Nat) (body : List (COp σ))       -- `with ctx_c: body` — the same object `c` may be active already

mutual
/-- One statement; `f` is the variant flag of `ctxEnter` (`false` = the code in /repo). -/
def runCOp (f : Bool) (env : CtxEnv σ) : COp σ → Stack σ → Stack σ × Outcome
  | .push t i, st =>
    match pushTheme st t i with
    | .ok st' => (st', .normal)
    | .error e => (st, .raised e)
  | .pop, st =>
    match popTheme st with
    | .ok st' => (st', .normal)
    | .error e => (st, .raised e)
  | .raise, st => (st, .raised .userError)
  | .withC c body, st =>
    match ctxEnter f st (env c).theme (env c).inherit with     -- `ctx_c.__enter__()`
    | .error e => (st, .raised e)
    | .ok st1 =>
      match runCOps f env body st1 with
      | (st2, out) =>
        match ctxExit st2 with                                 -- `ctx_c.__exit__(…)`: pops, whatever `c` is
        | .ok st3 => (st3, out)
        | .error e => (st2, .raised e)
def runCOps (f : Bool) (env : CtxEnv σ) : List (COp σ) → Stack σ → Stack σ × Outcome
  | [], st => (st, .normal)
  | op :: rest, st =>
    match runCOp f env op st with
    | (st', .normal) => runCOps f env rest st'
    | r => r
end

mutual
/-- Forget identity: every `with ctx_c:` becomes `with console.use_theme(ctx_c.theme, inherit=ctx_c.inherit):`
on a fresh object. -/
def eraseOp (env : CtxEnv σ) : COp σ → Op σ
  | .push t i => .push t i
  | .pop => .pop
  | .raise => .raise
  | .withC c body => .use (env c).theme (env c).inherit (eraseOps env body)
def eraseOps (env : CtxEnv σ) : List (COp σ) → List (Op σ)
  | [] => []
  | op :: rest => eraseOp env op :: eraseOps env rest
end

/-! ### flat steps on context objects: `ctx_c.__enter__()` / `ctx_c.__exit__(…)` called by hand -/

inductive CStep where
  | enterC (c : Nat)     -- ctx_c.__enter__()
  | exitC (c : Nat)      -- ctx_c.__exit__(None, None, None)
  | pop                  -- console.pop_theme()
deriving Repr, DecidableEq

/-- the `FStep` a step on an object is (the object only supplies `theme` / `inherit` to `__enter__`) -/
def CStep.toF (env : CtxEnv σ) : CStep → FStep σ
  | .enterC c => .enter (env c).theme (env c).inherit
  | .exitC _ => .exit
  | .pop => .pop

/-! ### a variant that is NOT the code: `ThemeContext` with an `entered` flag

`__enter__`: push, `self._entered = True`; `__exit__`: `if self._entered: pop; self._entered = False`.
Each step in its own `try` (state unchanged on error).  `E` = the objects whose flag is set. -/
def applyG (env : CtxEnv σ) : CStep → Stack σ × List Nat → Stack σ × List Nat
  | .enterC c, (st, E) =>
    match pushTheme st (env c).theme (env c).inherit with
    | .ok s => (s, if E.contains c then E else c :: E)
    | .error _ => (st, E)
  | .exitC c, (st, E) =>
    if E.contains c then
      match popTheme st with
      | .ok s => (s, E.erase c)
      | .error _ => (st, E)
    else (st, E)
  | .pop, (st, E) =>
    match popTheme st with
    | .ok s => (s, E)
    | .error _ => (st, E)

def runG (env : CtxEnv σ) : List CStep → Stack σ × List Nat → Stack σ × List Nat
  | [], s => s
  | c :: rest, s => runG env rest (applyG env c s)

end RichModel.Theme
