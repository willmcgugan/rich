import RichModel.Model.Text
/-!
Model of `rich/_wrap.py` (`words`, `divide_line`), `Text.wrap` (text.py:980-1028),
`Text.get_style_at_offset` (text.py:390-408) and `Lines.justify` (containers.py:105-161).
Core Lean only; imports the Text model of property C05 read-only.

Conventions
* widths are naturals (a negative `width` is outside the modelled domain);
* `cw : Char → Nat` is the cell-width function (`charWidthT Gen.cellWidths` in the driver);
* `\s` / `str.isspace` / `str.rstrip` is the generated class `pyIsSpace` (see `Model/Text.lean`);
* `StyleAlg σ` carries what full justification needs from the console's style algebra: the null style
  `""` of `Text("")`, the `Style` object `get_style_at_offset` computes from the base style and the
  covering spans (as the list of names combined, in order) and `Style.__eq__` on two such objects;
* `WVariant` = the C05 variant flags of the `Text` model, the `rstrip_end` flag (C08) and one flag for the defect of
  `Lines.justify` found by the C02 check (`true` = rich 9.10.0 as released).
-/
namespace RichModel
namespace Wrap

/-! ### `_wrap.py` -/

/-- One match of `re_word = \s*\S+\s*` anchored at the head of `s`: the matched word and the rest.
Three phases: leading whitespace, a non-empty run of non-whitespace, trailing whitespace (greedy `*` / `+`
never have to give anything back: the classes `\s` and `\S` are complementary). -/
def matchWord (s : List Char) : Option (List Char × List Char) :=
  let lead := s.takeWhile pyIsSpace
  let r1 := s.dropWhile pyIsSpace
  let body := r1.takeWhile (fun c => !pyIsSpace c)
  let r2 := r1.dropWhile (fun c => !pyIsSpace c)
  if body.isEmpty then none
  else some (lead ++ (body ++ r2.takeWhile pyIsSpace), r2.dropWhile pyIsSpace)

/-- `words(text)` from position `pos` on: `(start, end, word)` triples.  `fuel` bounds the number of
matches (every match consumes at least one character: `wordsFrom_at`, `Lemmas/WrapDivideLine.lean`). -/
def wordsFrom : Nat → Nat → List Char → List (Nat × Nat × List Char)
  | 0, _, _ => []
  | fuel + 1, pos, s =>
    match matchWord s with
    | none => []
    | some (w, rest) => (pos, pos + w.length, w) :: wordsFrom fuel (pos + w.length) rest

/-- `words(text)` (_wrap.py:10-17) -/
def words (text : List Char) : List (Nat × Nat × List Char) := wordsFrom text.length 0 text

/-- the `for last, line in loop_last(chop_cells(...))` loop: every piece but the last advances `start`
by its length and records it. -/
def chunkOffsets : Nat → List (List Char) → List Nat
  | _, [] => []
  | _, [_] => []
  | start, c :: rest => (start + c.length) :: chunkOffsets (start + c.length) rest

/-- the body of `for start, _end, word in words(text)` (_wrap.py:25-46): new `line_position` and the
offsets appended for this word. -/
def divideStep (cw : Char → Nat) (width : Nat) (fold : Bool) (linePos : Nat) (w : Nat × Nat × List Char) :
    Nat × List Nat :=
  let start := w.1
  let word := w.2.2
  let wordLength := cellLen cw (pyRstrip word)
  if linePos + wordLength > width then
    if wordLength > width then
      if fold then
        let chunks := chopCells cw word width linePos
        ((match chunks.getLast? with
          | some l => cellLen cw l
          | none => linePos), chunkOffsets start chunks)
      else (cellLen cw word, if start != 0 then [start] else [])
    else if linePos != 0 && start != 0 then (cellLen cw word, [start])
    else (linePos, [])
  else (linePos + cellLen cw word, [])

def divideGo (cw : Char → Nat) (width : Nat) (fold : Bool) : Nat → List (Nat × Nat × List Char) → List Nat
  | _, [] => []
  | linePos, w :: ws =>
    let r := divideStep cw width fold linePos w
    r.2 ++ divideGo cw width fold r.1 ws

/-- `divide_line(text, width, fold)` (_wrap.py:20-47) -/
def divideLine (cw : Char → Nat) (text : List Char) (width : Nat) (fold : Bool := true) : List Nat :=
  divideGo cw width fold 0 (words text)

/-! ### what full justification needs from the style algebra -/

structure StyleAlg (σ : Type) where
  /-- the style `""` of `Text("")` -/
  null : σ
  /-- the `Style` object `get_style_at_offset` returns for the names combined (in order) -/
  comb : List σ → σ
  /-- `Style.__eq__` -/
  eqv : σ → σ → Bool

/-- one flag per genuine defect (true = rich 9.10.0 as released) -/
structure WVariant where
  /-- the flags of the `Text` model (C05) -/
  text : Variant
  /-- `Lines.justify` "center"/"right" call `pad_left` with a *negative* count when the line stays wider
  than the width (overflow "ignore"): the characters stay and every span moves to the left (rich 9.10.0 as found; `false` = fix 90b2e96). -/
  justifyNeg : Bool
  /-- `Text.rstrip_end` compares the *character* count of the line with the cell width (`Text.rstripEndW true`; rich 9.10.0 as found);
  `false` = `cell_len(self.plain)` (fix f5f2be9, the former pending_fixes/C08-rstrip-end-counts-cells.diff; what /repo contains now). -/
  rstripChars : Bool
deriving Repr, BEq, DecidableEq

def WVariant.released : WVariant := ⟨Variant.released, true, true⟩
/-- the two repairs asked for by C05/C02 in place, `rstrip_end` in either variant (`chars = true`: as found; `false`: fix f5f2be9) -/
def WVariant.fixed (chars : Bool) : WVariant := ⟨Variant.repaired, false, chars⟩
def WVariant.repaired : WVariant := WVariant.fixed false

variable {σ : Type}

/-- `Text.get_style_at_offset(console, offset)` (text.py:390-408) -/
def styleAtOffset (A : StyleAlg σ) (t : Text σ) (offset : Int) : σ :=
  let off := if offset < 0 then t.length + offset else offset
  A.comb (t.style :: (t.spans.filter (fun sp => decide (off ≥ sp.start) && decide (off < sp.stop))).map (·.style))

/-! ### `Lines.justify` -/

/-- `spaces[len(spaces) - index - 1] += 1` -/
def bump : List Nat → Nat → List Nat
  | [], _ => []
  | x :: xs, 0 => (x + 1) :: xs
  | x :: xs, i + 1 => x :: bump xs i

/-- `while words_size + num_spaces < width:` … with `todo = width - (words_size + num_spaces)` iterations left -/
def spreadLoop (n : Nat) : Nat → Nat → List Nat → List Nat
  | 0, _, sp => sp
  | todo + 1, index, sp => spreadLoop n todo ((index + 1) % n) (bump sp (n - index - 1))

/-- the `spaces` list of the "full" branch -/
def fullSpaces (wordsSize numWords width : Nat) : List Nat :=
  let numSpaces := numWords - 1
  let spaces := List.replicate numSpaces 1
  if numSpaces = 0 then spaces else spreadLoop numSpaces (width - (wordsSize + numSpaces)) 0 spaces

/-- the `tokens` loop of the "full" branch -/
def fullTokens (v : Variant) (A : StyleAlg σ) (lineStyle : σ) : List (Text σ) → List Nat → List (Text σ)
  | [], _ => []
  | [word], _ => [word]
  | word :: next :: rest, sp =>
    match sp with
    | [] => word :: fullTokens v A lineStyle (next :: rest) []
    | n :: sp' =>
      let style := styleAtOffset A word (-1)
      let nextStyle := styleAtOffset A next 0
      let spaceStyle := if A.eqv style nextStyle then style else lineStyle
      word :: Text.new v (List.replicate n ' ') spaceStyle :: fullTokens v A lineStyle (next :: rest) sp'

/-- one line of the "full" branch (every line but the last) -/
def justifyFullLine [BEq σ] (v : Variant) (cw : Char → Nat) (A : StyleAlg σ) (line : Text σ) (width : Nat) :
    Except PyErr (Text σ) :=
  line.split v [' '] >>= fun ws =>
    let wordsSize := (ws.map (fun w => cellLen cw w.plain)).sum
    let spaces := fullSpaces wordsSize ws.length width
    .ok (Text.join v (Text.new v [] A.null) (fullTokens v A line.style ws spaces))

def justifyFull [BEq σ] (v : Variant) (cw : Char → Nat) (A : StyleAlg σ) (width : Nat) :
    List (Text σ) → Except PyErr (List (Text σ))
  | [] => .ok []
  | [last] => .ok [last]
  | line :: next :: rest =>
    justifyFullLine v cw A line width >>= fun l =>
    justifyFull v cw A width (next :: rest) >>= fun r =>
    .ok (l :: r)

/-- the count handed to `pad_left` -/
def padCount (wv : WVariant) (n : Int) : Int := if wv.justifyNeg then n else max 0 n

/-- `Lines.justify(console, width, justify, overflow)` (containers.py:105-161) -/
def justifyLines [BEq σ] (wv : WVariant) (cw : Char → Nat) (A : StyleAlg σ) (lines : List (Text σ)) (width : Nat)
    (justify : Justify) (overflow : Overflow) : Except PyErr (List (Text σ)) :=
  match justify with
  | .default => .ok lines
  | .left => .ok (lines.map (fun l => l.truncate cw width (some overflow) true))
  | .center => .ok (lines.map (fun l =>
      let l1 := (l.rstrip).truncate cw width (some overflow)
      let l2 := l1.padLeft (padCount wv (((width : Int) - (cellLen cw l1.plain : Int)) / 2))
      l2.padRight ((width : Int) - (cellLen cw l2.plain : Int))))
  | .right => .ok (lines.map (fun l =>
      let l1 := (l.rstrip).truncate cw width (some overflow)
      l1.padLeft (padCount wv ((width : Int) - (cellLen cw l1.plain : Int)))))
  | .full => justifyFull wv.text cw A width lines

/-! ### `Text.wrap` -/

/-- the body of `for line in self.split(allow_blank=True)` after tab expansion -/
def wrapLine [BEq σ] (wv : WVariant) (cw : Char → Nat) (A : StyleAlg σ) (line : Text σ) (width : Nat)
    (wrapJustify : Justify) (wrapOverflow : Overflow) (noWrap : Bool) : Except PyErr (List (Text σ)) :=
  (if noWrap then .ok [line]
   else line.divide wv.text (divideLine cw line.plain width (wrapOverflow == Overflow.fold))) >>= fun newLines =>
  justifyLines wv cw A (newLines.map (fun l => Text.rstripEndW wv.rstripChars cw wv.text l width)) width wrapJustify wrapOverflow >>= fun justified =>
  .ok (justified.map (fun l => l.truncate cw width (some wrapOverflow)))

def wrapParagraphs [BEq σ] (wv : WVariant) (cw : Char → Nat) (A : StyleAlg σ) (width : Nat)
    (wrapJustify : Justify) (wrapOverflow : Overflow) (noWrap : Bool) (tabSize : Option Nat) :
    List (Text σ) → Except PyErr (List (Text σ))
  | [] => .ok []
  | line :: rest =>
    (if line.plain.contains '\t' then line.expandTabs wv.text tabSize else .ok line) >>= fun line' =>
    wrapLine wv cw A line' width wrapJustify wrapOverflow noWrap >>= fun ls =>
    wrapParagraphs wv cw A width wrapJustify wrapOverflow noWrap tabSize rest >>= fun more =>
    .ok (ls ++ more)

/-- `justify or self.justify or DEFAULT_JUSTIFY` -/
def wrapJustifyOf (t : Text σ) (justify : Option Justify) : Justify :=
  (justify.orElse (fun _ => t.justify)).getD Justify.default

/-- `overflow or self.overflow or DEFAULT_OVERFLOW` -/
def wrapOverflowOf (t : Text σ) (overflow : Option Overflow) : Overflow :=
  (overflow.orElse (fun _ => t.overflow)).getD Overflow.fold

/-- `pick_bool(no_wrap, self.no_wrap, False) or overflow == "ignore"` — the *argument* `overflow`, not the
effective one: a text whose own `overflow` is "ignore" is still wrapped. -/
def noWrapOf (t : Text σ) (overflow : Option Overflow) (noWrap : Option Bool) : Bool :=
  (noWrap.orElse (fun _ => t.noWrap)).getD false || overflow == some Overflow.ignore

/-- `Text.wrap(console, width, justify=, overflow=, tab_size=, no_wrap=)` (text.py:980-1028) -/
def wrap [BEq σ] (wv : WVariant) (cw : Char → Nat) (A : StyleAlg σ) (t : Text σ) (width : Nat)
    (justify : Option Justify := none) (overflow : Option Overflow := none) (tabSize : Option Nat := some 8)
    (noWrap : Option Bool := none) : Except PyErr (List (Text σ)) :=
  t.split wv.text ['\n'] false true >>= fun lines =>
  wrapParagraphs wv cw A width (wrapJustifyOf t justify) (wrapOverflowOf t overflow) (noWrapOf t overflow noWrap)
    tabSize lines

/-! ### the object-level reading: `text.wrap(...)` called several times on one object -/

/-- the arguments of one call -/
structure WrapArgs where
  width : Nat
  justify : Option Justify := none
  overflow : Option Overflow := none
  tabSize : Option Nat := some 8
  noWrap : Option Bool := none

/-- one call on the object in state `t`: the state of the receiver afterwards and the answer.  `Text.wrap` works on
copies (`split` / `divide` / `copy`) and never assigns to `self`: the receiver is handed on unchanged. -/
def wrapCall [BEq σ] (wv : WVariant) (cw : Char → Nat) (A : StyleAlg σ) (t : Text σ) (c : WrapArgs) :
    Text σ × Except PyErr (List (Text σ)) :=
  (t, wrap wv cw A t c.width c.justify c.overflow c.tabSize c.noWrap)

/-- a history of calls on one object: final state of the receiver and the answers in order -/
def wrapHistory [BEq σ] (wv : WVariant) (cw : Char → Nat) (A : StyleAlg σ) :
    Text σ → List WrapArgs → Text σ × List (Except PyErr (List (Text σ)))
  | t, [] => (t, [])
  | t, c :: cs =>
    let r := wrapCall wv cw A t c
    let rest := wrapHistory wv cw A r.1 cs
    (rest.1, r.2 :: rest.2)

end Wrap
end RichModel
