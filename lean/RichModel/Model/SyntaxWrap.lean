import RichModel.Model.Syntax
import RichModel.Model.Wrap
/-
Model of the word-wrap branches of `Syntax.__rich_console__`, row by row, by handing each line to the model of
`Text.wrap` built for properties C02/C05 (`Model/Wrap.lean`, `Model/Text.lean`, imported read-only):

* numbered: `console.render_lines(line, render_options, style=background_style, pad=…)` — the line `Text` renders
  itself through `Text.wrap(width=code_width, justify, overflow="fold", no_wrap=…)`, then every wrapped line is
  cropped / padded by `Segment.split_and_crop_lines`; the first row gets the number, the others a blank gutter;
* un-numbered: `console.render(text, width=code_width)` — the whole text wraps itself (its own `no_wrap=False` wins
  over `options.no_wrap`).

Without word wrap `renderW` IS `render` inside `inDomain`; outside it a numbered line is cropped segment by segment.
-/
namespace RichModel.Syntax
open RichModel

/-- styles play no part in which characters land on which row -/
def plainAlg : Wrap.StyleAlg Unit := { null := (), comb := fun _ => (), eqv := fun _ _ => true }

/-- a `Text` as `Syntax.highlight` / `Text.split` leave it, without spans -/
def rawText (s : List Char) (justify : Option Justify) (noWrap : Option Bool) : Text Unit :=
  { plain := s, length := (s.length : Int), spans := [], style := (), justify := justify, overflow := none,
    noWrap := noWrap, endStr := ['\n'], tabSize := some 8 }

/-- `Text.__rich_console__` of one text at `width`: `self.wrap(console, width, justify=self.justify or options.justify or
"fold", overflow="fold", no_wrap=pick_bool(self.no_wrap, options.no_wrap, False))` -> the plain lines. -/
def wrapPlain (wv : Wrap.WVariant) (cw : Char → Nat) (t : Text Unit) (width : Nat) (optNoWrap : Bool) : Option (List Line) :=
  -- `self.justify or options.justify or DEFAULT_OVERFLOW`: "fold" is no justify method, `Lines.justify` ignores it
  let j : Justify := t.justify.getD Justify.default
  match Wrap.wrap wv cw plainAlg t width (some j) (some Overflow.fold) (some 8) (some ((t.noWrap).getD optNoWrap)) with
  | .ok ls => some (ls.map (·.plain))
  | .error _ => none

/-- the rows of one numbered line under word wrap -/
def foldLine (wv : Wrap.WVariant) (cw : Char → Nat) (w : Nat) (pad : Bool) (justify : Option Justify) (lineNoWrap : Option Bool)
    (optNoWrap : Bool) (l : Line) : Option (List Line) :=
  (wrapPlain wv cw (rawText l justify lineNoWrap) w optNoWrap).map (fun ls => ls.map (fitLine cw w pad false))

def sequenceOpt : List (Option α) → Option (List α)
  | [] => some []
  | none :: _ => none
  | some a :: rest => (sequenceOpt rest).map (a :: ·)

/-- the characters of the rows of one numbered line: first row with the number, the others with `" " * ncw + " "` -/
def renderFolded (ncw : Nat) (legacy : Bool) (num : Nat) (marked : Bool) (bodies : List Line) : List Line :=
  match bodies with
  | [] => []
  | b :: rest => Row.render ncw legacy { num := num, marked := marked, body := b } ::
      rest.map (fun b' => List.replicate (ncw + 1) ' ' ++ b')

def numberFolded (ncw : Nat) (legacy : Bool) (hl : List Nat) : Nat → List (List Line) → List Line
  | _, [] => []
  | n, bs :: rest => renderFolded ncw legacy n (hl.contains n) bs ++ numberFolded ncw legacy hl (n + 1) rest

/-! ### segments: where `Text.render` cuts a line (needed only to crop a line THROUGH a zero-width character,
where `Segment.adjust_line_length` crops the segment at the edge, not the line) -/

/-- the pieces of the highlighted text, each with "a token span covers it" -/
def styledPieces (skipRaises found : Bool) (toks : List Line) (code : List Char) (range : Option (Int × Int)) :
    Except Err (List (Line × Bool)) :=
  if !found then .ok ((pieces (stripCtl code)).map (·, false))
  else match range with
    | none => .ok ((lineTokenize toks).map (·, true))
    | some (ls, le) =>
      match skipLoop skipRaises (ls - 1).toNat 0 (lineTokenize toks) with
      | .error e => .error e
      | .ok (y, ln, r) => .ok (y.map (·, false) ++ (takeLoop le ln r).map (·, true))

/-- group the pieces by line (a piece ending in a newline closes its line; like `split("\n")` the last line may be empty) -/
def piecesByLine : List (Line × Bool) → List (Line × Bool) → List (List (Line × Bool))
  | [], cur => [cur.reverse]
  | (p, st) :: rest, cur =>
    if endsNL p then ((p.dropLast, st) :: cur).reverse :: piecesByLine rest []
    else piecesByLine rest ((p, st) :: cur)

/-- the segments of one line: empty pieces vanish, neighbouring pieces without a span are one segment
(`pend` = the run of span-less characters collected so far) -/
def mergeSegsAux : Line → List (Line × Bool) → List Line
  | pend, [] => if pend.isEmpty then [] else [pend]
  | pend, (p, st) :: rest =>
    if p.isEmpty then mergeSegsAux pend rest
    else if st then (if pend.isEmpty then [] else [pend]) ++ p :: mergeSegsAux [] rest
    else mergeSegsAux (pend ++ p) rest

def mergeSegs (ps : List (Line × Bool)) : List Line := mergeSegsAux [] ps

/-- re-cut the segments of a guided line: same lengths, characters of `g`, and a cut at the end of the indent `n` -/
def resegment : List Line → Line → Nat → Nat → List Line
  | [], _, _, _ => []
  | sg :: rest, g, off, n =>
    let k := sg.length
    let piece := g.take k
    let tail := resegment rest (g.drop k) (off + k) n
    if off < n && n < off + k then piece.take (n - off) :: piece.drop (n - off) :: tail else piece :: tail

/-- `Segment.adjust_line_length` on a line that is too long, as plain characters -/
def cropSegs (cw : Char → Nat) (w : Nat) : List Line → Nat → Line
  | [], _ => []
  | sg :: rest, ll =>
    let n := cellLen cw sg
    if ll + n < w then sg ++ cropSegs cw w rest (ll + n) else setCellSize cw sg (w - ll)

/-- The segments of every numbered line (aligned with `selectedLines`), or none when offsets are unknown. -/
def selectedSegs (skipRaises rangePop : Bool) (o : Opts) (found : Bool) (lex : List Char → List Line) (code : List Char)
    (post : List Line) : Option (List (List Line)) :=
  let src := expandTabs o.tabSize (shownCode o code)
  -- stripping control characters line by line shifts the spans against the characters: not reproduced
  if found && src.any isStripCtl then none
  else match styledPieces skipRaises found (lex src) src o.lineRange with
    | .error _ => none
    | .ok ps =>
      let all := (piecesByLine ps []).map mergeSegs
      let sliced := match o.lineRange with
        | some (_, e) => pySlice all (lineOffset o) e
        | none => all
      let guided := o.indentGuides && !o.asciiOnly && (rangePop || !post.isEmpty)
      some (post.zipIdx.map (fun (g, i) =>
        let segs := sliced.getD i []
        if !guided then segs
        else
          let l := segs.flatten
          let n := leadSpaces l
          if (l.drop n).isEmpty || l.length != g.length then (if g.isEmpty then [] else [g])
          else resegment segs g 0 n))

/-- `console.render(Syntax(...), options)` with the word-wrap branches modelled; `none` = outside the model
(`Text.wrap` raised in the model, or a line must be cropped through a zero-width character without word wrap). -/
def renderW (wv : Wrap.WVariant) (cw : Char → Nat) (skipRaises rangePop : Bool) (o : Opts) (found : Bool)
    (lex : List Char → List Line) (code : List Char) : Option (Except Err (List Line)) :=
  if !o.wordWrap && o.lineNumbers then
    if inDomain cw skipRaises rangePop o found lex code then some (render cw skipRaises rangePop o found lex code)
    else
      -- some line has to be cropped through a zero-width character: crop segment by segment
      match selectedLines skipRaises rangePop o found lex code with
      | .error e => some (.error e)
      | .ok lines =>
        if decide (codeWidthInt o code < 0) then none
        else
          let w := (codeWidthInt o code).toNat
          match selectedSegs skipRaises rangePop o found lex code lines with
          | none => none
          | some segs =>
            let bodies := lines.zipIdx.map (fun (l, i) =>
              -- `adjust_line_length` measures cells only: a line that fits in cells is padded, however many characters it has
              if lineInDomain cw w false l || cellLen cw l ≤ w then fitLine cw w o.pad o.optNoWrap l
              else if o.optNoWrap then l
              else cropSegs cw w (segs.getD i [l]) 0)
            some (.ok ((numberRows (o.startLine + lineOffset o) o.highlightLines bodies).map
              (Row.render (numbersColumnWidth o code) o.legacyWindows)))
  else if !o.wordWrap then
    -- un-numbered, no word wrap: the text still renders itself through `Text.wrap` (with `no_wrap=True`: `rstrip_end`, then
    -- `truncate` crops the whole line with `set_cell_size`) — exact also through zero-width characters
    let src := expandTabs o.tabSize (shownCode o code)
    match highlight skipRaises found (lex src) src o.lineRange with
    | .error e => some (.error e)
    | .ok text =>
      if decide (codeWidthInt o code < 1) then some (.ok [])
      else (wrapPlain wv cw (rawText (removeSuffixNL text) (some (if o.pad then Justify.left else Justify.default)) (some true))
              (codeWidthInt o code).toNat o.optNoWrap).map Except.ok
  else
    let src := expandTabs o.tabSize (shownCode o code)
    match highlight skipRaises found (lex src) src o.lineRange with
    | .error e => some (.error e)
    | .ok text =>
      let text := removeSuffixNL text
      let justify : Option Justify := some (if o.pad then Justify.left else Justify.default)
      if o.lineNumbers then
        match selectedLines skipRaises rangePop o found lex code with
        | .error e => some (.error e)
        | .ok lines =>
          if decide (codeWidthInt o code < 1) then some (.ok [])
          else
            let w := (codeWidthInt o code).toNat
            let guided := o.indentGuides && !o.asciiOnly && (rangePop || !lines.isEmpty)
            -- a line `Text` made by `divide` / `join` has `no_wrap=None` and (after guides) `justify=None`;
            -- the copy of a one-line text keeps the text's own `no_wrap=False`
            let lineNoWrap : Option Bool := if guided || text.contains '\n' then none else some false
            let lineJustify : Option Justify := if guided then none else justify
            match sequenceOpt (lines.map (foldLine wv cw w o.pad lineJustify lineNoWrap o.optNoWrap)) with
            | none => none
            | some bodies =>
              some (.ok (numberFolded (numbersColumnWidth o code) o.legacyWindows o.highlightLines (o.startLine + lineOffset o) bodies))
      else
        if decide (codeWidthInt o code < 1) then some (.ok [])
        else (wrapPlain wv cw (rawText text justify (some false)) (codeWidthInt o code).toNat o.optNoWrap).map Except.ok

end RichModel.Syntax
