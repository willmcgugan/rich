import RichModel.Model.Term
import RichModel.Model.Cells
/-
Model of rich/live.py, rich/live_render.py, the live part of rich/progress.py, and rich/status.py
(Rich 9.10.0), as a state machine that emits terminal operations.  Imports only `Model/Term` and `Model/Cells` (core Lean).

What is modelled, statement by statement
* `LiveRender.position_cursor` / `restore_cursor` (live_render.py:31-51) from the *recorded* shape;
* `_LiveRender.__rich_console__` (live.py:53-87): crop of every line to the console width, `get_shape`,
  `vertical_overflow` crop / ellipsis / visible against `console.size.height`, shape := shape of what is emitted;
* `LiveRender.__rich_console__` (live_render.py:53-75, used by Progress): running maximum of the shape,
  `Segment.set_shape` padding, everything emitted as control segments;
* `Live.start/stop/update/refresh/process_renderables`, `Progress.start/stop/refresh/add_task/advance/
  update/remove_task/process_renderables`, `Status.update` (status.py: a transient `Live` around a
  two-column grid);
* the hook stack depth (`Console._render_hooks`), `sys.stdout` / `sys.stderr` redirection through
  `FileProxy` (`_enable_redirect_io` / `_disable_redirect_io`), cursor visibility, the `try/finally` of `stop`;
* exceptions: the renderable (Live) / a progress column (Progress) raises on the call indices selected by an
  arbitrary predicate `fails`; `KeyError` for unknown task ids.  Every operation returns the new state, what
  was written to the terminal, and the error it raised (if any) — never a silent default.

Parameters (not modelled further): what the user renderable yields is given as a list of plain lines
(`Frame`); user output of `print` / `log` is given as the list of lines a console *without* a live
display writes for the same call.  Widths are cell widths (`Cfg.cw`; crops and paddings count cells, a wide character occupies two cells of
the screen).  Consoles: terminals, dumb terminals and files
(`Cfg.terminal`, `Cfg.dumb`; the screen theorems are about `Cfg.plain`); not Jupyter, not legacy Windows;
`auto_refresh=False`.  The console width may change (`Op.resize`); `Progress(disable=True)` is `Cfg.disable`;
the spinner of a Status is the opaque function `Cfg.spin` of the render count.

CODE VARIANT FLAGS (in `Cfg`): `bareBypass = true` is rich 9.10.0 as found, where `console.print()` /
`console.log()` without arguments call `Console.line()` and bypass the render hooks (finding F19; repaired by fix b373465);
`startGuard = false` is the as-found `Progress.start` (repaired by fix 4e4f7e5), which pushes the hook, redirects io, hides the cursor
and *then* calls `refresh()` unprotected; `resetShape = false` is the as-found `stop` (repaired by fix b4577f9), which keeps the
recorded shape of the last frame (a later `start` then erases rows that belong to finished output) and
leaves `vertical_overflow` at `"visible"`; `blankFix = false` is the as-found `restore_cursor` (repaired by fix bd10e80), which goes up
`height` rows, so a transient display whose last frame is empty leaves one blank line behind;
`flushFix = false` is the as-found `stop` (repaired by fix 4c3921f), which does not flush the FileProxy objects before its last refresh:
text pending from `print(..., end="")` is only written when the proxy object dies in
`_disable_redirect_io` — after the last frame, through the still installed hook.  `guardBase = false` is the guard
`except Exception:` that fix 4e4f7e5 gave `Progress.start` (a KeyboardInterrupt / SystemExit / GeneratorExit from the
renderable, `faultBase`, got past it; repaired by fix fc3f517: `except BaseException`);
`disableFix = false` is the as-found `stop` of a `Progress(disable=True)`, which still wrote its line feed (repaired by fix 363ded9).
/repo contains all seven repairs: `bareBypass = false` and the other six flags `true` (the values the harness passes;
the defaults of the `Cfg` structure below are the as-found values).
-/
namespace RichModel.Live
open RichModel

abbrev Line := List Char
abbrev Frame := List Line

inductive Overflow where
  | crop | ellipsis | visible
deriving Repr, DecidableEq

inductive Kind where
  | live | progress | status
deriving Repr, DecidableEq

inductive Err where
  | fault      -- the exception injected into the renderable / column
  | keyError   -- unknown task id
deriving Repr, DecidableEq

structure Cfg where
  kind : Kind
  transient : Bool
  width : Nat
  height : Nat
  redirectStdout : Bool := true
  redirectStderr : Bool := true
  bareBypass : Bool := true
  startGuard : Bool := false
  resetShape : Bool := false
  blankFix : Bool := false
  flushFix : Bool := false
  terminal : Bool := true                   -- `console.is_terminal`
  dumb : Bool := false                      -- `console.is_dumb_terminal` (implies `terminal`)
  disable : Bool := false                   -- `Progress(disable=True)`
  faultBase : Bool := false                 -- the injected exception derives from BaseException only (KeyboardInterrupt, SystemExit, GeneratorExit)
  guardBase : Bool := false                 -- variant flag: `Progress.start` guards its first refresh with `except BaseException` (false: `except Exception`)
  disableFix : Bool := false                -- variant flag: a disabled Progress writes no line feed and erases nothing at `stop` (false: as found)
  spin : Nat → Char := fun _ => '⠋'         -- Status: what the spinner shows at the n-th render of the display (opaque)
  cw : Char → Nat := fun _ => 1             -- `get_character_cell_size` (the driver passes the table of rich/_cell_widths.py)

/-- A terminal that understands control codes: `show_cursor` / `Console.control` write something. -/
def Cfg.ansi (cfg : Cfg) : Bool := cfg.terminal && !cfg.dumb

/-- Does the guard around the first refresh of `Progress.start` catch the injected exception?
`except Exception:` (fix 4e4f7e5) lets KeyboardInterrupt / SystemExit / GeneratorExit through. -/
def Cfg.guards (cfg : Cfg) : Bool := cfg.startGuard && (cfg.guardBase || !cfg.faultBase)

/-- The repaired `Progress.stop` of a disabled display: no line feed, nothing to erase. -/
def Cfg.quietStop (cfg : Cfg) : Bool := cfg.disableFix && cfg.disable

/-- The configurations the screen theorems are about. -/
def Cfg.plain (cfg : Cfg) : Bool := cfg.terminal && !cfg.dumb && !cfg.disable

structure Task where
  id : Nat
  desc : Line
  completed : Nat
  total : Nat
  visible : Bool
deriving Repr, DecidableEq

/-- The keyword arguments of `Progress.update` / `Progress.reset` that change what a row shows. -/
structure Edit where
  total : Option Nat := none
  advance : Option Nat := none
  completed : Option Nat := none
  desc : Option Line := none
  visible : Option Bool := none
deriving Repr, DecidableEq

structure St where
  started : Bool := false
  shape : Option (Nat × Nat) := none        -- `_live_render._shape` (width, height)
  renderable : Frame := []                  -- Live: lines the renderable yields; Progress: the row texts of the tasks table built by the last refresh
  overflow : Overflow := .ellipsis          -- `Live.vertical_overflow` (mutated by `stop`)
  overflow0 : Overflow := .ellipsis         -- `vertical_overflow` as saved on entry of the last `stop` (used by the repaired code only)
  hooks : Nat := 0                          -- len(console._render_hooks)
  stdoutDepth : Nat := 0                    -- how many FileProxy objects wrap the original sys.stdout
  stderrDepth : Nat := 0
  restoreStdout : Option Nat := none        -- `_restore_stdout`
  restoreStderr : Option Nat := none
  bufOut : Line := []                       -- text without a final new line pending in the FileProxy that is sys.stdout
  bufErr : Line := []                       -- … in the FileProxy that is sys.stderr
  tasks : List Task := []                   -- `Progress._tasks` in insertion order
  taskIndex : Nat := 0
  calls : Nat := 0                          -- number of calls made so far to the fault-injectable callable
  width : Option Nat := none                -- `console._width` after a resize (`none`: still `cfg.width`)
deriving Repr, DecidableEq

inductive Op where
  | start
  | stop
  | print (lines : List Line)                       -- console.print / log / builtin print through FileProxy
  | printBare                                       -- console.print() / console.log() with no arguments
  | update (f : Frame) (refresh : Bool)             -- Live.update ; Status.update (always refreshes)
  | refresh
  | addTask (desc : Line) (visible : Bool) (total : Nat)
  | updateTask (id : Nat) (e : Edit) (refresh : Bool)  -- Progress.update / advance / reset (reset always refreshes) / one step of track
  | removeTask (id : Nat)
  | resize (w : Nat)                                -- the console width changes (`console._width = w`)
  | write (err : Bool) (lines : List Line) (tail : Line)   -- sys.stdout / sys.stderr .write("\n".join(lines + [tail]))
deriving Repr, DecidableEq

/-- What one operation did: new state, characters written, exception raised. -/
structure Res where
  st : St
  out : List TermOp := []
  err : Option Err := none
deriving Repr, DecidableEq

/-! ## escape sequences -/

def textOp (l : Line) : List TermOp := if l.isEmpty then [] else [.text l]

def eraseUp : Nat → List TermOp
  | 0 => []
  | n + 1 => .cuu 1 :: .el2 :: eraseUp n

/-- `LiveRender.position_cursor`: `"\r\x1b[2K" + "\x1b[1A\x1b[2K" * (height - 1)`. -/
def positionCursor : Option (Nat × Nat) → List TermOp
  | none => []
  | some (_, h) => .cr :: .el2 :: eraseUp (h - 1)

/-- How many rows `restore_cursor` goes up: `height` in today's code; `max(height, 1)` in the repaired
code (an empty frame still occupies the row the final line feed left). -/
def restoreCount (fix : Bool) (h : Nat) : Nat := if fix then max h 1 else h

/-- `LiveRender.restore_cursor`: `"\r" + "\x1b[1A\x1b[2K" * height`. -/
def restoreCursor (fix : Bool) : Option (Nat × Nat) → List TermOp
  | none => []
  | some (_, h) => .cr :: eraseUp (restoreCount fix h)

/-- User output: every line is followed by a line feed. -/
def emitLines : List Line → List TermOp
  | [] => []
  | l :: rest => textOp l ++ .lf :: emitLines rest

/-- A frame: lines separated (not terminated) by line feeds (`loop_last`). -/
def emitFrame : Frame → List TermOp
  | [] => []
  | [l] => textOp l
  | l :: rest => textOp l ++ .lf :: emitFrame rest

/-! ## shapes -/

/-- The terminal cells a line occupies: a character of width 2 is followed by a filler cell (`'\x00'`),
a character of width 0 takes none. -/
def cells (cw : Char → Nat) (l : Line) : Line :=
  l.flatMap (fun c => if cw c = 0 then [] else c :: List.replicate (cw c - 1) '\x00')

def maxWidth (cw : Char → Nat) : Frame → Nat
  | [] => 0
  | l :: rest => max (cellLen cw l) (maxWidth cw rest)

/-- `Segment.get_shape`: widths are cell widths. -/
def getShape (cw : Char → Nat) (f : Frame) : Nat × Nat := (maxWidth cw f, f.length)

def padTo (cw : Char → Nat) (w : Nat) (l : Line) : Line := l ++ List.replicate (w - cellLen cw l) ' '

/-- `Segment.set_shape(lines, width, height)` for `width ≥` every line (so nothing is cropped). -/
def setShape (cw : Char → Nat) (f : Frame) (w h : Nat) : Frame :=
  f.map (padTo cw w) ++ List.replicate (h - f.length) (List.replicate w ' ')

/-- `render_lines(..., pad=False)` crops a line to the console width in *cells* (`adjust_line_length` →
`set_cell_size`: a double-width character that straddles the edge is replaced by a space). -/
def cropLine (cw : Char → Nat) (w : Nat) (l : Line) : Line :=
  if cellLen cw l > w then setCellSize cw l w else l

/-- A cell wider than its column: the column is `no_wrap` with overflow `"ellipsis"`, so the text is
`Text.truncate(width, overflow="ellipsis")`: `set_cell_size(plain, width - 1) + "…"`.  (Stated here with
`Model/Cells` only, so that importers of this file do not see the Text model's names; that this *is*
`Text.truncate` of the Text model of C05 is `truncRow_eq_truncate` in `Lemmas/LiveText.lean`.) -/
def truncRow (cw : Char → Nat) (w : Nat) (row : Line) : Line :=
  if cellLen cw row > w then setCellSize cw row (w - 1) ++ ['…'] else row

/-- The one-column grid rendered at console width `w`: the column is as wide as its widest row but never
wider than the console (`_collapse_widths` / `ratio_reduce` on a column that cannot wrap); every cell is
truncated to it and padded to it. -/
def tableLines (cw : Char → Nat) (w : Nat) (rows : Frame) : Frame :=
  let colw := min (maxWidth cw rows) w
  rows.map (fun r => padTo cw colw (truncRow cw colw r))

/-- The line `Text("...", overflow="crop", justify="center", end="")` renders to at width `w ≥ 3`. -/
def ellipsisLine (w : Nat) : Line :=
  List.replicate ((w - 3) / 2) ' ' ++ ['.', '.', '.'] ++ List.replicate ((w - 3) - (w - 3) / 2) ' '

/-- `_LiveRender.__rich_console__` up to the shape assignment: the lines that are emitted. -/
def liveFrame (cw : Char → Nat) (w h : Nat) (ov : Overflow) (r : Frame) : Frame :=
  let lines := r.map (cropLine cw w)
  if lines.length > h then
    match ov with
    | .crop => lines.take h
    | .ellipsis => lines.take (h - 1) ++ [ellipsisLine w]
    | .visible => lines
  else lines

/-- `LiveRender.__rich_console__` (Progress): new shape (running maximum) and the padded lines. -/
def progressFrame (cw : Char → Nat) (w : Nat) (shape : Option (Nat × Nat)) (r : Frame) : Frame × (Nat × Nat) :=
  let lines := tableLines cw w r
  let s1 := getShape cw lines
  let s := match shape with
    | none => s1
    | some (w2, h2) => (max s1.1 (min w w2), max s1.2 h2)
  (setShape cw lines s.1 s.2, s)

/-- `console.width` right now. -/
def curWidth (cfg : Cfg) (st : St) : Nat := st.width.getD cfg.width

/-! ## Progress tasks table and Status grid -/

def natLine (n : Nat) : Line := (toString n).toList

def taskRow (t : Task) : Line := t.desc ++ ' ' :: natLine t.completed ++ '/' :: natLine t.total

/-- The table with every cell padded to the widest row (what `tableLines` gives when all rows fit the
console) — kept for importers written before rows could be truncated. -/
def tasksTable (cw : Char → Nat) (tasks : List Task) : Frame :=
  let rows := (tasks.filter (·.visible)).map taskRow
  rows.map (padTo cw (maxWidth cw rows))

/-- `Progress.update` / `reset`: total, advance, completed, description, visible — in this order. -/
def Edit.apply (e : Edit) (t : Task) : Task :=
  let t := match e.total with | some n => { t with total := n } | none => t
  let t := match e.advance with | some n => { t with completed := t.completed + n } | none => t
  let t := match e.completed with | some n => { t with completed := n } | none => t
  let t := match e.desc with | some d => { t with desc := d } | none => t
  match e.visible with | some v => { t with visible := v } | none => t

/-- `make_tasks_table` with the single column `"{task.description} {task.completed}/{task.total}"`: the
texts of the rows, one per visible task (laid out at render time, see `tableLines`). -/
def taskRows (tasks : List Task) : Frame := (tasks.filter (·.visible)).map taskRow

/-- What the spinner cell shows is replaced at every render (`Cfg.spin`). -/
def respin (c : Char) : Frame → Frame
  | (_ :: l) :: rest => (c :: l) :: rest
  | f => f

/-- `Status.renderable`: `Table.grid(padding=1)` with the row (spinner, status); the first character is
the spinner cell (re-rendered by `respin` each time the display is drawn). -/
def statusFrame (cw : Char → Nat) (lines : Frame) : Frame :=
  let w := maxWidth cw lines
  match lines with
  | [] => []
  | l :: rest => ('⠋' :: ' ' :: padTo cw w l) :: rest.map (fun l => ' ' :: ' ' :: padTo cw w l)

def findTask (tasks : List Task) (id : Nat) : Option Task := tasks.find? (·.id == id)

def replaceTask (tasks : List Task) (t : Task) : List Task :=
  if (tasks.any (·.id == t.id)) then tasks.map (fun u => if u.id == t.id then t else u) else tasks ++ [t]

/-! ## the state machine -/

/-- The renderable as it is rendered now (the spinner of a Status moves). -/
def rendered (cfg : Cfg) (st : St) : Frame :=
  if cfg.kind == .status then respin (cfg.spin st.calls) st.renderable else st.renderable

/-- User lines as written to the terminal (in cells). -/
def emitCells (cfg : Cfg) (user : List Line) : List TermOp := emitLines (user.map (cells cfg.cw))

/-- `console.print(*objects)` on a terminal, rewritten by `process_renderables` while the hook is installed:
`[position_cursor, *user, live_render]`.  For a Live the renderable is called (one call index). -/
def hooked (cfg : Cfg) (fails : Nat → Bool) (st : St) (user : List Line) : Res :=
  match cfg.kind with
  | .progress =>
    let (f, s) := progressFrame cfg.cw (curWidth cfg st) st.shape st.renderable
    { st := { st with shape := some s }, out := positionCursor st.shape ++ emitCells cfg user ++ emitFrame (f.map (cells cfg.cw)) }
  | _ =>
    let st1 := { st with calls := st.calls + 1, renderable := rendered cfg st }
    if fails st.calls then { st := { st with calls := st.calls + 1 }, err := some .fault }
    else
      let f := liveFrame cfg.cw (curWidth cfg st) cfg.height st.overflow st1.renderable
      { st := { st1 with shape := some (getShape cfg.cw f) }, out := positionCursor st.shape ++ emitCells cfg user ++ emitFrame (f.map (cells cfg.cw)) }

/-- The same for a Live writing to a file (not a terminal) once it is finished and not transient:
`[*user, live_render]` — no cursor movement, the frame simply follows. -/
def hookedFile (cfg : Cfg) (fails : Nat → Bool) (st : St) (user : List Line) : Res :=
  let st1 := { st with calls := st.calls + 1, renderable := rendered cfg st }
  if fails st.calls then { st := { st with calls := st.calls + 1 }, err := some .fault }
  else
    let f := liveFrame cfg.cw (curWidth cfg st) cfg.height st.overflow st1.renderable
    { st := { st1 with shape := some (getShape cfg.cw f) }, out := emitCells cfg user ++ emitFrame (f.map (cells cfg.cw)) }

/-- A print call: through the hook when one is installed (`process_renderables`), plain otherwise. -/
def doPrint (cfg : Cfg) (fails : Nat → Bool) (st : St) (user : List Line) : Res :=
  if st.hooks > 0 then
    if cfg.terminal then hooked cfg fails st user
    else if cfg.kind != .progress && !st.started && !cfg.transient then hookedFile cfg fails st user
    else { st := st, out := emitCells cfg user }
  else { st := st, out := emitCells cfg user }

/-- Calls of the progress column for the visible tasks, in order: the call counter afterwards, and `false` when one of them raises. -/
def columnCalls (fails : Nat → Bool) : Nat → List Task → Nat × Bool
  | c, [] => (c, true)
  | c, t :: rest =>
    if t.visible then (if fails c then (c + 1, false) else columnCalls fails (c + 1) rest)
    else columnCalls fails c rest

/-- `Live.refresh` / `Progress.refresh`. -/
def doRefresh (cfg : Cfg) (fails : Nat → Bool) (st : St) : Res :=
  match cfg.kind with
  | .progress =>
    if cfg.disable || !cfg.ansi then { st := st }     -- `if not self.disable:` … `elif is_terminal and not is_dumb_terminal:`
    else
      let (c, ok) := columnCalls fails st.calls st.tasks
      let st1 := { st with calls := c }
      if !ok then { st := st1, err := some .fault }
      else
        let st2 := { st1 with renderable := taskRows st.tasks }
        if st2.hooks > 0 then hooked cfg fails st2 [] else { st := st2 }
  | _ =>
    if cfg.ansi then (if st.hooks > 0 then hooked cfg fails st [] else { st := st })
    else if !st.started && !cfg.transient then doPrint cfg fails st []   -- files / dumb terminals see the final result
    else { st := st }

/-! ### FileProxy: the stream buffers -/

/-- Is `sys.stdout` (`err = false`) / `sys.stderr` (`err = true`) a FileProxy right now? -/
def proxied (st : St) (err : Bool) : Bool := if err then st.stderrDepth > 0 else st.stdoutDepth > 0

def getBuf (st : St) (err : Bool) : Line := if err then st.bufErr else st.bufOut

def setBuf (st : St) (err : Bool) (b : Line) : St := if err then { st with bufErr := b } else { st with bufOut := b }

/-- `FileProxy.write`: complete lines are printed through the console (the first one prefixed by what
was pending), the rest stays pending.  A stream that is not redirected does not reach the console. -/
def doWrite (cfg : Cfg) (fails : Nat → Bool) (st : St) (err : Bool) (lines : List Line) (tail : Line) : Res :=
  if !proxied st err then { st := st }
  else match lines with
    | [] => { st := setBuf st err (getBuf st err ++ tail) }
    | l :: rest => doPrint cfg fails (setBuf st err tail) ((getBuf st err ++ l) :: rest)

/-- `FileProxy.flush()` called on a live proxy (repaired `stop`): pending text is printed; an exception
propagates and the text stays pending. -/
def flushLive (cfg : Cfg) (fails : Nat → Bool) (st : St) (err : Bool) : Res :=
  if proxied st err && !(getBuf st err).isEmpty then
    let r := doPrint cfg fails st [getBuf st err]
    match r.err with
    | some _ => r
    | none => { r with st := setBuf r.st err [] }
  else { st := st }

/-- `sys.stdout = self._restore_stdout`: the FileProxy object dies (CPython: at once), `IOBase.__del__`
closes it, `close()` flushes: pending text is printed *now*; an exception in `__del__` is ignored. -/
def flushDead (cfg : Cfg) (fails : Nat → Bool) (st : St) (err : Bool) : Res :=
  if (if err then st.restoreStderr.isSome else st.restoreStdout.isSome) && !(getBuf st err).isEmpty then
    let r := doPrint cfg fails (setBuf st err []) [getBuf st err]
    { st := r.st, out := r.out }
  else { st := st }

/-- What `_disable_redirect_io` writes (stdout first, then stderr).  `alive`: the stream whose proxy
outlives the call because the exception in flight was raised inside its `flush()` (the traceback
references it) — that one is not flushed here. -/
def dropFlush (cfg : Cfg) (fails : Nat → Bool) (st : St) (alive : Option Bool := none) : Res :=
  let r1 := if alive == some false then { st := st } else flushDead cfg fails st false
  let r2 := if alive == some true then { st := r1.st } else flushDead cfg fails r1.st true
  { st := r2.st, out := r1.out ++ r2.out }

/-- …it dies when the exception is disposed of, after `stop` has run its `finally:` block: what was
pending is then printed by a console that has no hook any more. -/
def lateFlush (cfg : Cfg) (fails : Nat → Bool) (st : St) : Option Bool → Res
  | none => { st := st }
  | some e =>
    if (getBuf st e).isEmpty then { st := st }
    else
      let r := doPrint cfg fails (setBuf st e []) [getBuf st e]
      { st := r.st, out := r.out }

def enableRedirect (cfg : Cfg) (st : St) : St :=
  if !cfg.terminal then st else
  let st := if cfg.redirectStdout then { st with restoreStdout := some st.stdoutDepth, stdoutDepth := st.stdoutDepth + 1, bufOut := [] } else st
  if cfg.redirectStderr then { st with restoreStderr := some st.stderrDepth, stderrDepth := st.stderrDepth + 1, bufErr := [] } else st

def disableRedirect (st : St) : St :=
  let st := match st.restoreStdout with
    | some d => { st with stdoutDepth := d, restoreStdout := none }
    | none => st
  match st.restoreStderr with
  | some d => { st with stderrDepth := d, restoreStderr := none }
  | none => st

/-- The `finally:` block of `stop`: restore io, pop the hook, show the cursor. -/
def cleanup (st : St) : St := { disableRedirect st with hooks := st.hooks - 1 }

/-- The repaired `stop` forgets the shape of the frame it leaves behind (`_live_render._shape = None`)
and puts `vertical_overflow` back to what it was when `stop` was entered. -/
def resetSt (cfg : Cfg) (st : St) : St :=
  if cfg.resetShape then { st with shape := none, overflow := st.overflow0 } else st

/-- `console.show_cursor(True / False)`: nothing unless the console is a terminal that is not dumb. -/
def showOp (cfg : Cfg) : List TermOp := if cfg.ansi then [.showCursor] else []
def hideOp (cfg : Cfg) : List TermOp := if cfg.ansi then [.hideCursor] else []

/-- The `finally:` block of `stop` as written to the terminal: Live restores io, pops the hook, shows the
cursor; Progress shows the cursor first.  `o` is what dropping the proxies wrote. -/
def finOut (cfg : Cfg) (o : List TermOp) : List TermOp :=
  match cfg.kind with
  | .progress => showOp cfg ++ o
  | _ => o ++ showOp cfg

/-- `stop` after its last `refresh()` returned `r`: line feed, the `finally:` block, the transient erase. -/
def stopTail (cfg : Cfg) (fails : Nat → Bool) (r : Res) (alive : Option Bool := none) : Res :=
  let d := dropFlush cfg fails r.st alive
  match r.err with
  | some e =>
    let l := lateFlush cfg fails (cleanup d.st) alive
    { st := l.st, out := r.out ++ finOut cfg d.out ++ l.out, err := some e }
  | none =>
    { st := resetSt cfg (cleanup d.st),
      out := r.out ++ (if cfg.terminal && !cfg.quietStop then [.lf] else []) ++ finOut cfg d.out ++
        (if cfg.transient && cfg.ansi && !cfg.quietStop then restoreCursor cfg.blankFix (cleanup d.st).shape else []) }

/-- The state `stop` hands to its last refresh: `_started = False`, and for a Live
`vertical_overflow = "visible"`. -/
def stopSt (cfg : Cfg) (st : St) : St :=
  match cfg.kind with
  | .progress => { st with started := false }
  | _ => { st with started := false, overflow0 := st.overflow, overflow := .visible }

/-- `Live.stop` / `Progress.stop`. -/
def doStop (cfg : Cfg) (fails : Nat → Bool) (st : St) : Res :=
  if !st.started then { st := st }
  else if cfg.flushFix then
    -- repaired: what `print(..., end="")` left pending is printed above the display first
    let r1 := flushLive cfg fails { st with started := false } false
    match r1.err with
    | some _ => stopTail cfg fails r1 (some false)
    | none =>
      let r2 := flushLive cfg fails r1.st true
      match r2.err with
      | some _ => stopTail cfg fails { r2 with out := r1.out ++ r2.out } (some true)
      | none =>
        let r := doRefresh cfg fails (stopSt cfg r2.st)
        stopTail cfg fails { r with out := r1.out ++ r2.out ++ r.out }
  else stopTail cfg fails (doRefresh cfg fails (stopSt cfg st))

/-- `Live.start` / `Progress.start`. -/
def doStart (cfg : Cfg) (fails : Nat → Bool) (st : St) : Res :=
  if st.started then { st := st }
  else
    let st1 := { enableRedirect cfg st with started := true, hooks := st.hooks + 1 }
    match cfg.kind with
    | .progress =>
      let r := doRefresh cfg fails st1
      match r.err with
      | none => { st := r.st, out := hideOp cfg ++ r.out }
      | some e =>
        if cfg.guards then   -- `except Exception:` lets a BaseException through
          let r2 := doStop cfg fails r.st
          { st := r2.st, out := hideOp cfg ++ r.out ++ r2.out, err := some (r2.err.getD e) }
        else { st := r.st, out := hideOp cfg ++ r.out, err := some e }
    | _ => { st := st1, out := hideOp cfg }

/-- `add_task` up to the refresh: the new task is stored under the current index. -/
def addTaskSt (st : St) (desc : Line) (visible : Bool) (total : Nat) : St :=
  { st with tasks := replaceTask st.tasks { id := st.taskIndex, desc := desc, completed := 0, total := total, visible := visible } }

/-- `finally: self._task_index = TaskID(int(self._task_index) + 1)`. -/
def bumpIndex (st : St) : St := { st with taskIndex := st.taskIndex + 1 }

def step (cfg : Cfg) (fails : Nat → Bool) (st : St) : Op → Res
  | .start => doStart cfg fails st
  | .stop => doStop cfg fails st
  | .print ls => doPrint cfg fails st ls
  | .printBare =>
    if cfg.bareBypass then { st := st, out := [.lf] } else doPrint cfg fails st [[]]
  | .update f refresh =>
    match cfg.kind with
    | .live =>
      let st1 := { st with renderable := f }
      if refresh then doRefresh cfg fails st1 else { st := st1 }
    | .status => doRefresh cfg fails { st with renderable := statusFrame cfg.cw f }
    | .progress => { st := st }   -- not an operation of Progress (the driver answers `unmodelled`)
  | .refresh => doRefresh cfg fails st
  | .addTask desc visible total =>
    let r := doRefresh cfg fails (addTaskSt st desc visible total)
    match r.err with
    | some _ => r                                   -- raised before `_task_index` was advanced
    | none => { r with st := bumpIndex r.st }
  | .updateTask id e refresh =>
    match findTask st.tasks id with
    | none => { st := st, err := some .keyError }
    | some t =>
      let st1 := { st with tasks := replaceTask st.tasks (e.apply t) }
      if refresh then doRefresh cfg fails st1 else { st := st1 }
  | .removeTask id =>
    match findTask st.tasks id with
    | none => { st := st, err := some .keyError }
    | some _ => { st := { st with tasks := st.tasks.filter (fun u => !(u.id == id)) } }
  | .write err lines tail => doWrite cfg fails st err lines tail
  | .resize w => { st := { st with width := some w } }

/-- Is `op` an operation of this kind of display? (Others are never sent by the harness.) -/
def Op.applies (k : Kind) : Op → Bool
  | .update _ _ => k != .progress
  | .addTask _ _ _ | .updateTask _ _ _ | .removeTask _ => k == .progress
  | _ => true

def initSt (ov : Overflow) (r : Frame) : St := { overflow := ov, overflow0 := ov, renderable := r }

/-- A history where the caller catches whatever an operation raises and goes on
(`try: op() except: pass`): final state, everything written, the errors in order. -/
def run (cfg : Cfg) (fails : Nat → Bool) : St → List Op → St × List TermOp × List (Option Err)
  | st, [] => (st, [], [])
  | st, op :: rest =>
    let r := step cfg fails st op
    let (st', out, errs) := run cfg fails r.st rest
    (st', r.out ++ out, r.err :: errs)

/-- `with display: body` — `__enter__` = start; the body stops at the first operation that raises, or
just before operation number `raiseAt` when the body itself raises there; `__exit__` = stop is called
iff `__enter__` returned.  Result: final state, everything written, whether an exception left the block. -/
def runBody (cfg : Cfg) (fails : Nat → Bool) : St → List Op → Option Nat → St × List TermOp × Bool
  | st, _, some 0 => (st, [], true)
  | st, [], _ => (st, [], false)
  | st, op :: rest, raiseAt =>
    let r := step cfg fails st op
    match r.err with
    | some _ => (r.st, r.out, true)
    | none =>
      let (st', out, raised) := runBody cfg fails r.st rest (raiseAt.map (· - 1))
      (st', r.out ++ out, raised)

def runWith (cfg : Cfg) (fails : Nat → Bool) (st : St) (body : List Op) (raiseAt : Option Nat) :
    St × List TermOp × Bool :=
  let r0 := doStart cfg fails st
  match r0.err with
  | some _ => (r0.st, r0.out, true)          -- `__enter__` raised: `__exit__` is never called
  | none =>
    let (st1, out1, raised1) := runBody cfg fails r0.st body raiseAt
    let r2 := doStop cfg fails st1
    (r2.st, r0.out ++ out1 ++ r2.out, raised1 || r2.err.isSome)

/-! ## specification-level view of a history (what the screen is supposed to show)

Independent of the shape book-keeping: the printed lines are the concatenation of what the user
printed, the frame is the one displayed by the last operation that refreshes the display. -/

def noFault : Nat → Bool := fun _ => false

/-- The frame on display right after a refreshing operation that ended in state `st`. -/
def shown (cfg : Cfg) (st : St) : Frame :=
  match cfg.kind with
  | .progress =>
    match st.shape with
    | none => []
    | some (w, h) => setShape cfg.cw (tableLines cfg.cw (curWidth cfg st) st.renderable) w h
  | _ => liveFrame cfg.cw (curWidth cfg st) cfg.height st.overflow st.renderable

/-- Operations that call `refresh()` / print through the console. -/
def Op.displays (k : Kind) : Op → Bool
  | .print _ | .printBare | .refresh | .addTask _ _ _ => true
  | .update _ r => r || k == .status
  | .updateTask _ _ r => r
  | .write _ lines _ => !lines.isEmpty
  | _ => false

/-- Does `op`, executed in state `st`, redraw the live display?  (A refreshing operation while the hook
is installed; or `Progress.start`, which refreshes right after installing it.) -/
def reaches (st : St) : Op → Bool
  | .write err _ _ => proxied st err       -- a stream that is not redirected does not reach the console
  | _ => true

def redraws (cfg : Cfg) (st : St) (op : Op) : Bool :=
  (op.displays cfg.kind && st.hooks > 0 && reaches st op)
    || (op == .start && cfg.kind == .progress && !st.started)

structure View where
  printed : List Line := []
  frame : Frame := []
deriving Repr, DecidableEq

/-- One non-`stop` operation (a bare print counts as printing one empty line, whatever the code does). -/
def viewStep (cfg : Cfg) (st : St) (v : View) (op : Op) : View :=
  { printed := match op with
      | .print ls => v.printed ++ ls
      | .printBare => v.printed ++ [[]]
      | .write err (l :: rest) _ => if proxied st err then v.printed ++ (getBuf st err ++ l) :: rest else v.printed
      | _ => v.printed
    frame := if redraws cfg st op then shown cfg (step cfg noFault st op).st else v.frame }

/-- Text that `print(..., end="")` left pending in the redirected stream `e`, as the line the repaired
`stop` completes it to (`[]` if nothing is pending). -/
def pend (st : St) (e : Bool) : List Line :=
  if proxied st e && !(getBuf st e).isEmpty then [getBuf st e] else []

/-- What the repaired `stop` prints before its last refresh: pending stdout text, then pending stderr text
— above the display, below everything printed so far. -/
def pendLines (cfg : Cfg) (st : St) : List Line := if cfg.flushFix then pend st false ++ pend st true else []

/-- The state in which `stop` does its last refresh: after the two flushes of the repaired code. -/
def stopPre (cfg : Cfg) (st : St) : St :=
  if cfg.flushFix then
    (flushLive cfg noFault (flushLive cfg noFault { st with started := false } false).st true).st
  else st

/-- The frame the last refresh of `stop` puts on display (rendered `visible`). -/
def stopFrame (cfg : Cfg) (st : St) : Frame := shown cfg (doRefresh cfg noFault (stopSt cfg (stopPre cfg st))).st

/-- Do the frames drawn by the flushes of the repaired `stop` (ordinary prints: current overflow mode) fit? -/
def flushFits (cfg : Cfg) (st : St) : Bool :=
  let r1 := flushLive cfg noFault { st with started := false } false
  let r2 := flushLive cfg noFault r1.st true
  ((pend st false).isEmpty || (shown cfg r1.st).length ≤ cfg.height) &&
    ((pend st true).isEmpty || (shown cfg r2.st).length ≤ cfg.height)

/-- The final `stop`: pending stream text is completed above the display, last refresh (rendered
`visible`), then nothing if transient. -/
def viewStop (cfg : Cfg) (st : St) (v : View) : View :=
  if st.started then
    { printed := v.printed ++ pendLines cfg st, frame := if cfg.transient then [] else stopFrame cfg st }
  else v

/-- The specification-level run; `stop` ends it (well-formed histories have nothing after it). -/
def specRun (cfg : Cfg) : St → View → List Op → St × View
  | st, v, [] => (st, v)
  | st, v, op :: rest =>
    if op = .stop then ((doStop cfg noFault st).st, viewStop cfg st v)
    else specRun cfg (step cfg noFault st op).st (viewStep cfg st v op) rest

/-- Well-formed histories for the screen theorems (explicit and decidable):
every operation belongs to the display kind and raises nothing; `stop` occurs only as the last
operation; every frame put on display fits the screen (automatic for `crop` / `ellipsis`); a transient
display leaves one row for the final line feed; the frames redrawn when the repaired `stop` completes
pending stream text fit as well (`flushFits`). -/
def wfOps (cfg : Cfg) : St → List Op → Bool
  | _, [] => true
  | st, op :: rest =>
    if op = .stop then
      rest.isEmpty && (doStop cfg noFault st).err.isNone && (!st.started || flushFits cfg st) &&
        (!st.started || !cfg.transient || restoreCount cfg.blankFix (stopFrame cfg st).length + 1 ≤ cfg.height)
    else
      let r := step cfg noFault st op
      op.applies cfg.kind && r.err.isNone
        && (!redraws cfg st op || (shown cfg r.st).length ≤ cfg.height)
        && wfOps cfg r.st rest

def wf (cfg : Cfg) (ov : Overflow) (r0 : Frame) (h : List Op) : Bool :=
  cfg.plain && 1 ≤ cfg.height && wfOps cfg (initSt ov r0) h

def printed (cfg : Cfg) (ov : Overflow) (r0 : Frame) (h : List Op) : List Line :=
  (specRun cfg (initSt ov r0) {} h).2.printed

def lastFrame (cfg : Cfg) (ov : Overflow) (r0 : Frame) (h : List Op) : Frame :=
  (specRun cfg (initSt ov r0) {} h).2.frame

/-- Everything a history writes to the terminal. -/
def emit (cfg : Cfg) (ov : Overflow) (r0 : Frame) (h : List Op) : List TermOp :=
  (run cfg noFault (initSt ov r0) h).2.1

/-! ## any number of sessions on the same display object -/

/-- The rows a displayed frame occupies: an empty frame still has the (blank) row the cursor is on. -/
def region : Frame → Frame
  | [] => [[]]
  | l :: rest => l :: rest

/-- What a `stop` leaves as finished output: the whole last frame (at least the row of the line feed)
when not transient; nothing when transient — except, in today's code, the blank row an *empty* final
frame still costs (`blankFix = false`). -/
def leftBy (cfg : Cfg) (f : Frame) : List Line :=
  if cfg.transient then (if f.isEmpty && !cfg.blankFix then [[]] else []) else region f

/-- `stop` in the middle of a history: what the display leaves joins the finished output, nothing is on
display any more.  (`View.printed` is then: printed lines and frames left by stopped sessions, in order.) -/
def viewStopM (cfg : Cfg) (st : St) (v : View) : View :=
  if st.started then { printed := v.printed ++ pendLines cfg st ++ leftBy cfg (stopFrame cfg st), frame := [] } else v

def viewStepM (cfg : Cfg) (st : St) (v : View) (op : Op) : View :=
  if op = .stop then viewStopM cfg st v else viewStep cfg st v op

def specRunM (cfg : Cfg) : St → View → List Op → St × View
  | st, v, [] => (st, v)
  | st, v, op :: rest => specRunM cfg (step cfg noFault st op).st (viewStepM cfg st v op) rest

/-- Well-formed histories with any number of sessions: as `wfOps`, but `stop` may occur anywhere. -/
def wfOpsM (cfg : Cfg) : St → List Op → Bool
  | _, [] => true
  | st, op :: rest =>
    let r := step cfg noFault st op
    (if op = .stop then
      r.err.isNone && (!st.started || flushFits cfg st)
        && (!st.started || !cfg.transient || restoreCount cfg.blankFix (stopFrame cfg st).length + 1 ≤ cfg.height)
    else
      op.applies cfg.kind && r.err.isNone
        && (!redraws cfg st op || (shown cfg r.st).length ≤ cfg.height))
    && wfOpsM cfg r.st rest

def wfM (cfg : Cfg) (ov : Overflow) (r0 : Frame) (h : List Op) : Bool :=
  cfg.plain && 1 ≤ cfg.height && wfOpsM cfg (initSt ov r0) h

/-- Finished output of a multi-session history: printed lines and the frames left by stopped sessions. -/
def finished (cfg : Cfg) (ov : Overflow) (r0 : Frame) (h : List Op) : List Line :=
  (specRunM cfg (initSt ov r0) {} h).2.printed

/-- The frame of the session that is still running at the end of the history (`[]` if none). -/
def liveFrameOf (cfg : Cfg) (ov : Overflow) (r0 : Frame) (h : List Op) : Frame :=
  (specRunM cfg (initSt ov r0) {} h).2.frame

end RichModel.Live
